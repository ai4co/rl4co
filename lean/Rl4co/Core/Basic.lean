/-
Core definitions shared by every environment model.  No Mathlib.

* `upd`      pointwise update of a function (models `scatter` of one entry)
* `Env`      a per-instance state machine  reset / mask / step / done
* `Run`      mask-confined run relation; `exec`, `admitted` its executable counterparts
* `Run.inv`, `inv_of_run`  a state predicate kept by every admitted step holds along a run; the same over the history
* `RunND`    runs through unfinished states only; `steps_le_of_measure`: a measure that drops at every such step
             bounds their length (`as.length + μ s' ≤ μ s`)
* `cnt`      number of indices below `n` with a property, with its update lemmas; customers `1..n` are read at index `k + 1`
-/
namespace Rl4co

/-- `scatter(-1, a, v)` of a single entry into a row, rows being functions `Nat → α`. -/
def upd {α : Type} (f : Nat → α) (a : Nat) (v : α) : Nat → α :=
  fun j => if j = a then v else f j

@[simp] theorem upd_same {α : Type} (f : Nat → α) (a : Nat) (v : α) : upd f a v a = v := by
  simp [upd]

@[simp] theorem upd_other {α : Type} (f : Nat → α) (a j : Nat) (v : α) (h : j ≠ a) :
    upd f a v j = f j := by
  simp [upd, h]

theorem upd_apply {α : Type} (f : Nat → α) (a j : Nat) (v : α) :
    upd f a v j = if j = a then v else f j := rfl

theorem upd_self {α : Type} (f : Nat → α) (a : Nat) : upd f a (f a) = f := by
  funext j
  rw [upd_apply]
  split
  · next h => rw [h]
  · rfl

/-- Per-instance environment: `I` instance data, `S` state.  `mask i s a = true` means the
code's `action_mask[a]` is `True` (action advertised as feasible). -/
structure Env (I S : Type) where
  reset : I → S
  nAct  : I → Nat
  mask  : I → S → Nat → Bool
  step  : I → S → Nat → S
  done  : I → S → Bool

variable {I S : Type}

/-- Mask-confined runs: every action is in range and advertised by the mask of the state it is
taken in. -/
inductive Run (e : Env I S) (i : I) : S → List Nat → S → Prop
  | nil (s : S) : Run e i s [] s
  | cons {s s' : S} {a : Nat} {as : List Nat} :
      a < e.nAct i → e.mask i s a = true → Run e i (e.step i s a) as s' →
      Run e i s (a :: as) s'

/-- Executable: state after a list of actions (no mask test). -/
def exec (e : Env I S) (i : I) (s : S) (as : List Nat) : S := as.foldl (e.step i) s

/-- Executable; decides `Run` up to the end state, which is `exec` (`run_iff_admitted`). -/
def admitted (e : Env I S) (i : I) : S → List Nat → Bool
  | _, [] => true
  | s, a :: as => decide (a < e.nAct i) && e.mask i s a && admitted e i (e.step i s a) as

theorem run_iff_admitted (e : Env I S) (i : I) (s s' : S) (as : List Nat) :
    Run e i s as s' ↔ (admitted e i s as = true ∧ exec e i s as = s') := by
  induction as generalizing s with
  | nil =>
    constructor
    · intro h; cases h; simp [admitted, exec]
    · intro h; simp [exec] at h; obtain ⟨_, h⟩ := h; subst h; exact Run.nil _
  | cons a as ih =>
    constructor
    · intro h
      cases h with
      | cons h1 h2 h3 =>
        have := (ih _).1 h3
        simp [admitted, exec, h1, h2, this.1]
        exact this.2
    · intro h
      simp [admitted, exec] at h
      exact Run.cons h.1.1.1 h.1.1.2 ((ih _).2 ⟨h.1.2, h.2⟩)

theorem Run.of_admitted {e : Env I S} {i : I} {s : S} {as : List Nat} (h : admitted e i s as = true) :
    Run e i s as (exec e i s as) :=
  (run_iff_admitted e i s _ as).2 ⟨h, rfl⟩

theorem exists_run_iff_admitted (e : Env I S) (i : I) (s : S) (as : List Nat) :
    (∃ s', Run e i s as s') ↔ admitted e i s as = true :=
  ⟨fun ⟨_, h⟩ => ((run_iff_admitted e i s _ as).1 h).1, fun h => ⟨_, .of_admitted h⟩⟩

theorem not_run_of_not_admitted {e : Env I S} {i : I} {s : S} {as : List Nat} {P : S → Prop}
    (h : admitted e i s as = false) : ¬ ∃ s', Run e i s as s' ∧ P s' := by
  rintro ⟨s', hr, _⟩
  have := ((run_iff_admitted _ _ _ _ _).1 hr).1
  rw [h] at this; cases this

theorem Run.exec_eq {e : Env I S} {i : I} {s s' : S} {as : List Nat} (h : Run e i s as s') :
    exec e i s as = s' :=
  ((run_iff_admitted e i s s' as).mp h).2

theorem Run.snoc {e : Env I S} {i : I} {s s' : S} {as : List Nat} {a : Nat}
    (h : Run e i s as s') (ha : a < e.nAct i) (hm : e.mask i s' a = true) :
    Run e i s (as ++ [a]) (e.step i s' a) := by
  induction h with
  | nil s => exact Run.cons ha hm (Run.nil _)
  | cons h1 h2 _ ih => exact Run.cons h1 h2 (ih hm)

theorem Run.append {e : Env I S} {i : I} {s s' s'' : S} {as bs : List Nat}
    (h : Run e i s as s') (h' : Run e i s' bs s'') : Run e i s (as ++ bs) s'' := by
  induction h with
  | nil s => simpa using h'
  | cons h1 h2 _ ih => exact Run.cons h1 h2 (ih h')

theorem Run.lt_nAct {e : Env I S} {i : I} {s s' : S} {as : List Nat} (h : Run e i s as s') :
    ∀ a ∈ as, a < e.nAct i := by
  induction h with
  | nil s => intro a ha; cases ha
  | cons ha _ _ ih =>
    intro b hb
    rcases List.mem_cons.mp hb with rfl | hb
    · exact ha
    · exact ih b hb

theorem Run.take {e : Env I S} {i : I} {s s' : S} {as : List Nat} (h : Run e i s as s') (k : Nat) :
    Run e i s (as.take k) (exec e i s (as.take k)) := by
  induction h generalizing k with
  | nil s => simpa [exec] using Run.nil s
  | cons h1 h2 _ ih =>
    cases k with
    | zero => simpa [exec] using Run.nil _
    | succ k => simpa [exec] using Run.cons h1 h2 (ih k)

theorem Run.at {e : Env I S} {i : I} {s s' : S} {as : List Nat} (h : Run e i s as s') {k a : Nat}
    (hk : as[k]? = some a) : a < e.nAct i ∧ e.mask i (exec e i s (as.take k)) a = true := by
  induction h generalizing k with
  | nil s => cases hk
  | cons hb hm _ ih =>
    cases k with
    | zero => cases hk; exact ⟨hb, hm⟩
    | succ k => exact ih hk

theorem Run.inv {e : Env I S} {i : I} {Inv : S → Prop}
    (hstep : ∀ s a, Inv s → a < e.nAct i → e.mask i s a = true → Inv (e.step i s a))
    {s s' : S} {as : List Nat} (h : Run e i s as s') (h0 : Inv s) : Inv s' := by
  induction h with
  | nil => exact h0
  | cons ha hm _ ih => exact ih (hstep _ _ h0 ha hm)

def Reach (e : Env I S) (i : I) (s : S) : Prop := ∃ as, Run e i (e.reset i) as s

theorem Reach.step {e : Env I S} {i : I} {s : S} {a : Nat} (h : Reach e i s) (ha : a < e.nAct i)
    (hm : e.mask i s a = true) : Reach e i (e.step i s a) :=
  let ⟨as, hr⟩ := h
  ⟨as ++ [a], hr.snoc ha hm⟩

/-- Invariants over the *history*: the action list grows at its end (`h ++ [a]`), so `Inv s h` may speak of the
state together with everything done so far. -/
theorem inv_of_run_from {e : Env I S} {i : I} {Inv : S → List Nat → Prop}
    (hstep : ∀ s h a, Inv s h → a < e.nAct i → e.mask i s a = true →
      Inv (e.step i s a) (h ++ [a]))
    {s s' : S} {as : List Nat} (h : Run e i s as s') :
    ∀ hist, Inv s hist → Inv s' (hist ++ as) := by
  induction h with
  | nil s => intro hist h0; simpa using h0
  | cons h1 h2 _ ih =>
    intro hist h0
    have := ih (hist ++ [_]) (hstep _ _ _ h0 h1 h2)
    simpa using this

theorem inv_of_run {e : Env I S} {i : I} {Inv : S → List Nat → Prop}
    (h0 : Inv (e.reset i) [])
    (hstep : ∀ s h a, Inv s h → a < e.nAct i → e.mask i s a = true →
      Inv (e.step i s a) (h ++ [a]))
    {s : S} {as : List Nat} (h : Run e i (e.reset i) as s) : Inv s as := by
  simpa using inv_of_run_from hstep h [] h0

theorem inv_of_reach {e : Env I S} {i : I} {Inv : S → Prop}
    (h0 : Inv (e.reset i))
    (hstep : ∀ s a, Inv s → a < e.nAct i → e.mask i s a = true → Inv (e.step i s a))
    {s : S} (h : Reach e i s) : Inv s :=
  let ⟨_, hr⟩ := h
  hr.inv hstep h0

/-- Mask-confined runs in which every state a step is taken from is *not done*
(the decoding loop stops stepping once all rows are done). -/
inductive RunND (e : Env I S) (i : I) : S → List Nat → S → Prop
  | nil (s : S) : RunND e i s [] s
  | cons {s s' : S} {a : Nat} {as : List Nat} :
      e.done i s = false → a < e.nAct i → e.mask i s a = true →
      RunND e i (e.step i s a) as s' → RunND e i s (a :: as) s'

def admittedND (e : Env I S) (i : I) : S → List Nat → Bool
  | _, [] => true
  | s, a :: as => !e.done i s && decide (a < e.nAct i) && e.mask i s a && admittedND e i (e.step i s a) as

theorem RunND.of_admittedND {e : Env I S} {i : I} {s : S} {as : List Nat}
    (h : admittedND e i s as = true) : RunND e i s as (exec e i s as) := by
  induction as generalizing s with
  | nil => exact RunND.nil s
  | cons a as ih =>
    simp only [admittedND, Bool.and_eq_true, Bool.not_eq_true', decide_eq_true_eq] at h
    exact RunND.cons h.1.1.1 h.1.1.2 h.1.2 (ih h.2)

theorem RunND.run {e : Env I S} {i : I} {s s' : S} {as : List Nat} (h : RunND e i s as s') :
    Run e i s as s' := by
  induction h with
  | nil s => exact Run.nil s
  | cons _ h1 h2 _ ih => exact Run.cons h1 h2 ih

theorem RunND.snoc {e : Env I S} {i : I} {s s' : S} {as : List Nat} {a : Nat}
    (h : RunND e i s as s') (hd : e.done i s' = false) (ha : a < e.nAct i)
    (hm : e.mask i s' a = true) : RunND e i s (as ++ [a]) (e.step i s' a) := by
  induction h with
  | nil s => exact RunND.cons hd ha hm (RunND.nil _)
  | cons h0 h1 h2 _ ih => exact RunND.cons h0 h1 h2 (ih hd hm)

theorem RunND.snoc_inv {e : Env I S} {i : I} {s s' : S} {as : List Nat} (h : RunND e i s as s') :
    as = [] ∨ ∃ as0 a s0, as = as0 ++ [a] ∧ RunND e i s as0 s0 ∧ e.done i s0 = false ∧
      a < e.nAct i ∧ e.mask i s0 a = true ∧ s' = e.step i s0 a := by
  induction h with
  | nil s => exact Or.inl rfl
  | @cons s s' a as hd ha hm hr ih =>
    right
    rcases ih with hnil | ⟨as0, b, s0, has, hr0, hd0, hb, hmb, hs'⟩
    · subst hnil
      cases hr
      exact ⟨[], a, s, rfl, RunND.nil s, hd, ha, hm, rfl⟩
    · subst has
      exact ⟨a :: as0, b, s0, by simp, RunND.cons hd ha hm hr0, hd0, hb, hmb, hs'⟩

theorem done_of_run {e : Env I S} {i : I}
    (hst : ∀ s a, e.done i s = true → e.done i (e.step i s a) = true)
    {s s' : S} {as : List Nat} (h : Run e i s as s') (hd : e.done i s = true) : e.done i s' = true :=
  h.inv (Inv := fun s => e.done i s = true) (fun s a hd _ _ => hst s a hd) hd

/-- needs `done` absorbing (`hst`): a run that ends unfinished was unfinished all along -/
theorem runND_of_run {e : Env I S} {i : I}
    (hst : ∀ s a, e.done i s = true → e.done i (e.step i s a) = true)
    {s s' : S} {as : List Nat} (h : Run e i s as s') (hd : e.done i s' = false) :
    RunND e i s as s' := by
  induction h with
  | nil => exact RunND.nil _
  | @cons s s' a as ha hm hr ih =>
    refine RunND.cons ?_ ha hm (ih hd)
    cases hs : e.done i s with
    | false => rfl
    | true => rw [done_of_run hst hr (hst _ _ hs)] at hd; cases hd

theorem runND_iff_prefix {e : Env I S} {i : I} {s s' : S} {as : List Nat} (h : Run e i s as s') :
    RunND e i s as s' ↔ ∀ k, k < as.length → e.done i (exec e i s (as.take k)) = false := by
  induction h with
  | nil s => exact ⟨fun _ k hk => (nomatch hk), fun _ => RunND.nil s⟩
  | @cons s s' a as ha hm _ ih =>
    constructor
    · intro hr k hk
      cases hr with
      | cons hd _ _ hr' =>
        cases k with
        | zero => exact hd
        | succ k => exact ih.mp hr' k (Nat.lt_of_succ_lt_succ hk)
    · intro ht
      exact RunND.cons (ht 0 (Nat.succ_pos _)) ha hm (ih.mpr (fun k hk => ht (k + 1) (Nat.succ_lt_succ hk)))

theorem steps_le_of_measure {e : Env I S} {i : I} (μ : S → Nat) (Inv : S → Prop)
    (hInv : ∀ s a, Inv s → a < e.nAct i → e.mask i s a = true → Inv (e.step i s a))
    (hdec : ∀ s a, Inv s → e.done i s = false → a < e.nAct i → e.mask i s a = true →
      μ (e.step i s a) < μ s)
    {s s' : S} {as : List Nat} (h : RunND e i s as s') (h0 : Inv s) : as.length + μ s' ≤ μ s := by
  induction h with
  | nil s => simp
  | cons hd ha hm _ ih =>
    have := ih (hInv _ _ h0 ha hm)
    have := hdec _ _ h0 hd ha hm
    simp only [List.length_cons]
    omega

/-- `as'` is `as` cut at its first finished state -/
theorem runND_of_done_run {e : Env I S} {i : I} (hst : ∀ s a, e.done i s = true → e.step i s a = s)
    {s s' : S} {as : List Nat} (h : Run e i s as s') (hd : e.done i s' = true) : ∃ as', RunND e i s as' s' := by
  induction h with
  | nil s => exact ⟨[], RunND.nil s⟩
  | @cons s s' a as ha hm hrun ih =>
    cases hds : e.done i s with
    | true =>
      have : s' = s := (Run.cons ha hm hrun).inv (Inv := fun t => t = s) (fun t b ht _ _ => by rw [ht]; exact hst s b hds) rfl
      exact ⟨[], this ▸ RunND.nil _⟩
    | false =>
      obtain ⟨as', h'⟩ := ih hd
      exact ⟨a :: as', RunND.cons hds ha hm h'⟩

theorem exists_complete_of_bound (e : Env I S) (i : I) (Bd : Nat)
    (hb : ∀ as s, RunND e i (e.reset i) as s → as.length ≤ Bd)
    (hne : ∀ as s, RunND e i (e.reset i) as s → e.done i s = false → ∃ a, a < e.nAct i ∧ e.mask i s a = true) :
    ∃ as s, RunND e i (e.reset i) as s ∧ e.done i s = true := by
  have key : ∀ f as s, RunND e i (e.reset i) as s → as.length + f = Bd + 1 →
      ∃ as' s', RunND e i (e.reset i) as' s' ∧ e.done i s' = true := by
    intro f
    induction f with
    | zero => intro as s h hl; have := hb as s h; omega
    | succ f ih =>
      intro as s h hl
      by_cases hd : e.done i s = true
      · exact ⟨as, s, h, hd⟩
      · have hd' : e.done i s = false := by simpa using hd
        obtain ⟨a, ha, hm⟩ := hne as s h hd'
        exact ih (as ++ [a]) _ (h.snoc hd' ha hm) (by simp; omega)
  exact key (Bd + 1) [] _ (RunND.nil _) (by simp)

/-- with `done` absorbing and a mask that is never empty, every run at least as long as the bound on the unfinished runs is
finished.  Both facts are asked of ALL states (CVRP, MTVRP, SVRP state them so; the other families under `WF` and `Reach`). -/
theorem done_of_long (e : Env I S) (i : I) {bound : Nat}
    (hstable : ∀ s a, e.done i s = true → e.done i (e.step i s a) = true)
    (hmask : ∀ s, ∃ a, a < e.nAct i ∧ e.mask i s a = true)
    (hsteps : ∀ {as : List Nat} {s : S}, RunND e i (e.reset i) as s → as.length ≤ bound)
    {as : List Nat} {s : S} (h : Run e i (e.reset i) as s) (hl : bound ≤ as.length) :
    e.done i s = true := by
  refine Bool.of_not_eq_false fun hd => ?_
  -- an unfinished run can be extended by one more step, which the bound forbids
  obtain ⟨a, ha, hm⟩ := hmask s
  have := hsteps (RunND.snoc (runND_of_run hstable h hd) hd ha hm)
  rw [List.length_append] at this
  exact Nat.not_succ_le_self _ (Nat.le_trans this hl)

/-- `count of indices j < n with p j`, used for visited / available counters. -/
def cnt (n : Nat) (p : Nat → Bool) : Nat := ((List.range n).filter p).length

theorem cnt_le (n : Nat) (p : Nat → Bool) : cnt n p ≤ n := by
  unfold cnt
  calc ((List.range n).filter p).length ≤ (List.range n).length := List.length_filter_le _ _
    _ = n := List.length_range

theorem cnt_succ (n : Nat) (p : Nat → Bool) :
    cnt (n + 1) p = cnt n p + (if p n then 1 else 0) := by
  unfold cnt
  rw [List.range_succ, List.filter_append]
  by_cases h : p n <;> simp [h]

theorem cnt_congr {n : Nat} {p q : Nat → Bool} (h : ∀ j, j < n → p j = q j) :
    cnt n p = cnt n q :=
  congrArg List.length (List.filter_congr fun j hj => h j (List.mem_range.mp hj))

theorem cnt_eq_zero {n : Nat} {p : Nat → Bool} : cnt n p = 0 ↔ ∀ j, j < n → p j = false := by
  rw [cnt, List.length_eq_zero_iff, List.filter_eq_nil_iff]
  simp only [List.mem_range, Bool.not_eq_true]

theorem cnt_pos {n : Nat} {p : Nat → Bool} : 0 < cnt n p ↔ ∃ j, j < n ∧ p j = true := by
  rw [cnt, List.length_pos_iff_exists_mem]
  simp only [List.mem_filter, List.mem_range]

theorem cnt_upd {n : Nat} {p : Nat → Bool} {a : Nat} (ha : a < n) (b : Bool) :
    cnt n (upd p a b) + (if p a then 1 else 0) = cnt n p + (if b then 1 else 0) := by
  induction n with
  | zero => exact absurd ha (Nat.not_lt_zero a)
  | succ n ih =>
    rw [cnt_succ, cnt_succ]
    rcases Nat.lt_succ_iff_lt_or_eq.mp ha with hlt | heq
    · rw [upd_other _ _ _ _ (Nat.ne_of_gt hlt)]
      have := ih hlt
      omega
    · subst heq
      rw [cnt_congr (q := p) fun j hj => upd_other _ _ _ _ (Nat.ne_of_lt hj), upd_same]
      omega

theorem cnt_upd_false {n : Nat} {p : Nat → Bool} {a : Nat} (ha : a < n) (hp : p a = true) :
    cnt n (upd p a false) + 1 = cnt n p := by
  have := cnt_upd (p := p) ha false
  rwa [hp] at this

theorem cnt_upd_true {n : Nat} {p : Nat → Bool} {a : Nat} (ha : a < n) (hp : p a = false) :
    cnt n (upd p a true) = cnt n p + 1 := by
  have := cnt_upd (p := p) ha true
  rwa [hp] at this

theorem cnt_upd_true_same {n : Nat} {p : Nat → Bool} {a : Nat} (hp : p a = true) :
    cnt n (upd p a true) = cnt n p :=
  cnt_congr (fun j _ => by by_cases h : j = a <;> simp [upd, h, hp])

theorem cnt_eq_n {n : Nat} {p : Nat → Bool} : cnt n p = n ↔ ∀ j, j < n → p j = true := by
  simpa only [cnt, List.length_range, List.mem_range] using
    List.length_filter_eq_length_iff (p := p) (l := List.range n)

theorem cnt_true (n : Nat) : cnt n (fun _ => true) = n := cnt_eq_n.mpr (fun _ _ => rfl)

theorem cnt_mono {n : Nat} {p q : Nat → Bool} (h : ∀ j, j < n → p j = true → q j = true) :
    cnt n p ≤ cnt n q := by
  rw [cnt, cnt, ← List.countP_eq_length_filter, ← List.countP_eq_length_filter]
  exact List.countP_mono_left fun j hj => h j (List.mem_range.mp hj)

theorem cnt_lt_of_imp {n : Nat} {p q : Nat → Bool} (h : ∀ j, j < n → q j = true → p j = true)
    {k : Nat} (hk : k < n) (hpk : p k = true) (hqk : q k = false) : cnt n q < cnt n p := by
  have hle : cnt n q ≤ cnt n (upd p k false) := cnt_mono (fun j hj hq => by
    have hjk : j ≠ k := fun e => by rw [e, hqk] at hq; cases hq
    rw [upd_other _ _ _ _ hjk]; exact h j hj hq)
  exact Nat.lt_of_le_of_lt hle (Nat.lt_of_succ_le (Nat.le_of_eq (cnt_upd_false hk hpk)))

theorem cnt_eq_one {n : Nat} {p : Nat → Bool} {a : Nat} (ha : a < n) (hp : p a = true)
    (hu : ∀ b, b < n → p b = true → b = a) : cnt n p = 1 := by
  rw [← cnt_upd_false ha hp, cnt_eq_zero.mpr]
  intro j hj
  by_cases hja : j = a
  · rw [hja, upd_same]
  · rw [upd_other _ _ _ _ hja]
    cases hpj : p j with
    | false => rfl
    | true => exact absurd (hu j hj hpj) hja

theorem cnt_one_unique {n : Nat} {p : Nat → Bool} (h : cnt n p = 1) {a b : Nat} (ha : a < n) (hb : b < n)
    (pa : p a = true) (pb : p b = true) : a = b := by
  apply Classical.byContradiction; intro hne
  have h0 : cnt n (upd p a false) = 0 := Nat.succ.inj ((cnt_upd_false ha pa).trans h)
  have := cnt_eq_zero.mp h0 b hb
  rw [upd_other _ _ _ _ (fun hh => hne hh.symm), pb] at this
  cases this

theorem cnt_pin (n a : Nat) (q : Bool) : cnt n (fun x => x == a && q) = if a < n ∧ q = true then 1 else 0 := by
  split
  · next h =>
    exact cnt_eq_one h.1 (by rw [beq_self_eq_true, h.2]; rfl)
      (fun b _ hb => of_decide_eq_true (Bool.and_eq_true_iff.mp hb).1)
  · next h =>
    refine cnt_eq_zero.mpr fun j hj => Bool.eq_false_iff.mpr fun hb => h ?_
    obtain ⟨h1, h2⟩ := Bool.and_eq_true_iff.mp hb
    exact ⟨of_decide_eq_true h1 ▸ hj, h2⟩

/-- `cnt` as torch computes it: the number of `true` in the tabulated row -/
theorem count_true_map (p : Nat → Bool) (n : Nat) : List.count true ((List.range n).map p) = cnt n p := by
  unfold cnt
  rw [List.count_eq_countP, List.countP_map, List.countP_eq_length_filter]
  congr 1
  apply List.filter_congr
  intro x _
  cases h : p x <;> simp [h]

theorem exists_selection {n : Nat} {p : Nat → Bool} {q : Nat} (hq : q ≤ cnt n p) :
    ∃ as : List Nat, as.length = q ∧ as.Nodup ∧ ∀ a ∈ as, a < n ∧ p a = true :=
  ⟨((List.range n).filter p).take q, by rw [List.length_take]; exact Nat.min_eq_left hq,
    (List.take_sublist _ _).nodup (List.nodup_range.filter _),
    fun a ha => by
      have := List.mem_filter.mp (List.mem_of_mem_take ha)
      exact ⟨List.mem_range.mp this.1, this.2⟩⟩

/-! Customers are numbered `1..n` (node 0 = depot): tests and counters over them are written over `k < n` at
index `k + 1`; the lemmas below restate them over `1 ≤ j ≤ n`. -/

theorem forall_lt_succ_iff {n : Nat} {P : Nat → Prop} :
    (∀ k, k < n → P (k + 1)) ↔ ∀ j, 1 ≤ j → j ≤ n → P j :=
  ⟨fun h j h1 h2 => Nat.sub_add_cancel h1 ▸ h (j - 1) (Nat.sub_one_lt_of_le h1 h2),
   fun h k hk => h (k + 1) (Nat.succ_pos k) hk⟩

/-- the same quantifier with the bound first, as `decide` needs it on a concrete instance -/
theorem forall_customers {P : Nat → Prop} {n : Nat} (h : ∀ j, j ≤ n → 1 ≤ j → P j) : ∀ j, 1 ≤ j → j ≤ n → P j :=
  fun j h1 h2 => h j h2 h1

theorem any_succ_eq_false {n : Nat} {p : Nat → Bool} :
    (List.range n).any (fun k => p (k + 1)) = false ↔ ∀ j, 1 ≤ j → j ≤ n → p j = false := by
  simp only [List.any_eq_false, List.mem_range, Bool.not_eq_true]
  exact forall_lt_succ_iff (P := fun j => p j = false)

/-- Needs no visited row, so it serves SDVRP as well as the visited-row families. -/
theorem mask_nonempty_of_depot_offered {e : Env I S} {i : I} {s : S} {n : Nat} (hn : e.nAct i = n + 1)
    (h : (∀ j, 1 ≤ j → j ≤ n → e.mask i s j = false) → e.mask i s 0 = true) :
    ∃ a, a < e.nAct i ∧ e.mask i s a = true := by
  rw [hn]
  cases hany : (List.range n).any (fun k => e.mask i s (k + 1)) with
  | true =>
    obtain ⟨k, hk, hm⟩ := List.any_eq_true.1 hany
    exact ⟨k + 1, Nat.succ_lt_succ (List.mem_range.1 hk), hm⟩
  | false => exact ⟨0, Nat.succ_pos _, h (any_succ_eq_false.1 hany)⟩

/-- the depot rule `mask 0 = !(b && some customer offered)`, whatever the guard `b`, offers the depot when no customer is -/
theorem depot_offered_of_any {e : Env I S} {i : I} {s : S} {n : Nat} {b : Bool}
    (h0 : e.mask i s 0 = !(b && (List.range n).any fun k => e.mask i s (k + 1)))
    (h : ∀ j, 1 ≤ j → j ≤ n → e.mask i s j = false) : e.mask i s 0 = true := by
  rw [h0, any_succ_eq_false.2 h, Bool.and_false]
  rfl

theorem all_succ_eq_true {n : Nat} {p : Nat → Bool} :
    (List.range n).all (fun k => p (k + 1)) = true ↔ ∀ j, 1 ≤ j → j ≤ n → p j = true := by
  simp only [List.all_eq_true, List.mem_range]
  exact forall_lt_succ_iff (P := fun j => p j = true)

theorem cnt_succ_eq_zero {n : Nat} {p : Nat → Bool} :
    cnt n (fun k => p (k + 1)) = 0 ↔ ∀ j, 1 ≤ j → j ≤ n → p j = false :=
  cnt_eq_zero.trans (forall_lt_succ_iff (P := fun j => p j = false))

/-- agreement away from `a` is asked of the customers only: rows whose depot entry a step rewrites fit too -/
theorem cnt_succ_upd_false {n : Nat} {p q : Nat → Bool} {a : Nat} (h1 : 1 ≤ a) (h2 : a ≤ n)
    (hp : p a = true) (hq : q a = false) (hoth : ∀ j, 1 ≤ j → j ≠ a → q j = p j) :
    cnt n (fun k => q (k + 1)) + 1 = cnt n (fun k => p (k + 1)) := by
  have hupd : cnt n (fun k => q (k + 1)) = cnt n (upd (fun k => p (k + 1)) (a - 1) false) := by
    apply cnt_congr
    intro k _
    show q (k + 1) = if k = a - 1 then false else p (k + 1)
    by_cases hk : k = a - 1
    · rw [if_pos hk, hk, Nat.sub_add_cancel h1, hq]
    · rw [if_neg hk, hoth (k + 1) (Nat.succ_pos k) (fun h => hk (by rw [← h, Nat.add_sub_cancel]))]
  rw [hupd]
  apply cnt_upd_false (Nat.lt_of_lt_of_le (Nat.sub_lt h1 Nat.one_pos) h2)
  show p (a - 1 + 1) = true
  rw [Nat.sub_add_cancel h1, hp]

theorem mem_of_count_eq_one {as : List Nat} {j : Nat} (h : as.count j = 1) : j ∈ as :=
  List.count_pos_iff.mp (h ▸ Nat.one_pos)

theorem count_le_one_of_range {n : Nat} {as : List Nat} (hr : ∀ a ∈ as, a ≤ n)
    (ho : ∀ j, 1 ≤ j → j ≤ n → as.count j ≤ 1) (j : Nat) (hj : 1 ≤ j) : as.count j ≤ 1 := by
  by_cases hjn : j ≤ n
  · exact ho j hj hjn
  · rw [List.count_eq_zero_of_not_mem (fun hm => hjn (hr j hm))]
    exact Nat.zero_le 1

end Rl4co
