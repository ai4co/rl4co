/-
Block layouts.  A flat list made of `K` blocks of `B` entries keeps entry `b` of block `k` at position `k * B + b`:
`batchify` (copy `k` of instance `b`), `unbatchify`, `torch.cat` of equal batches, a tiled batch, a `"b s -> (s b)"`
flatten.  The index arithmetic of that layout and the positional reading of `flatten` / `flatMap` / `replicate` are
stated here once; so are running maxima, `getD` of a tabulated list, pointwise facts about `zipWith` and sums, and
permutations of a duplicate-free list read by counts.  No Mathlib.
-/
namespace Rl4co

theorem idx_lt {K B k b : Nat} (hk : k < K) (hb : b < B) : k * B + b < K * B :=
  calc k * B + b < k * B + B := Nat.add_lt_add_left hb _
    _ = (k + 1) * B := (Nat.succ_mul k B).symm
    _ ≤ K * B := Nat.mul_le_mul_right B hk

theorem idx_div {B k b : Nat} (hb : b < B) : (k * B + b) / B = k := by
  rw [Nat.mul_comm, Nat.mul_add_div (Nat.zero_lt_of_lt hb), Nat.div_eq_of_lt hb, Nat.add_zero]

theorem idx_mod {B k b : Nat} (hb : b < B) : (k * B + b) % B = b :=
  Nat.mul_add_mod_of_lt hb

theorem idx_split {K B r : Nat} (hr : r < K * B) : ∃ k b, k < K ∧ b < B ∧ r = k * B + b := by
  have hB : 0 < B := Nat.pos_of_ne_zero (fun h => by rw [h, Nat.mul_zero] at hr; exact Nat.not_lt_zero _ hr)
  exact ⟨r / B, r % B, (Nat.div_lt_iff_lt_mul hB).mpr hr, Nat.mod_lt _ hB, (Nat.div_add_mod' r B).symm⟩

theorem eq_of_div_mod {p q N : Nat} (hd : p / N = q / N) (hm : p % N = q % N) : p = q := by
  rw [← Nat.div_add_mod p N, ← Nat.div_add_mod q N, hd, hm]

theorem idx_inj {B k b k' b' : Nat} (hb : b < B) (hb' : b' < B) (h : k * B + b = k' * B + b') : k = k' ∧ b = b' :=
  ⟨by rw [← idx_div hb (k := k), h, idx_div hb'], by rw [← idx_mod hb (k := k), h, idx_mod hb']⟩

/-- the same index written `b + B · k` (as `unbatchify_layout` and FFSP's slots do) -/
theorem flat_index (B k b : Nat) : b + B * k = k * B + b := by rw [Nat.mul_comm, Nat.add_comm]

theorem divmod_unique {b a c a' c' : Nat} (ha : a < b) (ha' : a' < b) (h : a + b * c = a' + b * c') :
    a = a' ∧ c = c' := by
  rw [Nat.add_comm, Nat.mul_comm, Nat.add_comm a', Nat.mul_comm b] at h
  exact (idx_inj ha ha' h).symm

theorem div_lt_of_lt_mul_right {p W N : Nat} (h : p < W * N) : p / N < W :=
  Nat.div_lt_of_lt_mul (Nat.mul_comm W N ▸ h)

theorem mod_lt_of_lt_mul {p W N : Nat} (h : p < W * N) : p % N < N :=
  Nat.mod_lt _ (Nat.pos_of_lt_mul_left h)

variable {β : Type}

theorem length_flatten_blocks {L : List (List β)} {B : Nat} (hL : ∀ l ∈ L, l.length = B) :
    L.flatten.length = L.length * B := by
  induction L with
  | nil => exact (Nat.zero_mul B).symm
  | cons l L ih =>
    rw [List.flatten_cons, List.length_append, hL l List.mem_cons_self,
      ih (fun l' h => hL l' (List.mem_cons_of_mem _ h)), List.length_cons, Nat.succ_mul, Nat.add_comm B]

theorem getElem?_flatten_blocks {L : List (List β)} {B : Nat} (hL : ∀ l ∈ L, l.length = B) (k : Nat) {b : Nat}
    (hb : b < B) : L.flatten[k * B + b]? = (L[k]?).bind (·[b]?) := by
  induction L generalizing k with
  | nil => rfl
  | cons l L ih =>
    have hl : l.length = B := hL l List.mem_cons_self
    cases k with
    | zero =>
      rw [List.flatten_cons, Nat.zero_mul, Nat.zero_add, List.getElem?_append_left (hl ▸ hb)]
      rfl
    | succ k =>
      have e : (k + 1) * B + b = k * B + b + l.length := by rw [hl, Nat.succ_mul, Nat.add_right_comm]
      rw [List.flatten_cons, e, List.getElem?_append_right (Nat.le_add_left _ _), Nat.add_sub_cancel,
        ih (fun l' h => hL l' (List.mem_cons_of_mem _ h))]
      rfl

theorem length_flatMap_range {K B : Nat} {g : Nat → List β} (hg : ∀ k, k < K → (g k).length = B) :
    ((List.range K).flatMap g).length = K * B := by
  rw [List.flatMap_def, length_flatten_blocks (B := B), List.length_map, List.length_range]
  intro l hl
  obtain ⟨k, hk, rfl⟩ := List.mem_map.mp hl
  exact hg k (List.mem_range.mp hk)

theorem getElem?_flatMap_range {K B : Nat} {g : Nat → List β} (hg : ∀ k, k < K → (g k).length = B) {k b : Nat}
    (hk : k < K) (hb : b < B) : ((List.range K).flatMap g)[k * B + b]? = (g k)[b]? := by
  rw [List.flatMap_def, getElem?_flatten_blocks (B := B) _ k hb, List.getElem?_map, List.getElem?_range hk]
  · rfl
  · intro l hl
    obtain ⟨k, hk, rfl⟩ := List.mem_map.mp hl
    exact hg k (List.mem_range.mp hk)

theorem flatMap_range_piece (B w : Nat) (f : Nat → List Nat) (hw : ∀ r, r < B → (f r).length = w)
    (r : Nat) (hr : r < B) : (((List.range B).flatMap f).drop (r * w)).take w = f r := by
  obtain ⟨m, rfl⟩ : ∃ m, B = r + (m + 1) := ⟨B - r - 1, by omega⟩
  rw [List.range_add, List.flatMap_append, List.range_succ_eq_map, List.map_cons, List.flatMap_cons, Nat.add_zero,
    List.drop_left' (length_flatMap_range (fun j hj => hw j (Nat.lt_of_lt_of_le hj (Nat.le_add_right _ _)))),
    List.take_left' (hw r hr)]

theorem length_flatten_replicate (A : Nat) (rows : List β) :
    (List.replicate A rows).flatten.length = A * rows.length := by
  rw [length_flatten_blocks (B := rows.length) (fun l h => (List.eq_of_mem_replicate h) ▸ rfl), List.length_replicate]

theorem getElem?_flatten_replicate {A : Nat} (rows : List β) {a b : Nat} (ha : a < A) (hb : b < rows.length) :
    (List.replicate A rows).flatten[a * rows.length + b]? = rows[b]? := by
  rw [getElem?_flatten_blocks (B := rows.length) (fun l h => (List.eq_of_mem_replicate h) ▸ rfl) a hb,
    List.getElem?_replicate_of_lt ha]
  rfl

theorem getD_map_range {K : Nat} (g : Nat → β) {j : Nat} (hj : j < K) (d : β) :
    ((List.range K).map g).getD j d = g j := by
  rw [List.getD_eq_getElem?_getD, List.getElem?_map, List.getElem?_range hj]
  rfl

theorem getD_eq_getElem (l : List β) (d : β) {i : Nat} (h : i < l.length) : l.getD i d = l[i] :=
  (List.getElem_eq_getD d).symm

theorem getD_mem {l : List β} (d : β) {i : Nat} (h : i < l.length) : l.getD i d ∈ l :=
  getD_eq_getElem l d h ▸ List.getElem_mem h

theorem exists_getD_of_mem {l : List β} (d : β) {x : β} (h : x ∈ l) : ∃ i, i < l.length ∧ l.getD i d = x :=
  let ⟨i, hi, e⟩ := List.mem_iff_getElem.mp h
  ⟨i, hi, (getD_eq_getElem l d hi).trans e⟩

theorem map_getD_range (l : List β) (d : β) : (List.range l.length).map (fun i => l.getD i d) = l := by
  apply List.ext_getElem
  · rw [List.length_map, List.length_range]
  · intro i _ h2
    rw [List.getElem_map, List.getElem_range, getD_eq_getElem l d h2]

theorem foldl_max_ge {γ : Type} (f : γ → Nat) (xs : List γ) (m : Nat) :
    m ≤ xs.foldl (fun m x => max m (f x)) m ∧ ∀ x ∈ xs, f x ≤ xs.foldl (fun m x => max m (f x)) m := by
  induction xs generalizing m with
  | nil => exact ⟨Nat.le_refl _, fun _ h => absurd h List.not_mem_nil⟩
  | cons y ys ih =>
    obtain ⟨h1, h2⟩ := ih (max m (f y))
    refine ⟨Nat.le_trans (Nat.le_max_left _ _) h1, fun x hx => ?_⟩
    rcases List.mem_cons.mp hx with rfl | hx
    · exact Nat.le_trans (Nat.le_max_right _ _) h1
    · exact h2 x hx

theorem zipWith_congr_of_mem {α β γ : Type} {f g : α → β → γ} {l : List α}
    (h : ∀ x ∈ l, ∀ b, f x b = g x b) (l' : List β) : List.zipWith f l l' = List.zipWith g l l' := by
  induction l generalizing l' with
  | nil => rfl
  | cons x xs ih =>
    cases l' with
    | nil => rfl
    | cons b bs =>
      rw [List.zipWith_cons_cons, List.zipWith_cons_cons, h x List.mem_cons_self b,
        ih (fun y hy => h y (List.mem_cons_of_mem _ hy))]

theorem sum_map_zero {α : Type} : ∀ l : List α, (l.map fun _ => (0 : Int)).sum = 0
  | [] => rfl
  | _ :: l => by rw [List.map_cons, List.sum_cons, sum_map_zero l]; rfl

theorem sum_map_range_update {n k : Nat} {f g : Nat → Int} (hk : k < n) (h : ∀ j, j ≠ k → g j = f j) :
    ((List.range n).map g).sum + f k = ((List.range n).map f).sum + g k := by
  induction n with
  | zero => exact absurd hk (Nat.not_lt_zero k)
  | succ n ih =>
    rw [List.range_succ, List.map_append, List.map_append, List.sum_append, List.sum_append, List.map_singleton,
      List.map_singleton, List.sum_singleton, List.sum_singleton]
    rcases Nat.lt_succ_iff_lt_or_eq.mp hk with hlt | rfl
    · rw [h n (Nat.ne_of_gt hlt), Int.add_right_comm, ih hlt, Int.add_right_comm]
    · rw [List.map_congr_left fun j hj => h j (Nat.ne_of_lt (List.mem_range.mp hj)), Int.add_right_comm]

theorem sum_map_le {α : Type} {f g : α → Int} : ∀ {l : List α}, (∀ k ∈ l, f k ≤ g k) → (l.map f).sum ≤ (l.map g).sum
  | [], _ => Int.le_refl 0
  | k :: l, h => by
    rw [List.map_cons, List.map_cons, List.sum_cons, List.sum_cons]
    exact Int.add_le_add (h k List.mem_cons_self) (sum_map_le fun j hj => h j (List.mem_cons_of_mem _ hj))

theorem sum_map_nonneg {α : Type} {f : α → Int} {l : List α} (h : ∀ k ∈ l, 0 ≤ f k) : 0 ≤ (l.map f).sum :=
  sum_map_zero l ▸ sum_map_le h

theorem sum_map_pos {f : Nat → Int} : ∀ {l : List Nat}, (∀ k ∈ l, 0 ≤ f k) → ∀ {j}, j ∈ l → 0 < f j →
    0 < (l.map f).sum
  | [], _, _, hj, _ => absurd hj List.not_mem_nil
  | x :: l, hnn, j, hj, hp => by
    rw [List.map_cons, List.sum_cons]
    have hx := hnn x List.mem_cons_self
    have hl : ∀ k ∈ l, 0 ≤ f k := fun k hk => hnn k (List.mem_cons_of_mem _ hk)
    rcases List.mem_cons.mp hj with h | h
    · exact Int.add_pos_of_pos_of_nonneg (h ▸ hp) (sum_map_nonneg hl)
    · exact Int.add_pos_of_nonneg_of_pos hx (sum_map_pos hl h hp)

theorem sum_map_mul (c : Int) (f : Nat → Int) : ∀ r : List Nat, (r.map (fun j => c * f j)).sum = c * (r.map f).sum
  | [] => by simp
  | a :: r => by simp [sum_map_mul c f r, Int.mul_add]

theorem inj_of_nodup_map {α β : Type} {f : α → β} (l : List α) (h : (l.map f).Nodup) :
    ∀ x ∈ l, ∀ y ∈ l, f x = f y → x = y := by
  have hp : l.Pairwise (fun a b => f a ≠ f b) := List.pairwise_map.mp h
  exact fun x hx y hy => List.Pairwise.forall_of_forall_of_flip (R := fun a b => f a = f b → a = b)
    (fun _ _ _ => rfl) (hp.imp fun h e => absurd e h) (hp.imp fun h e => absurd e.symm h) hx hy

theorem nodup_of_perm_range {l : List Nat} {n : Nat} (h : l.Perm (List.range n)) : l.Nodup :=
  h.nodup_iff.mpr List.nodup_range

theorem length_of_perm_range {l : List Nat} {n : Nat} (h : l.Perm (List.range n)) : l.length = n :=
  h.length_eq.trans List.length_range

theorem mem_of_perm_range {l : List Nat} {n : Nat} (h : l.Perm (List.range n)) (z : Nat) : z ∈ l ↔ z < n :=
  h.mem_iff.trans List.mem_range

/-- a permutation `l` of `0 … n-1` read as the function `i ↦ l.getD i d` maps `0 … n-1` one to one onto itself -/
theorem getD_lt_of_perm_range {l : List Nat} {n : Nat} (h : l.Perm (List.range n)) (d : Nat) {i : Nat} (hi : i < n) :
    l.getD i d < n :=
  (mem_of_perm_range h _).mp (getD_mem d ((length_of_perm_range h).symm ▸ hi))

theorem getD_inj_of_perm_range {l : List Nat} {n : Nat} (h : l.Perm (List.range n)) (d : Nat) {i j : Nat} (hi : i < n)
    (hj : j < n) (e : l.getD i d = l.getD j d) : i = j :=
  have hl := length_of_perm_range h
  (List.getD_inj (hl.symm ▸ hi) (hl.symm ▸ hj) (nodup_of_perm_range h)).mp e

theorem exists_getD_of_perm_range {l : List Nat} {n : Nat} (h : l.Perm (List.range n)) (d : Nat) {y : Nat} (hy : y < n) :
    ∃ i, i < n ∧ l.getD i d = y := by
  obtain ⟨i, hi, e⟩ := exists_getD_of_mem d ((mem_of_perm_range h y).mpr hy)
  exact ⟨i, length_of_perm_range h ▸ hi, e⟩

theorem perm_iff_mem_count {base : List Nat} (hb : base.Nodup) (as : List Nat) :
    as.Perm base ↔ (∀ a ∈ as, a ∈ base) ∧ ∀ j ∈ base, as.count j = 1 := by
  rw [List.perm_iff_count]
  constructor
  · intro h
    refine ⟨fun a ha => ?_, fun j hj => ?_⟩
    · exact List.count_pos_iff.mp (h a ▸ List.count_pos_iff.mpr ha)
    · rw [h j, hb.count, if_pos hj]
  · intro ⟨h1, h2⟩ a
    by_cases ha : a ∈ base
    · rw [h2 a ha, hb.count, if_pos ha]
    · rw [hb.count, if_neg ha]
      exact List.count_eq_zero_of_not_mem (fun hm => ha (h1 a hm))

theorem once_iff_perm (n : Nat) (as : List Nat) :
    ((∀ a ∈ as, 1 ≤ a ∧ a ≤ n) ∧ (∀ j, 1 ≤ j → j ≤ n → as.count j = 1)) ↔
      as.Perm (List.range' 1 n) := by
  rw [perm_iff_mem_count List.nodup_range']
  simp only [List.mem_range'_1, Nat.add_comm 1 n, Nat.lt_succ_iff, and_imp]

theorem take_succ_sum (ns : List Nat) (j : Nat) :
    (ns.take (j + 1)).sum = (ns.take j).sum + ns.getD j 0 := by
  rw [List.take_add_one, List.sum_append, List.getD_eq_getElem?_getD]
  cases ns[j]? <;> rfl

theorem take_sum_mono (ns : List Nat) (a b : Nat) (h : a ≤ b) : (ns.take a).sum ≤ (ns.take b).sum := by
  obtain ⟨k, rfl⟩ := Nat.le.dest h
  induction k with
  | zero => exact Nat.le_refl _
  | succ k ih =>
    refine Nat.le_trans (ih (Nat.le_add_right a k)) ?_
    rw [← Nat.add_assoc, take_succ_sum]; exact Nat.le_add_right _ _

theorem take_sum_le (ns : List Nat) (a : Nat) : (ns.take a).sum ≤ ns.sum := by
  have := take_sum_mono ns a (a + ns.length) (Nat.le_add_right _ _)
  rwa [List.take_of_length_le (Nat.le_add_left _ _)] at this

/-- core's merge sort under `≤` on `Nat` sorts; both models of `torch.sort` (`Rl4co.sortNat`, `Prize.sortNat`) unfold to it -/
theorem pairwise_mergeSort_le (as : List Nat) : (as.mergeSort (fun a b => decide (a ≤ b))).Pairwise (· ≤ ·) := by
  have := List.pairwise_mergeSort (le := fun a b : Nat => decide (a ≤ b))
    (by intro a b c; simp; omega) (by intro a b; simp; omega) as
  simpa using this

theorem snoc_ind {α : Type} {P : List α → Prop} (nil : P []) (snoc : ∀ l a, P l → P (l ++ [a])) :
    ∀ l, P l := by
  intro l
  have : ∀ r : List α, P r.reverse := by
    intro r
    induction r with
    | nil => simpa using nil
    | cons a r ih => simpa using snoc _ a ih
  simpa using this l.reverse

end Rl4co
