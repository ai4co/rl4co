/-
Tours, rolls and routes over a distance matrix `D : Nat → Nat → Int` (ticks).  No Mathlib.

`rollLen D xs` is the model of `get_tour_length(gather_by_index(locs, xs))` and of the
`gather / torch.roll(-1) / sum` idiom: Σ_k D xs[k] xs[(k+1) mod len].
`pathLen D xs` is the open path length Σ_k D xs[k] xs[k+1].
(`Env/Tsp`, `Env/Pdp` model the same `get_tour_length` with the arguments of `D` the other way round, leg `D xs[k+1] xs[k]`, as the
source passes them; `Tspfam.sum_zipWith_roll1` (Proofs/TspfamTour) is the bridge, under symmetry of `D`.)
`routes as` splits an action list at depot visits (action 0) into maximal depot-free segments;
`routes as = firstRoute as :: restRoutes as`, and statements about all routes are proved by induction on the action
list in the form "the route in progress … and every later route …".
-/
namespace Rl4co

/-- `torch.roll(xs, -1)`: first element moves to the end. -/
def roll1 {α : Type} : List α → List α
  | [] => []
  | x :: xs => xs ++ [x]

def pathLen (D : Nat → Nat → Int) : List Nat → Int
  | [] => 0
  | [_] => 0
  | x :: y :: r => D x y + pathLen D (y :: r)

/-- The code's idiom: pairwise distance between `xs` and `roll(xs, -1)`, summed. -/
def rollLen (D : Nat → Nat → Int) (xs : List Nat) : Int :=
  (List.zipWith (fun a b => D a b) xs (roll1 xs)).sum

/-- Closed tour length: path plus the edge from the last element back to the first. -/
def closedLen (D : Nat → Nat → Int) : List Nat → Int
  | [] => 0
  | x :: xs => pathLen D (x :: xs ++ [x])

theorem rotateLeft_one {α : Type} : ∀ xs : List α, xs.rotateLeft 1 = roll1 xs
  | [] => rfl
  | [_] => rfl
  | x :: y :: r => by simp [List.rotateLeft, roll1]

theorem pathLen_cons_cons (D : Nat → Nat → Int) (x y : Nat) (r : List Nat) :
    pathLen D (x :: y :: r) = D x y + pathLen D (y :: r) := rfl

theorem pathLen_pair (D : Nat → Nat → Int) (x z : Nat) : pathLen D [x, z] = D x z := Int.add_zero _

theorem pathLen_snoc_snoc (D : Nat → Nat → Int) (u : List Nat) (y z : Nat) :
    pathLen D (u ++ [y] ++ [z]) = pathLen D (u ++ [y]) + D y z := by
  induction u with
  | nil => exact (Int.zero_add _).symm ▸ pathLen_pair D y z
  | cons x u ih =>
    cases u with
    | nil => show D x y + (D y z + 0) = D x y + 0 + D y z; rw [Int.add_zero, Int.add_zero]
    | cons w u =>
      show D x w + pathLen D (w :: u ++ [y] ++ [z]) = D x w + pathLen D (w :: u ++ [y]) + D y z
      rw [ih, Int.add_assoc]

theorem pathLen_append_singleton (D : Nat → Nat → Int) (x : Nat) (xs : List Nat) (z : Nat) :
    pathLen D ((x :: xs) ++ [z]) = pathLen D (x :: xs) + D ((x :: xs).getLast (by simp)) z := by
  have := pathLen_snoc_snoc D (x :: xs).dropLast ((x :: xs).getLast (by simp)) z
  rw [List.dropLast_concat_getLast] at this
  exact this

theorem pathLen_reverse (D : Nat → Nat → Int) (hs : ∀ a b, D a b = D b a) (xs : List Nat) :
    pathLen D xs.reverse = pathLen D xs := by
  induction xs with
  | nil => rfl
  | cons x t ih =>
    cases t with
    | nil => rfl
    | cons y r =>
      rw [List.reverse_cons, List.reverse_cons, pathLen_snoc_snoc, ← List.reverse_cons, ih,
        pathLen_cons_cons, hs y x]
      omega

theorem pathLen_nonneg {D : Nat → Nat → Int} (hD : ∀ a b, 0 ≤ D a b) : ∀ (xs : List Nat), 0 ≤ pathLen D xs
  | [] => Int.le_refl 0
  | [_] => Int.le_refl 0
  | x :: y :: r => Int.add_nonneg (hD x y) (pathLen_nonneg hD (y :: r))

theorem pathLen_scale (ρ : Int) (D : Nat → Nat → Int) (xs : List Nat) :
    pathLen (fun a b => ρ * D a b) xs = ρ * pathLen D xs := by
  induction xs with
  | nil => exact (Int.mul_zero ρ).symm
  | cons x xs ih =>
    cases xs with
    | nil => exact (Int.mul_zero ρ).symm
    | cons y ys => rw [pathLen_cons_cons, pathLen_cons_cons, ih, Int.mul_add]

theorem zipWith_roll_aux (D : Nat → Nat → Int) (x : Nat) (xs : List Nat) (z : Nat) :
    (List.zipWith (fun a b => D a b) (x :: xs) (xs ++ [z])).sum = pathLen D (x :: xs ++ [z]) := by
  induction xs generalizing x with
  | nil => simp [pathLen]
  | cons y ys ih =>
    simp only [List.cons_append, List.zipWith_cons_cons, List.sum_cons]
    rw [ih y, pathLen_cons_cons]
    simp

theorem rollLen_eq_closedLen (D : Nat → Nat → Int) (xs : List Nat) :
    rollLen D xs = closedLen D xs := by
  cases xs with
  | nil => simp [rollLen, closedLen, roll1]
  | cons x xs => simp only [rollLen, roll1, closedLen]; exact zipWith_roll_aux D x xs x

theorem closedLen_roll1 (D : Nat → Nat → Int) : ∀ xs : List Nat, closedLen D (roll1 xs) = closedLen D xs
  | [] => rfl
  | [_] => rfl
  | x :: y :: ys => by
    -- both sides: the path through `y :: ys`, the leg to `x` and the leg from `x` back to `y`
    show pathLen D (y :: ys ++ [x] ++ [y]) = D x y + pathLen D (y :: ys ++ [x])
    rw [pathLen_snoc_snoc, Int.add_comm]

theorem closedLen_scale (ρ : Int) (D : Nat → Nat → Int) (xs : List Nat) :
    closedLen (fun a b => ρ * D a b) xs = ρ * closedLen D xs := by
  cases xs with
  | nil => exact (Int.mul_zero ρ).symm
  | cons x xs => exact pathLen_scale ρ D _

theorem pathLen_cons_snoc (D : Nat → Nat → Int) (x a : Nat) (t : List Nat) (z : Nat) :
    pathLen D (x :: (a :: t) ++ [z]) = D x a + pathLen D (a :: t ++ [z]) := rfl

theorem pathLen_cons_snoc_snoc (D : Nat → Nat → Int) (x : Nat) (u : List Nat) (y z : Nat) :
    pathLen D (x :: (u ++ [y]) ++ [z]) = pathLen D (x :: u ++ [y]) + D y z :=
  pathLen_snoc_snoc D (x :: u) y z

theorem depot_tour_reverse (D : Nat → Nat → Int) (hsym : ∀ a b, D a b = D b a) (as : List Nat) :
    pathLen D (0 :: as.reverse ++ [0]) = pathLen D (0 :: as ++ [0]) := by
  have : 0 :: as.reverse ++ [0] = (0 :: as ++ [0]).reverse := by simp
  rw [this, pathLen_reverse D hsym]

theorem dist_le_pathLen (D : Nat → Nat → Int) (htri : ∀ a b, D a 0 ≤ D a b + D b 0) (t : List Nat)
    (c : Nat) : D c 0 ≤ pathLen D (c :: t ++ [0]) := by
  induction t generalizing c with
  | nil => exact Int.le_of_eq (pathLen_pair D c 0).symm
  | cons y t ih =>
    rw [pathLen_cons_snoc]
    exact Int.le_trans (htri c y) (Int.add_le_add_left (ih y) _)

theorem rollLen_snoc_depot (D : Nat → Nat → Int) (u : List Nat) :
    rollLen D (u ++ [0]) = pathLen D (0 :: u ++ [0]) := by
  rw [rollLen_eq_closedLen]
  cases u with
  | nil => rfl
  | cons y t =>
    show pathLen D ((y :: t) ++ [0] ++ [y]) = D 0 y + pathLen D (y :: t ++ [0])
    rw [pathLen_snoc_snoc, Int.add_comm]

theorem rollLen_depot_cons (D : Nat → Nat → Int) (as : List Nat) :
    rollLen D (0 :: as) = pathLen D (0 :: as ++ [0]) :=
  rollLen_eq_closedLen D (0 :: as)

theorem pathLen_snoc_le (D : Nat → Nat → Int) (htri : ∀ a b, D a b ≤ D a 0 + D 0 b) (y : Nat)
    (t : List Nat) (x : Nat) : pathLen D (x :: t ++ [y]) ≤ pathLen D (x :: t ++ [0]) + D 0 y := by
  induction t generalizing x with
  | nil => simp only [List.cons_append, List.nil_append, pathLen_pair]; exact htri x y
  | cons a t ih =>
    rw [pathLen_cons_snoc, pathLen_cons_snoc, Int.add_assoc]
    exact Int.add_le_add_left (ih a) _

theorem rollLen_le_depot_tour (D : Nat → Nat → Int) (h00 : 0 ≤ D 0 0)
    (htri : ∀ a b, D a b ≤ D a 0 + D 0 b) (as : List Nat) :
    rollLen D as ≤ pathLen D (0 :: as ++ [0]) := by
  rw [rollLen_eq_closedLen]
  cases as with
  | nil => rw [List.cons_append, List.nil_append, pathLen_pair]; exact h00
  | cons y t =>
    rw [pathLen_cons_snoc, Int.add_comm]
    exact pathLen_snoc_le D htri y t y

theorem pathLen_via_depot (D : Nat → Nat → Int) (h00 : 0 ≤ D 0 0)
    (htri : ∀ a b, D a b ≤ D a 0 + D 0 b) (x : Nat) (cs : List Nat) :
    pathLen D (x :: cs ++ [0]) ≤ D x 0 + pathLen D (0 :: cs ++ [0]) := by
  cases cs with
  | nil =>
    simp only [List.cons_append, List.nil_append, pathLen_pair]
    exact Int.le_add_of_nonneg_right h00
  | cons h r =>
    rw [pathLen_cons_snoc, pathLen_cons_snoc, ← Int.add_assoc]
    exact Int.add_le_add_right (htri x h) _

/-- Split at depot visits: `routes [1,2,0,3,0,0,4] = [[1,2],[3],[],[4]]`. -/
def routes : List Nat → List (List Nat)
  | [] => [[]]
  | a :: as =>
    if a = 0 then [] :: routes as
    else match routes as with
      | [] => [[a]]
      | r :: rs => (a :: r) :: rs

/-- Length of one route driven out of and back into the depot; empty routes cost nothing. -/
def routeLen (D : Nat → Nat → Int) (r : List Nat) : Int :=
  if r = [] then 0 else pathLen D (0 :: r ++ [0])

/-- Independent objective of depot-based routing: sum of closed route lengths. -/
def routesLen (D : Nat → Nat → Int) (as : List Nat) : Int :=
  ((routes as).map (routeLen D)).sum

theorem routeLen_nil (D : Nat → Nat → Int) : routeLen D [] = 0 := rfl

/-- a route driven depot → customers → depot; the empty route costs `D 0 0 = 0` -/
theorem routeLen_eq_pathLen (D : Nat → Nat → Int) (h00 : D 0 0 = 0) (r : List Nat) :
    routeLen D r = pathLen D (0 :: r ++ [0]) := by
  unfold routeLen
  split
  · next hr => subst hr; exact (Int.add_zero _).symm.trans (congrArg (· + 0) h00.symm)
  · rfl

theorem routeLen_nonneg (D : Nat → Nat → Int) (hD : ∀ a b, 0 ≤ D a b) (r : List Nat) : 0 ≤ routeLen D r := by
  unfold routeLen; split
  · exact Int.le_refl 0
  · exact pathLen_nonneg hD _

def firstRoute : List Nat → List Nat
  | [] => []
  | a :: as => if a = 0 then [] else a :: firstRoute as

def restRoutes : List Nat → List (List Nat)
  | [] => []
  | a :: as => if a = 0 then routes as else restRoutes as

theorem routes_eq (as : List Nat) : routes as = firstRoute as :: restRoutes as := by
  induction as with
  | nil => rfl
  | cons a as ih =>
    by_cases h0 : a = 0
    · simp only [routes, firstRoute, restRoutes, h0, if_true]
    · simp only [routes, firstRoute, restRoutes, h0, if_false, ih]

theorem firstRoute_zero_cons (as : List Nat) : firstRoute (0 :: as) = [] := rfl
theorem restRoutes_zero_cons (as : List Nat) : restRoutes (0 :: as) = routes as := rfl
theorem firstRoute_cons {a : Nat} (h : a ≠ 0) (as : List Nat) : firstRoute (a :: as) = a :: firstRoute as :=
  if_neg h
theorem restRoutes_cons {a : Nat} (h : a ≠ 0) (as : List Nat) : restRoutes (a :: as) = restRoutes as :=
  if_neg h

theorem forall_mem_routes {P : List Nat → Prop} {as : List Nat} :
    (∀ r ∈ routes as, P r) ↔ P (firstRoute as) ∧ ∀ r ∈ restRoutes as, P r := by
  rw [routes_eq]; exact List.forall_mem_cons

theorem routes_zero_free (as : List Nat) : ∀ r ∈ routes as, 0 ∉ r := by
  induction as with
  | nil => intro r hr; rw [List.mem_singleton.mp hr]; exact List.not_mem_nil
  | cons a as ih =>
    rw [forall_mem_routes] at ih ⊢
    by_cases h0 : a = 0
    · subst h0; exact ⟨List.not_mem_nil, forall_mem_routes.2 ih⟩
    · rw [firstRoute_cons h0, restRoutes_cons h0]
      exact ⟨fun hm => (List.mem_cons.mp hm).elim (fun e => h0 e.symm) ih.1, ih.2⟩

theorem mem_of_mem_routes (as : List Nat) : ∀ r ∈ routes as, ∀ a ∈ r, a ∈ as := by
  induction as with
  | nil => intro r hr a ha; rw [List.mem_singleton.mp hr] at ha; exact ha
  | cons b as ih =>
    rw [forall_mem_routes] at ih ⊢
    by_cases h0 : b = 0
    · subst h0
      exact ⟨fun a ha => absurd ha List.not_mem_nil,
        fun r hr a ha => List.mem_cons_of_mem _ (forall_mem_routes (P := fun r => ∀ a ∈ r, a ∈ as).2 ih r hr a ha)⟩
    · rw [firstRoute_cons h0, restRoutes_cons h0]
      refine ⟨fun a ha => ?_, fun r hr a ha => List.mem_cons_of_mem _ (ih.2 r hr a ha)⟩
      rcases List.mem_cons.mp ha with e | h
      · rw [e]; exact List.mem_cons_self
      · exact List.mem_cons_of_mem _ (ih.1 a h)

theorem exists_route_of_mem {a : Nat} (h0 : a ≠ 0) : ∀ {as : List Nat}, a ∈ as → ∃ r ∈ routes as, a ∈ r
  | b :: as, ha => by
    rw [routes_eq]
    by_cases hb : b = 0
    · subst hb
      obtain ⟨r, hr, hm⟩ := exists_route_of_mem h0 ((List.mem_cons.mp ha).resolve_left h0)
      exact ⟨r, List.mem_cons_of_mem _ hr, hm⟩
    · rw [firstRoute_cons hb, restRoutes_cons hb]
      rcases List.mem_cons.mp ha with e | h
      · exact ⟨_, List.mem_cons_self, e ▸ List.mem_cons_self⟩
      · obtain ⟨r, hr, hm⟩ := exists_route_of_mem h0 h
        rcases List.mem_cons.mp (routes_eq as ▸ hr) with e | hr
        · exact ⟨_, List.mem_cons_self, List.mem_cons_of_mem _ (e ▸ hm)⟩
        · exact ⟨r, List.mem_cons_of_mem _ hr, hm⟩

theorem routes_length (as : List Nat) : (routes as).length = as.count 0 + 1 := by
  induction as with
  | nil => rfl
  | cons a as ih =>
    rw [routes_eq, List.length_cons] at ih ⊢
    by_cases h0 : a = 0
    · subst h0; rw [restRoutes_zero_cons, routes_eq, List.length_cons, ih, List.count_cons_self]
    · rw [restRoutes_cons h0, ih, List.count_cons_of_ne h0]

theorem count_eq_sum_routes (as : List Nat) (j : Nat) (hj : j ≠ 0) :
    as.count j = ((routes as).map (List.count j)).sum := by
  induction as with
  | nil => rfl
  | cons a as ih =>
    by_cases h0 : a = 0
    · subst h0
      rw [List.count_cons_of_ne (fun e => hj e.symm), ih]
      exact (Nat.zero_add _).symm
    · rw [routes_eq, List.map_cons, List.sum_cons] at ih ⊢
      rw [firstRoute_cons h0, restRoutes_cons h0, List.count_cons, List.count_cons, ih]
      omega

theorem routes_append_of_zero_free {r : List Nat} (h : 0 ∉ r) (as : List Nat) :
    routes (r ++ as) = (r ++ firstRoute as) :: restRoutes as := by
  induction r with
  | nil => exact routes_eq as
  | cons a r ih =>
    have ha : a ≠ 0 := fun e => h (e ▸ List.mem_cons_self)
    rw [List.cons_append, routes_eq, firstRoute_cons ha, restRoutes_cons ha]
    have := ih fun hm => h (List.mem_cons_of_mem _ hm)
    rw [routes_eq] at this
    rw [(List.cons.inj this).1, (List.cons.inj this).2, List.cons_append]

theorem routes_of_zero_free (t : List Nat) (h : 0 ∉ t) : routes t = [t] := by
  have := routes_append_of_zero_free h []
  rwa [List.append_nil, show firstRoute [] = [] from rfl, List.append_nil] at this

theorem routes_append_zero_free (r : List Nat) (h : 0 ∉ r) (rest : List Nat) :
    routes (r ++ 0 :: rest) = r :: routes rest := by
  rw [routes_append_of_zero_free h, firstRoute_zero_cons, List.append_nil, restRoutes_zero_cons]

theorem routes_append_zero (as : List Nat) : routes (as ++ [0]) = routes as ++ [[]] := by
  induction as with
  | nil => rfl
  | cons a as ih =>
    by_cases h0 : a = 0
    · subst h0; exact congrArg ([] :: ·) ih
    · rw [List.cons_append, routes, if_neg h0, ih, routes_eq as, routes_eq (a :: as), firstRoute_cons h0,
        restRoutes_cons h0]
      rfl

/-- a trailing depot visit appends an empty route, which costs nothing -/
theorem routesLen_append_zero (D : Nat → Nat → Int) (as : List Nat) : routesLen D (as ++ [0]) = routesLen D as := by
  rw [routesLen, routes_append_zero, List.map_append, List.sum_append, ← routesLen]
  exact Int.add_zero _

theorem pathLen_routes (D : Nat → Nat → Int) (h00 : D 0 0 = 0) (as : List Nat) (x : Nat) :
    pathLen D (x :: as ++ [0]) =
      pathLen D (x :: firstRoute as ++ [0]) + ((restRoutes as).map (routeLen D)).sum := by
  induction as generalizing x with
  | nil => exact (Int.add_zero _).symm
  | cons a as ih =>
    show D x a + pathLen D (a :: as ++ [0]) = _
    rw [ih a]
    by_cases h0 : a = 0
    · subst h0
      rw [firstRoute_zero_cons, restRoutes_zero_cons, routes_eq, List.map_cons, List.sum_cons,
        routeLen_eq_pathLen D h00]
      exact congrArg (· + _) (pathLen_pair D x 0).symm
    · rw [firstRoute_cons h0, restRoutes_cons h0]
      exact (Int.add_assoc _ _ _).symm

theorem closed_eq_routesLen (D : Nat → Nat → Int) (h00 : D 0 0 = 0) (as : List Nat) :
    pathLen D (0 :: as ++ [0]) = routesLen D as := by
  rw [pathLen_routes D h00, routesLen, routes_eq, List.map_cons, List.sum_cons, routeLen_eq_pathLen D h00]

theorem routesLen_scale (ρ : Int) (D : Nat → Nat → Int) (as : List Nat) :
    routesLen (fun a b => ρ * D a b) as = ρ * routesLen D as := by
  have hroute : ∀ r, routeLen (fun a b => ρ * D a b) r = ρ * routeLen D r := fun r => by
    rw [routeLen, routeLen]
    split
    · exact (Int.mul_zero ρ).symm
    · exact pathLen_scale ρ D _
  rw [routesLen, routesLen]
  induction routes as with
  | nil => exact (Int.mul_zero ρ).symm
  | cons t ts ih => rw [List.map_cons, List.sum_cons, List.map_cons, List.sum_cons, ih, hroute, Int.mul_add]

/-- the reward idiom of the depot-based environments: the roll over `[depot] ++ actions` -/
theorem rollLen_depot_eq_routesLen (D : Nat → Nat → Int) (h00 : D 0 0 = 0) (as : List Nat) :
    rollLen D (0 :: as) = routesLen D as :=
  (rollLen_depot_cons D as).trans (closed_eq_routesLen D h00 as)

end Rl4co
