/-
Line protocol helpers for the model drivers (one `Driver/<Fam>.lean` per family).  One request per line:
  <model>.<op> <int> ... | <int> ... | ...
Sections are separated by a lone `|`; all numbers are integers (ticks).  The reply is one line of
space-separated `key=value` fields.  No Mathlib.
-/
import Rl4co.Core.Basic
namespace Rl4co.Proto

def splitSections (toks : List String) : List (List String) :=
  let rec go (acc : List String) (out : List (List String)) : List String → List (List String)
    | [] => (acc.reverse :: out).reverse
    | t :: ts => if t == "|" then go [] (acc.reverse :: out) ts else go (t :: acc) out ts
  go [] [] toks

def ints (toks : List String) : Option (List Int) := toks.mapM String.toInt?
def nats (toks : List String) : Option (List Nat) := toks.mapM String.toNat?

/-- all sections parsed as integer lists -/
def parseSections (toks : List String) : Option (List (List Int)) :=
  (splitSections toks).mapM ints

def toNats (xs : List Int) : List Nat := xs.map Int.toNat

/-- list → total function with default 0 -/
def fn1 (xs : List Int) : Nat → Int := fun j => xs.getD j 0
/-- 1-based list → function: `fn1From1 xs j = xs[j-1]` for j ≥ 1, 0 at 0 -/
def fn1From1 (xs : List Int) : Nat → Int := fun j => if j = 0 then 0 else xs.getD (j - 1) 0
/-- row-major `m × m` matrix -/
def fn2 (m : Nat) (xs : List Int) : Nat → Nat → Int := fun a b => xs.getD (a * m + b) 0
def fnB (xs : List Int) : Nat → Bool := fun j => xs.getD j 0 != 0

def bit (b : Bool) : String := if b then "1" else "0"
def bits (bs : List Bool) : String := String.join (bs.map bit)
def maskBits (n : Nat) (m : Nat → Bool) : String := bits ((List.range n).map m)
def intsStr (xs : List Int) : String := ",".intercalate (xs.map toString)
def natsStr (xs : List Nat) : String := ",".intercalate (xs.map toString)

/-- Trace of masks and done flags along an action list (state after 0..T actions), together with
whether every action was admitted by the mask of the state it was taken in. -/
def episodeTrace {I S : Type} (e : Env I S) (i : I) (as : List Nat) : String :=
  let rec go (s : S) (ms ds : List String) : List Nat → List String × List String
    | [] => ((maskBits (e.nAct i) (e.mask i s) :: ms).reverse, (bit (e.done i s) :: ds).reverse)
    | a :: as => go (e.step i s a) (maskBits (e.nAct i) (e.mask i s) :: ms) (bit (e.done i s) :: ds) as
  let (ms, ds) := go (e.reset i) [] [] as
  s!"masks={",".intercalate ms} done={String.join ds} adm={bit (admitted e i (e.reset i) as)}"

end Rl4co.Proto

namespace Rl4co.Proto

abbrev Handlers := List (String × (List String → Option String))

def answer (hs : Handlers) (line : String) : String :=
  match (line.splitOn " ").filter (· ≠ "") with
  | [] => "bad-op empty"
  | op :: args =>
    match hs.lookup op with
    | none => s!"bad-op {op}"
    | some h => match h args with
      | none => s!"bad-args {op}"
      | some r => r

partial def loop (hs : Handlers) (hin hout : IO.FS.Stream) : IO Unit := do
  let line ← hin.getLine
  if line.isEmpty then return ()
  let line := line.trimAscii.toString
  if line == "flush" then
    hout.putStrLn "flushed"; hout.flush
  else
    hout.putStrLn (answer hs line)
  loop hs hin hout

/-- Line-protocol main loop: one request per line on stdin, one reply line on stdout;
the request `flush` flushes the output buffer and answers `flushed`. -/
def runDriver (hs : Handlers) : IO Unit := do
  let hin ← IO.getStdin
  let hout ← IO.getStdout
  loop hs hin hout
  hout.flush

end Rl4co.Proto
