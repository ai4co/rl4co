-- GENERATED by harness/extract.py from /repo's current sources. Do not edit by hand.
import Rl4co.Core.Cmp
namespace Rl4co.Params

/-- cvrp/env.py:get_action_mask  `demand + used_capacity > vehicle_capacity` -/
def cvrpMaskCapCmp : Cmp := .gt
/-- cvrp/env.py:check_solution_validity  `used_cap <= vehicle_capacity + 1e-5` -/
def cvrpCheckCapCmp : Cmp := .le
/-- cvrp/env.py:_step  `visited.sum(-1) == visited.size(-1)` -/
def cvrpDoneCmp : Cmp := .eq
/-- cvrp/env.py:get_action_mask  depot rule `td['current_node'] == 0` -/
def cvrpDepotCurCmp : Cmp := .eq
/-- cvrp/env.py:get_action_mask  depot rule `(mask_loc == 0).int().sum(-1) > 0` -/
def cvrpDepotAnyCmp : Cmp := .gt
/-- cvrp/env.py:_step  load reset factor `(current_node != 0)` -/
def cvrpStepDepotCmp : Cmp := .ne
/-- cvrp/env.py:check_solution_validity  clamp `used_cap[used_cap < 0] = 0` -/
def cvrpCheckClampCmp : Cmp := .lt
/-- cvrp/env.py:check_solution_validity  tolerance in `used_cap <= vehicle_capacity + 1e-5` (num, den) -/
def cvrpCheckTol : Nat × Nat := (1, 100000)
/-- data/transforms.py:dihedral_8_augmentation  z0..z7 as (useY, hasOne, neg) per output coordinate -/
def augDihedralTable : List ((Bool × Bool × Bool) × (Bool × Bool × Bool)) := [((false, false, false), (true, false, false)), ((false, true, true), (true, false, false)), ((false, false, false), (true, true, true)), ((false, true, true), (true, true, true)), ((true, false, false), (false, false, false)), ((true, true, true), (false, false, false)), ((true, false, false), (false, true, true)), ((true, true, true), (false, true, true))]
/-- data/transforms.py:symmetric_transform  x' = cos*x - sin*y ; y' = sin*x + cos*y as (useSin, useY, neg) terms -/
def augRotTable : ((Bool × Bool × Bool) × (Bool × Bool × Bool)) × ((Bool × Bool × Bool) × (Bool × Bool × Bool)) := (((false, false, false), (true, true, true)), ((true, false, false), (false, true, false)))
/-- data/transforms.py:symmetric_transform  `x, y = x - offset, y - offset` … `return xy + offset` (true = minus) -/
def augOffsetSigns : (Bool × Bool) × Bool := ((true, true), false)
/-- data/transforms.py:symmetric_transform  `mask = phi > 2 * math.pi` -/
def augReflectCmp : Cmp := .gt
/-- data/transforms.py:symmetric_transform  the 2 of `2 * math.pi` -/
def augReflectMul : Nat := 2
/-- data/transforms.py:symmetric_augmentation  the 4 of `torch.rand(..) * 4 * math.pi` -/
def augPhiMul : Nat := 4
/-- data/transforms.py:symmetric_augmentation  bound of `phi[: xy.shape[0] // num_augment] = 0.0` (1 = rows // num_augment, 2 = num_augment, 3 = rows) -/
def augFirstZeroBound : Nat := 1
/-- data/transforms.py:StateAugmentation.__call__  `self.augmentation(td_aug[feat], self.num_augment)` forwards num_augment -/
def augForwardsNumAugment : Bool := true
/-- data/transforms.py:symmetric_augmentation  default of `num_augment` -/
def augSymDefaultNumAugment : Nat := 8
/-- models/zoo/am/decoder.py:PrecomputedCache.batchify  tensors expanded with ops.batchify(emb, num_starts) (start-major) -/
def augCacheStartMajor : Bool := true
/-- utils/decoding.py:DecodingStrategy._select_best  `td = unbatchify_and_gather(td, max_idxs, self.num_starts)` -/
def augSelectBestGathersTd : Bool := true
/-- models/nn/ops.py:Normalization.__init__  classes of the normalizer dict (0 BatchNorm1d, 1 InstanceNorm1d, 2 LayerNorm) -/
def augNormKinds : List Nat := [0, 1]
/-- models/nn/ops.py:Normalization.__init__  normalizer built without `track_running_stats=False` -/
def augNormTracksRunning : Bool := true
/-- models/nn/ops.py:Normalization.forward  dims of the 'layer' branch's `x.mean((1, 2))` / `x.var((1, 2))` -/
def augLayerNormDims : List Nat := [1, 2]
/-- tasks/eval.py:EvalBase.__call__  `rewards_list = []` / `actions_list = []` are locals of __call__, not attributes -/
def augEvalListsLocal : Bool := true
/-- reductions over the batch dim (dim 0) in the nn modules of the bundled constructive policies (file:function:method) -/
def augBatchDimReductions : List String := ["nn/attention.py:PointerAttnMoE._project_out:mean"]
/-- dropout / batch-norm forced into training behaviour, BatchNorm(track_running_stats=False), .train() calls in those modules -/
def augForcedTrainMode : List String := ["nn/attention.py:scaled_dot_product_attention_simple:dropout", "zoo/matnet/encoder.py:MixedScoresSDPA.forward:dropout", "zoo/ptrnet/policy.py:PointerNetworkPolicy.forward:train()"]
/-- nonautoregressive/decoder.py:_multistart_batched_index  the memoisation key has batch_size AND num_starts as components -/
def augNarIndexKeyHasBoth : Bool := true
/-- nonautoregressive/decoder.py:_multistart_batched_index  index = batchify(arange(batch_size), num_starts) (start-major) -/
def augNarIndexStartMajor : Bool := true
/-- memoised functions / module-level dict caches in the decoding path (file:name:kind) -/
def augDecodeCaches : List String := ["models/common/constructive/nonautoregressive/decoder.py:_multistart_batched_index:lru_cache", "utils/ops.py:get_full_graph_edge_index:lru_cache"]
/-- models/nn/graph/hgnn.py:HetGNNLayer.forward  `all_logits[~mask] = -torch.inf` precedes `F.softmax` -/
def augHgnnMasksBeforeSoftmax : Bool := true
/-- models/zoo/pomo/model.py:POMO.shared_step  `td = self.env.reset(batch)` … `td = self.augment(td)` -/
def augPomoAugmentsResetTd : Bool := true
/-- models/zoo/symnco/model.py:SymNCO.shared_step  `td = self.env.reset(batch)` … `td = self.augment(td)` -/
def augSymncoAugmentsResetTd : Bool := true
/-- data/transforms.py:StateAugmentation.__init__  default `self.feats` -/
def augDefaultFeats : List String := ["locs"]
/-- coordinate-bearing keys of the TensorDict each env's `_reset` builds -/
def augResetCoordKeys : List (String × List String) := [("tsp", ["locs"]), ("cvrp", ["locs"]), ("sdvrp", ["locs"]), ("op", ["locs"]), ("pctsp", ["locs"]), ("pdp", ["locs"]), ("mtsp", ["locs"]), ("cvrptw", ["locs"])]
/-- ffsp/env.py:IndexTables (executed, 2 stages x 3 machines)  stage_table -/
def ffspTblStage23 : List Nat := [0, 0, 0, 1, 1, 1]
/-- ffsp/env.py:IndexTables (executed)  machine_table -/
def ffspTblMachine23 : List (List Nat) := [[0, 1, 2, 3, 4, 5], [0, 2, 1, 3, 5, 4], [1, 0, 2, 4, 3, 5], [1, 2, 0, 4, 5, 3], [2, 0, 1, 5, 3, 4], [2, 1, 0, 5, 4, 3]]
/-- ffsp/env.py:IndexTables (executed, flatten_stages=False)  stage_machine_table -/
def ffspTblStageMachine23 : List (List Nat) := [[0, 1, 2, 0, 1, 2], [0, 2, 1, 0, 2, 1], [1, 0, 2, 1, 0, 2], [1, 2, 0, 1, 2, 0], [2, 0, 1, 2, 0, 1], [2, 1, 0, 2, 1, 0]]
/-- ffsp/env.py:IndexTables (executed, flatten_stages=True)  stage_machine_table -/
def ffspTblStageMachineFlat23 : List (List Nat) := [[0, 1, 2, 3, 4, 5], [0, 2, 1, 3, 5, 4], [1, 0, 2, 4, 3, 5], [1, 2, 0, 4, 5, 3], [2, 0, 1, 5, 3, 4], [2, 1, 0, 5, 4, 3]]
/-- ffsp/env.py:_step  end_schedule = schedule + job_duration.permute(0, 2, 1); two max(dim=-1); reward = -max -/
def ffspRewardShape : List Bool := [true, true, true]
/-- ffsp/env.py:_reset  `schedule = torch.full(..., fill_value=-999999)` -/
def ffspSentinel : Int := (-999999)
/-- ffsp/env.py:_step  books schedule / duration / machine wait with `td['machine_idx']` (not `stage_machine_idx`) -/
def ffspStepUsesMachineIdx : Bool := true
/-- ffsp/env.py:IndexTables.get_machine_index  `pomo_idx = idx // self.bs` -/
def ffspPomoFloorDiv : Bool := true
/-- ffsp/env.py:_step  `end_schedule[:, :, : self.num_job]` -/
def ffspRewardExcludesDummy : Bool := true
/-- ffsp/env.py:_reset  `action_mask[..., -1] = 0` -/
def ffspInitWaitMasked : Bool := true
/-- ffsp/env.py  `job_location += 1`, `sub_time_idx + 1`, `machine_wait_steps -= 1`, `job_wait_steps -= 1` -/
def ffspStepConsts : List Nat := [1, 1, 1, 1]
/-- ffsp  num_machine_total = M*S; stage_table = arange(S).repeat_interleave(M); wait_allowed = prev + waiting + done; done rows skipped by the loop; time += wrap; sub := 0 on wrap -/
def ffspShapeFlags : List Bool := [true, true, true, true, true, true]
/-- ffsp/generator.py:__init__ defaults num_stage, num_machine, num_job, min_time, max_time -/
def ffspGenDefaults : List Nat := [2, 3, 4, 2, 10]
/-- ffsp/generator.py:_generate  `torch.randint(low=self.min_time, high=self.max_time, …)` -/
def ffspGenLowHigh : Bool := true
/-- ffsp/env.py:_move_to_next_machine  `machine_wait_step[idx, new_machine_idx] == 0` -/
def ffspMachineReadyCmp : Cmp := .eq
/-- ffsp/env.py:_move_to_next_machine  `job_wait_step[idx, :self.num_job] == 0` -/
def ffspJobReadyWaitCmp : Cmp := .eq
/-- ffsp/env.py:_move_to_next_machine  `new_sub_time_idx == self.num_machine_total` -/
def ffspWrapCmp : Cmp := .eq
/-- ffsp/env.py:_update_step_state  `job_wait_time == 0` (job not waiting), `job_wait_time > 0` (waiting in stage) -/
def ffspMaskWaitCmps : List Cmp := [.eq, .gt]
/-- ffsp/env.py:_update_step_state  `job_loc == stage_idx[:, None]` (in stage), `job_loc < stage_idx[:, None]` (in a previous stage) -/
def ffspMaskStageCmps : List Cmp := [.eq, .lt]
/-- ffsp/env.py:_step  `td['job_location'][:, :self.num_job] == self.num_stage` -/
def ffspDoneCmp : Cmp := .eq
/-- cvrp/generator.py  module-level `CAPACITIES` (num_loc → vehicle capacity) -/
def genCvrpCapacities : List (Nat × (Int × Nat)) := [(10, (20, 1)), (15, (25, 1)), (20, (30, 1)), (30, (33, 1)), (40, (37, 1)), (50, (40, 1)), (60, (43, 1)), (75, (45, 1)), (100, (50, 1)), (125, (55, 1)), (150, (60, 1)), (200, (70, 1)), (500, (100, 1)), (1000, (150, 1))]
/-- data/generate_data.py:generate_vrp_data  local `CAPACITIES` -/
def genDataVrpCapacities : List (Nat × (Int × Nat)) := [(10, (20, 1)), (15, (25, 1)), (20, (30, 1)), (30, (33, 1)), (40, (37, 1)), (50, (40, 1)), (60, (43, 1)), (75, (45, 1)), (100, (50, 1)), (125, (55, 1)), (150, (60, 1)), (200, (70, 1)), (500, (100, 1)), (1000, (150, 1))]
/-- op/generator.py  module-level `MAX_LENGTHS` -/
def genOpMaxLengths : List (Nat × (Int × Nat)) := [(20, (2, 1)), (50, (3, 1)), (100, (4, 1))]
/-- pctsp/generator.py  module-level `MAX_LENGTHS` -/
def genPctspMaxLengths : List (Nat × (Int × Nat)) := [(20, (2, 1)), (50, (3, 1)), (100, (4, 1))]
/-- data/generate_data.py:generate_op_data  local `MAX_LENGTHS` -/
def genDataOpMaxLengths : List (Nat × (Int × Nat)) := [(20, (2, 1)), (50, (3, 1)), (100, (4, 1))]
/-- data/generate_data.py:generate_pctsp_data  local `MAX_LENGTHS` -/
def genDataPctspMaxLengths : List (Nat × (Int × Nat)) := [(20, (2, 1)), (50, (3, 1)), (100, (4, 1))]
/-- mtvrp/generator.py  module-level `VARIANT_GENERATION_PRESETS` (preset → feature → keep-probability) -/
def genMtvrpPresets : List (String × List (String × (Int × Nat))) := [("all", [("O", (1, 2)), ("TW", (1, 2)), ("L", (1, 2)), ("B", (1, 2))]),
    ("single_feat", [("O", (1, 2)), ("TW", (1, 2)), ("L", (1, 2)), ("B", (1, 2))]),
    ("single_feat_otw", [("O", (1, 2)), ("TW", (1, 2)), ("L", (1, 2)), ("B", (1, 2)), ("OTW", (1, 2))]),
    ("cvrp", [("O", (0, 1)), ("TW", (0, 1)), ("L", (0, 1)), ("B", (0, 1))]),
    ("ovrp", [("O", (1, 1)), ("TW", (0, 1)), ("L", (0, 1)), ("B", (0, 1))]),
    ("vrpb", [("O", (0, 1)), ("TW", (0, 1)), ("L", (0, 1)), ("B", (1, 1))]),
    ("vrpl", [("O", (0, 1)), ("TW", (0, 1)), ("L", (1, 1)), ("B", (0, 1))]),
    ("vrptw", [("O", (0, 1)), ("TW", (1, 1)), ("L", (0, 1)), ("B", (0, 1))]),
    ("ovrptw", [("O", (1, 1)), ("TW", (1, 1)), ("L", (0, 1)), ("B", (0, 1))]),
    ("ovrpb", [("O", (1, 1)), ("TW", (0, 1)), ("L", (0, 1)), ("B", (1, 1))]),
    ("ovrpl", [("O", (1, 1)), ("TW", (0, 1)), ("L", (1, 1)), ("B", (0, 1))]),
    ("vrpbl", [("O", (0, 1)), ("TW", (0, 1)), ("L", (1, 1)), ("B", (1, 1))]),
    ("vrpbtw", [("O", (0, 1)), ("TW", (1, 1)), ("L", (0, 1)), ("B", (1, 1))]),
    ("vrpltw", [("O", (0, 1)), ("TW", (1, 1)), ("L", (1, 1)), ("B", (0, 1))]),
    ("ovrpbl", [("O", (1, 1)), ("TW", (0, 1)), ("L", (1, 1)), ("B", (1, 1))]),
    ("ovrpbtw", [("O", (1, 1)), ("TW", (1, 1)), ("L", (0, 1)), ("B", (1, 1))]),
    ("ovrpltw", [("O", (1, 1)), ("TW", (1, 1)), ("L", (1, 1)), ("B", (0, 1))]),
    ("vrpbltw", [("O", (0, 1)), ("TW", (1, 1)), ("L", (1, 1)), ("B", (1, 1))]),
    ("ovrpbltw", [("O", (1, 1)), ("TW", (1, 1)), ("L", (1, 1)), ("B", (1, 1))])]
/-- cvrp/generator.py:CVRPGenerator.__init__ default `min_demand` -/
def genCvrpMinDemand : Int × Nat := (1, 1)
/-- cvrp/generator.py:CVRPGenerator.__init__ default `max_demand` -/
def genCvrpMaxDemand : Int × Nat := (10, 1)
/-- cvrp/generator.py  `get_sampler('demand', …, min_demand - 1, max_demand - 1)` and `demand.int() + 1`: (lo shift, hi shift, add) -/
def genCvrpDemandShape : Int × Int × Int := (-1, -1, 1)
/-- cvrptw/generator.py:CVRPTWGenerator.__init__ default `max_loc` -/
def genCvrptwMaxLoc : Int × Nat := (150, 1)
/-- cvrptw/generator.py:CVRPTWGenerator.__init__ default `min_loc` -/
def genCvrptwMinLoc : Int × Nat := (0, 1)
/-- cvrptw/generator.py:CVRPTWGenerator.__init__ default `max_time` -/
def genCvrptwMaxTime : Int × Nat := (480, 1)
/-- cvrptw/generator.py:CVRPTWGenerator.__init__ default `max_demand` -/
def genCvrptwMaxDemand : Int × Nat := (10, 1)
/-- mtvrp/generator.py:MTVRPGenerator.__init__ default `min_loc` -/
def genMtvrpMinLoc : Int × Nat := (0, 1)
/-- mtvrp/generator.py:MTVRPGenerator.__init__ default `max_loc` -/
def genMtvrpMaxLoc : Int × Nat := (1, 1)
/-- mtvrp/generator.py:MTVRPGenerator.__init__ default `min_demand` -/
def genMtvrpMinDemand : Int × Nat := (1, 1)
/-- mtvrp/generator.py:MTVRPGenerator.__init__ default `max_demand` -/
def genMtvrpMaxDemand : Int × Nat := (10, 1)
/-- mtvrp/generator.py:MTVRPGenerator.__init__ default `min_backhaul` -/
def genMtvrpMinBackhaul : Int × Nat := (1, 1)
/-- mtvrp/generator.py:MTVRPGenerator.__init__ default `max_backhaul` -/
def genMtvrpMaxBackhaul : Int × Nat := (10, 1)
/-- mtvrp/generator.py:MTVRPGenerator.__init__ default `max_time` -/
def genMtvrpMaxTime : Int × Nat := (23, 5)
/-- mtvrp/generator.py:MTVRPGenerator.__init__ default `distance_limit` -/
def genMtvrpDistanceLimit : Int × Nat := (3, 1)
/-- mtvrp/generator.py:MTVRPGenerator.__init__ default `speed` -/
def genMtvrpSpeed : Int × Nat := (1, 1)
/-- mtvrp/generator.py:MTVRPGenerator.__init__ default `backhaul_ratio` -/
def genMtvrpBackhaulRatio : Int × Nat := (1, 5)
/-- mtvrp/generator.py:generate_time_windows  `a, b, c = 0.15, 0.18, 0.2` -/
def genMtvrpTwConsts : List (Int × Nat) := [(3, 20), (9, 50), (1, 5)]
/-- fjsp/generator.py:FJSPGenerator.__init__ default `min_processing_time` -/
def genFjspMinProcessingTime : Int × Nat := (1, 1)
/-- fjsp/generator.py:FJSPGenerator.__init__ default `max_processing_time` -/
def genFjspMaxProcessingTime : Int × Nat := (20, 1)
/-- fjsp/generator.py:FJSPGenerator.__init__ default `min_eligible_ma_per_op` -/
def genFjspMinEligibleMaPerOp : Int × Nat := (1, 1)
/-- fjsp/generator.py:FJSPGenerator.__init__ default `min_ops_per_job` -/
def genFjspMinOpsPerJob : Int × Nat := (4, 1)
/-- fjsp/generator.py:FJSPGenerator.__init__ default `max_ops_per_job` -/
def genFjspMaxOpsPerJob : Int × Nat := (6, 1)
/-- jssp/generator.py:JSSPGenerator.__init__ default `min_processing_time` -/
def genJsspMinProcessingTime : Int × Nat := (1, 1)
/-- jssp/generator.py:JSSPGenerator.__init__ default `max_processing_time` -/
def genJsspMaxProcessingTime : Int × Nat := (99, 1)
/-- atsp/generator.py:ATSPGenerator.__init__ default `min_dist` -/
def genAtspMinDist : Int × Nat := (0, 1)
/-- atsp/generator.py:ATSPGenerator.__init__ default `max_dist` -/
def genAtspMaxDist : Int × Nat := (1, 1)
/-- mcp/generator.py:MCPGenerator.__init__ default `min_size` -/
def genMcpMinSize : Int × Nat := (5, 1)
/-- mcp/generator.py:MCPGenerator.__init__ default `max_size` -/
def genMcpMaxSize : Int × Nat := (15, 1)
/-- mcp/generator.py:MCPGenerator.__init__ default `min_weight` -/
def genMcpMinWeight : Int × Nat := (1, 1)
/-- mcp/generator.py:MCPGenerator.__init__ default `max_weight` -/
def genMcpMaxWeight : Int × Nat := (10, 1)
/-- cvrptw/generator.py:_generate step 7  `min_tmp[mask] - 1` / `max_tmp[mask] + 1` -/
def genCvrptwRepair : Int × Int := (-1, 1)
/-- fjsp/generator.py:_simulate_processing_times  `proc_time_means * (1 ∓ 0.2)` -/
def genFjspSpread : Int × Nat := (1, 5)
/-- common/utils.py:get_sampler  'center' → `Uniform(low=(high + low) / 2, high=(high + low) / 2)` -/
def genCenterIsMid : Bool := true
/-- mcp/generator.py:_generate  `cutoffs_masks = torch.arange(max_size)…` (the sampled maximum) -/
def genMcpCutoffSampled : Bool := true
/-- cvrp/env.py:load_data  `td_load['demand'] / td_load['capacity'][:, None]` (each row's own capacity) -/
def genLoadDataPerRow : Bool := true
/-- atsp/generator.py:_generate  `for i in range(self.num_loc)` -/
def genAtspLoopFull : Bool := true
/-- data/generate_data.py:generate_atsp_data  `for i in range(atsp_size)` -/
def genDataAtspLoopFull : Bool := true
/-- common/base.py:__getstate__  `state = self.__dict__.copy()` (every attribute is state) -/
def genGetstateCopiesDict : Bool := true
/-- common/base.py:__getstate__  `state['rng'] = state['rng'].get_state()` -/
def genGetstateRngToState : Bool := true
/-- common/base.py:__setstate__  `self.__dict__.update(state)` -/
def genSetstateUpdatesDict : Bool := true
/-- common/base.py:__setstate__  `self.rng.set_state(state['rng'])` -/
def genSetstateRestoresRng : Bool := true
/-- data/generate_data.py:generate_vrp_data  the `CAPACITIES` table that `capacities=` overrides update in place is a local of the call -/
def genDataVrpTableLocal : Bool := true
/-- polynet/model.py:__init__  warm start maps checkpoint keys with `k.replace('policy.', '', 1)` (strip the leading prefix only) -/
def genPolynetKeyMapReplaceFirst : Bool := true
/-- mtvrp/generator.py:generate_time_windows  statement-level translation written to Generated/GenMtvrpTw.lean (harness/probes/gen_trans.py) -/
def genMtvrpTwTranslated : Bool := true
/-- tsp/env.py:TSPkoptEnv._step  `torch.where(new_obj < cost_bsf, …)` -/
def improveKoptBsfCmp : Cmp := .lt
/-- tsp/env.py:TSPkoptEnv._step  `torch.where(cond, new_obj, cost_bsf)` (true = this order) -/
def improveKoptBsfWhereNewFirst : Bool := true
/-- tsp/env.py:TSPkoptEnv._step  `reward = cost_bsf - now_bsf` -/
def improveKoptRewardOldMinusNew : Bool := true
/-- tsp/env.py:TSPkoptEnv._step  `index = reward > 0.0` (rows whose rec_best is overwritten) -/
def improveKoptBestCmp : Cmp := .gt
/-- tsp/env.py:TSPkoptEnv._step  the 0.0 of `index = reward > 0.0` as an exact rational -/
def improveKoptBestThr : Int × Nat := (0, 1)
/-- tsp/env.py:TSPkoptEnv._step  `for i in range(gs): visited_time[…] = i + 1`  (stamp offset, trip-count deficit) -/
def improveKoptStepVt : Nat × Nat := (1, 0)
/-- tsp/env.py:TSPkoptEnv._reset  `for i in range(seq_length): visited_time[…] = i + 1` -/
def improveKoptResetVt : Nat × Nat := (1, 0)
/-- pdp/env.py:PDPRuinRepairEnv._step  `torch.where(new_obj < cost_bsf, …)` -/
def improvePdpBsfCmp : Cmp := .lt
/-- pdp/env.py:PDPRuinRepairEnv._step  `torch.where(cond, new_obj, cost_bsf)` (true = this order) -/
def improvePdpBsfWhereNewFirst : Bool := true
/-- pdp/env.py:PDPRuinRepairEnv._step  `reward = cost_bsf - now_bsf` -/
def improvePdpRewardOldMinusNew : Bool := true
/-- pdp/env.py:PDPRuinRepairEnv._step  `index = reward > 0.0` (rows whose rec_best is overwritten) -/
def improvePdpBestCmp : Cmp := .gt
/-- pdp/env.py:PDPRuinRepairEnv._step  the 0.0 of `index = reward > 0.0` as an exact rational -/
def improvePdpBestThr : Int × Nat := (0, 1)
/-- pdp/env.py:PDPRuinRepairEnv._step  `for i in range(gs): visited_time[…] = i + 1`  (stamp offset, trip-count deficit) -/
def improvePdpStepVt : Nat × Nat := (1, 0)
/-- pdp/env.py:PDPRuinRepairEnv._reset  `for i in range(seq_length): visited_time[…] = i + 1` -/
def improvePdpResetVt : Nat × Nat := (1, 0)
/-- tsp/env.py:TSPkoptEnv._local_operator  2-opt reverse loop `range(num_loc)`: c of `num_loc - c` -/
def improveKopt2LoopSub : Nat := 0
/-- tsp/env.py:TSPkoptEnv._local_operator  k-opt relink loop `range(num_loc - 2)`: the 2 -/
def improveKoptKLoopSub : Nat := 2
/-- pdp/env.py:PDPRuinRepairEnv.get_mask  `visited_time.view(bs, gs, 1) > visited_time.view(bs, 1, gs)` (masked when true) -/
def improvePdpMaskCmp : Cmp := .gt
/-- pdp/env.py:PDPRuinRepairEnv._local_operator  the scatter at `second` precedes the scatter at `first` -/
def improvePdpDeliveryFirst : Bool := true
/-- pdp/env.py:PDPRuinRepairEnv._local_operator  `second → pair_index + gs//2`, `first → pair_index` -/
def improvePdpSecondGetsDelivery : Bool := true
/-- pdp/env.py:PDPRuinRepairEnv._local_operator  `pair_index = action[:, 0] + 1` -/
def improvePdpPairOffset : Nat := 1
/-- tsp/env.py:TSPkoptEnv.check_solution_validity  `arange == sort(rec_best)` -/
def improveKoptCheckCmp : Cmp := .eq
/-- pdp/env.py:PDPRuinRepairEnv.check_solution_validity  `arange == sort(rec_best)` -/
def improvePdpCheckCmp : Cmp := .eq
/-- pdp/env.py:PDPRuinRepairEnv.check_solution_validity  `visited_time[pickups] < visited_time[deliveries]` -/
def improvePdpCheckPrecCmp : Cmp := .lt
/-- pdp/env.py:PDPRuinRepairEnv.check_solution_validity  `for i in range(graph_size): visited_time[…] = i + 1` -/
def improvePdpCheckVt : Nat × Nat := (1, 0)
/-- dact/policy.py:forward  `DACT_action = cat((action_sampled // seq_length, action_sampled % seq_length))` -/
def improveDactDecodeDivFirst : Bool := true
/-- n2s/policy.py:forward  `N2S_action = cat((removal, action_reinsertion // seq_length, action_reinsertion % seq_length))` -/
def improveN2sDecodeDivFirst : Bool := true
/-- n2s/policy.py:forward  `env.get_mask(action_removal + 1, td)` -/
def improveN2sMaskPairOffset : Nat := 1
/-- fjsp/env.py:_get_job_machine_availability  `td['busy_until'].gt(td['time'].unsqueeze(1))` (machine masked) -/
def fjspBusyCmp : Cmp := .gt
/-- fjsp/env.py:_get_job_machine_availability  `next_ops_proc_times == 0` (machine not eligible) -/
def fjspEligCmp : Cmp := .eq
/-- fjsp/env.py:_transit_to_next_time  `available_time_ma > td['time'][:, None]` (candidate event times) -/
def fjspNextTimeCmp : Cmp := .gt
/-- fjsp/env.py:_transit_to_next_time  `curr_ops_end <= td['time'][:, None]` (operation finished) -/
def fjspReleaseCmp : Cmp := .le
/-- fjsp/env.py:_transit_to_next_time  `td['next_op'] == end_op_per_job` (last operation of the job) -/
def fjspJobFinCmp : Cmp := .eq
/-- fjsp/env.py:_translate_action  `selected_job = td['action'] // self.num_mas` (true) / `%` (false) -/
def fjspJobIsDiv : Bool := true
/-- fjsp/env.py:_translate_action  `selected_machine = td['action'] % self.num_mas` (true) / `//` (false) -/
def fjspMachineIsMod : Bool := true
/-- fjsp/env.py:_transit_to_next_time  `torch.where(busy > time, busy, inf).min(1)` (true) / `.max(1)` (false) -/
def fjspNextEventIsMin : Bool := true
/-- fjsp/env.py:_get_reward  `-finish_times….max(1)` (true) / `.min(1)` (false) -/
def fjspRewardIsMax : Bool := true
/-- fjsp/env.py:_get_reward  `finish_times.masked_fill(td['pad_mask'], -inf)` before the reduction (true) / not (false) -/
def fjspRewardMasksPadding : Bool := true
/-- fjsp/__init__.py  `INIT_FINISH = 9999.0` (filler of finish_times) -/
def fjspInitFinish : Int := 9999
/-- fjsp/__init__.py  `NO_OP_ID = -1` (the shifted action that means `wait`) -/
def fjspNoOpId : Int := (-1)
/-- fjsp/env.py:_step  `td['action'].subtract_(1)` -/
def fjspActionShift : Int := 1
/-- fjsp/env.py:FJSPEnv.get_action_mask (mask_no_ops=False)  `no_op_mask = (… & ~done) | td['done']` (true) / no `| done` (false) -/
def fjspNoOpKeepsDone : Bool := true
/-- jssp/env.py:JSSPEnv.get_action_mask (mask_no_ops=False)  `no_op_mask = (… & ~done) | td['done']` (true) / no `| done` (false) -/
def jsspNoOpKeepsDone : Bool := true
/-- fjsp/env.py:_transit_to_next_time  `op_finished = td['job_in_process'] & (curr_ops_end <= time)` (true) / guard missing (false) -/
def fjspReleaseGuardsInProcess : Bool := true
/-- utils/decoding.py:process_logits  order of the statements: tanh clipping, mask fill, `/ temperature`, top-k filter, top-p filter, log_softmax -/
def logitsStageOrder : List String := ["clip", "mask", "temp", "topk", "topp", "logsoftmax"]
/-- utils/decoding.py:process_logits  `if top_k > 0:` -/
def logitsTopkOnCmp : Cmp := .gt
/-- utils/decoding.py:process_logits  `if top_p > 0:` -/
def logitsToppOnCmp : Cmp := .gt
/-- utils/decoding.py:process_logits  the guards `if tanh_clipping > 0`, `if top_k > 0`, `if top_p > 0` test only the VALUE of the option (false: the guard also tests its representation, e.g. isinstance(top_k, int)) -/
def logitsStageGuards : List (String × Bool) := [("clip", true), ("topk", true), ("topp", true)]
/-- utils/decoding.py:process_logits  `top_k = min(top_k, logits.size(-1))` -/
def logitsTopkClampMin : Bool := true
/-- utils/decoding.py:process_logits  `logits[~mask] = float('-inf')`  (index is the negated mask, value is -inf) -/
def logitsMaskFill : Bool × Bool := (true, true)
/-- utils/decoding.py:modify_logits_for_top_k_filtering  `logits < torch.topk(logits, top_k + a)[0][..., -e, None]` as (operator, a, e) -/
def logitsTopkFilter : Cmp × Nat × Nat := (.lt, 0, 1)
/-- utils/decoding.py:modify_logits_for_top_p_filtering  `if top_p <= 0.0 or top_p >= 1.0: return logits` -/
def logitsToppGuardCmps : List Cmp := [.le, .ge]
/-- utils/decoding.py:modify_logits_for_top_p_filtering  `torch.sort(logits, descending=False)` -/
def logitsSortDescending : Bool := false
/-- utils/decoding.py:modify_logits_for_top_p_filtering  `cumulative_probs <= (1 - top_p)` as (operator, threshold is `1 - top_p`) -/
def logitsToppCmp : Cmp × Bool := (.le, true)
/-- utils/decoding.py:modify_logits_for_top_p_filtering  `sorted_indices_to_remove[..., -1] = False` -/
def logitsToppProtectedIdx : Int := (-1)
/-- utils/decoding.py:DecodingStrategy.sampling  `while (~mask).gather(1, selected.unsqueeze(-1)).data.any():` as (reduction is any, tested flag is the negated mask) -/
def logitsSampleLoop : Bool × Bool := (true, true)
/-- utils/decoding.py:DecodingStrategy.greedy  `selected = logprobs.argmax(dim=-1)` -/
def logitsGreedyArgmax : Bool := true
/-- utils/decoding.py:process_logits  statement-level translation written to Generated/LogitsPipeline.lean (harness/probes/logits_trans.py) -/
def logitsPipelineTranslated : Bool := true
/-- decoding.py:get_log_likelihood  `logprobs[~mask] = 0`: the subscript is `~mask` -/
def gllMaskInverted : Bool := true
/-- decoding.py:get_log_likelihood  `logprobs[~mask] = 0`: the assigned constant -/
def gllMaskFill : Int := 0
/-- decoding.py:get_log_likelihood  `return logprobs.sum(1)`: the summed axis -/
def gllSumAxis : Nat := 1
/-- decoding.py:DecodingStrategy.pre_decoder_hook  `logprobs = torch.zeros_like(action, …)` (forced multi-start move, gathered form) -/
def preForcedLogp : Int := 0
/-- decoding.py:DecodingStrategy.pre_decoder_hook  `logprobs = torch.zeros_like(td['action_mask'])` (store_all_logp form) -/
def preForcedLogpAll : Int := 0
/-- decoding.py:BeamSearch.pre_decoder_hook  `logprobs = torch.zeros_like(td['action_mask'], …)` -/
def beamForcedLogp : Int := 0
/-- constructive/base.py:ConstructivePolicy.forward  `if step > max_steps: break` -/
def decodeBreakCmp : Cmp := .gt
/-- constructive/base.py:ConstructivePolicy.forward  default of `max_steps` -/
def decodeMaxStepsDefault : Nat := 1000000
/-- constructive/base.py:ConstructivePolicy.forward  `while not td['done'].all()` -/
def decodeLoopAllDone : Bool := true
/-- constructive/base.py:ConstructivePolicy.forward  `action=actions[..., step]`: offset added to `step` -/
def evalActionOffset : Int := 0
/-- decoding.py:DecodingStrategy._select_best  `unbatchify(rewards, self.num_starts).max(dim=-1)` -/
def selectBestIsMax : Bool := true
/-- decoding.py:BeamSearch._select_best_beam  `torch.cat(rewards.unsqueeze(1).split(batch_size), 1).max(1)` -/
def beamBestIsMax : Bool := true
/-- decoding.py:DecodingStrategy._select_best  `unbatchify(…, self.num_starts)` / `unbatchify_and_gather(…, self.num_starts)` -/
def selectBestFactorIsNumStarts : Bool := true
/-- decoding.py:BeamSearch._make_beam_step  `torch.topk(log_beam_prob_hstacked, self.beam_width, dim=1)` keeps the largest -/
def beamTopkLargest : Bool := true
/-- decoding.py:BeamSearch._make_beam_step  `torch.topk(…, self.beam_width, …)`: k is the beam width -/
def beamTopkKIsWidth : Bool := true
/-- decoding.py:BeamSearch._make_beam_step  `selected = topk_ind % num_nodes` -/
def beamSelectedIsMod : Bool := true
/-- decoding.py:BeamSearch._make_beam_step  `beam_parent = (topk_ind // num_nodes).int()` -/
def beamParentIsFloorDiv : Bool := true
/-- decoding.py:BeamSearch._make_beam_step  `batch_beam_idx = batch_beam_sequence + beam_parent * batch_size` -/
def beamBbiSeqPlusParentTimesB : Bool := true
/-- decoding.py:BeamSearch._backtrack  `batch_beam_idx = batch_beam_sequence + cur_parent * batch_size` -/
def beamBacktrackSeqPlusParentTimesB : Bool := true
/-- ops.py:calculate_entropy  `entropy = -(logprobs.exp() * logprobs).sum(dim=-1)`: the leading minus -/
def entropyNegated : Bool := true
/-- ppo.py:PPO.shared_step  `ratio = torch.exp(ll.sum(dim=-1) - sub_td['logprobs'])`: new minus old -/
def ppoRatioNewMinusOld : Bool := true
/-- l2d/policy.py:L2DPolicy4PPO.act  option arguments of `process_logits(logits, mask, …)` -/
def stepwiseActOpts : List String := ["tanh_clipping=self.tanh_clipping"]
/-- l2d/policy.py:L2DPolicy4PPO.evaluate  option arguments of `process_logits(logits, mask, …)` -/
def stepwiseEvalOpts : List String := ["tanh_clipping=self.tanh_clipping"]
/-- stepwise_ppo.py:StepwisePPO.update  `ratios = torch.exp(logprobs - previous_logp)` -/
def stepwiseRatioNewMinusOld : Bool := true
/-- decoding.py:DecodingStrategy.pre_decoder_hook  `action = env.select_start_nodes(td, num_starts=self.num_starts)` (the environment's rule, not the generic helper) -/
def preStartFromEnvRule : Bool := true
/-- decoding.py:BeamSearch.pre_decoder_hook  `action = env.select_start_nodes(td, num_starts=self.beam_width)` (the environment's rule, not the generic helper) -/
def beamStartFromEnvRule : Bool := true
/-- am/policy.py:AttentionModelPolicy.__init__  `mask_logits=mask_logits, temperature=temperature, tanh_clipping=tanh_clipping` handed on unchanged (no re-assignment, e.g. no `and mask_inner`) -/
def amCtorDecodingArgsPassedThrough : Bool := true
/-- mtvrp/env.py:check_solution_validity  `dist * ~(td['open_route'].squeeze(-1) & (next_node == 0))` (per-row flag) -/
def mtvrpCheckFreeLegCmp : Cmp := .eq
/-- mtvrp/env.py:check_solution_validity  `torch.max(curr_time + dist / td['speed'].squeeze(-1), …)` -/
def mtvrpCheckClockDivSpeed : Bool := true
/-- mtvrp/env.py:check_solution_validity._check_c1  `used_cap = used_cap * (actions[:, ii] != 0)` -/
def mtvrpCheckC1GuardCmp : Cmp := .ne
/-- mtvrp/env.py:select_start_nodes  `arange(num_starts).repeat_interleave(B) % num_loc + 1` -/
def mtvrpStartOffset : Nat := 1
/-- mtvrp/env.py:select_start_nodes  the modulus is `num_loc` (= number of customers, `locs.shape[-2] - 1`) -/
def mtvrpStartModIsNumLoc : Bool := true
/-- mtvrp/env.py:_get_reward  `go_to = torch.roll(go_from, -1, dims=1)` -/
def mtvrpRewardRollShift : Int := (-1)
/-- mtvrp/env.py:_get_reward  `distances * ~((go_to == 0) & td['open_route'])`: the END of the leg is tested against the depot -/
def mtvrpRewardFreeLegIsTo : Bool := true
/-- mtvrp/env.py:_step  `(curr_node[:, None] != 0) * (...)` (clock, route length, both loads reset at the depot) -/
def mtvrpStepGuardCmp : Cmp := .ne
/-- mtvrp/env.py:_step  `torch.max(td['current_time'] + distance / td['speed'], start_times) + service_time` -/
def mtvrpStepClockDivSpeed : Bool := true
/-- mtvrp/env.py:get_action_mask  `can_visit[:, 0] = ~(...)` -/
def mtvrpDepotRuleNegated : Bool := true
/-- mtvrp/env.py:get_action_mask  depot rule `curr_node == 0` -/
def mtvrpDepotRuleCurCmp : Cmp := .eq
/-- mtvrp/env.py:get_action_mask  depot rule `can_visit[:, 1:].sum(-1) > 0` -/
def mtvrpDepotRuleAnyCmp : Cmp := .gt
/-- mtvrp/env.py:get_action_mask  `arrival_time <= late_tw` (customer deadline) -/
def mtvrpMaskTwCmp : Cmp := .le
/-- mtvrp/env.py:get_action_mask  `(max(arrival, early) + service + d_j0 / speed) * ~open_route <= late_tw[..., 0:1]` -/
def mtvrpMaskDepotCmp : Cmp := .le
/-- mtvrp/env.py:get_action_mask  `current_route_length + d_ij + d_j0 * ~open_route > distance_limit` -/
def mtvrpMaskLimitCmp : Cmp := .gt
/-- mtvrp/env.py:get_action_mask  `demand_linehaul + used_capacity_linehaul > vehicle_capacity` -/
def mtvrpMaskCapLCmp : Cmp := .gt
/-- mtvrp/env.py:get_action_mask  `demand_backhaul + used_capacity_backhaul > vehicle_capacity` -/
def mtvrpMaskCapBCmp : Cmp := .gt
/-- mtvrp/env.py:_step  `visited.sum(-1) == visited.size(-1)` -/
def mtvrpDoneCmp : Cmp := .eq
/-- mtvrp/env.py:check_solution_validity  `curr_length <= distance_limit` -/
def mtvrpCheckLimitCmp : Cmp := .le
/-- mtvrp/env.py:check_solution_validity  `curr_time <= time_windows[next_node][1]` -/
def mtvrpCheckTwCmp : Cmp := .le
/-- mtvrp/env.py:check_solution_validity._check_c1  `used_cap <= vehicle_capacity.squeeze(-1)` -/
def mtvrpCheckCapCmp : Cmp := .le
/-- mtvrp/env.py:get_action_mask + _step  statement-level translation written to Generated/MtvrpEnv.lean (harness/probes/mtvrp_trans.py) -/
def mtvrpEnvTranslated : Bool := true
/-- mdcpdp/env.py:MDCPDPEnv._step  `pd_split_idx = num_loc // 2 + num_depot` -/
def mdcpdpPdDiv : Nat := 2
/-- mdcpdp/env.py:MDCPDPEnv._step  `current_carry += (current_node < pd_split_idx) & …` -/
def mdcpdpPickLtCmp : Cmp := .lt
/-- mdcpdp/env.py:MDCPDPEnv._step  `current_carry += … & (current_node >= num_depot)` -/
def mdcpdpPickGeCmp : Cmp := .ge
/-- mdcpdp/env.py:MDCPDPEnv._step  `current_carry -= (current_node >= pd_split_idx)` -/
def mdcpdpDelivGeCmp : Cmp := .ge
/-- mdcpdp/env.py:MDCPDPEnv._step  leg between two depots: `(current_node < num_depot) & …` → 0 -/
def mdcpdpLegToCmp : Cmp := .lt
/-- mdcpdp/env.py:MDCPDPEnv._step  leg between two depots: `… & (td['current_node'] < num_depot)` → 0 -/
def mdcpdpLegFromCmp : Cmp := .lt
/-- mdcpdp/env.py:MDCPDPEnv._step  `current_depot = torch.where(back_flag, …)` (true: `current_node < num_depot`) -/
def mdcpdpDepotOnVisit : Bool := false
/-- mtsp/env.py:MTSPEnv._step  `td['agent_idx'] < td['num_agents'] - 1` -/
def mtspAgentCmp : Cmp := .lt
/-- mtsp/env.py:MTSPEnv._step  `agent_idx + (current_node == 0).long()` -/
def mtspAgentIncCmp : Cmp := .eq
/-- mtsp/env.py:MTSPEnv._step  `logical_and(current_node != 0, …)` -/
def mtspDepotNeCmp : Cmp := .ne
/-- mtsp/env.py:MTSPEnv._step  `torch.count_nonzero(available[..., 1:], dim=-1) == 0` -/
def mtspDoneCmp : Cmp := .eq
/-- mtsp/env.py:MTSPEnv._step  `current_length *= (cur_agent_idx == td['agent_idx'])` -/
def mtspResetCmp : Cmp := .eq
/-- mdcpdp/env.py:MDCPDPEnv._step  `current_carry >= current_capacity` -/
def mdcpdpCapCmp : Cmp := .ge
/-- mdcpdp/env.py:MDCPDPEnv._step  `current_carry > 0` -/
def mdcpdpCarryCmp : Cmp := .gt
/-- mdcpdp/env.py:MDCPDPEnv._step  `back_flag = (current_node < num_depot) & …` -/
def mdcpdpBackDepotCmp : Cmp := .lt
/-- mdcpdp/env.py:MDCPDPEnv._step  `back_flag = … & (available.gather(-1, current_node) == 0)` -/
def mdcpdpBackAvailCmp : Cmp := .eq
/-- mdcpdp/env.py:MDCPDPEnv._step  `last_depot_flag = sum(available[..., :num_depot]) == 0` -/
def mdcpdpLastDepotCmp : Cmp := .eq
/-- mdcpdp/env.py:MDCPDPEnv._step  `done = torch.count_nonzero(available, dim=-1) == 0` -/
def mdcpdpDoneCmp : Cmp := .eq
/-- mdcpdp/env.py:MDCPDPEnv._step  open mode: `(current_node < num_depot) & …` is not charged -/
def mdcpdpOpenToCmp : Cmp := .lt
/-- mdcpdp/env.py:MDCPDPEnv._step  open mode: `… & (td['current_node'] >= num_depot)` -/
def mdcpdpOpenFromCmp : Cmp := .ge
/-- mdcpdp/env.py:MDCPDPEnv._step  `new_to_deliver = (current_node + num_loc // 2) % (num_loc + num_depot)` -/
def mdcpdpPairDiv : Nat := 2
/-- mdcpdp/generator.py:_generate  capacity `size=(*batch_size, 1)` (true: `self.num_depot`) -/
def mdcpdpGenCapPerDepot : Bool := false
/-- utils/ops.py:batchify, unbatchify  `for s in reversed(shape)` -/
def opsLoopsReversed : Bool := true
/-- utils/ops.py:get_num_starts  `elif env_name in [...]: num_starts - 1` -/
def opsNumStartsDepotEnvs : List String := ["cvrp", "cvrptw", "sdvrp", "mtsp", "op", "pctsp", "spctsp"]
/-- utils/ops.py:select_start_nodes  `if env.name in [...]` (no `+ 1`) -/
def opsNoDepotStartEnvs : List String := ["tsp", "atsp", "flp", "mcp"]
/-- utils/ops.py:select_start_nodes (op)  `feasible.sum(-1, keepdim=True).clamp(min=1)` -/
def opsOpClampMin : Nat := 1
/-- utils/ops.py:select_start_nodes (op)  `torch.argsort((~feasible).int(), dim=-1, stable=True)` -/
def opsOpArgsortStable : Bool := true
/-- utils/ops.py:sample_n_random_actions  `n_valid_actions < n` -/
def opsSampleNReplaceCmp : Cmp := .lt
/-- utils/ops.py:select_start_nodes (tsp/atsp/flp/mcp)  `torch.arange(num_starts).repeat_interleave(td.shape[0])` -/
def opsNoDepotInterleave : Bool := true
/-- utils/ops.py:select_start_nodes (depot envs)  `torch.arange(num_starts).repeat_interleave(td.shape[0])` -/
def opsDepotInterleave : Bool := true
/-- utils/ops.py:select_start_nodes (depot envs)  first argument of `torch.arange` -/
def opsDepotArangeStart : Nat := 0
/-- utils/ops.py:select_start_nodes (depot envs)  `% (num_loc + dm)` -/
def opsDepotModAdd : Nat := 0
/-- utils/ops.py:select_start_nodes (depot envs)  `… % num_loc + 1` -/
def opsDepotPlus : Nat := 1
/-- utils/ops.py:select_start_nodes (op)  `num_feasible = feasible.sum(-1, keepdim=True).clamp(min=1)` (per instance) -/
def opsOpCountPerInstance : Bool := true
/-- utils/ops.py:select_start_nodes (op)  `rearrange(selected, "b n -> (n b)")` -/
def opsOpReplicaMajor : Bool := true
/-- utils/ops.py:sample_n_random_actions  `rearrange(selected, "b n -> (n b)")` -/
def opsSampleNReplicaMajor : Bool := true
/-- am/decoder.py:AttentionModelDecoder.forward  `rearrange(logits|mask, "b s l -> (s b) l")` -/
def amFlattenReplicaMajor : Bool := true
/-- am/decoder.py:AttentionModelDecoder.forward  `td = unbatchify(td, num_starts)` -/
def amStaticUnbatchify : Bool := true
/-- am/decoder.py:PrecomputedCache.batchify  `new_embs.append(batchify(emb, num_starts))` -/
def amCacheUsesBatchify : Bool := true
/-- utils/decoding.py:DecodingStrategy.pre_decoder_hook  `action = env.select_start_nodes(td, num_starts=self.num_starts)` -/
def decMultistartEnvSelect : Bool := true
/-- utils/decoding.py:BeamSearch.pre_decoder_hook  `action = env.select_start_nodes(td, num_starts=self.beam_width)` -/
def decBeamEnvSelect : Bool := true
/-- utils/ops.py:gather_by_index  default `squeeze=True` -/
def opsGatherSqueezeDefault : Bool := true
/-- utils/ops.py:gather_by_index  default `dim=1` -/
def opsGatherDimDefault : Nat := 1
/-- utils/ops.py:gather_by_index  `squeeze = idx.size(dim) == 1 and squeeze` -/
def opsGatherSqueezeSize : Nat := 1
/-- data/dataset.py:TensorDictDataset.__init__  `[{key: value[i] for key, value in td.items()} for i in range(self.data_len)]` -/
def dsInitRowsInOrder : Bool := true
/-- data/dataset.py:ExtraKeyDataset.__getitem__  `data[self.key_name] = self.extra[idx]` as a plain body statement -/
def dsExtraWriteUnconditional : Bool := true
/-- data/dataset.py:ExtraKeyDataset.__getitem__  index of `self.extra[idx]` -/
def dsExtraIndexShift : Int := 0
/-- data/dataset.py:FastTdDataset.__getitems__  is `return self.data[idx]` -/
def dsFastTdDirect : Bool := true
/-- data/dataset.py:TensorDictDatasetFastGeneration.__getitems__  `{key: item[index] for key, item in self.data.items()}` -/
def dsFastGenDirect : Bool := true
/-- data/dataset.py:TensorDictDataset.collate_fn  `torch.stack([b[key] for b in batch])` -/
def dsCollateInOrder : Bool := true
/-- reinforce/baselines.py:RolloutBaseline.rollout  `torch.cat([eval_policy(batch) for batch in dl], 0)` -/
def blRolloutPlainConcat : Bool := true
/-- reinforce/baselines.py:RolloutBaseline.rollout  `DataLoader(dataset, batch_size=batch_size, collate_fn=dataset.collate_fn)` -/
def blRolloutLoaderPlain : Bool := true
/-- rl/common/base.py:RL4COLitModule._dataloader_single  `DataLoader(dataset, batch_size=batch_size, shuffle=shuffle, …)` -/
def loaderShufflePassthrough : Bool := true
/-- tasks/eval.py:EvalBase.__call__  `torch.cat(rewards_list)`, `torch.cat([pad(a) for a in actions_list], 0)` -/
def evalCatInOrder : Bool := true
/-- tasks/eval.py:EvalBase.__call__  `pad(action, (0, max_length - action.size(-1)))` -/
def evalPadLeft : Nat := 0
/-- rl/reinforce/reinforce.py:REINFORCE.on_train_epoch_end  `self.baseline.epoch_callback(…)` before `super().on_train_epoch_end()` -/
def rfCallbackBeforeSuper : Bool := true
/-- zoo/l2d/decoder.py:L2DActor.pre_decoder_hook  `hidden = tuple(map(lambda x: batchify(x, num_starts), hidden))` -/
def l2dHiddenUsesBatchify : Bool := true
/-- constructive/nonautoregressive/decoder.py:_multistart_batched_index  `return batchify(arr, num_starts)` -/
def narIndexUsesBatchify : Bool := true
/-- zoo/matnet/policy.py:MultiStageFFSPPolicy.pre_forward  `td = batchify(td, num_starts)` -/
def matnetTdUsesBatchify : Bool := true
/-- zoo/eas/decoder.py:forward_eas  `td = batchify(td, num_starts + 1)` -/
def easTdUsesBatchify : Bool := true
/-- reinforce/baselines.py:RolloutBaseline.rollout  `policy.eval()` -/
def blRolloutEvalMode : Bool := true
/-- zoo/mdam/model.py:rollout  `model.eval()` -/
def mdamRolloutEvalMode : Bool := true
/-- zoo/mdam/model.py:rollout  `DataLoader(dataset, batch_size=…, collate_fn=…)`, `torch.cat([eval_model(batch) for batch in dl], 0)` -/
def mdamRolloutPlainConcat : Bool := true
/-- envs/scheduling/fjsp/env.py:FJSPEnv.select_start_nodes  `return sample_n_random_actions(td, num_starts)` -/
def fjspStartsDelegate : Bool := true
/-- op/env.py:get_action_mask  `tour_length + dist(current, j) > max_length[j]` -/
def opMaskLenCmp : Cmp := .gt
/-- op/env.py:get_action_mask  `action_mask[..., 0] = 1` -/
def opDepotForcedOpen : Bool := true
/-- op/env.py:_step  `(current_node == 0) & (td['i'] > 0)` -/
def opDoneCmp : Cmp := .gt
/-- op/env.py:check_solution_validity  `length[..., None] <= max_length + 1e-5` -/
def opCheckLenCmp : Cmp := .le
/-- pctsp/env.py:get_action_mask  `cur_total_prize < 1.0` -/
def pctspMaskPrizeCmp : Cmp := .lt
/-- pctsp/env.py:get_action_mask  `visited[..., 1:].int().sum(-1) < visited[..., 1:].size(-1)` -/
def pctspMaskCountCmp : Cmp := .lt
/-- pctsp/env.py:_step  `(td['i'] > 0) & (current_node == 0)` -/
def pctspDoneCmp : Cmp := .gt
/-- pctsp/env.py:check_solution_validity  `p.sum(-1) >= 1 - 1e-5` -/
def pctspCheckPrizeCmp : Cmp := .ge
/-- op/env.py:_get_reward  `if actions.size(-1) == 1:` (operator) -/
def opRewardSpecialCmp : Cmp := .eq
/-- op/env.py:_get_reward  `if actions.size(-1) == 1:` (constant) -/
def opRewardSpecialWidth : Nat := 1
/-- op/env.py:_reset  `max_length[..., None] - dist_to_depot - 1e-6` (signed constant, num/den) -/
def opResetMargin : Int × Int := (-1, 1000000)
/-- op/env.py:check_solution_validity  `length[..., None] <= max_length + 1e-5` (tolerance, num/den) -/
def opCheckTol : Int × Int := (1, 100000)
/-- pctsp/env.py:_get_reward  `if actions.size(-1) == 1:` (operator) -/
def pctspRewardSpecialCmp : Cmp := .eq
/-- pctsp/env.py:_get_reward  `if actions.size(-1) == 1:` (constant) -/
def pctspRewardSpecialWidth : Nat := 1
/-- pctsp/env.py:get_action_mask  `cur_total_prize < 1.0` (constant, num/den) -/
def pctspMaskPrizeConst : Int × Int := (1, 1)
/-- pctsp/env.py:_get_reward  `td['penalty'][..., 1:].sum(-1)` (first index, trailing entries cut off) -/
def pctspPenaltySlice : Nat × Nat := (1, 0)
/-- pctsp/env.py:check_solution_validity  `p.sum(-1) >= 1 - 1e-5` (required prize, num/den) -/
def pctspCheckPrizeBase : Int × Int := (1, 1)
/-- pctsp/env.py:check_solution_validity  `p.sum(-1) >= 1 - 1e-5` (signed tolerance, num/den) -/
def pctspCheckTol : Int × Int := (-1, 100000)
/-- pctsp/env.py:_reset  `real_prize = td['stochastic_prize'] if self.stochastic else …` (stochastic branch) -/
def pctspStoBranchReadsSto : Bool := true
/-- pctsp/env.py:_reset  `real_prize = … if self.stochastic else td['deterministic_prize']` (other branch) -/
def pctspDetBranchReadsDet : Bool := true
/-- pctsp/env.py:_step  `cur_total_prize = … + gather_by_index(td['real_prize'], current_node)` -/
def pctspStepGathersReal : Bool := true
/-- pctsp/env.py:check_solution_validity  `prize = td['real_prize'][..., 1:]` -/
def pctspCheckGathersReal : Bool := true
/-- pctsp/env.py:PCTSPEnv  `_stochastic = False` -/
def pctspClassStochastic : Bool := false
/-- spctsp/env.py:SPCTSPEnv  `_stochastic = True` -/
def spctspClassStochastic : Bool := true
/-- op/env.py:_step  `tour_length = td['tour_length'] + (current_loc - previus_loc).norm(p=2, dim=-1)` -/
def opStepLenExpr : Int → Int → Int := fun len d => len + d
/-- op/env.py:_step  `current_total_prize = td['current_total_prize'] + gather_by_index(td['prize'], current_node, dim=-1)` -/
def opStepPrizeExpr : Int → Int → Int := fun tot p => tot + p
/-- op/env.py:_step  `'i': td['i'] + 1` -/
def opStepCounterExpr : Nat → Nat := fun k => k + 1
/-- op/env.py:get_action_mask  left side of `tour_length[..., None] + ‖locs − current_loc‖ > max_length` -/
def opMaskLenExpr : Int → Int → Int := fun len d => len + d
/-- op/env.py:get_action_mask  `mask = td['visited'] | td['visited'][..., 0:1] | exceeds_length` -/
def opMaskOrExpr : Bool → Bool → Bool → Bool := fun v v0 e => (v || v0) || e
/-- op/env.py:_reset  `'max_length': td['max_length'][..., None] - ‖depot − locs‖ - 1e-6` (literal bound to eps) -/
def opResetBudgetExpr : Int → Int → Int → Int := fun L d eps => (L - d) - eps
/-- pctsp/env.py:_step  `cur_total_prize = td['cur_total_prize'] + gather_by_index(td['real_prize'], current_node)` -/
def pctspStepPrizeExpr : Int → Int → Int := fun tot p => tot + p
/-- pctsp/env.py:_step  `cur_total_penalty = td['cur_total_penalty'] + gather_by_index(td['penalty'], current_node)` -/
def pctspStepPenaltyExpr : Int → Int → Int := fun tot p => tot + p
/-- pctsp/env.py:_step  `'i': td['i'] + 1` -/
def pctspStepCounterExpr : Nat → Nat := fun k => k + 1
/-- pctsp/env.py:get_action_mask  `mask = td['visited'] | td['visited'][..., 0:1]` -/
def pctspMaskOrExpr : Bool → Bool → Bool := fun v v0 => v || v0
/-- pctsp/env.py:_get_reward  `return saved_penalty.sum(-1) - (length + td['penalty'][..., 1:].sum(-1))` -/
def pctspRewardExpr : Int → Int → Int → Int := fun saved length total => saved - (length + total)
/-- flp/env.py:_step  `td['i'] >= td['to_choose'] - 1` (operator; unfolded by `Flp.view.step_done`) -/
def flpDoneCmp : Cmp := .ge
/-- flp/env.py:_step  `td['i'] >= td['to_choose'] - 1` (the constant; unfolded by `Flp.view.step_done`) -/
def flpDoneOffset : Int := 1
/-- mcp/env.py:_step  `td['i'] >= td['n_sets_to_choose'] - 1` (operator; unfolded by `Mcp.view.step_done`) -/
def mcpDoneCmp : Cmp := .ge
/-- mcp/env.py:_step  `td['i'] >= td['n_sets_to_choose'] - 1` (the constant; unfolded by `Mcp.view.step_done`) -/
def mcpDoneOffset : Int := 1
/-- dpp/env.py:_step  `td['i'] >= self.max_decaps - 1` (operator; unfolded by `Dpp.view.step_done`) -/
def dppDoneCmp : Cmp := .ge
/-- dpp/env.py:_step  `td['i'] >= self.max_decaps - 1` (the constant; unfolded by `Dpp.view.step_done`) -/
def dppDoneOffset : Int := 1
/-- flp/env.py:_step  `.view(B, -1, n).min(dim=1)` — axis of the gathered rows (unfolded by `Flp.curMinDist_eq`) -/
def flpStepMinDim : Nat := 1
/-- flp/env.py:_get_reward  `.view(B, -1, n).min(1)` (unfolded by `Flp.rewardMinDist_eq`) -/
def flpRewardMinDim : Nat := 1
/-- flp/env.py:_step  `gather_by_index(orig_distances, idx)` gathers ROWS (dim=1) of the chosen facilities (unfolded by `Flp.curMinDist_eq`) -/
def flpStepGatherDim : Nat := 1
/-- flp/env.py:_get_reward  `gather_by_index(orig_distances, idx)` (unfolded by `Flp.rewardMinDist_eq`) -/
def flpRewardGatherDim : Nat := 1
/-- mcp/env.py:_step  `chosen_items = chosen_items[:, 1:]` — id `x+1` ↔ index `x` (unfolded by `Mcp.coveredBy_iff`) -/
def mcpStepItemOffset : Nat := 1
/-- mcp/env.py:_get_reward  `chosen_items = chosen_items[:, 1:]` (unfolded by `Mcp.coveredByR_iff`) -/
def mcpRewardItemOffset : Nat := 1
/-- mcp/env.py:_step  `remaining_membership = (~chosen).unsqueeze(-1) * membership` (unfolded by `Mcp.inv2_of_run`) -/
def mcpKeepRemainingRows : Bool := true
/-- dpp/env.py:_reset  `"keepout": ~td["action_mask"]` (unfolded by `Dpp.keepout_const`) -/
def dppKeepoutNegated : Bool := true
/-- mdpp/env.py:_reset  `logical_and(action_mask, ~probe)` (unfolded by `Dpp.allowed0_eq_spec`) -/
def mdppResetProbeNegated : Bool := true
/-- dpp/env.py:_step  `action_mask.scatter(-1, a, 0)` — the placed cell is CLEARED (unfolded by `Dpp.view.step_am`) -/
def dppScatterValue : Bool := false
/-- graph/flp/generator.py:FLPGenerator.__init__ default `num_loc` (obligation `Rl4co.Flp.gen_defaults_wf`) -/
def genFlpNumLoc : Nat := 100
/-- graph/flp/generator.py:FLPGenerator.__init__ default `to_choose` (obligation `Rl4co.Flp.gen_defaults_wf`) -/
def genFlpToChoose : Nat := 10
/-- graph/mcp/generator.py:MCPGenerator.__init__ default `num_sets` (obligation `Rl4co.Mcp.gen_defaults_wf`) -/
def genMcpNumSets : Nat := 100
/-- graph/mcp/generator.py:MCPGenerator.__init__ default `num_items` (obligation `Rl4co.Mcp.gen_defaults_wf`) -/
def genMcpNumItems : Nat := 200
/-- graph/mcp/generator.py:MCPGenerator.__init__ default `n_sets_to_choose` (obligation `Rl4co.Mcp.gen_defaults_wf`) -/
def genMcpNSetsToChoose : Nat := 10
/-- eda/dpp/generator.py:DPPGenerator.__init__ default `max_decaps` (obligation `Rl4co.Dpp.gen_defaults_wf`) -/
def genDppMaxDecaps : Nat := 20
/-- eda/dpp/generator.py:DPPGenerator.__init__ default `num_keepout_max` (obligation `Rl4co.Dpp.gen_defaults_wf`) -/
def genDppNumKeepoutMax : Nat := 50
/-- eda/mdpp/generator.py:MDPPGenerator.__init__ default `max_decaps` (obligation `Rl4co.Dpp.gen_defaults_wf`) -/
def genMdppMaxDecaps : Nat := 20
/-- eda/mdpp/generator.py:MDPPGenerator.__init__ default `num_keepout_max` (obligation `Rl4co.Dpp.gen_defaults_wf`) -/
def genMdppNumKeepoutMax : Nat := 50
/-- eda/mdpp/generator.py:MDPPGenerator.__init__ default `num_probes_max` (obligation `Rl4co.Dpp.gen_defaults_wf`) -/
def genMdppNumProbesMax : Nat := 5
/-- utils/ops.py:get_distance_matrix  `(locs[..., :, None, :] - locs[..., None, :, :]).norm(p=2, dim=-1)` — order of the norm (unfolded by `Flp.distOf_sq`) -/
def flpDistNormP : Nat := 2
/-- reinforce.py:calculate_loss  `advantage = reward - bl_val` (0) | bl_val - reward (1) | reward + bl_val (2) -/
def trainAdvTag : Nat := 0
/-- reinforce.py  `reinforce_loss = -(advantage * log_likelihood).mean()` (0) | without the minus (1) | .sum() (2) -/
def trainLossTag : Nat := 0
/-- reinforce.py  `loss = reinforce_loss + bl_loss` (0) | minus (1) | bl_loss dropped (2) -/
def trainTotalTag : Nat := 0
/-- utils.py:RewardScaler.update  the batch is flattened BEFORE `self.count += len(batch)` -/
def trainWelfordCountFlat : Bool := true
/-- utils.py  `self.mean += (delta / self.count).sum()` (0) | delta.mean() (1) | floor division (2) -/
def trainWelfordMeanTag : Nat := 0
/-- utils.py  `delta2 = batch - self.mean` computed AFTER the mean update (0) | before it (1) -/
def trainWelfordDelta2Tag : Nat := 0
/-- utils.py  `self.M2 += (delta * delta2).sum()` (0) | delta*delta (1) | delta2*delta2 (2) -/
def trainWelfordM2Tag : Nat := 0
/-- utils.py:__call__  `std = (self.M2 / (self.count - 1)).float().sqrt()` (0) | / self.count (1) -/
def trainVarDenomTag : Nat := 0
/-- utils.py:__call__  'norm': `(scores - mean) / factor` (0) | mean not subtracted (1) -/
def trainNormTag : Nat := 0
/-- baselines.py:ExponentialBaseline.eval  `v = beta*v + (1-beta)*mean` (0) | weights swapped (1) | beta dropped on v (2) | (1-beta) dropped (3) -/
def trainEmaTag : Nat := 0
/-- baselines.py  first-evaluation test `if self.v is None` (0) | `if not self.v` (1) -/
def trainEmaInitTag : Nat := 0
/-- baselines.py:WarmupBaseline.epoch_callback  `alpha = (epoch + 1) / float(n_epochs)` (0) | floor division (1) | epoch / n (2) -/
def trainWarmupAlphaTag : Nat := 0
/-- baselines.py:WarmupBaseline.epoch_callback  `kw['epoch'] < self.n_epochs` -/
def trainWarmupCmp : Cmp := .lt
/-- baselines.py:WarmupBaseline.eval  `alpha * v_b + (1 - alpha) * v_wb` (0) | weights swapped (1) -/
def trainWarmupMixTag : Nat := 0
/-- baselines.py:WarmupBaseline.eval  `alpha * l_b + (1 - alpha) * l_wb` (0) | alpha dropped on l_b (1) -/
def trainWarmupLossMixTag : Nat := 0
/-- baselines.py:CriticBaseline.eval  `return v.detach(), F.mse_loss(v, c.detach())` (0) | value not detached (1) | target not detached (2) -/
def trainCriticTag : Nat := 0
/-- baselines.py:CriticBaseline.eval  `v = self.critic(x).squeeze(-1)` -/
def trainCriticSqueeze : Bool := true
/-- baselines.py:SharedBaseline.eval  `reward.mean(dim=on_dim, keepdims=True)` -/
def trainSharedKeepdims : Bool := true
/-- baselines.py:ExponentialBaseline.__init__  `self.beta = beta` -/
def trainEmaBetaStored : Bool := true
/-- baselines.py:WarmupBaseline.__init__  `self.warmup_baseline = ExponentialBaseline(warmup_exp_beta)` (the configured decay is used) -/
def trainWarmupBetaArg : Bool := true
/-- baselines.py:WarmupBaseline.__init__  `self.n_epochs = n_epochs` -/
def trainWarmupNStored : Bool := true
/-- baselines.py:get_reinforce_baseline('rollout')  n_epochs / exp_beta are read from the kwargs and passed to WarmupBaseline in this order -/
def trainRolloutKwPassed : Bool := true
/-- baselines.py:RolloutBaseline.epoch_callback  `candidate_mean - self.mean > 0` -/
def trainRolloutBetterCmp : Cmp := .gt
/-- baselines.py:RolloutBaseline.epoch_callback  `p_val < self.bl_alpha` -/
def trainRolloutPCmp : Cmp := .lt
/-- baselines.py:RolloutBaseline.epoch_callback  `p_val = p / 2` (one-sided test) -/
def trainRolloutPHalf : Bool := true
/-- baselines.py:RolloutBaseline.epoch_callback  the CANDIDATE is rolled out: `self.rollout(policy, env, batch_size, device)` -/
def trainRolloutCandidatePolicy : Bool := true
/-- ppo.py  `-torch.min(ratio*adv, clamp(ratio)*adv).mean()` (0) | advantage factored out of the min (1) | max (2) | sign dropped (3) -/
def trainPpoSurrTag : Nat := 0
/-- ppo.py  `torch.clamp(ratio, 1 - eps, 1 + eps)` (0) | upper bound only (1) | lower bound only (2) -/
def trainPpoClampTag : Nat := 0
/-- ppo.py  `value_loss = F.huber_loss(value_pred, previous_reward)` (0) | F.mse_loss (1) -/
def trainPpoValueTag : Nat := 0
/-- ppo.py  `… - entropy_lambda * entropy.mean()` (the bonus is subtracted from the loss) -/
def trainPpoEntropyMinus : Bool := true
/-- ppo.py  `adv = previous_reward - value_pred.detach()` (0) | value not detached (1) | reversed (2) -/
def trainPpoAdvTag : Nat := 0
/-- pomo/model.py  reward and log-likelihood regrouped with `unbatchify(x, (n_aug, n_start))` -/
def trainPomoTupleAugStart : Bool := true
/-- symnco/model.py  reward and log-likelihood regrouped with `unbatchify(x, (n_start, n_aug))` (as coded; see the C16 finding) -/
def trainSymncoTupleStartAug : Bool := true
/-- symnco/losses.py  default axis of problem_symmetricity_loss: `dim=1` -/
def trainSymPsDim : Nat := 1
/-- symnco/losses.py  default axis of solution_symmetricity_loss: `dim=-1` -/
def trainSymSsDimLast : Bool := true
/-- symnco/losses.py:problem_symmetricity_loss  `advantage = reward - reward.mean(dim, keepdim=True); loss = -advantage * ll; return loss.mean()` (0); 100·adv + 10·sign + reduction otherwise -/
def trainSymPsBodyTag : Nat := 0
/-- symnco/losses.py:solution_symmetricity_loss  same three statements (0) -/
def trainSymSsBodyTag : Nat := 0
/-- symnco/model.py  `loss = loss_ps + self.beta * loss_ss + self.alpha * loss_inv` (0) | − alpha·inv (1) | inv dropped (2) -/
def trainSymTotalTag : Nat := 0
/-- symnco/model.py  `loss_ps = … if n_start > 1 else 0` -/
def trainSymGuardPs : Cmp := .gt
/-- symnco/model.py  `loss_ss = … if n_aug > 1 else 0` -/
def trainSymGuardSs : Cmp := .gt
/-- symnco/losses.py:invariance_loss  `rearrange(proj_embed, '(b a) ... -> b a ...')` (instance-outer, as coded) -/
def trainSymInvBatchOuter : Bool := true
/-- n_step_ppo.py  the rollout memory stores a COPY of the state: `memory.tds.append(td.clone())` (false = the live TensorDict, which the env steps in place) -/
def trainNstepMemoryClone : Bool := true
/-- n_step_ppo.py  `memory.actions.append(out['actions'].clone())` -/
def trainNstepActionClone : Bool := true
/-- n_step_ppo.py  `memory.logprobs.append(out['log_likelihood'].clone())` -/
def trainNstepLogpClone : Bool := true
/-- n_step_ppo.py  `memory.rewards.append(td['reward'].clone().view(-1, 1))` (after the env step) -/
def trainNstepRewardClone : Bool := true
/-- n_step_ppo.py  stored states are re-evaluated on a copy: `self.policy(memory.tds[i].clone(), actions=memory.actions[i], …)` -/
def trainNstepReevalClone : Bool := true
/-- n_step_ppo.py  return recursion `R = R * gamma + reward_reversed[r]` (0) | gamma on the reward (1) | gamma dropped (2) -/
def trainNstepReturnTag : Nat := 0
/-- n_step_ppo.py  `adv = Reward - bl.detach()` (0) | value not detached (1) -/
def trainNstepAdvTag : Nat := 0
/-- n_step_ppo.py  `ratio = torch.exp(ll - old_ll.detach())` (0) -/
def trainNstepRatioTag : Nat := 0
/-- a2c.py  critic optimizer kwargs default to the actor's when none are given -/
def trainA2cCriticKwDefault : Bool := true
/-- a2c.py:configure_optimizers  group 0 = policy with the actor kwargs, group 1 = baseline (critic) with the critic kwargs -/
def trainA2cGroups : Bool := true
/-- a2c.py  A2C is REINFORCE with `baseline=CriticBaseline(critic)` -/
def trainA2cCriticBaseline : Bool := true
/-- tsp/env.py:TSPEnv._step  `torch.sum(available, dim=-1) == 0` -/
def tspDoneCmp : Cmp := .eq
/-- atsp/env.py:ATSPEnv._step  `torch.count_nonzero(available, dim=-1) <= 0` -/
def atspDoneCmp : Cmp := .le
/-- pdp/env.py:PDPEnv._step  `torch.count_nonzero(available, dim=-1) == 0` -/
def pdpDoneCmp : Cmp := .eq
/-- smtwtp/env.py:SMTWTPEnv._step  `torch.count_nonzero(available, dim=-1) <= 0` -/
def smtwtpDoneCmp : Cmp := .le
/-- tsp/env.py:TSPEnv._step  `td['i'].all() == 0` -/
def tspFirstStepCmp : Cmp := .eq
/-- atsp/env.py:ATSPEnv._step  `batch_to_scalar(td['i']) == 0` -/
def atspFirstStepCmp : Cmp := .eq
/-- utils/ops.py:get_tour_length  the shift of `torch.roll(ordered_locs, -1, dims=-2)` -/
def tourRollShift : Int := (-1)
/-- utils/ops.py:get_tour_length  that roll names the step dimension (`dims=-2`) -/
def tourRollAlongSteps : Bool := true
/-- atsp/env.py:ATSPEnv._get_reward  the shift of `torch.roll(actions, -1, dims=1)` -/
def atspRollShift : Int := (-1)
/-- atsp/env.py:ATSPEnv._get_reward  that roll names the step dimension (`dims=1`) -/
def atspRollAlongSteps : Bool := true
/-- pdp/env.py:PDPEnv._step  `(current_node + num_loc // 2) % (num_loc + 1)`  as (divisor, extra addend, modulus addend) -/
def pdpPairOffset : Nat × Nat × Nat := (2, 0, 1)
/-- pdp/env.py:PDPEnv._reset  `torch.ones(.., num_loc // 2 + 1)` leading ones of to_deliver -/
def pdpResetOnes : Nat × Nat := (2, 1)
/-- pdp/env.py:PDPEnv.select_start_nodes  `arange(k).repeat_interleave(B) % ((locs.shape[-2] - 1) // 2) + 1` as (lo, sub, div) -/
def pdpStartRule : Nat × Nat × Nat := (1, 1, 2)
/-- tsp/env.py:TSPEnv.check_solution_validity  `arange(width) == actions.sort(1)[0]` -/
def tspCheckCmp : Cmp := .eq
/-- atsp/env.py:ATSPEnv.check_solution_validity  `arange(width) == actions.sort(1)[0]` -/
def atspCheckCmp : Cmp := .eq
/-- pdp/env.py:PDPEnv.check_solution_validity  `arange(width) == actions.sort(1)[0]` -/
def pdpCheckPermCmp : Cmp := .eq
/-- pdp/env.py:PDPEnv.check_solution_validity  `actions[:, 1:-1] != 0` -/
def pdpCheckDepotCmp : Cmp := .ne
/-- pdp/env.py:PDPEnv.check_solution_validity  `visited_time[:, 1:L//2+1] < visited_time[:, L//2+1:]` -/
def pdpCheckPrecCmp : Cmp := .lt
/-- smtwtp/env.py:SMTWTPEnv._get_reward  `job_tardiness[job_tardiness < 0] = 0` -/
def smtwtpClampCmp : Cmp := .lt
/-- smtwtp/env.py:SMTWTPEnv._get_reward  (cumsum of the gathered processing times along the job axis, tardiness = presum - due) -/
def smtwtpRewardShape : Bool × Bool := (true, true)
/-- tsp/env.py:TSPEnv.check_solution_validity  `torch.arange(actions.size(1))` (false) vs. a size read from td (true) -/
def tspCheckWidthFromInst : Bool := false
/-- atsp/env.py:ATSPEnv.check_solution_validity  `torch.arange(actions.size(1))` (false) vs. a size read from td (true) -/
def atspCheckWidthFromInst : Bool := false
/-- pdp/env.py:PDPEnv.check_solution_validity  `torch.arange(actions.size(1))` (false) vs. a size read from td (true) -/
def pdpCheckWidthFromInst : Bool := false
/-- pdp/env.py:PDPEnv.check_solution_validity  `if not self.force_start_at_depot: actions = cat(0, actions)` -/
def pdpCheckPrependWhenNotForced : Bool := true
/-- atsp/env.py:ATSPEnv._get_reward  `distance_matrix[batch_idx, nodes_src, nodes_tgt]` (source index first) -/
def atspGatherSrcFirst : Bool := true
/-- tsp/env.py:TSPEnv._reset  `num_loc = init_locs.shape[-2]` (true) vs `init_locs.size(1)` (false) -/
def tspResetNumLocFromEnd : Bool := true
/-- cvrptw/env.py:get_action_mask  `current_time + dist <= time_windows[..., 1]` -/
def cvrptwMaskTwCmp : Cmp := .le
/-- cvrptw/env.py:check_solution_validity  `curr_time <= time_windows[next_node][1]` -/
def cvrptwCheckTwCmp : Cmp := .le
/-- sdvrp/env.py:get_action_mask  `demand_with_depot[..., 1:] == 0` -/
def sdvrpMaskRemCmp : Cmp := .eq
/-- sdvrp/env.py:get_action_mask  `used_capacity >= vehicle_capacity` -/
def sdvrpMaskCapCmp : Cmp := .ge
/-- sdvrp/env.py:_step  `~(demand_with_depot > 0).any(-1)` -/
def sdvrpDoneCmp : Cmp := .gt
/-- svrp/env.py:get_action_mask  `skills <= current_tech_skill` -/
def svrpMaskSkillCmp : Cmp := .le
/-- svrp/env.py:_step  `visited.sum(-2) == visited.size(-2)` -/
def svrpDoneCmp : Cmp := .eq
/-- svrp/env.py:check_solution_validity  `skills_ordered[batch, start:each[1]] <= techs[batch, tech]` -/
def svrpCheckSkillCmp : Cmp := .le
/-- cvrptw/env.py:_step  `max(current_time + distance, tw_start) + duration` (duration added after the max) -/
def cvrptwStepDurAfterMax : Bool := true
/-- cvrptw/env.py:_step  `(td['action'][:, None] != 0) * (…)` -/
def cvrptwStepDepotCmp : Cmp := .ne
/-- cvrptw/env.py:check_solution_validity  `(curr_time + dist).int()` -/
def cvrptwCheckTruncates : Bool := true
/-- cvrptw/env.py:check_solution_validity  static assertion reads `time_windows[..., 0, 1][0]` (batch row 0) -/
def cvrptwCheckRow0 : Bool := true
/-- cvrptw/env.py:check_solution_validity  `tw_start + distances + durations <= depot deadline` -/
def cvrptwCheckStaticCmp : Cmp := .le
/-- cvrptw/env.py:check_solution_validity  `tw[..., 0] < tw[..., 1]` -/
def cvrptwCheckOrderCmp : Cmp := .lt
/-- sdvrp/env.py:_step  `delivered = torch.min(selected_demand, …)` -/
def sdvrpStepDeliverIsMin : Bool := true
/-- sdvrp/env.py:_step  `… vehicle_capacity - used_capacity)` (second operand of the min) -/
def sdvrpStepFreeIsCapMinusUsed : Bool := true
/-- sdvrp/env.py:_step  `used_capacity = (…) * (current_node != 0)` -/
def sdvrpStepDepotCmp : Cmp := .ne
/-- svrp/env.py:get_action_mask  `current_tech == techs.size(-2) - 1` -/
def svrpMaskLastCmp : Cmp := .eq
/-- svrp/env.py:get_action_mask  the `1` in `techs.size(-2) - 1` -/
def svrpMaskLastOffset : Nat := 1
/-- svrp/env.py:_step  `current_tech += (current_node == 0)` -/
def svrpStepDepotCmp : Cmp := .eq
/-- svrp/env.py:_get_reward  `costs[batch, start:] = tech_costs[tech]` inside `if each[0] > batch:` -/
def svrpRewardFlushOnRowChange : Bool := true
/-- svrp/env.py:_get_reward  `costs[batch, start:] = tech_costs[tech]` after the loop -/
def svrpRewardFlushAtEnd : Bool := true

end Rl4co.Params
