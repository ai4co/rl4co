/-
Helper lemmas for the training proofs (C16 losses, C20 baselines and statistics): finite sums `sumTo` and sums of lists over a
field, shapes and broadcasting of `Ten`, what its operations give at a concrete shape.
-/
import Rl4co.Train.Dual
import Mathlib.Tactic.Ring
import Mathlib.Algebra.BigOperators.Group.List.Basic

namespace Rl4co.Train
variable {K : Type} [Field K]

theorem sumTo_add (n : Nat) (f g : Nat → K) :
    sumTo n (fun i => f i + g i) = sumTo n f + sumTo n g := by
  induction n with
  | zero => simp
  | succ n ih => simp only [sumTo_succ, ih]; ring

theorem sumTo_mul_left (n : Nat) (c : K) (f : Nat → K) :
    sumTo n (fun i => c * f i) = c * sumTo n f := by
  induction n with
  | zero => simp
  | succ n ih => simp only [sumTo_succ, ih, mul_add]

theorem sumTo_mul_right (n : Nat) (c : K) (f : Nat → K) :
    sumTo n (fun i => f i * c) = sumTo n f * c := by
  simpa only [mul_comm] using sumTo_mul_left n c f

theorem sumTo_div (n : Nat) (c : K) (f : Nat → K) :
    sumTo n (fun i => f i / c) = sumTo n f / c := by
  simpa only [div_eq_mul_inv] using sumTo_mul_right n c⁻¹ f

theorem sumTo_neg (n : Nat) (f : Nat → K) : sumTo n (fun i => - f i) = - sumTo n f := by
  simpa only [neg_one_mul] using sumTo_mul_left n (-1) f

theorem sumTo_sub (n : Nat) (f g : Nat → K) :
    sumTo n (fun i => f i - g i) = sumTo n f - sumTo n g := by
  simp only [sub_eq_add_neg, sumTo_add, sumTo_neg]

theorem sumTo_const (n : Nat) (c : K) : sumTo n (fun _ => c) = (n : K) * c := by
  induction n with
  | zero => simp
  | succ n ih => simp only [sumTo_succ, ih, Nat.cast_succ]; ring

theorem sumTo_sub_mean [CharZero K] (n : Nat) (hn : 0 < n) (f : Nat → K) :
    sumTo n (fun i => f i - sumTo n f / (n : K)) = 0 := by
  rw [sumTo_sub, sumTo_const, mul_div_cancel₀ _ (Nat.cast_ne_zero.mpr (Nat.ne_of_gt hn)), sub_self]

theorem sumTo_const_zero (n : Nat) : sumTo n (fun _ => (0 : K)) = 0 := by
  rw [sumTo_const]; ring

theorem sumTo_one (f : Nat → K) : sumTo 1 f = f 0 := by simp [sumTo_succ]

theorem sumTo_one_dual (f : Nat → Dual K) : sumTo 1 f = f 0 :=
  Dual.ext (by rw [sumTo_v, sumTo_one]) (by rw [sumTo_d, sumTo_one])

theorem sumTo_comm (n m : Nat) (f : Nat → Nat → K) :
    sumTo n (fun i => sumTo m (fun j => f i j)) = sumTo m (fun j => sumTo n (fun i => f i j)) := by
  induction n with
  | zero => simp [sumTo_const_zero]
  | succ n ih => simp only [sumTo_succ, ih, sumTo_add]

theorem sumTo_mul (S B : Nat) (F : Nat → K) :
    sumTo (S * B) F = sumTo S (fun s => sumTo B (fun b => F (s * B + b))) := by
  induction S with
  | zero => simp
  | succ S ih =>
    have hadd : ∀ (m : Nat), sumTo (S * B + m) F = sumTo (S * B) F + sumTo m (fun b => F (S * B + b)) := by
      intro m
      induction m with
      | zero => simp
      | succ m ihm => rw [← Nat.add_assoc, sumTo_succ, ihm, sumTo_succ]; ring
    rw [Nat.succ_mul, hadd, ih, sumTo_succ]

theorem sum_sub_const (b : List K) (c : K) :
    (b.map (fun x => x - c)).sum = b.sum - (b.length : K) * c := by
  induction b with
  | nil => simp
  | cons x xs ih => simp only [List.map_cons, List.sum_cons, List.length_cons, Nat.cast_succ, ih]; ring

theorem sum_div_const (b : List K) (c : K) :
    (b.map (fun x => x / c)).sum = b.sum / c := by
  induction b with
  | nil => simp
  | cons x xs ih => simp only [List.map_cons, List.sum_cons, ih, add_div]

theorem sum_dev_mul (b : List K) (c e : K) :
    (b.map (fun x => (x - c) * (x - e))).sum
      = (b.map (fun x => x * x)).sum - (c + e) * b.sum + (b.length : K) * (c * e) := by
  induction b with
  | nil => simp
  | cons x xs ih =>
    simp only [List.map_cons, List.sum_cons, List.length_cons, Nat.cast_succ, ih]
    ring

theorem sum_zipWith_sub (a b : List K) (h : a.length = b.length) :
    (List.zipWith (fun x y => x - y) a b).sum = a.sum - b.sum := by
  induction a generalizing b with
  | nil => cases b <;> simp_all
  | cons x xs ih =>
    cases b with
    | nil => simp at h
    | cons y ys =>
      simp only [List.zipWith_cons_cons, List.sum_cons, ih ys (by simpa using h)]
      ring

section ten
variable {α β γ : Type}

/-- an in-range entry is read at itself (`Ten.get` reduces indices only for broadcasting) -/
theorem Ten.get_mk {sh : Shape} {f : Nat → Nat → α} {i j : Nat} (hi : i < sh.rows) (hj : j < sh.cols) :
    (⟨sh, f⟩ : Ten α).get i j = f i j := by
  simp only [Ten.get, Nat.mod_eq_of_lt hi, Nat.mod_eq_of_lt hj]

/-- a `[n]` vector is read at the column index whatever the row index … -/
theorem Ten.get_vec {t : Ten α} {n : Nat} (h : t.sh = Shape.v n) (i : Nat) {j : Nat} (hj : j < n) : t.get i j = t.f 0 j := by
  simp only [Ten.get, h, Shape.rows, Shape.cols, Nat.mod_one, Nat.mod_eq_of_lt hj]

/-- … and a `[n,1]` column at the row index whatever the column index -/
theorem Ten.get_col {t : Ten α} {n : Nat} (h : t.sh = Shape.m n 1) {i : Nat} (hi : i < n) (j : Nat) : t.get i j = t.f i 0 := by
  simp only [Ten.get, h, Shape.rows, Shape.cols, Nat.mod_one, Nat.mod_eq_of_lt hi]

/-- `x.sum(dim=-1)` of a `[n,k]` matrix -/
theorem Ten.sumLast_mat [Add α] [Zero α] (n k : Nat) (f : Nat → Nat → α) :
    Ten.sumLast ⟨Shape.m n k, f⟩ = ⟨Shape.v n, fun _ i => sumTo k fun j => f i j⟩ := rfl

/-- `x.view(-1, 1)` of a `[n]` vector -/
theorem Ten.viewCol_vec (n : Nat) (f : Nat → Nat → α) :
    Ten.viewCol ⟨Shape.v n, f⟩ = ⟨Shape.m n 1, fun i _ => f (i / n) (i % n)⟩ := by
  simp only [Ten.viewCol, Shape.numel, Shape.rows, Shape.cols, Nat.one_mul]

variable {g : α → β → γ}

/-- what `Ten.bop` does: where the shapes broadcast to `sh`, the result has shape `sh` and combines the operands' entries
read with broadcasting … -/
theorem Ten.bop_eq_some (a : Ten α) (b : Ten β) {sh : Shape} (h : bshape a.sh b.sh = some sh) :
    Ten.bop g a b = some ⟨sh, fun i j => g (a.get i j) (b.get i j)⟩ := by
  unfold Ten.bop
  rw [h]

/-- … and where they do not, there is no result -/
theorem Ten.bop_eq_none (a : Ten α) (b : Ten β) (h : bshape a.sh b.sh = none) : Ten.bop g a b = none := by
  unfold Ten.bop
  rw [h]

/-- the entries of a broadcast that succeeds -/
theorem Ten.bop_entry {a : Ten α} {b : Ten β} {t : Ten γ} (h : Ten.bop g a b = some t) (i j : Nat) :
    t.f i j = g (a.get i j) (b.get i j) := by
  cases hs : bshape a.sh b.sh with
  | none => rw [Ten.bop_eq_none a b hs] at h; cases h
  | some sh => rw [Ten.bop_eq_some a b hs] at h; cases h; rfl

end ten

@[simp] theorem bdim_self (n : Nat) : bdim n n = some n := by simp [bdim]
@[simp] theorem bdim_one_right (n : Nat) : bdim n 1 = some n := by
  unfold bdim; by_cases h : n = 1 <;> simp [h]
@[simp] theorem bdim_one_left (n : Nat) : bdim 1 n = some n := by
  unfold bdim; by_cases h : 1 = n
  · simp [h]
  · simp [h]

theorem bshape_eq_some {a b : Shape} {r c : Nat} (hr : bdim a.rows b.rows = some r) (hc : bdim a.cols b.cols = some c) :
    bshape a b = some (Shape.ofRank (max a.rank b.rank) r c) := by
  unfold bshape
  rw [hr, hc]

theorem bshape_self (sh : Shape) : bshape sh sh = some sh := by
  cases sh <;> exact bshape_eq_some (bdim_self _) (bdim_self _)
theorem bshape_vs (n : Nat) : bshape (Shape.v n) Shape.s = some (Shape.v n) :=
  bshape_eq_some (bdim_self 1) (bdim_one_right n)
theorem bshape_mcol (n k : Nat) : bshape (Shape.m n k) (Shape.m n 1) = some (Shape.m n k) :=
  bshape_eq_some (bdim_self n) (bdim_one_right k)
/-- the mix-up: a `[n]` vector against a `[n,1]` column broadcasts to `[n,n]` -/
theorem bshape_v_mcol (n : Nat) : bshape (Shape.v n) (Shape.m n 1) = some (Shape.m n n) :=
  bshape_eq_some (bdim_one_left n) (bdim_one_right n)

/-- operands of one shape: the result has that shape -/
theorem Ten.bop_self {α β γ : Type} (g : α → β → γ) (sh : Shape) (f : Nat → Nat → α) (f' : Nat → Nat → β) :
    Ten.bop g ⟨sh, f⟩ ⟨sh, f'⟩ = some ⟨sh, fun i j => g (Ten.get ⟨sh, f⟩ i j) (Ten.get ⟨sh, f'⟩ i j)⟩ :=
  Ten.bop_eq_some _ _ (bshape_self sh)

/-- `x.mean()` of a `[n]` vector … -/
theorem Ten.meanAll_vec (n : Nat) (f : Nat → Nat → Dual K) :
    Ten.meanAll ⟨Shape.v n, f⟩ = Dual.divc (sumTo n fun j => f 0 j) (n : K) := by
  simp only [Ten.meanAll, Ten.sumAll, Shape.numel, Shape.rows, Shape.cols, sumTo_one_dual, Nat.one_mul]

/-- … and of a `[n,1]` column -/
theorem Ten.meanAll_col (n : Nat) (f : Nat → Nat → Dual K) :
    Ten.meanAll ⟨Shape.m n 1, f⟩ = Dual.divc (sumTo n fun i => f i 0) (n : K) := by
  simp only [Ten.meanAll, Ten.sumAll, Shape.numel, Shape.rows, Shape.cols, sumTo_one_dual, Nat.mul_one]

end Rl4co.Train
