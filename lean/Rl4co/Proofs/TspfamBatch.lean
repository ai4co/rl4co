/-
Batches of rows `(instance, state)` stepped with one action column per step, for an arbitrary environment: row `r` of
the row-wise execution is the solo run of row `r`, and under the lock-step invariant (all rows carry the same step
counter) a batched step with a batch-global first-step flag is the row-wise map.  Despite the namespace, nothing up to
`foldl_reset_eq_rowExec` is about the TSP family (mTSP uses it too).  No Mathlib.
-/
import Rl4co.Proofs.TspfamAvail

namespace Rl4co.Tspfam
variable {I S : Type}

/-- the row-wise map of the solo step (manifestly independent of batch-mates) -/
def rowStep (e : Env I S) (rows : List (I × S)) (acts : List Nat) : List (I × S) :=
  List.zipWith (fun r a => (r.1, e.step r.1 r.2 a)) rows acts

def rowExec (e : Env I S) (rows : List (I × S)) (cols : List (List Nat)) : List (I × S) :=
  cols.foldl (rowStep e) rows

theorem rowExec_getElem? (e : Env I S) (cols : List (List Nat)) :
    ∀ (rows : List (I × S)) (r : Nat) (x : I × S), rows[r]? = some x →
      (∀ c ∈ cols, r < c.length) →
      (rowExec e rows cols)[r]? = some (x.1, exec e x.1 x.2 (cols.map (fun c => c.getD r 0))) := by
  induction cols with
  | nil => intro rows r x hx _; exact hx
  | cons c cols ih =>
    intro rows r x hx hc
    have hr : r < c.length := hc c List.mem_cons_self
    refine ih (rowStep e rows c) r (x.1, e.step x.1 x.2 (c.getD r 0)) ?_
      (fun c' hc' => hc c' (List.mem_cons_of_mem _ hc'))
    rw [rowStep, List.getElem?_zipWith_eq_some]
    exact ⟨x, c[r], hx, List.getElem?_eq_getElem hr, by rw [getD_eq_getElem c 0 hr]⟩

theorem rowExec_reset_getElem? (e : Env I S) (insts : List I) (cols : List (List Nat)) (r : Nat) (i : I)
    (hi : insts[r]? = some i) (hc : ∀ c ∈ cols, r < c.length) :
    (rowExec e (insts.map (fun i => (i, e.reset i))) cols)[r]? =
      some (i, exec e i (e.reset i) (cols.map (fun c => c.getD r 0))) :=
  rowExec_getElem? e cols _ r (i, e.reset i) (by rw [List.getElem?_map, hi]; rfl) hc

/-- all rows of the batch have made `k` steps -/
def LockStep (ctr : S → Nat) (k : Nat) (rows : List (I × S)) : Prop := ∀ r ∈ rows, ctr r.2 = k

theorem lockStep_rowStep (e : Env I S) {ctr : S → Nat} (hctr : ∀ i s a, ctr (e.step i s a) = ctr s + 1)
    {k : Nat} {rows : List (I × S)} (acts : List Nat) (h : LockStep ctr k rows) :
    LockStep ctr (k + 1) (rowStep e rows acts) := by
  intro r' hr'
  obtain ⟨n, hn⟩ := List.mem_iff_getElem?.mp hr'
  obtain ⟨x, a, hx, _, rfl⟩ := List.getElem?_zipWith_eq_some.mp hn
  rw [hctr, h x (List.mem_of_getElem? hx)]

theorem foldl_eq_rowExec (e : Env I S) {ctr : S → Nat} (hctr : ∀ i s a, ctr (e.step i s a) = ctr s + 1)
    {bstep : List (I × S) → List Nat → List (I × S)}
    (hb : ∀ k rows acts, LockStep ctr k rows → bstep rows acts = rowStep e rows acts) (cols : List (List Nat)) :
    ∀ (k : Nat) (rows : List (I × S)), LockStep ctr k rows →
      cols.foldl bstep rows = rowExec e rows cols ∧ LockStep ctr (k + cols.length) (cols.foldl bstep rows) := by
  induction cols with
  | nil => intro k rows h; exact ⟨rfl, h⟩
  | cons c cols ih =>
    intro k rows h
    obtain ⟨e1, e2⟩ := ih (k + 1) (rowStep e rows c) (lockStep_rowStep e hctr c h)
    rw [List.foldl_cons, hb k rows c h, List.length_cons, ← Nat.add_assoc k, Nat.add_right_comm]
    exact ⟨e1, e2⟩

theorem foldl_reset_eq_rowExec (e : Env I S) {ctr : S → Nat} (h0 : ∀ i, ctr (e.reset i) = 0)
    (hctr : ∀ i s a, ctr (e.step i s a) = ctr s + 1) {bstep : List (I × S) → List Nat → List (I × S)}
    (hb : ∀ k rows acts, LockStep ctr k rows → bstep rows acts = rowStep e rows acts) (insts : List I)
    (cols : List (List Nat)) :
    cols.foldl bstep (insts.map (fun i => (i, e.reset i))) = rowExec e (insts.map (fun i => (i, e.reset i))) cols ∧
      LockStep ctr cols.length (cols.foldl bstep (insts.map (fun i => (i, e.reset i)))) := by
  have := foldl_eq_rowExec e hctr hb cols 0
    (insts.map (fun i => (i, e.reset i))) (fun r hr => by
    obtain ⟨i, _, rfl⟩ := List.mem_map.mp hr
    exact h0 i)
  rwa [Nat.zero_add] at this

variable {e : Env I S} (A : AvailEnv e)

/-- **all rows finish together** (instances with the same episode length `n`, reset together); `∃ s, … ∧ s = exec …` is
the shape of the families' `batch_rows_finish_together`, which read the row off their own `batchExec` -/
theorem AvailEnv.rows_finish_together (n : Nat) (hpos : 0 < n) (insts : List I) (cols : List (List Nat))
    (hn : ∀ i ∈ insts, A.todo i = n) (hc : ∀ c ∈ cols, c.length = insts.length)
    (hadm : ∀ r i, insts[r]? = some i →
      admitted e i (e.reset i) (cols.map (fun c => c.getD r 0)) = true) :
    ∀ r i, insts[r]? = some i →
      ∃ s, (rowExec e (insts.map (fun i => (i, e.reset i))) cols)[r]? = some (i, s) ∧
        s = exec e i (e.reset i) (cols.map (fun c => c.getD r 0)) ∧
        (e.done i s = true ↔ cols.length = n) := by
  intro r i hi
  have hr : r < insts.length := (List.getElem?_eq_some_iff.mp hi).1
  refine ⟨_, rowExec_reset_getElem? e insts cols r i hi (fun c hcm => by rw [hc c hcm]; exact hr), rfl, ?_⟩
  have hrun := (run_iff_admitted e i _ _ _).mpr ⟨hadm r i hi, rfl⟩
  have hin : A.todo i = n := hn i (List.mem_of_getElem? hi)
  rw [A.run_length (by omega) hrun, List.length_map, hin]

end Rl4co.Tspfam
