/-
Generic facts about "permutation" environments: the mask is confined to an `available` bit-vector
that loses exactly the chosen entry at every step, and `done` is the flag "no entry available"
computed by the step.  Used by TSP, ATSP, PDP and SMTWTP.  For a family whose mask IS the stored vector (TSP, ATSP,
SMTWTP) `Inv := True` and every law but `step_done` (a token obligation) and `reset_cnt` holds by `rfl`; PDP, whose mask is
a second stored vector, has to supply a real `Inv` for `mask_avail`.  At the end the list facts the instances share: the nodes
`1..n` as `range' 1 n` (where the dummy node 0 is never available) and positions in it by `idxOf`.  Core only, no Mathlib.
-/
import Rl4co.Core.Basic
import Rl4co.Core.Lists
namespace Rl4co.Tspfam
variable {I S : Type}

structure AvailEnv (e : Env I S) where
  avail : S → Nat → Bool
  /-- number of entries available at reset = length of every episode -/
  todo : I → Nat
  /-- a state invariant (e.g. consistency of a stored mask with the bookkeeping) -/
  Inv : I → S → Prop
  inv_reset : ∀ i, Inv i (e.reset i)
  inv_step : ∀ i s a, Inv i s → a < e.nAct i → e.mask i s a = true → Inv i (e.step i s a)
  mask_avail : ∀ i s a, Inv i s → e.mask i s a = true → avail s a = true
  step_avail : ∀ i s a, avail (e.step i s a) = upd (avail s) a false
  step_done : ∀ i s a, e.done i (e.step i s a) = decide (cnt (e.nAct i) (avail (e.step i s a)) = 0)
  reset_done : ∀ i, e.done i (e.reset i) = false
  reset_cnt : ∀ i, cnt (e.nAct i) (avail (e.reset i)) = todo i

variable {e : Env I S} (A : AvailEnv e)

theorem AvailEnv.inv_of_run {i : I} {s s' : S} {as : List Nat} (h : Run e i s as s')
    (h0 : A.Inv i s) : A.Inv i s' :=
  h.inv (A.inv_step i) h0

structure AvailEnv.Visits (s s' : S) (as : List Nat) : Prop where
  avail : ∀ a ∈ as, A.avail s a = true
  nodup : as.Nodup
  after : ∀ j, A.avail s' j = (A.avail s j && !decide (j ∈ as))

theorem AvailEnv.visits_of_run {i : I} {s s' : S} {as : List Nat} (h : Run e i s as s')
    (h0 : A.Inv i s) : A.Visits s s' as := by
  induction h with
  | nil s => exact ⟨fun _ ha => absurd ha List.not_mem_nil, List.nodup_nil, by simp⟩
  | @cons s s' a as ha hm _ ih =>
    obtain ⟨ih2, ih3, ih4⟩ := ih (A.inv_step _ _ _ h0 ha hm)
    simp only [A.step_avail, upd_apply] at ih2 ih4
    have hne : ∀ b ∈ as, b ≠ a := fun b hb hba => by simpa [hba] using ih2 b hb
    refine ⟨List.forall_mem_cons.mpr ⟨A.mask_avail _ _ _ h0 hm, fun b hb => by simpa [hne b hb] using ih2 b hb⟩,
      List.nodup_cons.mpr ⟨fun hmem => hne a hmem rfl, ih3⟩, fun j => ?_⟩
    rw [ih4 j]
    by_cases hja : j = a
    · subst hja; simp
    · simp [hja]

theorem AvailEnv.cnt_of_run {i : I} {s s' : S} {as : List Nat} (h : Run e i s as s')
    (h0 : A.Inv i s) :
    cnt (e.nAct i) (A.avail s') + as.length = cnt (e.nAct i) (A.avail s) := by
  induction h with
  | nil s => simp
  | @cons s s' a as ha hm _ ih =>
    have := ih (A.inv_step _ _ _ h0 ha hm)
    rw [A.step_avail] at this
    rw [List.length_cons, ← Nat.add_assoc, this, cnt_upd_false ha (A.mask_avail _ _ _ h0 hm)]

theorem AvailEnv.done_iff {i : I} (hpos : 0 < A.todo i) {s : S} (h : Reach e i s) :
    e.done i s = true ↔ cnt (e.nAct i) (A.avail s) = 0 := by
  obtain ⟨as, hr⟩ := h
  -- true of the reset state (not done, something available) and of every stepped state (`step_done`)
  have h0 : e.done i (e.reset i) = true ↔ cnt (e.nAct i) (A.avail (e.reset i)) = 0 := by
    rw [A.reset_done, A.reset_cnt]
    exact ⟨fun h => absurd h Bool.false_ne_true, fun h => absurd h (Nat.ne_of_gt hpos)⟩
  generalize e.reset i = s0 at hr h0
  induction hr with
  | nil s => exact h0
  | cons _ _ _ ih => exact ih (by rw [A.step_done, decide_eq_true_eq])

theorem AvailEnv.cnt_of_reset_run {i : I} {s : S} {as : List Nat} (h : Run e i (e.reset i) as s) :
    cnt (e.nAct i) (A.avail s) + as.length = A.todo i := by
  rw [A.cnt_of_run h (A.inv_reset i), A.reset_cnt]

theorem AvailEnv.run_length {i : I} (hpos : 0 < A.todo i) {s : S} {as : List Nat}
    (h : Run e i (e.reset i) as s) : e.done i s = true ↔ as.length = A.todo i := by
  rw [A.done_iff hpos ⟨as, h⟩, ← A.cnt_of_reset_run h]
  exact ⟨fun h0 => by rw [h0, Nat.zero_add], fun hl => Nat.add_right_cancel (hl.symm.trans (Nat.zero_add _).symm)⟩

theorem AvailEnv.length_le {i : I} {s : S} {as : List Nat} (h : Run e i (e.reset i) as s) :
    as.length ≤ A.todo i :=
  Nat.le.intro ((Nat.add_comm _ _).trans (A.cnt_of_reset_run h))

theorem AvailEnv.avail_of_not_done {i : I} (hpos : 0 < A.todo i) {s : S} (h : Reach e i s)
    (hd : e.done i s = false) : ∃ j, j < e.nAct i ∧ A.avail s j = true := by
  refine cnt_pos.mp (Nat.pos_of_ne_zero (fun h0 => ?_))
  rw [(A.done_iff hpos h).mpr h0] at hd
  cases hd

theorem AvailEnv.none_avail_of_done {i : I} (hpos : 0 < A.todo i) {s : S} (h : Reach e i s)
    (hd : e.done i s = true) : ∀ j, j < e.nAct i → A.avail s j = false :=
  cnt_eq_zero.mp ((A.done_iff hpos h).mp hd)

theorem AvailEnv.done_stable {i : I} (hpos : 0 < A.todo i) {s : S} (h : Reach e i s)
    (hd : e.done i s = true) (a : Nat) : e.done i (e.step i s a) = true := by
  rw [A.step_done, A.step_avail, decide_eq_true_eq]
  refine cnt_eq_zero.mpr (fun j hj => ?_)
  rw [upd_apply]; split
  · rfl
  · exact A.none_avail_of_done hpos h hd j hj

/-- converse, for environments whose mask IS the availability vector -/
theorem AvailEnv.run_of_nodup (hmask : ∀ i s a, e.mask i s a = A.avail s a) {i : I} :
    ∀ (as : List Nat) (s : S), as.Nodup → (∀ a ∈ as, a < e.nAct i) →
      (∀ a ∈ as, A.avail s a = true) → Run e i s as (exec e i s as) := by
  intro as
  induction as with
  | nil => intro s _ _ _; exact Run.nil _
  | cons a as ih =>
    intro s hnd hlt hav
    have hnd' := List.nodup_cons.mp hnd
    refine Run.cons (hlt a (by simp)) (by rw [hmask]; exact hav a (by simp)) ?_
    apply ih _ hnd'.2 (fun b hb => hlt b (by simp [hb]))
    intro b hb
    rw [A.step_avail, upd_apply]
    have : b ≠ a := fun h => hnd'.1 (h ▸ hb)
    simp [this, hav b (by simp [hb])]

def AvailEnv.initial (i : I) : List Nat := (List.range (e.nAct i)).filter (A.avail (e.reset i))

theorem AvailEnv.mem_initial {i : I} {j : Nat} :
    j ∈ A.initial i ↔ j < e.nAct i ∧ A.avail (e.reset i) j = true := by
  rw [AvailEnv.initial, List.mem_filter, List.mem_range]

theorem AvailEnv.nodup_initial (i : I) : (A.initial i).Nodup :=
  List.Nodup.sublist List.filter_sublist List.nodup_range

/-- a finished run is a permutation of `initial`; `0 < todo` is not assumed, since with nothing to do the reset state is not
done and admits no step -/
theorem AvailEnv.perm_of_done_run {i : I} {s : S} {as : List Nat} (h : Run e i (e.reset i) as s)
    (hd : e.done i s = true) : as.Perm (A.initial i) := by
  obtain ⟨h2, hnd, h4⟩ := A.visits_of_run h (A.inv_reset i)
  have h1 := h.lt_nAct
  have hpos : 0 < A.todo i := by
    cases h with
    | nil => rw [A.reset_done] at hd; cases hd
    | cons ha hm _ =>
      rw [← A.reset_cnt]
      exact cnt_pos.mpr ⟨_, ha, A.mask_avail _ _ _ (A.inv_reset i) hm⟩
  refine (List.perm_ext_iff_of_nodup hnd (A.nodup_initial i)).mpr (fun j => ?_)
  rw [A.mem_initial]
  constructor
  · exact fun hj => ⟨h1 j hj, h2 j hj⟩
  · intro ⟨hj, hav⟩
    have := A.none_avail_of_done hpos ⟨as, h⟩ hd j hj
    rw [h4 j, hav] at this
    simpa using this

/-- the mask hides nothing when it IS the availability vector -/
theorem AvailEnv.done_run_of_perm (hmask : ∀ i s a, e.mask i s a = A.avail s a) {i : I}
    (hpos : 0 < A.todo i) {as : List Nat} (hp : as.Perm (A.initial i)) :
    ∃ s, Run e i (e.reset i) as s ∧ e.done i s = true := by
  have hmem : ∀ a ∈ as, a < e.nAct i ∧ A.avail (e.reset i) a = true :=
    fun a ha => A.mem_initial.mp (hp.mem_iff.mp ha)
  have hrun := A.run_of_nodup hmask as (e.reset i) (hp.nodup_iff.mpr (A.nodup_initial i))
    (fun a ha => (hmem a ha).1) (fun a ha => (hmem a ha).2)
  exact ⟨_, hrun, (A.run_length hpos hrun).mpr (hp.length_eq.trans (A.reset_cnt i))⟩

end Rl4co.Tspfam

namespace Rl4co.Tspfam

theorem range_succ_eq_cons (n : Nat) : List.range (n + 1) = 0 :: List.range' 1 n := by
  rw [List.range_eq_range', List.range'_succ]

theorem filter_ne_zero_range (n : Nat) :
    (List.range (n + 1)).filter (fun j => decide (j ≠ 0)) = List.range' 1 n := by
  induction n with
  | zero => rfl
  | succ n ih =>
    rw [List.range_succ, List.filter_append, ih, List.range'_1_concat, Nat.add_comm 1 n]
    rfl

theorem cnt_ne_zero (n : Nat) : cnt (n + 1) (fun j => decide (j ≠ 0)) = n := by
  rw [cnt, filter_ne_zero_range, List.length_range']

theorem idxOf_cons_lt_iff {a u v : Nat} (cs : List Nat) (hu : a ≠ u) (hv : a ≠ v) :
    (a :: cs).idxOf u < (a :: cs).idxOf v ↔ cs.idxOf u < cs.idxOf v := by
  rw [List.idxOf_cons, List.idxOf_cons, (beq_eq_false_iff_ne).mpr hu, (beq_eq_false_iff_ne).mpr hv]
  exact Nat.add_lt_add_iff_right

theorem idxOf_range' (n v : Nat) (h1 : 1 ≤ v) (h2 : v ≤ n) : (List.range' 1 n).idxOf v = v - 1 := by
  have h : v - 1 < (List.range' 1 n).length := by rw [List.length_range']; omega
  have := List.Nodup.idxOf_getElem List.nodup_range' (v - 1) h
  rwa [List.getElem_range', Nat.one_mul, Nat.add_sub_cancel' h1] at this

theorem filter_ne_zero_of_not_mem {cs : List Nat} (h0 : 0 ∉ cs) : cs.filter (fun a => a != 0) = cs := by
  apply List.filter_eq_self.mpr
  intro a ha
  have : a ≠ 0 := fun h => h0 (h ▸ ha)
  simpa using this

end Rl4co.Tspfam
