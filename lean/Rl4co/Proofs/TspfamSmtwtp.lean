/-
SMTWTP as an instance of the generic permutation environment (`Proofs/TspfamAvail.lean`), and the
link between its spec and permutations of the jobs.  Core only, no Mathlib.
-/
import Rl4co.Env.Smtwtp
import Rl4co.Spec.Smtwtp
import Rl4co.Proofs.TspfamAvail
import Rl4co.Proofs.TspfamParams

namespace Rl4co.Spec.Smtwtp

theorem feasible_iff_perm (n : Nat) (as : List Nat) : Feasible n as ↔ as.Perm (List.range' 1 n) := by
  rw [← once_iff_perm]
  exact ⟨fun ⟨h1, h2⟩ => ⟨h1, h2⟩, fun ⟨h1, h2⟩ => ⟨h1, h2⟩⟩

end Rl4co.Spec.Smtwtp

namespace Rl4co.Smtwtp
open Rl4co.Tspfam

/-- SMTWTP as a permutation environment over the jobs `1..n` (the dummy is unavailable from reset on) -/
def availEnv : AvailEnv env where
  avail s := s.avail
  todo i := i.n
  Inv _ _ := True
  inv_reset _ := trivial
  inv_step := fun _ _ _ _ _ _ => trivial
  mask_avail := fun _ _ _ _ h => h
  step_avail := fun _ _ _ => rfl
  step_done := fun _ _ _ => doneCmp_eq _
  reset_done := fun _ => rfl
  reset_cnt := fun i => cnt_ne_zero i.n

theorem mask_eq_avail (i : Inst) (s : State) (a : Nat) : env.mask i s a = availEnv.avail s a := rfl

theorem initial_eq (i : Inst) : availEnv.initial i = List.range' 1 i.n := filter_ne_zero_range i.n

end Rl4co.Smtwtp
