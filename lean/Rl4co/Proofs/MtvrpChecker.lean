/-
The MTVRP checker model against the Spec: each pass (running loads, replay loop) is characterised exactly in terms of the
routes of the action list, and the accepted set is compared with `Feasible` route by route.  `endsAtDepot` and `slackOk`,
the provisos the C06 statements carry as hypotheses, are defined here.  No Mathlib.
-/
import Rl4co.Proofs.MtvrpRun
import Rl4co.Proofs.VrpCanon
import Rl4co.Proofs.Sort

namespace Rl4co.Mtvrp
open Rl4co.Spec.Mtvrp

/-- `as.getLast? = some 0` as a structural recursion, so that it evaluates on concrete lists -/
def endsAtDepot : List Nat → Bool
  | [] => false
  | [a] => a == 0
  | _ :: b :: as => endsAtDepot (b :: as)

theorem endsAtDepot_snoc : ∀ as : List Nat, endsAtDepot (as ++ [0]) = true
  | [] => rfl
  | [_] => rfl
  | _ :: b :: as => endsAtDepot_snoc (b :: as)

/-- open routes: the depot stays open long enough after the latest admissible service start at `j`
(what the generator guarantees: `tw_end + service + d_j0 ≤ max_time`) -/
def slackOk (i : Inst) (j : Nat) : Bool :=
  match i.late 0 with
  | none => true
  | some l0 => match i.late j with
    | none => false
    | some l => decide (l + i.service j + i.T j 0 ≤ l0)

theorem geZeroInf_iff (o : Option Int) : geZeroInf o = true ↔ cmpInf .le 0 o = true := by
  cases o <;> rfl

theorem checkStatic_limit {i : Inst} (h : checkStatic i = true) : cmpInf .le 0 i.limit = true := by
  rw [checkStatic, Bool.and_eq_true] at h
  exact (geZeroInf_iff _).1 h.1

theorem checkStatic_node {i : Inst} (h : checkStatic i = true) (k : Nat) (hk : k ≤ i.n) :
    cmpInf .le 0 (i.late k) = true ∧ cmpInf .le (i.early k) (i.late k) = true := by
  simp only [checkStatic, Bool.and_eq_true, List.all_eq_true, List.mem_range, decide_eq_true_eq] at h
  have := h.2 k (Nat.lt_succ_of_le hk)
  exact ⟨(geZeroInf_iff _).1 this.1.1.1.2, cmpInf_le_of_lt this.1.2⟩

/-- the checker tests the load after every customer, which non-negative demands make the same as testing the whole route -/
theorem checkC1_iff {cap : Int} {dem : Nat → Int} (hcap : 0 ≤ cap) (hd0 : dem 0 = 0) :
    ∀ (as : List Nat) (used : Int), (∀ x ∈ as, 0 ≤ dem x) → used ≤ cap →
      (checkC1 cap dem used as = true ↔ LoadsOk dem cap used as)
  | [], _, _, hu => ⟨fun _ => loadsOk_nil.2 hu, fun _ => rfl⟩
  | a :: as, used, hnn, hu => by
    have hnn' : ∀ x ∈ as, 0 ≤ dem x := fun x hx => hnn x (List.mem_cons_of_mem _ hx)
    rw [checkC1_cons]
    by_cases h0 : a = 0
    · subst h0
      rw [if_neg (fun h => h rfl), hd0, Int.add_zero, checkC1_iff hcap hd0 as 0 hnn' hcap, loadsOk_zero_cons]
      exact and_congr_left' (iff_of_true hcap hu)
    · rw [if_pos h0, loadsOk_cons h0]
      exact ⟨fun h => (checkC1_iff hcap hd0 as _ hnn' h.1).1 h.2,
        fun h => ⟨h.le hnn', (checkC1_iff hcap hd0 as _ hnn' (h.le hnn')).2 h⟩⟩

/-- what the running-load pass needs of an instance (part of `wf`; no servability) -/
structure DemWf (i : Inst) : Prop where
  cap    : 0 ≤ i.cap
  depot  : i.dL 0 = 0 ∧ i.dB 0 = 0
  nonneg : ∀ k, k < i.n + 1 → 0 ≤ i.dL k ∧ 0 ≤ i.dB k

theorem demWf_of_wf {i : Inst} (h : wf i = true) : DemWf i :=
  ⟨wf_cap h, wf_depot h, fun k hk => ⟨(wf_dem h k hk).1, (wf_dem h k hk).2.1⟩⟩

theorem checkLoads_iff {i : Inst} (hd : DemWf i) (as : List Nat) (hrange : ∀ a ∈ as, a ≤ i.n) :
    (checkC1 i.cap i.dL 0 as = true ↔ ∀ r ∈ routes as, (r.map i.dL).sum ≤ i.cap) ∧
    (checkC1 i.cap i.dB 0 as = true ↔ ∀ r ∈ routes as, (r.map i.dB).sum ≤ i.cap) :=
  have hnn := fun x hx => hd.nonneg x (Nat.lt_succ_of_le (hrange x hx))
  ⟨(checkC1_iff hd.cap hd.depot.1 as 0 (fun x hx => (hnn x hx).1) hd.cap).trans loadsOk_zero,
    (checkC1_iff hd.cap hd.depot.2 as 0 (fun x hx => (hnn x hx).2) hd.cap).trans loadsOk_zero⟩

/-- the replay conditions along a list of routes: all but the last are closed by a depot visit (their way back is
driven unless routes are open, and the depot deadline is applied); the last one is followed by nothing -/
def ReplayOk (i : Inst) : Nat → Int → Int → List (List Nat) → Prop
  | _, _, _, [] => True
  | cur, t, len, [r] => RestOk true true i cur t len r          -- the Spec's `TrailOk` less the loads (`trailOk_iff`)
  | cur, t, len, r :: r' :: rs =>
    RestOk i.openR false i cur t len r ∧ ReplayOk i 0 0 0 (r' :: rs)  -- `ClosedOk` less the loads (`closedOk_iff`)

theorem replayOk_cons_iff (i : Inst) (cur : Nat) (t len : Int) (a : Nat) (r : List Nat) (rs : List (List Nat)) :
    ReplayOk i cur t len ((a :: r) :: rs) ↔
      cmpInf .le (t + i.T cur a) (i.late a) = true ∧
      ReplayOk i a (max (t + i.T cur a) (i.early a) + i.service a) (len + i.D cur a) (r :: rs) := by
  cases rs with
  | nil => exact Iff.rfl
  | cons r' rs => exact and_assoc

/-- two implications, not an iff: the instance's static asserts and non-negative distances are needed for "accepts" only,
because the loop also tests the length after every leg and the window's start against its end -/
theorem checkReplay_replayOk (i : Inst) (hlim : cmpInf .le 0 i.limit = true) :
    ∀ (as : List Nat) (cur : Nat) (t len : Int), cmpInf .le len i.limit = true →
    (checkReplay i cur t len as = true → ReplayOk i cur t len (routes as)) ∧
    (checkStatic i = true → (∀ a b, 0 ≤ i.D a b) → (∀ a ∈ as, a ≤ i.n) →
      ReplayOk i cur t len (routes as) → checkReplay i cur t len as = true)
  | [], cur, t, len, hlen => ⟨fun _ => ⟨by rw [if_pos rfl, Int.add_zero]; exact hlen, Or.inl rfl⟩, fun _ _ _ _ => rfl⟩
  | a :: as, cur, t, len, hlen => by
    by_cases h0 : a = 0
    · subst h0
      have ih := checkReplay_replayOk i hlim as 0 0 0 hlim
      rw [routes_eq (0 :: as), firstRoute_zero_cons, restRoutes_zero_cons, routes_eq as, checkReplay_zero]
      rw [routes_eq as] at ih
      refine ⟨fun ⟨⟨okL, okT, _⟩, hrec⟩ => ⟨⟨okL, Or.inr okT⟩, ih.1 hrec⟩, fun hstat hD hrange ⟨⟨okL, okT⟩, hacc⟩ => ?_⟩
      exact ⟨⟨okL, okT.resolve_left Bool.false_ne_true, (checkStatic_node hstat 0 (Nat.zero_le _)).2⟩,
        ih.2 hstat hD (fun b hb => hrange b (List.mem_cons_of_mem _ hb)) hacc⟩
    · rw [routes_eq (a :: as), firstRoute_cons h0, restRoutes_cons h0, replayOk_cons_iff, ← routes_eq as,
        checkReplay_ne i cur t len h0]
      constructor
      · rintro ⟨⟨okL, okT, _⟩, hrec⟩
        exact ⟨okT, (checkReplay_replayOk i hlim as a _ _ okL).1 hrec⟩
      · rintro hstat hD hrange ⟨okT, hacc⟩
        have hl : cmpInf .le (len + i.D cur a) i.limit = true := by
          rw [routes_eq as] at hacc
          cases hrs : restRoutes as with
          | nil => rw [hrs] at hacc; exact RestOk.len_le hD hacc
          | cons _ _ => rw [hrs] at hacc; exact RestOk.len_le hD hacc.1
        exact ⟨⟨hl, okT, (checkStatic_node hstat a (hrange a List.mem_cons_self)).2⟩,
          (checkReplay_replayOk i hlim as a _ _ hl).2 hstat hD (fun b hb => hrange b (List.mem_cons_of_mem _ hb)) hacc⟩

theorem mem_dropLast_or_last {α : Type} : ∀ (l : List α) (r : α), r ∈ l → r ∈ l.dropLast ∨ l.getLast? = some r
  | [], _, h => absurd h List.not_mem_nil
  | [x], r, h => Or.inr (by rw [List.mem_singleton.1 h]; rfl)
  | x :: y :: l, r, h => by
    rw [List.dropLast_cons_cons, List.getLast?_cons_cons]
    rcases List.mem_cons.mp h with e | e
    · exact Or.inl (e ▸ List.mem_cons_self)
    · exact (mem_dropLast_or_last (y :: l) r e).imp_left (List.mem_cons_of_mem _)

theorem replayOk_routes (i : Inst) : ∀ rs : List (List Nat),
    ReplayOk i 0 0 0 rs ↔ (∀ r ∈ rs.dropLast, RestOk i.openR false i 0 0 0 r) ∧
      ∀ r, rs.getLast? = some r → RestOk true true i 0 0 0 r
  | [] => ⟨fun _ => ⟨fun _ hr => absurd hr List.not_mem_nil, fun _ e => nomatch e⟩, fun _ => trivial⟩
  | [r] => ⟨fun h => ⟨fun _ hr => absurd hr List.not_mem_nil, fun _ e => Option.some.inj e ▸ h⟩, fun h => h.2 r rfl⟩
  | r :: r' :: rs => by
    rw [List.dropLast_cons_cons, List.getLast?_cons_cons, List.forall_mem_cons, and_assoc]
    exact and_congr_right fun _ => replayOk_routes i (r' :: rs)

theorem accepted_of_check (i : Inst) (hd : DemWf i) (as : List Nat) (h : check i as = true) : Accepted i as := by
  simp only [check, checkWith, Bool.and_eq_true] at h
  obtain ⟨⟨⟨⟨hsort, hstat⟩, hrep⟩, hcL⟩, hcB⟩ := h
  obtain ⟨hrange, honce⟩ := (sortedTest_iff i.n as).1 hsort
  have hlim := checkStatic_limit hstat
  have hacc := (replayOk_routes i (routes as)).1 ((checkReplay_replayOk i hlim as 0 0 0 hlim).1 hrep)
  have hL := (checkLoads_iff hd as hrange).1.1 hcL
  have hB := (checkLoads_iff hd as hrange).2.1 hcB
  refine ⟨hrange, honce, fun r hr _ => ?_, fun r hr _ => ?_⟩
  · have hm := List.dropLast_subset _ hr
    exact (closedOk_iff i r).2 ⟨hL r hm, hB r hm, hacc.1 r hr⟩
  · have hm := List.mem_of_getLast? hr
    exact (trailOk_iff i r).2 ⟨hL r hm, hB r hm, hacc.2 r hr⟩

theorem check_of_accepted (i : Inst) (hd : DemWf i) (hstat : checkStatic i = true) (hD : ∀ a b, 0 ≤ i.D a b)
    (h00 : i.D 0 0 = 0) (hT00 : i.T 0 0 = 0) (as : List Nat) (h : Accepted i as) : check i as = true := by
  have hlim := checkStatic_limit hstat
  have hl0 := (checkStatic_node hstat 0 (Nat.zero_le _)).1
  -- `Accepted` says nothing of empty routes: the empty route passes both as a closed and as the trailing route
  have closed : ∀ r ∈ (routes as).dropLast,
      (r.map i.dL).sum ≤ i.cap ∧ (r.map i.dB).sum ≤ i.cap ∧ RestOk i.openR false i 0 0 0 r := by
    intro r hr
    by_cases hrne : r = []
    · subst hrne
      refine ⟨hd.cap, hd.cap, ?_, Or.inr (by rw [Int.zero_add, hT00]; exact hl0)⟩
      rw [Int.zero_add, h00, ite_self]; exact hlim
    · exact (closedOk_iff i r).1 (h.closed r hr hrne)
  have trail : ∀ r, (routes as).getLast? = some r →
      (r.map i.dL).sum ≤ i.cap ∧ (r.map i.dB).sum ≤ i.cap ∧ RestOk true true i 0 0 0 r := by
    intro r hr
    by_cases hrne : r = []
    · subst hrne; exact ⟨hd.cap, hd.cap, by rw [if_pos rfl, Int.add_zero]; exact hlim, Or.inl rfl⟩
    · exact (trailOk_iff i r).1 (h.trail r hr hrne)
  have loads : ∀ r ∈ routes as, (r.map i.dL).sum ≤ i.cap ∧ (r.map i.dB).sum ≤ i.cap := fun r hr =>
    (mem_dropLast_or_last _ r hr).elim (fun e => ⟨(closed r e).1, (closed r e).2.1⟩)
      fun e => ⟨(trail r e).1, (trail r e).2.1⟩
  simp only [check, checkWith, Bool.and_eq_true, hstat, and_true]
  refine ⟨⟨⟨(sortedTest_iff i.n as).2 ⟨h.range, h.once⟩, ?_⟩, ?_⟩, ?_⟩
  · exact (checkReplay_replayOk i hlim as 0 0 0 hlim).2 hstat hD h.range
      ((replayOk_routes i (routes as)).2
        ⟨fun r hr => (closed r hr).2.2, fun r hr => (trail r hr).2.2⟩)
  · exact (checkLoads_iff hd as h.range).1.2 fun r hr => (loads r hr).1
  · exact (checkLoads_iff hd as h.range).2.2 fun r hr => (loads r hr).2

theorem exists_snoc_of_endsAtDepot : ∀ (as : List Nat), endsAtDepot as = true → ∃ bs, as = bs ++ [0]
  | [], h => absurd h Bool.false_ne_true
  | [_], h => ⟨[], by rw [eq_of_beq h]; rfl⟩
  | a :: b :: as, h => by
    obtain ⟨bs, e⟩ := exists_snoc_of_endsAtDepot (b :: as) h
    exact ⟨a :: bs, by rw [e]; rfl⟩

/-- `hend`: the checker looks at the trailing route's way back only if routes are open or the list ends at the depot -/
theorem feasible_of_accepted {i : Inst} {as : List Nat} (hord : ∀ r ∈ routes as, Ordered i r)
    (hend : i.openR = true ∨ endsAtDepot as = true) (h : Accepted i as) : Feasible i as := by
  refine ⟨h.range, h.once, fun r hr hne => ?_⟩
  rcases mem_dropLast_or_last _ r hr with e | e
  · obtain ⟨a, b, c⟩ := (closedOk_iff i r).1 (h.closed r e hne)
    exact (routeOk_iff i r).2 ⟨a, b, hord r hr, c.open_time⟩
  · rcases hend with ho | he
    · obtain ⟨a, b, c⟩ := (trailOk_iff i r).1 (h.trail r e hne)
      exact (routeOk_iff i r).2 ⟨a, b, hord r hr, ho.symm ▸ c⟩
    · obtain ⟨bs, rfl⟩ := exists_snoc_of_endsAtDepot as he
      rw [routes_append_zero, List.getLast?_concat] at e
      exact absurd (Option.some.inj e).symm hne

theorem slack_ret {i : Inst} {a : Nat} (hs : slackOk i a = true) {x : Int} (h : cmpInf .le x (i.late a) = true) :
    cmpInf .le (x + i.service a + i.T a 0) (i.late 0) = true := by
  unfold slackOk at hs
  cases hl0 : i.late 0 with
  | none => rfl
  | some l0 =>
    rw [hl0] at hs
    cases hla : i.late a with
    | none => rw [hla] at hs; exact absurd hs Bool.false_ne_true
    | some l =>
      rw [hla] at hs h
      exact cmpInf_le_some.2 (Int.le_trans
        (Int.add_le_add_right (Int.add_le_add_right (cmpInf_le_some.1 h) _) _) (of_decide_eq_true hs))

theorem RestOk.close_time {od : Bool} {i : Inst} : ∀ {r : List Nat} {cur : Nat} {t len : Int},
    (∀ a ∈ r, cmpInf .le (i.early a) (i.late a) = true ∧ slackOk i a = true) →
    cmpInf .le (t + i.T cur 0) (i.late 0) = true →
    RestOk od true i cur t len r → RestOk od false i cur t len r
  | [], _, _, _, _, h0, h => ⟨h.1, Or.inr h0⟩
  | a :: _, _, _, _, hs, _, h =>
    ⟨h.1, RestOk.close_time (fun b hb => hs b (List.mem_cons_of_mem _ hb))
      (slack_ret (hs a List.mem_cons_self).2 (cmpInf_le_max.2 ⟨h.1, (hs a List.mem_cons_self).1⟩)) h.2⟩

theorem accepted_of_feasible {i : Inst} (hstat : checkStatic i = true) (hD : ∀ a b, 0 ≤ i.D a b) (hT00 : i.T 0 0 = 0)
    (hslack : i.openR = true → ∀ j, 1 ≤ j → j ≤ i.n → slackOk i j = true) {as : List Nat} (h : Feasible i as) :
    Accepted i as := by
  refine ⟨h.range, h.once, fun r hr hne => ?_, fun r hr hne => ?_⟩
  · have hm := List.dropLast_subset _ hr
    obtain ⟨a, b, _, c⟩ := (routeOk_iff i r).1 (h.route r hm hne)
    refine (closedOk_iff i r).2 ⟨a, b, ?_⟩
    cases ho : i.openR
    · rw [ho] at c; exact c
    · rw [ho] at c
      refine c.close_time (fun x hx => ?_) (by rw [Int.zero_add, hT00]; exact (checkStatic_node hstat 0 (Nat.zero_le _)).1)
      have hx0 : x ≠ 0 := fun e => routes_zero_free as r hm (e ▸ hx)
      have hxn := h.range x (mem_of_mem_routes as r hm x hx)
      exact ⟨(checkStatic_node hstat x hxn).2, hslack ho x (Nat.pos_of_ne_zero hx0) hxn⟩
  · obtain ⟨a, b, _, c⟩ := (routeOk_iff i r).1 (h.route r (List.mem_of_getLast? hr) hne)
    refine (trailOk_iff i r).2 ⟨a, b, ?_⟩
    cases ho : i.openR
    · rw [ho] at c; exact (c.open_time).open_dist hD
    · rw [ho] at c; exact c

end Rl4co.Mtvrp
