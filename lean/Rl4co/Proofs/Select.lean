/-
Generic argument shared by the selection environments (FLP, MCP, DPP/MDPP).  A `View` exposes what all of them have in
common — a mask that loses exactly the selected entry at each step, the number of steps taken, and
`done = (steps before this one ≥ quota − 1)` — and the quota / termination / completeness facts are proved once from it,
for a reward and an objective left abstract.  No Mathlib.

Which generic theorem stands for which property, and how a family is added, is in DESIGN.md §3.1.
A family's `WF` supplies `hq : 1 ≤ quota i` and `hroom : quota i ≤ cnt (nAct i) (allowed i)`.  The step laws of a `View`
are asked of all states and actions, not only of admitted ones: a model whose `step` guards on the mask does not fit.
A family that counts in `Nat` should state `view_quota : view.quota i = ↑i.k := rfl` and rewrite with it, since `omega`
takes `view.quota i` for an atom.
-/
import Rl4co.Core.Basic
import Rl4co.Core.Lists

namespace Rl4co.Sel
variable {I S : Type}

/-- What the generic argument needs to know about a selection environment.  `quota` and `ctr` are `Int` because `step_done`
compares the counter with `quota - 1` as the code does, which is `-1` for a quota of 0.  `am` is not a synonym of `e.mask`:
it is the row of the STATE that the mask reads (`!s.chosen` for FLP and MCP, the stored `s.am` for DPP), the laws and the
counting in `Inv` are about it, and it has no instance argument: a mask that consults the instance at every step is a
`View` only if the model copies that row into its state, as DPP does. -/
structure View (e : Env I S) where
  quota   : I → Int
  allowed : I → Nat → Bool               -- mask of the reset state
  am      : S → Nat → Bool               -- the row of the state the mask reads
  ctr     : S → Int                      -- number of steps taken
  mask_eq    : ∀ i s a, e.mask i s a = am s a
  reset_am   : ∀ i a, am (e.reset i) a = allowed i a
  reset_ctr  : ∀ i, ctr (e.reset i) = 0
  reset_done : ∀ i, e.done i (e.reset i) = false
  step_am    : ∀ i s a j, am (e.step i s a) j = upd (am s) a false j
  step_ctr   : ∀ i s a, ctr (e.step i s a) = ctr s + 1
  step_done  : ∀ i s a, e.done i (e.step i s a) = decide (ctr s ≥ quota i - 1)

variable {e : Env I S} (v : View e)

/-- The state after the selections `h` (oldest first): what is still offered, the counter, `done`.  `free` follows from
`am`, `nodup` and `ok` by counting; it is carried as a field because one `cnt_upd_false` per step is shorter than that
count, and `mask_nonempty` and `no_dead_end_iff` read it. -/
structure Inv (i : I) (s : S) (h : List Nat) : Prop where
  am    : ∀ j, v.am s j = (v.allowed i j && !decide (j ∈ h))
  ctr   : v.ctr s = h.length
  nodup : h.Nodup
  ok    : ∀ a ∈ h, a < e.nAct i ∧ v.allowed i a = true
  done  : e.done i s = decide (h ≠ [] ∧ v.quota i ≤ h.length)
  free  : cnt (e.nAct i) (v.am s) + h.length = cnt (e.nAct i) (v.allowed i)

theorem inv_reset (i : I) : Inv v i (e.reset i) [] where
  am j := by rw [v.reset_am]; simp
  ctr := v.reset_ctr i
  nodup := List.nodup_nil
  ok := by intro a h; cases h
  done := by rw [v.reset_done]; simp
  free := cnt_congr (fun j _ => v.reset_am i j)

theorem Inv.mask_iff {i : I} {s : S} {h : List Nat} (hi : Inv v i s h) {a : Nat} :
    e.mask i s a = true ↔ v.allowed i a = true ∧ a ∉ h := by
  rw [v.mask_eq, hi.am a, Bool.and_eq_true, Bool.not_eq_true', decide_eq_false_iff_not]

theorem inv_step (i : I) (s : S) (h : List Nat) (a : Nat) (hi : Inv v i s h)
    (ha : a < e.nAct i) (hm : e.mask i s a = true) : Inv v i (e.step i s a) (h ++ [a]) := by
  obtain ⟨hal, hnot⟩ := (hi.mask_iff v).mp hm
  rw [v.mask_eq] at hm
  refine ⟨?_, ?_, ?_, ?_, ?_, ?_⟩
  · intro j
    rw [v.step_am, upd_apply, hi.am j]
    by_cases hj : j = a
    · rw [if_pos hj]; simp [hj]
    · rw [if_neg hj]; simp [hj]
  · rw [v.step_ctr, hi.ctr, List.length_append]; rfl
  · rw [List.nodup_append]
    exact ⟨hi.nodup, List.nodup_cons.mpr ⟨List.not_mem_nil, List.nodup_nil⟩, fun x hx y hy hxy =>
      hnot (by rw [← List.mem_singleton.mp hy, ← hxy]; exact hx)⟩
  · intro b hb
    rcases List.mem_append.mp hb with hb | hb
    · exact hi.ok b hb
    · rw [List.mem_singleton.mp hb]; exact ⟨ha, hal⟩
  · rw [v.step_done, hi.ctr, decide_eq_decide, List.length_append]
    exact ⟨fun hh => ⟨List.append_ne_nil_of_right_ne_nil _ (List.cons_ne_nil _ _),
      Int.le_add_of_sub_right_le hh⟩, fun hh => Int.sub_right_le_of_le_add hh.2⟩
  · rw [cnt_congr (fun j _ => v.step_am i s a j), ← hi.free, ← cnt_upd_false ha hm,
      List.length_append]
    exact (Nat.add_assoc _ _ _).symm.trans (Nat.add_right_comm _ _ _)

theorem inv_of_run {i : I} {s : S} {as : List Nat} (h : Run e i (e.reset i) as s) : Inv v i s as :=
  Rl4co.inv_of_run (Inv := Inv v i) (inv_reset v i) (fun s h a hi ha hm => inv_step v i s h a hi ha hm) h

theorem mask_eq_history {i : I} {s : S} {as : List Nat} (h : Run e i (e.reset i) as s) (j : Nat) :
    e.mask i s j = (v.allowed i j && !decide (j ∈ as)) := by
  rw [v.mask_eq]; exact (inv_of_run v h).am j

include v in
theorem not_mem_of_mask {i : I} {s : S} {as : List Nat} (h : Run e i (e.reset i) as s) {a : Nat}
    (hm : e.mask i s a = true) : a ∉ as :=
  (((inv_of_run v h).mask_iff v).mp hm).2

theorem done_iff {i : I} (hq : 1 ≤ v.quota i) {s : S} {as : List Nat}
    (h : Run e i (e.reset i) as s) : e.done i s = true ↔ v.quota i ≤ as.length := by
  rw [(inv_of_run v h).done, decide_eq_true_eq]
  exact ⟨fun hh => hh.2, fun hh => ⟨List.ne_nil_of_length_pos (Int.natCast_pos.mp (Int.le_trans hq hh)), hh⟩⟩

theorem not_done_iff {i : I} (hq : 1 ≤ v.quota i) {s : S} {as : List Nat}
    (h : Run e i (e.reset i) as s) : e.done i s = false ↔ (as.length : Int) < v.quota i := by
  rw [← Bool.not_eq_true, done_iff v hq h, Int.not_le]

include v in
theorem done_stable {i : I} {s : S} {as : List Nat} (h : Run e i (e.reset i) as s) (a : Nat)
    (hd : e.done i s = true) : e.done i (e.step i s a) = true := by
  have hi := inv_of_run v h
  rw [hi.done, decide_eq_true_eq] at hd
  rw [v.step_done, hi.ctr, decide_eq_true_eq]
  exact Int.le_trans (Int.sub_le_self _ (by decide)) hd.2

theorem mask_nonempty {i : I} {s : S} {as : List Nat} (h : Run e i (e.reset i) as s)
    (hlt : as.length < cnt (e.nAct i) (v.allowed i)) :
    ∃ a, a < e.nAct i ∧ e.mask i s a = true := by
  rw [← (inv_of_run v h).free] at hlt
  obtain ⟨a, ha, hm⟩ := cnt_pos.mp (Nat.lt_add_left_iff_pos.mp hlt)
  exact ⟨a, ha, by rw [v.mask_eq]; exact hm⟩

/-- Row `i` of a batch is offered an action as long as a batch-mate `i'` that has made equally many steps is unfinished:
the mate's quota, which the steps made so far stay below, fits into what row `i` offered at reset. -/
theorem mask_nonempty_while_running {i i' : I} (hq' : 1 ≤ v.quota i')
    (hroom : v.quota i' ≤ cnt (e.nAct i) (v.allowed i)) {s s' : S} {as as' : List Nat}
    (h : Run e i (e.reset i) as s) (h' : Run e i' (e.reset i') as' s')
    (hlen : as.length = as'.length) (hrun : e.done i' s' = false) :
    ∃ a, a < e.nAct i ∧ e.mask i s a = true := by
  apply mask_nonempty v h
  rw [hlen]
  exact Int.ofNat_lt.mp (Int.lt_of_lt_of_le ((not_done_iff v hq' h').mp hrun) hroom)

theorem progress {i : I} (hq : 1 ≤ v.quota i) (hroom : v.quota i ≤ cnt (e.nAct i) (v.allowed i))
    {s : S} {as : List Nat} (h : Run e i (e.reset i) as s) (hd : e.done i s = false) :
    ∃ a, a < e.nAct i ∧ e.mask i s a = true :=
  mask_nonempty_while_running v hq hroom h h rfl hd

structure Feasible (i : I) (as : List Nat) : Prop where
  len   : (as.length : Int) = v.quota i
  nodup : as.Nodup
  ok    : ∀ a ∈ as, a < e.nAct i ∧ v.allowed i a = true

theorem exists_feasible {i : I} (hq : 0 ≤ v.quota i)
    (hroom : v.quota i ≤ cnt (e.nAct i) (v.allowed i)) : ∃ as, Feasible v i as := by
  obtain ⟨as, h1, h2, h3⟩ := exists_selection (q := (v.quota i).toNat) (Int.toNat_le.mpr hroom)
  exact ⟨as, by rw [h1]; exact Int.toNat_of_nonneg hq, h2, h3⟩

theorem steps_le {i : I} (hq : 1 ≤ v.quota i) {s : S} {as : List Nat}
    (h : RunND e i (e.reset i) as s) : (as.length : Int) ≤ v.quota i := by
  rcases h.snoc_inv with hnil | ⟨as0, a, s0, has, hr0, hd0, _, _, _⟩
  · rw [hnil]; exact Int.le_trans (by decide) hq
  · have := (not_done_iff v hq hr0.run).mp hd0
    rw [has, List.length_append]
    exact Int.add_one_le_of_lt this

/-- `RunND`, not `Run`: a row stepped after its own `done`, next to a batch-mate with a larger quota, keeps selecting,
and the length clause fails (`Flp.quota_counterexample`). -/
theorem feasible_of_runND {i : I} (hq : 1 ≤ v.quota i) {s : S} {as : List Nat}
    (h : RunND e i (e.reset i) as s) (hd : e.done i s = true) : Feasible v i as := by
  have hi := inv_of_run v h.run
  exact ⟨Int.le_antisymm (steps_le v hq h) ((done_iff v hq h.run).mp hd), hi.nodup, hi.ok⟩

theorem runND_of_prefix {i : I} (hq : 1 ≤ v.quota i) (as : List Nat) :
    (as.length : Int) ≤ v.quota i → as.Nodup → (∀ a ∈ as, a < e.nAct i ∧ v.allowed i a = true) →
    ∃ s, RunND e i (e.reset i) as s := by
  induction as using snoc_ind with
  | nil => intro _ _ _; exact ⟨_, RunND.nil _⟩
  | snoc as a ih =>
    intro hlen hnd hok
    rw [List.length_append] at hlen
    have hnd' := List.nodup_append.mp hnd
    obtain ⟨s, hr⟩ := ih (Int.le_trans (Int.le_add_one (Int.le_refl _)) hlen) hnd'.1
      (fun b hb => hok b (List.mem_append_left _ hb))
    have hoka := hok a (List.mem_append_right _ (List.mem_singleton_self a))
    exact ⟨_, hr.snoc ((not_done_iff v hq hr.run).mpr hlen) hoka.1
      (((inv_of_run v hr.run).mask_iff v).mpr
        ⟨hoka.2, fun hin => hnd'.2.2 a hin a (List.mem_singleton_self a) rfl⟩)⟩

theorem run_of_feasible {i : I} (hq : 1 ≤ v.quota i) (as : List Nat)
    (hlen : (as.length : Int) = v.quota i) (hnd : as.Nodup)
    (hok : ∀ a ∈ as, a < e.nAct i ∧ v.allowed i a = true) :
    ∃ s, RunND e i (e.reset i) as s ∧ e.done i s = true := by
  obtain ⟨s, hr⟩ := runND_of_prefix v hq as (Int.le_of_eq hlen) hnd hok
  exact ⟨s, hr, (done_iff v hq hr.run).mpr (Int.le_of_eq hlen.symm)⟩

theorem complete_iff {i : I} (hq : 1 ≤ v.quota i) (as : List Nat) :
    (∃ s, RunND e i (e.reset i) as s ∧ e.done i s = true) ↔ Feasible v i as :=
  ⟨fun ⟨_, h, hd⟩ => feasible_of_runND v hq h hd, fun hf => run_of_feasible v hq as hf.len hf.nodup hf.ok⟩

/-- **exact well-formedness**: for a positive quota, every unfinished reachable state offers an action
iff the reset mask offers at least `quota` entries.  (⇒: otherwise selecting every offered entry is
a mask-confined run that ends unfinished with an empty mask.) -/
theorem no_dead_end_iff {i : I} (hq : 1 ≤ v.quota i) :
    (∀ as s, Run e i (e.reset i) as s → e.done i s = false → ∃ a, a < e.nAct i ∧ e.mask i s a = true)
      ↔ v.quota i ≤ cnt (e.nAct i) (v.allowed i) := by
  refine ⟨fun h => Classical.byContradiction fun hlt => ?_, fun hc as s hr hd => progress v hq hc hr hd⟩
  obtain ⟨as, hlen, hnd, hok⟩ := exists_selection (n := e.nAct i) (p := v.allowed i) (Nat.le_refl _)
  have hshort : (as.length : Int) < v.quota i := by rw [hlen]; exact Int.not_le.mp hlt
  obtain ⟨s, hr⟩ := runND_of_prefix v hq as (Int.le_of_lt hshort) hnd hok
  obtain ⟨a, ha, hm⟩ := h _ _ hr.run ((not_done_iff v hq hr.run).mpr hshort)
  have hfree := (inv_of_run v hr.run).free
  rw [hlen] at hfree
  have h0 := cnt_eq_zero.mp (Nat.add_right_cancel (hfree.trans (Nat.zero_add _).symm)) a ha
  rw [v.mask_eq, h0] at hm
  exact Bool.false_ne_true hm

/-- two rows with the same quota that were stepped equally often are both done or both not done:
in a batch of equal quotas no row is ever stepped after it finished -/
theorem done_lockstep {i i' : I} (hq : 1 ≤ v.quota i) (hqq : v.quota i = v.quota i')
    {s s' : S} {as as' : List Nat} (h : Run e i (e.reset i) as s) (h' : Run e i' (e.reset i') as' s')
    (hlen : as.length = as'.length) : e.done i s = e.done i' s' := by
  rw [Bool.eq_iff_iff, done_iff v hq h, done_iff v (hqq ▸ hq) h', hqq, hlen]

/-- a row is stepped after it finished only next to a batch-mate with a strictly larger quota -/
theorem padded_only_if_larger_quota {i i' : I} (hq : 1 ≤ v.quota i) (hq' : 1 ≤ v.quota i')
    {s s' : S} {as as' : List Nat} (h : Run e i (e.reset i) as s) (h' : Run e i' (e.reset i') as' s')
    (hlen : as.length = as'.length) (hd : e.done i s = true) (hd' : e.done i' s' = false) :
    v.quota i < v.quota i' := by
  have h1 := (done_iff v hq h).mp hd
  have h2 := (not_done_iff v hq' h').mp hd'
  rw [← hlen] at h2
  exact Int.lt_of_le_of_lt h1 h2

/-! `F` is the specification's feasibility predicate, `reward` the environment's reward of a final state
and `val` the specification's value of a selection; `hrew` is the environment's reward theorem. -/

section Reward
variable {i : I} {F : List Nat → Prop} {reward : S → Int} {val : List Nat → Int}

theorem reward_reachable_iff (hq : 1 ≤ v.quota i) (hF : ∀ as, F as ↔ Feasible v i as)
    (hrew : ∀ as s, Run e i (e.reset i) as s → reward s = val as) (r : Int) :
    (∃ as s, RunND e i (e.reset i) as s ∧ e.done i s = true ∧ reward s = r) ↔
    (∃ as, F as ∧ r = val as) := by
  constructor
  · rintro ⟨as, s, h, hd, hr⟩
    have hf := feasible_of_runND v hq h hd
    exact ⟨as, (hF as).mpr hf, by rw [← hr, hrew as s h.run]⟩
  · rintro ⟨as, hf, hr⟩
    have hf := (hF as).mp hf
    obtain ⟨s, h, hd⟩ := (complete_iff v hq as).mpr hf
    exact ⟨as, s, h, hd, by rw [hr, hrew as s h.run]⟩

end Reward

end Rl4co.Sel
