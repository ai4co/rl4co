/-
FFSP, C05: the schedules reachable through the action mask are exactly the *expressible* schedules
(`Spec.Ffsp.Expressible`).  Here, for `episode_expressible` (`Props/C05/Ffsp.lean`): every finished mask-confined
episode carries an expressible schedule.  The proof follows the sweep: every slot `(t, sub)` the clock has passed is
`Accounted` for — its machine started or was running an operation, no job was available, or the machine was allowed
to stay idle — a statement about the (growing) schedule matrix that is stable under every later step.  No Mathlib.
-/
import Rl4co.Proofs.Ffsp
namespace Rl4co.Ffsp
open Rl4co.Spec.Ffsp

/-- the second clause of `Spec.Ffsp.Expressible`, on a matrix -/
def NoDoubleStart (i : Inst) (σ : Nat → Nat → Int) : Prop :=
  ∀ m j j', j < i.J → j' < i.J → j ≠ j' → σ m j ≠ UNSET → σ m j' ≠ UNSET → σ m j ≠ σ m j'

theorem noDoubleStart_apply (i : Inst) (h : WF i) (hi : PermInj i) (s : State) (c : Core i s) (a : Nat)
    (x : Exact i s s.sub) (n : NoDoubleStart i s.sched) : NoDoubleStart i (apply i s a).sched := by
  intro m j j' hj hj' hne hs hs'
  -- an older entry of the current machine at the current time would sit at an earlier sweep position
  have key : ∀ j'', j'' < i.J → s.sched s.midx j'' ≠ UNSET → s.sched s.midx j'' ≠ (s.time : Int) := by
    intro j'' hj'' hs'' ht
    obtain ⟨sub, h1, _, h3⟩ := x.np s.midx j'' hj'' hs'' ht
    rw [c.midx_eq] at h3
    exact Nat.lt_irrefl _ (machineOf_inj i h hi h3 ▸ h1)
  rcases apply_entry i s a hs with ⟨e1, e2, he⟩ | ⟨he, hs1, _⟩
  · rcases apply_entry i s a hs' with ⟨_, e2', _⟩ | ⟨he', hs2, _⟩
    · exact absurd (e2.trans e2'.symm) hne
    · subst e1; rw [he, he']; exact fun hh => key j' hj' hs2 hh.symm
  · rcases apply_entry i s a hs' with ⟨e1', _, he'⟩ | ⟨he', hs2, _⟩
    · subst e1'; rw [he, he']; exact key j hj hs1
    · rw [he, he']; exact n m j j' hj hj' hne hs1 hs2

/-- job `j` is available at slot `(t, sub)` as far as a partial matrix tells: whatever entry it has in the stage of
the slot sits at a later slot, where `Spec.Ffsp.Avail` and `SigmaOK.expr` ask for such an entry to exist (a complete
valid matrix has exactly one) -/
def AvailM (i : Inst) (σ : Nat → Nat → Int) (j t sub : Nat) : Prop :=
  PrevDone i σ j t sub ∧ ∀ m', m' / i.M = sub / i.M → σ m' j ≠ UNSET → SlotAfter i t sub (σ m' j) m'

def Accounted (i : Inst) (σ : Nat → Nat → Int) (t sub : Nat) : Prop :=
  ¬ IdleM i σ (machineOf i sub) t ∨ (∀ j, j < i.J → ¬ AvailM i σ j t sub) ∨ SkipM i σ (sub / i.M) t

/-- booking at the current slot does not disturb the account of any earlier slot -/
theorem accounted_apply (i : Inst) (h : WF i) (s : State) (l : Live i s) (a : Nat) (hm : s.mask a = true)
    {t sub : Nat} (hbefore : t * MT i + sub < pos i s) (g : Accounted i s.sched t sub) :
    Accounted i (apply i s a).sched t sub := by
  have hstage : s.midx / i.M = s.sub / i.M := by rw [l.core.midx_eq, machineOf_stage h]
  -- entries that were set keep their value
  have hkeep : ∀ m j, j < i.J → s.sched m j ≠ UNSET → (apply i s a).sched m j = s.sched m j := by
    intro m j hj hs
    apply apply_sched_old
    rintro ⟨rfl, rfl⟩
    exact hs (job_action_facts i h s l j hj hm).2.2.2.2.2.2
  -- the new entry is not in a stage before that of the slot at the slot's time
  have hlate : s.midx / i.M + 1 = sub / i.M → (t : Int) < (s.time : Int) := by
    intro hk
    rcases slot_lt l.core.sub_lt hbefore with hlt | ⟨_, hlt⟩
    · exact Int.ofNat_lt.mpr hlt
    · have := Nat.div_le_div_right (c := i.M) (Nat.le_of_lt hlt)
      rw [← hk, hstage] at this
      exact absurd this (Nat.not_succ_le_self _)
  rcases g with hbusy | hna | ⟨hk, j', hj', hsk⟩
  · refine Or.inl fun hI => hbusy fun j hj hs => ?_
    have := hI j hj (by rw [hkeep _ j hj hs]; exact hs)
    rwa [hkeep _ j hj hs] at this
  · refine Or.inr (Or.inl ?_)
    intro j hj hav
    apply hna j hj
    obtain ⟨a1, a2⟩ := hav
    constructor
    · rcases a1 with a1 | ⟨m', hmT, b1, b2, b3⟩
      · exact Or.inl a1
      · rcases apply_entry i s a b2 with ⟨e1, _, he⟩ | ⟨he, b2', _⟩
        · rw [he] at b3
          have := lt_add_natCast (hlate (e1 ▸ b1)) (i.dur j m')
          exact absurd b3 (Int.not_le.mpr this)
        · rw [he] at b3
          exact Or.inr ⟨m', hmT, b1, b2', b3⟩
    · intro m' hm' hset
      have := a2 m' hm' (by rw [hkeep m' j hj hset]; exact hset)
      rw [hkeep m' j hj hset] at this; exact this
  · refine Or.inr (Or.inr ⟨hk, j', hj', ?_⟩)
    intro m' hmT hm' hset
    rcases apply_entry i s a hset with ⟨e1, _, he⟩ | ⟨he, hset', _⟩
    · rw [he]; exact lt_add_natCast (hlate (e1 ▸ hm')) _
    · rw [he]; exact hsk m' hmT hm' hset'

theorem accounted_wait (i : Inst) (s : State) (l : Live i s) (hd : s.done = false) (jx : JExact i s)
    (hm : s.mask i.J = true) : Accounted i (apply i s i.J).sched s.time s.sub := by
  refine Or.inr (Or.inr ?_)
  rcases (mask_wait_iff i s l.fresh hd).mp hm with ⟨j, hj, hlt⟩ | ⟨j, hj, hloc, hpos⟩
  · -- a job in an earlier stage has no operation in the stage before this one yet
    refine ⟨Nat.lt_of_le_of_lt (Nat.zero_le _) hlt, j, hj, fun m' _ hm' hset => ?_⟩
    rw [apply_wait_sched i s m' hj] at hset
    have := (l.core.set_stage m' j hj hset).2
    exact absurd (Nat.lt_of_lt_of_le hlt (Nat.le_of_eq hm'.symm)) (Nat.not_lt.mpr this)
  · -- a job of this stage whose previous operation is still running
    obtain ⟨h1, h2⟩ := running_job i l.core jx hj hpos
    refine ⟨Nat.le_trans h1 (Nat.le_of_eq hloc), j, hj, fun m' _ hm' hset => ?_⟩
    rw [apply_wait_sched i s m' hj] at hset ⊢
    exact h2 m' (hm'.trans hloc.symm) hset

theorem accounted_nonready (i : Inst) (h : WF i) (hi : PermInj i) (y : State) (c : Core i y)
    (x : Exact i y y.sub) (hr : ready i y = false) : Accounted i y.sched y.time y.sub := by
  have hmid : y.midx = machineOf i y.sub := c.midx_eq
  by_cases hmw : y.mwait y.midx = 0
  · -- the machine is idle, so no job is ready: no job is available at this slot
    refine Or.inr (Or.inl ?_)
    intro j hj hav
    obtain ⟨a1, a2⟩ := hav
    have hnone : ∀ m', m' / i.M = y.sub / i.M → y.sched m' j = UNSET := by
      intro m' hm'
      apply Classical.byContradiction; intro hset
      rcases a2 m' hm' hset with hlt | ⟨heq, sub', _, hlt, hm2⟩
      · exact absurd (c.start_rng m' j hj hset).2 (Int.not_le.mpr hlt)
      · obtain ⟨sub'', h1, _, h3⟩ := x.np m' j hj hset heq
        rw [h3] at hm2
        exact Nat.lt_asymm hlt (machineOf_inj i h hi hm2 ▸ h1)
    have hle : y.jloc j ≤ y.sub / i.M := by
      apply Classical.byContradiction; intro hgt
      obtain ⟨m', h1, h2⟩ := c.stage_has j (y.sub / i.M) hj (Nat.lt_of_not_le hgt)
      exact h2 (hnone m' h1)
    have hloc : y.jloc j = y.sub / i.M ∧ y.jwait j = 0 := by
      rcases a1 with hk0 | ⟨m', _, b1, b2, b3⟩
      · refine ⟨Nat.le_antisymm hle (hk0 ▸ Nat.zero_le _), Nat.eq_zero_of_not_pos fun hpos => ?_⟩
        have := (running_job i c x.jx hj hpos).1
        rw [hk0] at hle
        exact absurd (Nat.le_trans this hle) (Nat.not_succ_le_zero _)
      · have hst := (c.set_stage m' j hj b2).2
        have hloc : y.jloc j = y.sub / i.M := Nat.le_antisymm hle (b1 ▸ hst)
        refine ⟨hloc, Nat.eq_zero_of_not_pos fun hpos => ?_⟩
        have := (running_job i c x.jx hj hpos).2 m' (b1.trans hloc.symm) b2
        exact absurd b3 (Int.not_le.mpr this)
    rw [(ready_iff i y).mpr ⟨hmw, j, hj, hloc.1, hloc.2⟩] at hr
    cases hr
  · -- the machine is busy: an operation covers the current time
    have hpos := Nat.pos_of_ne_zero hmw
    obtain ⟨j, hj, hs, he⟩ := x.mx y.midx hpos
    rw [hmid] at hs he hpos
    refine Or.inl fun hI => hI j hj hs (Or.inr ⟨(c.start_rng _ j hj hs).2, ?_⟩)
    rw [he]; exact Int.lt_add_of_pos_right _ (Int.natCast_pos.mpr hpos)

/-- invariant of an unfinished row at a decision state: every slot the clock has passed is accounted for -/
def Hist (i : Inst) (s : State) : Prop :=
  NoDoubleStart i s.sched ∧ Upto i (pos i s) (Accounted i s.sched)

/-- inside `_move_to_next_machine`, before the loop body runs: the slot the clock stands on is accounted
for as well -/
def HistBefore (i : Inst) (x : State) : Prop :=
  NoDoubleStart i x.sched ∧ Upto i (pos i x + 1) (Accounted i x.sched)

theorem hist_advance (i : Inst) (x : State) (hx : HistBefore i x) : Hist i (advance i x) :=
  ⟨hx.1, by rw [pos_advance]; exact hx.2⟩

theorem hist_nonready (i : Inst) (h : WF i) (hi : PermInj i) (y : State) (c : Core i y) (e : Exact i y y.sub)
    (hy : Hist i y) (hr : ready i y = false) : HistBefore i y :=
  ⟨hy.1, upto_succ c.sub_lt hy.2 (accounted_nonready i h hi y c e hr)⟩

theorem hist_apply (i : Inst) (h : WF i) (hi : PermInj i) (s : State) (l : Live i s)
    (hd : s.done = false) (e : Exact i s s.sub) (hs : Hist i s) (a : Nat) (ha : a < i.J + 1)
    (hm : s.mask a = true) : HistBefore i (apply i s a) := by
  refine ⟨noDoubleStart_apply i h hi s l.core a e hs.1, upto_succ (s := apply i s a) l.core.sub_lt ?_ ?_⟩
  · exact fun t sub _ hlt => accounted_apply i h s l a hm hlt (hs.2 t sub ‹_› hlt)
  · rcases Nat.lt_succ_iff_lt_or_eq.mp ha with haJ | rfl
    · have hv : (apply i s a).sched (machineOf i s.sub) a = (s.time : Int) :=
        l.core.midx_eq ▸ apply_sched_new i s a
      exact Or.inl fun hI => hI a haJ (hv ▸ natCast_ne_unset _) (Or.inl hv)
    · exact accounted_wait i s l hd e.jx hm

theorem hist_of_reach (i : Inst) (h : WF i) (hi : PermInj i) {s : State} (hr : Reach envM i s) :
    Live i s ∧ (s.done = false → Exact i s s.sub ∧ Hist i s) :=
  unfinished_induct i h
    ⟨fun _ _ _ _ _ _ hs => absurd rfl hs, upto_reset i _⟩
    (fun s a l hd e hs ha hm _ => hist_apply i h hi s l hd e hs a ha hm)
    (fun x _ _ _ => hist_advance i x) (fun y c _ => hist_nonready i h hi y c) (fun _ p => p) hr

theorem expressible_final (i : Inst) (h : WF i) (hi : PermInj i) (x : State) (c : Core i x)
    (a : Exact i x (x.sub + 1)) (hx : HistBefore i x) : Expressible i (ofMatrix i x.sched) := by
  obtain ⟨nd, hp⟩ := hx
  constructor
  · intro t _ sub hsub hidle ⟨j, hj, hav⟩
    rw [idle_ofMatrix i _ (machineOf_lt h hsub)] at hidle
    obtain ⟨hprev, m0, _, hst0, hs0, hafter⟩ := (avail_ofMatrix i _ hj t sub).mp hav
    rw [skipOK_ofMatrix]
    by_cases hlt : t * MT i + sub < pos i x + 1
    · rcases hp t sub hsub hlt with hbusy | hna | hskip
      · exact absurd hidle hbusy
      · refine absurd ⟨hprev, fun m' hm' hset => ?_⟩ (hna j hj)
        rw [← c.stage_uniq j m0 m' hj hs0 hset (hst0.trans hm'.symm)]
        exact hafter
      · exact hskip
    · -- a slot the clock has not reached has no available job: every entry sits at a slot the sweep has dealt with
      exfalso
      have hle := (c.start_rng m0 j hj hs0).2
      have hpos := slot_lt (sub := x.sub) hsub (Nat.lt_of_succ_le (Nat.le_of_not_lt hlt))
      rcases hafter with hl | ⟨he, sub', _, h2, h3⟩
      · have : x.time ≤ t := by rcases hpos with hp' | ⟨hp', _⟩; exact Nat.le_of_lt hp'; exact Nat.le_of_eq hp'
        exact absurd (Int.le_trans hle (Int.ofNat_le.mpr this)) (Int.not_le.mpr hl)
      · rw [he] at hle
        rcases hpos with hp' | ⟨hp', hsub'⟩
        · exact absurd (Int.ofNat_le.mp hle) (Nat.not_le_of_lt hp')
        · obtain ⟨sub'', g1, _, g3⟩ := a.np m0 j hj hs0 (by rw [he, hp'])
          rw [h3] at g3
          have hle : sub' ≤ x.sub := by rw [machineOf_inj i h hi g3]; exact Nat.le_of_lt_succ g1
          exact Nat.lt_irrefl _ (Nat.lt_of_lt_of_le (Nat.lt_trans hsub' h2) hle)
  · intro o ho o' ho' hne hmm
    obtain ⟨_, hoJ, hos, hov⟩ := (mem_ofMatrix i x.sched o).mp ho
    obtain ⟨_, hoJ', hos', hov'⟩ := (mem_ofMatrix i x.sched o').mp ho'
    have hj : o.job ≠ o'.job := fun hjj => hne (op_eq_of_mem ho ho' hjj hmm)
    rw [hov, hov', ← hmm]
    rw [← hmm] at hos'
    exact nd o.machine o.job o'.job hoJ hoJ' hj hos hos'

end Rl4co.Ffsp
