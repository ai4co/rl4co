/-
Helper lemmas for the job-shop family — the dynamics.  A stuck unfinished state has a busy machine, so
`_transit_to_next_time` has a next event, keeps `Inv` and frees a machine (`transit_of_stuck`); hence the
`while step_complete` loop comes to rest within the model's fuel and has one induction rule (`autoTransit_induct`).
A step is that loop applied to the state `pre` (`step_eq_pre`), which on an admitted action is a wait's transit or
a dispatch (`pre_cases`); so reachable states keep `Inv2`, and state properties are proved along dispatch and
transit (`reach_induct`).
Words used below: a state is *stuck* if `stepComplete i s = true` (unfinished and the mask offers nothing, the
wait included), *at rest* otherwise (every finished state is at rest); an action is *open* if the mask offers it.
Stuck states occur only inside `step`, they are not `Reach` states: facts about the loop are stated over `Inv`.
The equations here are about `step`, `mask`, `nAct`; a goal that mentions `env.step i s a` (as those coming from
`Run` / `Reach` do) agrees by `rfl`, but `rw` needs `show … (step i s a) …` or `simp only [env]` first.
No Mathlib.
-/
import Rl4co.Proofs.Fjsp
import Rl4co.Proofs.FjspWhile
import Rl4co.Core.Lists
namespace Rl4co.Fjsp
open Rl4co.Spec.Fjsp (isReal opOf)

/-- the action that schedules job `j` (on machine `m`) -/
def actOf (i : Inst) (j m : Nat) : Nat := (if i.jssp then j else j * i.M + m) + 1

theorem actOf_ne_zero (i : Inst) (j m : Nat) : actOf i j m ≠ 0 := Nat.succ_ne_zero _

theorem actOf_pred (i : Inst) (j m : Nat) : actOf i j m - 1 = if i.jssp then j else j * i.M + m :=
  Nat.add_sub_cancel ..

theorem nAct_pos (i : Inst) : 0 < nAct i := by
  unfold nAct; split <;> exact Nat.lt_add_right _ Nat.one_pos

theorem actOf_lt {i : Inst} {j m : Nat} (hj : j < i.J) (hm : m < i.M) : actOf i j m < nAct i := by
  unfold actOf nAct
  split
  · rw [Nat.add_comm 1]; exact Nat.add_lt_add_right hj 1
  · rw [Nat.add_comm 1]; exact Nat.add_lt_add_right (idx_lt hj hm) 1

theorem mask_actOf {i : Inst} {s : State} {j m : Nat} (h : Selectable i s j m) : mask i s (actOf i j m) = true := by
  simp only [mask, actOf_ne_zero, if_false, actOf_pred]
  cases hjs : i.jssp with
  | true => exact anyUpTo_iff.mpr ⟨m, h.hm, avail_of_sel h⟩
  | false =>
    simp only [Bool.false_eq_true, if_false, idx_div h.hm, idx_mod h.hm]
    exact avail_of_sel h

theorem stepComplete_iff {i : Inst} {s : State} :
    stepComplete i s = true ↔ (anyMask i s = false ∧ s.done = false) := by
  simp only [stepComplete, Bool.and_eq_true, Bool.not_eq_true']

theorem exists_act_of_rest {i : Inst} {s : State} (hsc : stepComplete i s = false) (hd : s.done = false) :
    ∃ a, a < nAct i ∧ mask i s a = true := by
  apply anyUpTo_iff.mp
  cases h : anyMask i s with
  | true => exact h
  | false => rw [stepComplete_iff.mpr ⟨h, hd⟩] at hsc; cases hsc

theorem not_sel_of_stuck {i : Inst} {s : State} (hsc : stepComplete i s = true) {j m : Nat} :
    ¬ Selectable i s j m := fun h => by
  have hm := anyUpTo_eq_false.mp (stepComplete_iff.mp hsc).1 _ (actOf_lt h.hj h.hm)
  rw [mask_actOf h] at hm; cases hm

theorem exists_busy_of_stepComplete {i : Inst} (hwf : WF i) {s : State} (hinv : Inv i s)
    (hsc : stepComplete i s = true) : ∃ m, m < i.M ∧ s.time < s.busy m := by
  obtain ⟨j, hj, hjd⟩ := hinv.exists_not_jobDone (stepComplete_iff.mp hsc).2
  cases hip : s.inProc j with
  | true => exact busy_of_inProc hinv hip
  | false =>
    -- an idle unfinished job: its next operation has an eligible machine, which must be busy
    have hr := hinv.nextRng j hj
    obtain ⟨m, hm, hpos⟩ := hwf.elig j hj _ hr.1 hr.2
    exact ⟨m, hm, Int.not_le.mp fun hidle =>
      not_sel_of_stuck hsc (hinv.sel_of_next hj hm ((hinv.unsched_next_iff hj).mpr ⟨hip, hjd⟩) hidle hpos)⟩

def cntBusy (i : Inst) (s : State) : Nat := cnt i.M (fun m => decide (s.time < s.busy m))

theorem cntBusy_lt_fuel (i : Inst) (s : State) : cntBusy i s < fuel i :=
  Nat.lt_succ_of_le (cnt_le _ _)

theorem transit_frame (i : Inst) (s : State) :
    (transit i s).busy = s.busy ∧ (transit i s).sched = s.sched ∧ (transit i s).start = s.start ∧
    (transit i s).finish = s.finish ∧ (transit i s).assign = s.assign ∧ (transit i s).proc = s.proc := by
  unfold transit advance
  split <;> exact ⟨rfl, rfl, rfl, rfl, rfl, rfl⟩

theorem transit_time {i : Inst} {s : State} {t' : Int} (h : nextTime i.M s.busy s.time = some t') :
    (transit i s).time = t' := by
  rw [transit, advance_some h]; rfl

theorem cntBusy_transit_lt {i : Inst} {s : State} {t' : Int}
    (h : nextTime i.M s.busy s.time = some t') : cntBusy i (transit i s) < cntBusy i s := by
  obtain ⟨hlt, ⟨m0, hm0, hb0⟩, _⟩ := nextTime_some h
  unfold cntBusy
  rw [(transit_frame i s).1, transit_time h]
  apply cnt_lt_of_imp (k := m0) _ hm0
  · simp; omega
  · simp; omega
  · intro m _ hq; simp at hq ⊢; omega

theorem cntBusy_reset (i : Inst) : cntBusy i (reset i) = 0 :=
  cnt_eq_zero.mpr fun _ _ => rfl

theorem cntBusy_makeStepAt {i : Inst} (hwf : WF i) {s : State} (hinv : Inv i s) {j m : Nat}
    (h : Selectable i s j m) : cntBusy i (makeStepAt s j (s.nextOp j) m) = cntBusy i s + 1 := by
  obtain ⟨_, hpe, hpos, _⟩ := sel_facts hwf hinv h
  have : (fun m' => decide ((makeStepAt s j (s.nextOp j) m).time < (makeStepAt s j (s.nextOp j) m).busy m')) =
      upd (fun m' => decide (s.time < s.busy m')) m true := by
    funext m'
    simp only [makeStepAt_frame, upd_apply]
    by_cases hm : m' = m
    · simp [hm]; omega
    · simp [hm]
  unfold cntBusy
  rw [this]
  exact cnt_upd_true h.hm (decide_eq_false (Int.not_lt.mpr h.idle))

theorem transit_of_stuck {i : Inst} (hwf : WF i) {s : State} (hinv : Inv i s) (hsc : stepComplete i s = true) :
    ∃ t', nextTime i.M s.busy s.time = some t' ∧ Inv i (transit i s) ∧ cntBusy i (transit i s) < cntBusy i s := by
  obtain ⟨m, hm, hb⟩ := exists_busy_of_stepComplete hwf hinv hsc
  obtain ⟨t', ht'⟩ := nextTime_isSome hm hb
  exact ⟨t', ht', inv_transit hinv ht', cntBusy_transit_lt ht'⟩

theorem autoTransit_eq_sWhile (i : Inst) : ∀ f s, autoTransit i f s = sWhile (stepComplete i) (transit i) f s := by
  intro f
  induction f with
  | zero => intro s; rfl
  | succ f ih => intro s; rw [autoTransit, sWhile, ih]

/-- iterations of `while step_complete.any()` for one row -/
def autoCount (i : Inst) : Nat → State → Nat
  | 0, _ => 0
  | f + 1, s => if stepComplete i s then 1 + autoCount i f (transit i s) else 0

/-- **Induction along the `while step_complete` loop**: what every `_transit_to_next_time` out of a
stuck state preserves holds after the loop, which moreover keeps the invariant and comes to rest —
each iteration frees a machine, so `f` iterations suffice when fewer than `f` machines are busy.  `P` may count the
iterations. -/
theorem autoTransit_induct {i : Inst} (hwf : WF i) {P : Nat → State → Prop}
    (htr : ∀ s n t', Inv i s → stepComplete i s = true → nextTime i.M s.busy s.time = some t' →
      P n s → P (n + 1) (transit i s)) (f : Nat) (s : State) (hinv : Inv i s) (hlt : cntBusy i s < f) (hp : P 0 s) :
    P (autoCount i f s) (autoTransit i f s) ∧ Inv i (autoTransit i f s) ∧
      stepComplete i (autoTransit i f s) = false := by
  have key : ∀ f n s, Inv i s → cntBusy i s < f → P n s →
      P (n + autoCount i f s) (autoTransit i f s) ∧ Inv i (autoTransit i f s) ∧
        stepComplete i (autoTransit i f s) = false := by
    intro f
    induction f with
    | zero => intro n s _ h; exact absurd h (Nat.not_lt_zero _)
    | succ f ih =>
      intro n s hinv hlt hp
      simp only [autoTransit, autoCount]
      cases hsc : stepComplete i s with
      | false => exact ⟨hp, hinv, hsc⟩
      | true =>
        obtain ⟨t', ht', hinv', hlt'⟩ := transit_of_stuck hwf hinv hsc
        rw [if_pos rfl, if_pos rfl, ← Nat.add_assoc]
        exact ih _ _ hinv' (Nat.lt_of_lt_of_le hlt' (Nat.le_of_lt_succ hlt)) (htr s n t' hinv hsc ht' hp)
  simpa using key f 0 s hinv hlt hp

/-- invariant of reachable states: `Inv`, and the state is at rest (finished, or some action open — the wait counts) -/
def Inv2 (i : Inst) (s : State) : Prop := Inv i s ∧ stepComplete i s = false

theorem inv2_autoTransit {i : Inst} (hwf : WF i) {s : State} (hinv : Inv i s) :
    Inv2 i (autoTransit i (fuel i) s) :=
  (autoTransit_induct hwf (P := fun _ _ => True) (fun _ _ _ _ _ _ _ => trivial) (fuel i) s hinv
    (cntBusy_lt_fuel i s) trivial).2

theorem autoTransit_preserves {i : Inst} (hwf : WF i) {P : State → Prop}
    (htr : ∀ s t', Inv i s → stepComplete i s = true → nextTime i.M s.busy s.time = some t' →
      P s → P (transit i s)) {s : State} (hinv : Inv i s) (hp : P s) : P (autoTransit i (fuel i) s) :=
  (autoTransit_induct hwf (P := fun _ => P) (fun s _ t' => htr s t') (fuel i) s hinv (cntBusy_lt_fuel i s) hp).1

/-- **the fuel of the model's loop is never exhausted** (so the code's unbounded `while` terminates) -/
theorem transit_fuel_enough {i : Inst} (hwf : WF i) {s : State} (hinv : Inv i s) :
    stepComplete i (autoTransit i (fuel i) s) = false :=
  (inv2_autoTransit hwf hinv).2

theorem findMa_spec {M : Nat} {p : Nat → Int} (h : ∃ m, m < M ∧ 0 < p m) :
    findMa M p < M ∧ 0 < p (findMa M p) := by
  induction M with
  | zero => obtain ⟨m, hm, _⟩ := h; omega
  | succ M ih =>
    simp only [findMa]
    cases ha : anyUpTo M (fun k => decide (p k > 0)) with
    | true =>
      simp only [if_true]
      obtain ⟨m, hm, hp⟩ := anyUpTo_iff.mp ha
      have := ih ⟨m, hm, by simpa using hp⟩
      exact ⟨by omega, this.2⟩
    | false =>
      simp only [Bool.false_eq_true, if_false]
      obtain ⟨m, hm, hp⟩ := h
      by_cases hmM : m = M
      · subst hmM; exact ⟨by omega, hp⟩
      · have := anyUpTo_eq_false.mp ha m (by omega)
        simp at this; omega

theorem findMa_congr {M : Nat} {f g : Nat → Int} (h : ∀ m, m < M → f m = g m) : findMa M f = findMa M g := by
  induction M with
  | zero => rfl
  | succ M ih =>
    rw [findMa, findMa, ih fun m hm => h m (Nat.lt_succ_of_lt hm),
      anyUpTo_congr fun k hk => by rw [h k (Nat.lt_succ_of_lt hk)]]

/-- `_translate_action` on the action of a selected pair: the job, its next operation, that machine
(JSSP: the machine found is the only eligible one) -/
theorem translate_actOf {i : Inst} (hwf : WF i) {s : State} (hinv : Inv i s) {j m : Nat}
    (hsel : Selectable i s j m) : translate i s (actOf i j m - 1) = (j, s.nextOp j, m) := by
  have hm := hsel.hm
  cases hjs : i.jssp with
  | true =>
    have hj1 : actOf i j m - 1 = j := by rw [actOf_pred, hjs, if_pos rfl]
    obtain ⟨hns, hpe, hpos, _⟩ := sel_facts hwf hinv hsel
    have hr := hinv.nextRng j hsel.hj
    have hpm : ∀ m', s.proc m' (s.nextOp j) = i.proc m' (s.nextOp j) := fun m' => by
      rw [hinv.procEq, hns, if_neg Bool.false_ne_true]
    obtain ⟨hf1, hf2⟩ := findMa_spec (M := i.M) (p := fun m' => s.proc m' (s.nextOp j))
      ⟨m, hm, by rw [hpm]; exact hpos⟩
    rw [hpm] at hf2
    have heq := hwf.uniq hjs j hsel.hj _ hr.1 hr.2 _ _ hf1 hm hf2 hpos
    simp only [translate_eq, hjs, if_true, hj1, heq]
  | false =>
    have hj1 : actOf i j m - 1 = j * i.M + m := by rw [actOf_pred, hjs, if_neg Bool.false_ne_true]
    simp only [translate_eq, hjs, Bool.false_eq_true, if_false, hj1, idx_div hm, idx_mod hm]

theorem makeStep_actOf {i : Inst} (hwf : WF i) {s : State} (hinv : Inv i s) {j m : Nat}
    (hsel : Selectable i s j m) : makeStep i s (actOf i j m - 1) = makeStepAt s j (s.nextOp j) m := by
  unfold makeStep; rw [translate_actOf hwf hinv hsel]

theorem sel_of_mask {i : Inst} {s : State} {a : Nat} (ha0 : a ≠ 0) (ha : a < nAct i)
    (hm : mask i s a = true) : ∃ j m, Selectable i s j m ∧ a = actOf i j m := by
  obtain ⟨k, rfl⟩ := Nat.exists_eq_succ_of_ne_zero ha0
  simp only [mask, Nat.succ_ne_zero, if_false, Nat.succ_sub_one] at hm
  cases hjs : i.jssp with
  | true =>
    simp only [nAct, hjs, if_true] at ha
    simp only [hjs, if_true] at hm
    obtain ⟨m, hmM, hav⟩ := anyUpTo_iff.mp hm
    exact ⟨k, m, sel_of_avail (by omega) hmM hav, by simp only [actOf, hjs, if_true]⟩
  | false =>
    simp only [nAct, hjs, Bool.false_eq_true, if_false] at ha
    simp only [hjs, Bool.false_eq_true, if_false] at hm
    have hk : k < i.M * i.J := by rw [Nat.mul_comm]; omega
    have hM : 0 < i.M := Nat.pos_of_ne_zero fun h0 => by rw [h0, Nat.zero_mul] at hk; cases hk
    refine ⟨_, _, sel_of_avail (Nat.div_lt_of_lt_mul hk) (Nat.mod_lt _ hM) hm, ?_⟩
    simp only [actOf, hjs, Bool.false_eq_true, if_false, Nat.div_add_mod']

theorem mask_iff_sel {i : Inst} {s : State} {a : Nat} (ha0 : a ≠ 0) (ha : a < nAct i) :
    mask i s a = true ↔ ∃ j m, Selectable i s j m ∧ a = actOf i j m :=
  ⟨sel_of_mask ha0 ha, fun ⟨_, _, h, e⟩ => e ▸ mask_actOf h⟩

/-- the wait action of an unfinished row is open iff waiting is not masked and some job is in process -/
theorem mask_wait_iff {i : Inst} {s : State} (hd : s.done = false) :
    mask i s 0 = true ↔ i.maskNoOps = false ∧ ∃ j, j < i.J ∧ s.inProc j = true := by
  simp only [mask, if_true, noOpMask_eq]
  cases hmn : i.maskNoOps <;> simp [hd, anyUpTo_iff]

theorem wait_busy {i : Inst} {s : State} (hinv : Inv i s) (hnd : s.done = false)
    (hm : mask i s 0 = true) : i.maskNoOps = false ∧ ∃ t', nextTime i.M s.busy s.time = some t' := by
  obtain ⟨hmno, j, _, hip⟩ := (mask_wait_iff hnd).mp hm
  obtain ⟨m, hmM, hb⟩ := busy_of_inProc hinv hip
  exact ⟨hmno, nextTime_isSome hmM hb⟩

theorem mask_wait {i : Inst} {s : State} (hmno : i.maskNoOps = false) (hd : s.done = false) {j : Nat}
    (hj : j < i.J) (hip : s.inProc j = true) : mask i s 0 = true :=
  (mask_wait_iff hd).mpr ⟨hmno, j, hj, hip⟩

theorem step_of_done {i : Inst} {s : State} (hd : s.done = true) (a : Nat) : step i s a = s := by
  rw [step_eq, hd, if_pos rfl]

theorem step_wait {i : Inst} {s : State} (hd : s.done = false) :
    step i s 0 = autoTransit i (fuel i) (transit i s) := by
  rw [step_eq, hd, if_neg Bool.false_ne_true, if_pos rfl]

theorem step_actOf {i : Inst} (hwf : WF i) {s : State} (hinv : Inv i s) (hd : s.done = false) {j m : Nat}
    (hsel : Selectable i s j m) :
    step i s (actOf i j m) = autoTransit i (fuel i) (makeStepAt s j (s.nextOp j) m) := by
  rw [step_eq, hd, if_neg Bool.false_ne_true, if_neg (actOf_ne_zero i j m), makeStep_actOf hwf hinv hsel]

theorem inv2_reset {i : Inst} (hwf : WF i) : Inv2 i (reset i) := by
  -- a stuck state has a machine busy beyond the clock; at reset none is
  refine ⟨inv_reset hwf, Bool.eq_false_iff.mpr fun hsc => ?_⟩
  obtain ⟨m, _, hb⟩ := exists_busy_of_stepComplete hwf (inv_reset hwf) hsc
  exact Int.lt_irrefl 0 hb

/-- the state `_step` hands to the time-advance loop -/
def pre (i : Inst) (s : State) (a : Nat) : State :=
  if s.done then s else if a = 0 then transit i s else makeStep i s (a - 1)

theorem step_eq_pre (i : Inst) (s : State) (a : Nat) : step i s a = autoTransit i (fuel i) (pre i s a) := by
  rw [step_eq, pre]
  cases hd : s.done with
  | true =>
    have : stepComplete i s = false := by simp [stepComplete, hd]
    simp [fuel, autoTransit, this]
  | false =>
    simp only [Bool.false_eq_true, if_false]
    split <;> rfl

theorem pre_of_done {i : Inst} {s : State} (hd : s.done = true) (a : Nat) : pre i s a = s := by
  rw [pre, hd, if_pos rfl]

theorem pre_of_not_done {i : Inst} {s : State} (hd : s.done = false) (a : Nat) :
    pre i s a = if a = 0 then transit i s else makeStep i s (a - 1) := by
  rw [pre, hd, if_neg Bool.false_ne_true]

/-- **The shape of `_step`** on an admitted action in an unfinished state (with `step_eq_pre`): an open wait is
`_transit_to_next_time` (the clock does advance), a scheduling action is `actOf i j m` for a selected
pair and dispatches the job's next operation; the time-advance loop follows. -/
theorem pre_cases {i : Inst} (hwf : WF i) {s : State} (hinv : Inv i s) (hd : s.done = false) {a : Nat}
    (ha : a < nAct i) (hm : mask i s a = true) :
    (a = 0 ∧ i.maskNoOps = false ∧ ∃ t', nextTime i.M s.busy s.time = some t' ∧ pre i s a = transit i s) ∨
    (∃ j m, Selectable i s j m ∧ a = actOf i j m ∧ pre i s a = makeStepAt s j (s.nextOp j) m) := by
  rw [pre_of_not_done hd]
  by_cases ha0 : a = 0
  · subst ha0
    obtain ⟨hmno, t', ht'⟩ := wait_busy hinv hd hm
    exact Or.inl ⟨rfl, hmno, t', ht', rfl⟩
  · obtain ⟨j, m, hsel, rfl⟩ := sel_of_mask ha0 ha hm
    exact Or.inr ⟨j, m, hsel, rfl, by rw [if_neg ha0, makeStep_actOf hwf hinv hsel]⟩

theorem inv_pre {i : Inst} (hwf : WF i) {s : State} (hinv : Inv i s) {a : Nat} (ha : a < nAct i)
    (hm : mask i s a = true) : Inv i (pre i s a) := by
  cases hd : s.done with
  | true => rw [pre_of_done hd]; exact hinv
  | false =>
    rcases pre_cases hwf hinv hd ha hm with ⟨_, _, t', ht', he⟩ | ⟨j, m, hsel, _, he⟩
    · rw [he]; exact inv_transit hinv ht'
    · rw [he]; exact inv_makeStepAt hwf hinv hsel

theorem inv2_step {i : Inst} (hwf : WF i) {s : State} (h : Inv2 i s) {a : Nat} (ha : a < nAct i)
    (hm : mask i s a = true) : Inv2 i (step i s a) :=
  step_eq_pre i s a ▸ inv2_autoTransit hwf (inv_pre hwf h.1 ha hm)

theorem inv2_of_reach {i : Inst} (hwf : WF i) {s : State} (h : Reach env i s) : Inv2 i s :=
  inv_of_reach (e := env) (Inv := Inv2 i) (inv2_reset hwf)
    (fun _ _ hi ha hm => inv2_step hwf hi ha hm) h

/-- **Induction over reachable states along the structure of `_step`**: a property that holds at reset
and is preserved by `_make_step` on a selected (job, machine) pair and by `_transit_to_next_time`
(entered either because the state is stuck, or by an admitted wait action) holds in every reachable state. -/
theorem reach_induct {i : Inst} (hwf : WF i) (P : State → Prop) (h0 : P (reset i))
    (hmake : ∀ s j m, Inv i s → P s → s.done = false → Selectable i s j m → P (makeStepAt s j (s.nextOp j) m))
    (htrans : ∀ s t', Inv i s → P s → s.done = false → nextTime i.M s.busy s.time = some t' →
      (stepComplete i s = true ∨ (i.maskNoOps = false ∧ mask i s 0 = true)) → P (transit i s)) :
    ∀ s, Reach env i s → P s := by
  have hloop : ∀ s, Inv i s → P s → P (autoTransit i (fuel i) s) := fun s hinv hp =>
    autoTransit_preserves hwf
      (fun s t' hinv hsc ht' hp => htrans s t' hinv hp (stepComplete_iff.mp hsc).2 ht' (Or.inl hsc)) hinv hp
  intro s hr
  refine (inv_of_reach (e := env) (Inv := fun s => Inv2 i s ∧ P s) ⟨inv2_reset hwf, h0⟩ ?_ hr).2
  intro s a ⟨h2, hp⟩ ha hm
  refine ⟨inv2_step hwf h2 ha hm, ?_⟩
  show P (step i s a)
  rw [step_eq_pre]
  refine hloop _ (inv_pre hwf h2.1 ha hm) ?_
  cases hd : s.done with
  | true => rw [pre_of_done hd]; exact hp
  | false =>
    rcases pre_cases hwf h2.1 hd ha hm with ⟨rfl, hmno, t', ht', he⟩ | ⟨j, m, hsel, _, he⟩
    · rw [he]; exact htrans s t' h2.1 hp hd ht' (Or.inr ⟨hmno, hm⟩)
    · rw [he]; exact hmake s j m h2.1 hp hd hsel

/-- the fillers of `_reset` stay on every unscheduled operation -/
theorem filler_of_reach {i : Inst} (hwf : WF i) :
    ∀ s, Reach env i s → ∀ o, s.sched o = false → s.finish o = initFinish ∧ s.start o = 0 := by
  apply reach_induct hwf (fun s => ∀ o, s.sched o = false → s.finish o = initFinish ∧ s.start o = 0)
  · intro o _; exact ⟨rfl, rfl⟩
  · intro s j m _ hp _ _ o hs
    by_cases ho : o = s.nextOp j
    · simp [ho, makeStepAt_self] at hs
    · simp only [makeStepAt_other s j _ m ho] at hs ⊢; exact hp o hs
  · intro s t' _ hp _ ht' _
    rw [transit, advance_some ht']; exact hp

end Rl4co.Fjsp
