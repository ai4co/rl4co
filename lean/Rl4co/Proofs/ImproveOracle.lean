/-
The walk from node 0 as the notion behind the executable oracles and checkers: a successor array is a tour iff that walk
enumerates `0..n-1` (`isTour_iff_walk`); hence the run-time oracle `isTourB` decides the declarative `IsTour`.  Used by
`Proofs/ImprovePdpOracle` (`pdpValidB`) and `Props/C06/Improve` (counterexamples, "tour = accepted + connected").  Imports one
Mathlib module (`Subperm`, for the pigeonhole step).
-/
import Rl4co.Proofs.ImproveCycle
import Mathlib.Data.List.Perm.Subperm

namespace Rl4co.Improve
open Rl4co.Spec.Improve

/-- a walk that enumerates `0..n-1` from node 0 ends in 0: were 0 met earlier, its successor, the first entry, would
be met a second time -/
theorem walk_perm_last (r : Rec) (n : Nat) (hn : 0 < n) (hp : (walk r n 0).Perm (List.range n)) :
    ∃ A, walk r n 0 = A ++ [0] := by
  have hnd := nodup_of_perm_range hp
  have hl := walk_linked r n 0
  obtain ⟨A, B, hAB⟩ := List.append_of_mem ((mem_of_perm_range hp 0).mpr hn)
  rw [hAB] at hl hnd ⊢
  cases B with
  | nil => exact ⟨A, rfl⟩
  | cons b B' =>
    exfalso
    rw [← List.cons_append, linked_append_mid] at hl
    have hb : r 0 = b := hl.2.1
    have hmem : b ∈ A ++ [0] := by
      cases A with
      | nil => rw [← hb, show r 0 = 0 from hl.1.1]; exact List.mem_cons_self
      | cons a A' => rw [← hb, show r 0 = a from hl.1.1]; exact List.mem_cons_self
    rw [← List.singleton_append (l := b :: B'), ← List.append_assoc] at hnd
    exact (List.nodup_append.mp hnd).2.2 b hmem b List.mem_cons_self rfl

theorem isTour_iff_walk (r : Rec) (n : Nat) : IsTour r n ↔ (walk r n 0).Perm (List.range n) := by
  cases n with
  | zero => exact ⟨fun _ => List.Perm.refl _, fun _ => ⟨[], List.Perm.refl _, trivial⟩⟩
  | succ m =>
    constructor
    · intro h
      obtain ⟨rest, hperm, hcyc⟩ := isTour_from r (m + 1) h 0 (Nat.succ_pos m)
      have hw := walk_of_cycle r 0 rest hcyc
      rw [show rest.length + 1 = m + 1 from length_of_perm_range hperm] at hw
      rw [hw]
      exact (List.perm_append_comm (l₂ := [0])).trans hperm
    · intro hp
      obtain ⟨A, hA⟩ := walk_perm_last r (m + 1) (Nat.succ_pos m) hp
      have hl := walk_linked r (m + 1) 0
      rw [hA] at hp hl
      exact ⟨0 :: A, (List.perm_append_comm (l₁ := [0])).trans hp, (cycleOf_cons r 0 A).mpr hl⟩

theorem perm_range_of_nodup (l : List Nat) (n : Nat) (hnd : l.Nodup) (hlen : l.length = n)
    (hlt : ∀ x ∈ l, x < n) : l.Perm (List.range n) :=
  (List.subperm_of_subset hnd fun x hx => List.mem_range.mpr (hlt x hx)).perm_of_length_le (by simp [hlen])

/-- the run-time oracle `isTourB` decides `IsTour` -/
theorem isTourB_iff (r : Rec) (n : Nat) : isTourB r n = true ↔ IsTour r n := by
  rw [isTour_iff_walk]
  simp only [isTourB, Bool.and_eq_true, decide_eq_true_eq, List.all_eq_true, Bool.or_eq_true, beq_iff_eq]
  constructor
  · rintro ⟨⟨hnd, hlt⟩, _⟩
    exact perm_range_of_nodup _ n hnd (walk_length r n 0) hlt
  · intro hp
    refine ⟨⟨nodup_of_perm_range hp, fun x hx => (mem_of_perm_range hp x).mp hx⟩, ?_⟩
    rcases Nat.eq_zero_or_pos n with h | h
    · exact Or.inl h
    · obtain ⟨A, hA⟩ := walk_perm_last r n h hp
      exact Or.inr (hA ▸ List.getLast?_concat)

end Rl4co.Improve
