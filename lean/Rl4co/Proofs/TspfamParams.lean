/-
Proof obligations on the extracted tokens (`Generated/Params.lean`, probes in `harness/probes/tspfam.py`):
each lemma rewrites a parametric model definition of `Env/{Tsp,Atsp,Pdp,Smtwtp}.lean` into the closed form the
property proofs work with, and holds only for the committed token values.  A source edit that changes an operator,
a roll shift, an index constant or the shape of the SMTWTP pipeline breaks the lemma, and every theorem downstream,
at `lake build`.  The closed form of the PDP checker is itself a definition here (`actsOf`, `plainCheck`).  No Mathlib.
-/
import Rl4co.Env.Tsp
import Rl4co.Env.Atsp
import Rl4co.Env.Pdp
import Rl4co.Env.Smtwtp
import Rl4co.Proofs.Sort

namespace Rl4co.Tspfam

theorem rollInt_neg_one {α : Type} (xs : List α) : rollInt (-1) xs = roll1 xs := by
  match xs with
  | [] => rfl
  | [x] => rfl
  | x :: y :: r =>
    have h : ((- (-1 : Int)) % ((x :: y :: r).length : Int)).toNat = 1 := by
      simp only [List.length_cons, Int.neg_neg]
      rw [Int.emod_eq_of_lt (by omega) (by omega)]; rfl
    rw [rollInt, h, rotateLeft_one]

theorem permTest_eq (acts : List Nat) : permTest .eq acts.length acts = sortedIsRange acts.length acts := by
  simp only [permTest, Cmp.evalNat, sortedIsRange]
  rw [zipWith_eq_all _ _ (by simp [(sortNat_perm acts).length_eq])]

theorem widthTest_permTest_eq (n : Nat) (acts : List Nat) :
    (decide (acts.length = n) && permTest .eq n acts) = (decide (acts.length = n) && sortedIsRange n acts) := by
  by_cases h : acts.length = n
  · rw [← h, permTest_eq]
  · rw [decide_eq_false h, Bool.false_and, Bool.false_and]

/-- the four `done` tests say "no entry available": proved by cases on the count, so it goes through for every
operator that is semantically `== 0` on a count (`==`, `<=`) and fails for any other (`<`, `>=`, `!=`, …) -/
theorem doneCmp_ok (x : Nat) :
    Params.tspDoneCmp.evalNat x 0 = decide (x = 0) ∧ Params.atspDoneCmp.evalNat x 0 = decide (x = 0) ∧
    Params.pdpDoneCmp.evalNat x 0 = decide (x = 0) ∧ Params.smtwtpDoneCmp.evalNat x 0 = decide (x = 0) := by
  cases x <;> simp [Params.tspDoneCmp, Params.atspDoneCmp, Params.pdpDoneCmp, Params.smtwtpDoneCmp, Cmp.evalNat]

end Rl4co.Tspfam

namespace Rl4co.Tsp
open Rl4co.Tspfam

theorem doneCmp_eq (x : Nat) : Params.tspDoneCmp.evalNat x 0 = decide (x = 0) := (doneCmp_ok x).1

/-- obligation on the extracted size expression of `_reset`: for EVERY batch shape (flat `[B]`, `[B1, B2]`, …)
the mask gets one entry per city.  False for `size(1)` (then the width is `B2` for a `[B1, B2]` batch). -/
theorem resetWidth_eq (bs : List Nat) (i : Inst) : resetWidth bs i = i.n := by
  simp [resetWidth, numLocOf, Params.tspResetNumLocFromEnd]

theorem firstFlag_eq (rows : List State) : firstFlag rows = ((rows.all (fun s => s.i != 0)) == false) := by
  simp only [firstFlag, Params.tspFirstStepCmp, Cmp.evalNat]
  cases rows.all (fun s => s.i != 0) <;> simp

theorem tourNext_eq (as : List Nat) : tourNext as = roll1 as := by
  simp only [tourNext, Params.tourRollAlongSteps, Params.tourRollShift, if_true]
  exact rollInt_neg_one as

theorem reward_eq (i : Inst) (as : List Nat) :
    reward i as = - (List.zipWith (fun nxt c => i.D nxt c) (roll1 as) as).sum := by
  simp only [reward, tourNext_eq]

theorem check_eq (i : Inst) (as : List Nat) : check i as = sortedIsRange as.length as := by
  simp only [check, checkWith, Params.tspCheckWidthFromInst, Params.tspCheckCmp, Bool.false_eq_true, if_false]
  exact permTest_eq as

theorem checkWith_true_eq (i : Inst) (as : List Nat) :
    checkWith true i as = (decide (as.length = i.n) && sortedIsRange i.n as) := by
  simp only [checkWith, if_true, Params.tspCheckCmp]
  exact widthTest_permTest_eq i.n as

end Rl4co.Tsp

namespace Rl4co.Atsp
open Rl4co.Tspfam

theorem doneCmp_eq (x : Nat) : Params.atspDoneCmp.evalNat x 0 = decide (x = 0) := (doneCmp_ok x).2.1

theorem firstFlag_cons (s : State) (rest : List State) : firstFlag (s :: rest) = (s.i == 0) := by
  simp only [firstFlag, Params.atspFirstStepCmp, Cmp.evalNat]
  by_cases h : s.i = 0 <;> simp [h]

theorem tourNext_eq (as : List Nat) : tourNext as = roll1 as := by
  simp only [tourNext, Params.atspRollAlongSteps, Params.atspRollShift, if_true]
  exact rollInt_neg_one as

theorem reward_eq (i : Inst) (as : List Nat) :
    reward i as = - (List.zipWith (fun src tgt => i.M src tgt) as (roll1 as)).sum := by
  simp only [reward, Params.atspGatherSrcFirst, if_true, tourNext_eq]

theorem check_eq (i : Inst) (as : List Nat) : check i as = sortedIsRange as.length as := by
  simp only [check, checkWith, Params.atspCheckWidthFromInst, Params.atspCheckCmp, Bool.false_eq_true, if_false]
  exact permTest_eq as

theorem checkWith_true_eq (i : Inst) (as : List Nat) :
    checkWith true i as = (decide (as.length = i.n) && sortedIsRange i.n as) := by
  simp only [checkWith, if_true, Params.atspCheckCmp]
  exact widthTest_permTest_eq i.n as

end Rl4co.Atsp

namespace Rl4co.Pdp
open Rl4co.Tspfam

theorem pairIdx_eq (i : Inst) (a : Nat) : pairIdx i a = (a + i.n / 2) % (i.n + 1) := by
  simp [pairIdx, Params.pdpPairOffset]

theorem n_div_two (i : Inst) : i.n / 2 = i.h := Nat.mul_div_cancel_left i.h (by decide)

theorem toDeliver0_eq (i : Inst) (j : Nat) : toDeliver0 i j = decide (j < i.h + 1) := by
  simp only [toDeliver0, Params.pdpResetOnes, n_div_two]

theorem numStarts_eq (i : Inst) : numStarts i = i.h := by
  simp only [numStarts, Params.pdpStartRule, Nat.add_sub_cancel, n_div_two]

theorem selectStartNodes_eq (i : Inst) (B k : Nat) :
    selectStartNodes i B k = (List.range (k * B)).map (fun r => (r / B) % i.h + 1) := by
  simp only [selectStartNodes, numStarts_eq, Params.pdpStartRule]

/-- the depot is prepended unless the forced start already put it there -/
def actsOf (i : Inst) (as : List Nat) : List Nat := if i.force then as else 0 :: as

theorem actsOf_of_force {i : Inst} (hf : i.force = true) (as : List Nat) : actsOf i as = as := if_pos hf

theorem actsOf_of_not_force {i : Inst} (hf : i.force = false) (as : List Nat) : actsOf i as = 0 :: as :=
  if_neg (hf ▸ Bool.false_ne_true)

/-- the checker body with the committed operators; every size is taken from the width of `acts` -/
def plainCheck (acts : List Nat) : Bool :=
  let L := acts.length
  let k := L / 2 + 1
  sortedIsRange L acts && ((acts.drop 1).dropLast).all (fun a => a != 0) &&
  bcastLt ((List.range (k - 1)).map (fun t => acts.idxOf (1 + t)))
    ((List.range (L - k)).map (fun t => acts.idxOf (k + t)))

theorem checkWith_eq (b : Bool) (i : Inst) (as : List Nat) :
    checkWith b i as = ((!b || decide ((actsOf i as).length = i.n + 1)) && plainCheck (actsOf i as)) := by
  have hne : (fun a : Nat => Params.pdpCheckDepotCmp.evalNat a 0) = (fun a => a != 0) := by
    funext a; by_cases h : a = 0 <;> simp [Params.pdpCheckDepotCmp, Cmp.evalNat, h]
  have hacts : (if i.force == Params.pdpCheckPrependWhenNotForced then as else 0 :: as) = actsOf i as := by
    simp only [actsOf, Params.pdpCheckPrependWhenNotForced]; cases i.force <;> rfl
  cases b
  · simp only [checkWith, hacts, hne, Params.pdpCheckPermCmp, Params.pdpCheckPrecCmp, permTest_eq, bcastLt,
      plainCheck, Bool.false_eq_true, if_false, Bool.not_false, Bool.true_or, Bool.true_and]
  · by_cases h : (actsOf i as).length = i.n + 1
    · simp only [checkWith, hacts, hne, if_true, ← h, Params.pdpCheckPermCmp, Params.pdpCheckPrecCmp, permTest_eq,
        bcastLt, plainCheck, Bool.not_true, Bool.false_or, decide_true, Bool.true_and]
    · simp only [checkWith, hacts, if_true, h, decide_false, Bool.not_true, Bool.false_or, Bool.false_and]

theorem check_unfold (i : Inst) (as : List Nat) : check i as = plainCheck (actsOf i as) := by
  simp only [check, Params.pdpCheckWidthFromInst, checkWith_eq, Bool.not_false, Bool.true_or, Bool.true_and]

end Rl4co.Pdp

namespace Rl4co.Smtwtp

theorem doneCmp_eq (x : Nat) : Params.smtwtpDoneCmp.evalNat x 0 = decide (x = 0) := (Tspfam.doneCmp_ok x).2.2.2

theorem weightedTardiness_eq (i : Inst) (as : List Nat) :
    weightedTardiness i as =
      (List.zipWith (fun w t => w * t) (as.map i.w)
        ((List.zipWith (fun c d => c - d) (cumsum 0 (as.map i.p)) (as.map i.d)).map
          (fun x => if x < 0 then 0 else x))).sum := by
  have hclamp : (fun x : Int => if Params.smtwtpClampCmp.eval x 0 then 0 else x) = (fun x => if x < 0 then 0 else x) := by
    funext x
    simp only [Params.smtwtpClampCmp, Cmp.eval, decide_eq_true_eq]
  simp only [weightedTardiness, Params.smtwtpRewardShape, if_true, hclamp]

end Rl4co.Smtwtp
