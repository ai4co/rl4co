/-
FFSP: what surrounds the per-row state machine.
* `IndexTables`: `itertools.permutations(range(M))` (`permsOf`), the row → permutation map after `set_bs`
  (`Tables.perm`, `pomo_idx = row // bs`): every table row is a permutation of `0..M-1`, there are `M!` of
  them (`get_num_starts`), and under the k-major `batchify` layout copy `j` of instance `b` uses
  permutation `j` — so the instance a batch row is stepped as (`rowInst`) is well-formed.
* `flatten_stages`: the policy-facing `stage_idx` / `stage_machine_idx` written by `_update_step_state`,
  and their relation to `machine_idx` in both settings; the schedule bookkeeping never reads them.
* `FFSPGenerator`: `run_time = randint(low=min_time, high=max_time)` lies in `[min_time, max_time)`, hence
  generated instances are well-formed (and have positive durations) — with the defaults extracted from the
  source on every run.
No Mathlib.
-/
import Rl4co.Proofs.Ffsp
import Rl4co.Core.Lists
namespace Rl4co.Ffsp

theorem permsAux_perm : ∀ (n : Nat) (l p : List Nat), l.length = n → p ∈ permsAux n l → p.Perm l := by
  intro n
  induction n with
  | zero =>
    intro l p hl hp
    rw [List.length_eq_zero_iff.mp hl]
    simp only [permsAux, List.mem_singleton] at hp
    rw [hp]
  | succ n ih =>
    intro l p hl hp
    simp only [permsAux, List.mem_flatMap, List.mem_map] at hp
    obtain ⟨x, hx, p', hp', rfl⟩ := hp
    have hlen : (l.erase x).length = n := by rw [List.length_erase_of_mem hx, hl]; rfl
    exact ((ih (l.erase x) p' hlen hp').cons x).trans (List.perm_cons_erase hx).symm

def fact : Nat → Nat
  | 0 => 1
  | n + 1 => (n + 1) * fact n

theorem permsAux_length : ∀ (n : Nat) (l : List Nat), l.length = n → (permsAux n l).length = fact n := by
  intro n
  induction n with
  | zero => intro l _; rfl
  | succ n ih =>
    intro l hl
    simp only [permsAux, List.length_flatMap]
    rw [(List.map_eq_replicate_iff (b := fact n)).mpr fun x hx => ?_, List.sum_replicate_nat, hl]
    · rfl
    · rw [List.length_map]
      apply ih
      rw [List.length_erase_of_mem hx, hl]; rfl

/-- **`get_num_starts`**: the table has `M!` rows -/
theorem permsOf_length (M : Nat) : (permsOf M).length = fact M :=
  permsAux_length M (List.range M) List.length_range

theorem tables_row_perm (tb : Tables) (row : Nat) (hrow : pomoIdx tb.bs row < fact tb.M) :
    ((permsOf tb.M).getD (pomoIdx tb.bs row) []).Perm (List.range tb.M) := by
  have hlen : pomoIdx tb.bs row < (permsOf tb.M).length := by rw [permsOf_length]; exact hrow
  rw [getD_eq_getElem _ _ hlen]
  exact permsAux_perm tb.M _ _ List.length_range (List.getElem_mem hlen)

theorem tables_perm_lt (tb : Tables) (row : Nat) (hrow : pomoIdx tb.bs row < fact tb.M) :
    ∀ p, p < tb.M → tb.perm row p < tb.M :=
  fun _ hp => getD_lt_of_perm_range (tables_row_perm tb row hrow) 0 hp

theorem tables_perm_inj (tb : Tables) (row : Nat) (hrow : pomoIdx tb.bs row < fact tb.M) :
    ∀ p q, p < tb.M → q < tb.M → tb.perm row p = tb.perm row q → p = q :=
  fun _ _ hp hq he => getD_inj_of_perm_range (tables_row_perm tb row hrow) 0 hp hq he

theorem tables_perm_surj (tb : Tables) (row : Nat) (hrow : pomoIdx tb.bs row < fact tb.M) :
    ∀ y, y < tb.M → ∃ p, p < tb.M ∧ tb.perm row p = y :=
  fun _ hy => exists_getD_of_perm_range (tables_row_perm tb row hrow) 0 hy

/-- **Every batch row is stepped as a well-formed instance**: env shape `S, M, J ≥ 1`, durations below the
sentinel, and a row index whose `pomo_idx` is inside the table (`row < M! · bs`). -/
theorem rowInst_wf (tb : Tables) (S J : Nat) (flat : Bool) (dur : Nat → Nat → Nat) (row : Nat)
    (hS : 0 < S) (hM : 0 < tb.M) (hJ : 0 < J) (hrow : pomoIdx tb.bs row < fact tb.M)
    (hd : ∀ j m, j < J → m < tb.M * S → (dur j m : Int) < -UNSET) : WF (rowInst tb S J flat dur row) :=
  ⟨hS, hM, hJ, tables_perm_lt tb row hrow, hd⟩

/-- **Obligation on the extracted operator**: `pomo_idx = idx // self.bs`. -/
theorem pomoIdx_eq (bs row : Nat) : pomoIdx bs row = row / bs := rfl

/-- **`IndexTables.bs`**: under the k-major layout of `batchify` (copy `j` of instance `b` at row
`j·B + b`) and `bs = B`, `pomo_idx = row // bs` is the copy index `j`; in particular every row of an
un-replicated batch uses permutation 0 wherever it sits. -/
theorem pomoIdx_layout (B j b : Nat) (hb : b < B) : pomoIdx B (j * B + b) = j :=
  idx_div hb

/-- **k-major multi-start layout** (`batchify(td, k)` after `reset` with batch size `B`): copy `j` of
instance `b` sits at row `j·B + b` and is stepped with table row `j`; un-replicated batches (`j = 0`) use
the identity order at every position. -/
theorem kmajor_perm (M B j b : Nat) (hb : b < B) :
    (Tables.mk M B).perm (j * B + b) = fun p => ((permsOf M).getD j []).getD p 0 := by
  unfold Tables.perm
  rw [pomoIdx_layout B j b hb]

theorem permsAux_head : ∀ (n : Nat) (l : List Nat), l.length = n → (permsAux n l).head? = some l := by
  intro n
  induction n with
  | zero => intro l hl; simp [permsAux, List.length_eq_zero_iff.mp hl]
  | succ n ih =>
    intro l hl
    match l, hl with
    | x :: t, hl =>
      have ht : t.length = n := by simpa using hl
      simp only [permsAux, List.flatMap_cons, List.erase_cons_head]
      have h1 := ih t ht
      cases hp : permsAux n t with
      | nil => rw [hp] at h1; simp at h1
      | cons q qs =>
        rw [hp] at h1
        simp only [List.head?_cons, Option.some.injEq] at h1
        simp [h1]

theorem permsOf_head (M : Nat) : ∀ p, p < M → ((permsOf M).getD 0 []).getD p 0 = p := by
  intro p hp
  have h := permsAux_head M (List.range M) List.length_range
  have : (permsOf M).getD 0 [] = List.range M := by
    unfold permsOf
    cases hq : permsAux M (List.range M) with
    | nil => rw [hq] at h; simp at h
    | cons q qs => rw [hq] at h; simp at h; simp [h]
  rw [this]; simp [List.getD, hp]

/-- an un-replicated batch (`k = 1`): every row, wherever it sits, sweeps the machines in identity order -/
theorem unreplicated_identity (M B b : Nat) (hb : b < B) : ∀ p, p < M → (Tables.mk M B).perm b p = p := by
  intro p hp
  have := kmajor_perm M B 0 b hb
  simp only [Nat.zero_mul, Nat.zero_add] at this
  rw [this]; exact permsOf_head M p hp

/-- in every state of a row of a running batch `stage_idx` / `stage_machine_idx` are the table entries of
the current `sub_time_idx` (they are refreshed by `_update_step_state`, like the mask) -/
theorem policy_idx_of_reach (i : Inst) {s : State} (hr : Reach envM i s) :
    s.stage = stageOf i s.sub ∧ s.smidx = stageMachineOf i s.sub :=
  inv_of_reach (e := envM) (Inv := fun s => s.stage = stageOf i s.sub ∧ s.smidx = stageMachineOf i s.sub)
    ⟨rfl, rfl⟩ (fun _ _ _ _ _ => ⟨rfl, rfl⟩) hr

/-- `flatten_stages = True`: `stage_machine_idx = machine_idx` (one embedding per machine) -/
theorem smidx_flat (i : Inst) (h : WF i) {s : State} (hr : Reach envM i s) (hf : i.flat = true) :
    s.smidx = s.midx := by
  rw [(policy_idx_of_reach i hr).2, (live_of_reach i h hr).core.midx_eq]
  simp [stageMachineOf, hf]

/-- `flatten_stages = False`: `stage_machine_idx` is the machine's position within its stage,
`machine_idx = stage_machine_idx + M · stage_idx`, and `stage_machine_idx < M` — so reading it in place of
`machine_idx` (as the schedule bookkeeping must not) hits a stage-0 machine. -/
theorem smidx_unflat (i : Inst) (h : WF i) {s : State} (hr : Reach envM i s) (hf : i.flat = false) :
    s.midx = s.smidx + i.M * s.stage ∧ s.smidx < i.M := by
  obtain ⟨e1, e2⟩ := policy_idx_of_reach i hr
  rw [e1, e2, (live_of_reach i h hr).core.midx_eq]
  simp only [stageMachineOf, hf, Bool.false_eq_true, if_false, machineOf, stageOf]
  exact ⟨trivial, h.perm_lt _ (Nat.mod_lt _ h.M_pos)⟩

/-- the bookkeeping half of `_step` never reads the policy-facing indices: instances that differ only in
`flatten_stages` do the same bookkeeping -/
theorem apply_flat_irrelevant (i : Inst) (s : State) (a : Nat) (f : Bool) :
    apply { i with flat := f } s a = apply i s a := rfl

theorem genDur_lt {minT maxT : Nat} {u : Nat → Nat → Nat} {j m : Nat} (hu : u j m < maxT - minT)
    (hmax : (maxT : Int) ≤ -UNSET) : (genDur minT u j m : Int) < -UNSET :=
  Int.lt_of_lt_of_le (Int.ofNat_lt.mpr (Nat.add_lt_of_lt_sub' hu)) hmax

/-- **Generated instances are well-formed**: `run_time = min_time + u` with raw draws
`u < max_time − min_time` (`torch.randint(low=min_time, high=max_time)`), `max_time` at most the sentinel. -/
theorem gen_wf (S M J minT maxT : Nat) (u : Nat → Nat → Nat) (perm : Nat → Nat) (flat : Bool)
    (hS : 0 < S) (hM : 0 < M) (hJ : 0 < J) (hperm : ∀ p, p < M → perm p < M)
    (hmax : (maxT : Int) ≤ -UNSET) (hu : ∀ j m, j < J → m < M * S → u j m < maxT - minT) :
    WF ⟨S, M, J, genDur minT u, perm, flat⟩ :=
  ⟨hS, hM, hJ, hperm, fun j m hj hm => genDur_lt (hu j m hj hm) hmax⟩

/-- all durations positive (the generator draws from `[min_time, max_time)` with `min_time ≥ 1`) -/
def DurPos (i : Inst) : Prop := ∀ j m, j < i.J → m < MT i → 0 < i.dur j m

theorem gen_durpos (S M J minT : Nat) (u : Nat → Nat → Nat) (perm : Nat → Nat) (flat : Bool)
    (hmin : 1 ≤ minT) : DurPos ⟨S, M, J, genDur minT u, perm, flat⟩ :=
  fun _ _ _ _ => Nat.lt_of_lt_of_le hmin (Nat.le_add_right _ _)

/-- **The bundled generator with its default parameters** (extracted from `generator.py` on every run:
`[num_stage, num_machine, num_job, min_time, max_time]`), stepped at any row of any batch whose
`pomo_idx` is inside the table: well-formed, with positive durations. -/
theorem default_gen_wf (u : Nat → Nat → Nat) (flat : Bool) (bs row : Nat)
    (hrow : pomoIdx bs row < fact (Params.ffspGenDefaults.getD 1 0))
    (hu : ∀ j m, u j m < Params.ffspGenDefaults.getD 4 0 - Params.ffspGenDefaults.getD 3 0) :
    WF (rowInst ⟨Params.ffspGenDefaults.getD 1 0, bs⟩ (Params.ffspGenDefaults.getD 0 0)
        (Params.ffspGenDefaults.getD 2 0) flat (genDur (Params.ffspGenDefaults.getD 3 0) u) row) ∧
    DurPos (rowInst ⟨Params.ffspGenDefaults.getD 1 0, bs⟩ (Params.ffspGenDefaults.getD 0 0)
        (Params.ffspGenDefaults.getD 2 0) flat (genDur (Params.ffspGenDefaults.getD 3 0) u) row) := by
  have hlh : Params.ffspGenLowHigh = true := rfl
  constructor
  · have hM : 0 < Params.ffspGenDefaults.getD 1 0 := by decide
    exact rowInst_wf _ _ _ _ _ _ (by decide) hM (by decide) hrow
      (fun j m _ _ => genDur_lt (hu j m) (by decide))
  · exact gen_durpos _ _ _ _ u _ flat (by decide)

/-! `harness/probes/ffsp.py` executes the source text of the class `IndexTables` for 2 stages × 3 machines
(both `flatten_stages` settings) on every run and writes the three tables into `Generated/Params.lean`.
The model's index functions reproduce them entry for entry. -/

/-- the instance row `p` of a 2 × 3 env is stepped as (`bs = 1`, so `pomo_idx = row`) -/
def inst23 (flat : Bool) (p : Nat) : Inst := rowInst ⟨3, 1⟩ 2 1 flat (fun _ _ => 1) p

/-- **Obligation on the regenerated tables**: `stage_table`, `machine_table` and `stage_machine_table`
(both settings) of the source are the model's `stageOf`, `machineOf`, `stageMachineOf`. -/
theorem tables_match :
    (List.range 6).map (stageOf (inst23 false 0)) = Params.ffspTblStage23 ∧
    (List.range 6).map (fun p => (List.range 6).map (machineOf (inst23 false p))) = Params.ffspTblMachine23 ∧
    (List.range 6).map (fun p => (List.range 6).map (stageMachineOf (inst23 false p))) = Params.ffspTblStageMachine23 ∧
    (List.range 6).map (fun p => (List.range 6).map (stageMachineOf (inst23 true p))) = Params.ffspTblStageMachineFlat23 := by
  decide

/-- Non-vacuity: 3 machines → 6 table rows in `itertools` order; row 7 of a 2-fold replicated batch of 4
uses table row 1. -/
example : permsOf 3 = [[0, 1, 2], [0, 2, 1], [1, 0, 2], [1, 2, 0], [2, 0, 1], [2, 1, 0]] := by decide
example : (List.range 3).map ((Tables.mk 3 4).perm 7) = [0, 2, 1] := by decide
example : pomoIdx 4 7 < fact 3 := by decide

end Rl4co.Ffsp
