/-
The greedy split rule of `Spec.Sdvrp.greedy`: its equations, the remainders it leaves (`greedyRem`), and what is to be
known of it (`GreedyFacts`: amounts are non-negative, nothing is handed over at the depot, vehicle loads stay within
capacity, each customer receives exactly the decrease of its remaining demand).  Environment and checker both follow this
rule (C01 / C06); the facts are proved along the environment's steps (`greedy_facts`, Proofs/SdvrpModel).  No Mathlib.
-/
import Rl4co.Spec.Sdvrp

namespace Rl4co.Sdvrp
open Rl4co.Spec.Sdvrp

/-- remaining demands after the greedy replay -/
def greedyRem (i : Inst) : (Nat → Int) → Int → List Nat → (Nat → Int)
  | rem, _, [] => rem
  | rem, used, a :: as =>
    if a = 0 then greedyRem i rem 0 as
    else
      let q := min (rem a) (i.cap - used)
      greedyRem i (upd rem a (rem a - q)) (used + q) as

theorem greedy_zero (i : Inst) (rem : Nat → Int) (used : Int) (as : List Nat) :
    greedy i rem used (0 :: as) = 0 :: greedy i rem 0 as := rfl

theorem greedy_ne (i : Inst) (rem : Nat → Int) (used : Int) {a : Nat} (h : a ≠ 0) (as : List Nat) :
    greedy i rem used (a :: as) = min (rem a) (i.cap - used) ::
      greedy i (upd rem a (rem a - min (rem a) (i.cap - used))) (used + min (rem a) (i.cap - used)) as := by
  rw [greedy, if_neg h]

theorem greedyRem_zero (i : Inst) (rem : Nat → Int) (used : Int) (as : List Nat) :
    greedyRem i rem used (0 :: as) = greedyRem i rem 0 as := rfl

theorem greedyRem_ne (i : Inst) (rem : Nat → Int) (used : Int) {a : Nat} (h : a ≠ 0) (as : List Nat) :
    greedyRem i rem used (a :: as) =
      greedyRem i (upd rem a (rem a - min (rem a) (i.cap - used))) (used + min (rem a) (i.cap - used)) as := by
  rw [greedyRem, if_neg h]

theorem loads_cons_exists (zs : List (Nat × Int)) : ∃ l ls, loads zs = l :: ls := by
  cases zs with
  | nil => exact ⟨[], [], rfl⟩
  | cons z zs =>
    obtain ⟨a, q⟩ := z
    simp only [loads]
    split
    · exact ⟨_, _, rfl⟩
    · split <;> exact ⟨_, _, rfl⟩

theorem loads_cons_zero (q : Int) (zs : List (Nat × Int)) : loads ((0, q) :: zs) = [] :: loads zs := rfl

theorem loads_cons_ne {a : Nat} (h : a ≠ 0) (q : Int) (zs : List (Nat × Int)) (l : List Int)
    (ls : List (List Int)) (hl : loads zs = l :: ls) : loads ((a, q) :: zs) = (q :: l) :: ls := by
  rw [loads, if_neg h, hl]

/-- `load` speaks of the first load and the rest apart because the first one continues a vehicle that already carries
`used`. -/
structure GreedyFacts (i : Inst) (rem : Nat → Int) (used : Int) (as : List Nat) : Prop where
  nonneg : ∀ z ∈ as.zip (greedy i rem used as), 0 ≤ z.2
  depot  : ∀ z ∈ as.zip (greedy i rem used as), z.1 = 0 → z.2 = 0
  load   : ∀ l ls, loads (as.zip (greedy i rem used as)) = l :: ls →
             l.sum + used ≤ i.cap ∧ ∀ l' ∈ ls, l'.sum ≤ i.cap
  served : ∀ j, 1 ≤ j → deliveredTo j (as.zip (greedy i rem used as)) = rem j - greedyRem i rem used as j
  remNonneg : ∀ j, 1 ≤ j → 0 ≤ greedyRem i rem used as j

theorem GreedyFacts.loads_le {i : Inst} {rem : Nat → Int} {as : List Nat} (F : GreedyFacts i rem 0 as) :
    ∀ l ∈ loads (as.zip (greedy i rem 0 as)), l.sum ≤ i.cap := by
  intro l hl
  obtain ⟨l1, ls1, h1⟩ := loads_cons_exists (as.zip (greedy i rem 0 as))
  have hld := F.load l1 ls1 h1
  rw [h1] at hl
  rcases List.mem_cons.mp hl with rfl | hh
  · exact Int.le_trans (Int.le_of_eq (Int.add_zero _).symm) hld.1
  · exact hld.2 l hh

/-- the greedy amount `q` is the one within both limits (remaining demand `r`, free capacity `c - u`) with one of them tight -/
theorem greedy_amount_iff (q r c u : Int) : q ≤ r ∧ u + q ≤ c ∧ (q = r ∨ u + q = c) ↔ q = min r (c - u) := by
  constructor
  · rintro ⟨h1, h2, h3 | h3⟩
    · rw [h3] at h2 ⊢
      exact (Int.min_eq_left (Int.le_sub_left_of_add_le h2)).symm
    · have hq : q = c - u := by rw [← h3, Int.add_comm u q, Int.add_sub_cancel]
      rw [hq] at h1 ⊢
      exact (Int.min_eq_right h1).symm
  · rintro rfl
    refine ⟨Int.min_le_left _ _, Int.add_le_of_le_sub_left (Int.min_le_right _ _), ?_⟩
    rcases Int.le_total r (c - u) with h | h
    · exact Or.inl (Int.min_eq_left h)
    · right
      rw [Int.min_eq_right h, Int.add_comm, Int.sub_add_cancel]

theorem greedy_congr (i : Inst) (as : List Nat) : ∀ rem rem' used, (∀ j, 1 ≤ j → rem j = rem' j) →
    greedy i rem used as = greedy i rem' used as := by
  induction as with
  | nil => intro _ _ _ _; rfl
  | cons a as ih =>
    intro rem rem' used h
    by_cases ha : a = 0
    · subst ha; rw [greedy_zero, greedy_zero, ih rem rem' 0 h]
    · rw [greedy_ne i rem used ha, greedy_ne i rem' used ha, h a (Nat.pos_of_ne_zero ha)]
      congr 1
      refine ih _ _ _ (fun k hk => ?_)
      rw [upd_apply, upd_apply, h k hk]

end Rl4co.Sdvrp
