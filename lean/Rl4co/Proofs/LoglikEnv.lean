/-
How an environment family (`Env`, Core/Basic) enters the decoding loop: `ofEnv` turns a batch of instances into the
`DEnv` the loop steps, and a family's C02 facts become the hypothesis `LoopHyp` of `Decode.decode_loop_terminates`:
`loopHyp_of_steps_le` from `mask_nonempty`, `done_stable` and `steps_le`, `loopHyp_of_run_length` from `run_length` for the
equal-length families.  The first asks `mask_nonempty` and `done_stable` of ALL states (as Core `done_of_long` does): CVRP,
MTVRP and SVRP state them so, the other families under `WF` and `Reach`.  No Mathlib.
-/
import Rl4co.Core.Basic
import Rl4co.Proofs.Loglik

namespace Rl4co.Decode
open Rl4co

variable {I S : Type}

/-- a batch of instances of one environment family as the decoding loop sees it: row state = (instance,
environment state).  `DEnv` has no `nAct`, so the range test `a < nAct` is folded into the mask; this is why the
hypotheses on selectors and forced start nodes (`hsel`, `hstart`) are stated on `(ofEnv e).mask`. -/
def ofEnv (e : Env I S) : DEnv (I × S) :=
  { step := fun p a => (p.1, e.step p.1 p.2 a),
    done := fun p => e.done p.1 p.2,
    mask := fun p a => decide (a < e.nAct p.1) && e.mask p.1 p.2 a }

theorem ofEnv_mask_iff (e : Env I S) (i : I) (s : S) (a : Nat) :
    (ofEnv e).mask (i, s) a = true ↔ a < e.nAct i ∧ e.mask i s a = true := by
  simp only [ofEnv, Bool.and_eq_true, decide_eq_true_eq]

theorem run_of_drun (e : Env I S) {i : I} {s0 : S} {q : I × S} {as : List Nat}
    (h : DRun (ofEnv e) (i, s0) as q) : ∃ s, q = (i, s) ∧ Run e i s0 as s := by
  induction h with
  | nil => exact ⟨s0, rfl, Run.nil _⟩
  | @snoc q as a _ hm ih =>
    obtain ⟨s, rfl, hrun⟩ := ih
    obtain ⟨ha, hm⟩ := (ofEnv_mask_iff e i s a).mp hm
    exact ⟨e.step i s a, rfl, Run.snoc hrun ha hm⟩

/-- variable-length families (a finished row stays steppable) -/
theorem loopHyp_of_steps_le (e : Env I S) (inst : Nat → I) (B bound : Nat)
    (hmask : ∀ i s, ∃ a, a < e.nAct i ∧ e.mask i s a = true)
    (hstable : ∀ i s a, e.done i s = true → e.done i (e.step i s a) = true)
    (hsteps : ∀ r, r < B → ∀ as s, RunND e (inst r) (e.reset (inst r)) as s → as.length ≤ bound) :
    LoopHyp (ofEnv e) B bound (fun r => (inst r, e.reset (inst r))) := by
  refine ⟨fun r hr as q h hl => ?_, Or.inl fun r _ as q _ => ?_⟩
  · obtain ⟨s, rfl, hrun⟩ := run_of_drun e h
    exact done_of_long e (inst r) (hstable _) (hmask _) (hsteps r hr _ _) hrun hl
  · obtain ⟨a, ha⟩ := hmask q.1 q.2
    exact ⟨a, (ofEnv_mask_iff e q.1 q.2 a).mpr ha⟩

/-- equal-length families (all rows finish after exactly `n` steps; a finished row has an empty mask) -/
theorem loopHyp_of_run_length (e : Env I S) (inst : Nat → I) (B n : Nat)
    (hlen : ∀ r, r < B → ∀ as s, Run e (inst r) (e.reset (inst r)) as s → (e.done (inst r) s = true ↔ as.length = n))
    (hle : ∀ r, r < B → ∀ as s, Run e (inst r) (e.reset (inst r)) as s → as.length ≤ n)
    (hmask : ∀ r, r < B → ∀ s, Reach e (inst r) s → e.done (inst r) s = false →
      ∃ a, a < e.nAct (inst r) ∧ e.mask (inst r) s a = true) :
    LoopHyp (ofEnv e) B n (fun r => (inst r, e.reset (inst r))) := by
  refine ⟨fun r hr as q h hl => ?_, Or.inr ⟨n, fun r hr as q h => ?_⟩⟩
  · obtain ⟨s, rfl, hrun⟩ := run_of_drun e h
    exact (hlen r hr _ _ hrun).mpr (Nat.le_antisymm (hle r hr _ _ hrun) hl)
  · obtain ⟨s, rfl, hrun⟩ := run_of_drun e h
    refine ⟨hlen r hr _ _ hrun, fun hd => ?_⟩
    obtain ⟨a, ha⟩ := hmask r hr s ⟨as, hrun⟩ hd
    exact ⟨a, (ofEnv_mask_iff e (inst r) s a).mpr ha⟩

end Rl4co.Decode
