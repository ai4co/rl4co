/-
Existence of an optimal finished episode of a permutation environment — the finite-minimum step of the C05
`opt_reachable` theorems.  Imports one Mathlib module (`List.permutations`).
-/
import Mathlib.Data.List.Permutation
import Rl4co.Proofs.TspfamAvail

namespace Rl4co.Tspfam

theorem exists_min_of_ne_nil {α : Type} (f : α → Int) :
    ∀ (l : List α), l ≠ [] → ∃ x ∈ l, ∀ y ∈ l, f x ≤ f y := by
  intro l hl
  cases h : (l.map f).min? with
  | none => exact absurd (List.map_eq_nil_iff.mp (List.min?_eq_none_iff.mp h)) hl
  | some m =>
    obtain ⟨hm, hle⟩ := List.min?_eq_some_iff.mp h
    obtain ⟨x, hx, rfl⟩ := List.mem_map.mp hm
    exact ⟨x, hx, fun y hy => hle _ (List.mem_map_of_mem hy)⟩

variable {I S : Type} {e : Env I S}

/-- **the optimum stays reachable**: the finished mask-confined episodes are permutations of the entries available at
reset, hence finitely many -/
theorem AvailEnv.exists_best_run (A : AvailEnv e) {i : I} (f : List Nat → Int) {w : List Nat} {t : S}
    (hw : Run e i (e.reset i) w t) (hwd : e.done i t = true) :
    ∃ as s, Run e i (e.reset i) as s ∧ e.done i s = true ∧
      ∀ bs t, Run e i (e.reset i) bs t → e.done i t = true → f as ≤ f bs := by
  classical
  let P : List Nat → Prop := fun as => ∃ s, Run e i (e.reset i) as s ∧ e.done i s = true
  have hmem : ∀ as, P as → as ∈ (A.initial i).permutations.filter (fun l => decide (P l)) :=
    fun as h => List.mem_filter.mpr
      ⟨List.mem_permutations.mpr (h.elim fun _ h => A.perm_of_done_run h.1 h.2), decide_eq_true h⟩
  obtain ⟨x, hx, hmin⟩ := exists_min_of_ne_nil f _ (List.ne_nil_of_mem (hmem w ⟨t, hw, hwd⟩))
  obtain ⟨s, hr, hd⟩ := of_decide_eq_true (List.mem_filter.mp hx).2
  exact ⟨x, s, hr, hd, fun bs t hr' hd' => hmin bs (hmem bs ⟨t, hr', hd'⟩)⟩

/-- … in particular over a class `Feas` of action lists each of which is a finished episode -/
theorem AvailEnv.exists_best_feasible (A : AvailEnv e) {i : I} (f : List Nat → Int) (Feas : List Nat → Prop)
    (hrun : ∀ as, Feas as → ∃ s, Run e i (e.reset i) as s ∧ e.done i s = true) {w : List Nat} (hw : Feas w) :
    ∃ as s, Run e i (e.reset i) as s ∧ e.done i s = true ∧ (∀ bs, Feas bs → f as ≤ f bs) ∧
      ∀ bs t, Run e i (e.reset i) bs t → e.done i t = true → f as ≤ f bs := by
  obtain ⟨t, hwr, hwd⟩ := hrun w hw
  obtain ⟨as, s, hr, hd, hmin⟩ := A.exists_best_run f hwr hwd
  exact ⟨as, s, hr, hd, fun bs hb => (hrun bs hb).elim fun t h => hmin bs t h.1 h.2, hmin⟩

end Rl4co.Tspfam
