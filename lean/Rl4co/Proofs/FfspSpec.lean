/-
Sanity lemmas pinning down `Spec.Ffsp`: validity and the makespan do not depend on the order in which the
operations are listed, they are invariant under a common time shift (the makespan shifts along), the makespan
dominates every completion time and every single duration.  (That `Valid` is never vacuous is
`Ffsp.valid_schedule_exists`, `Props/C07/Ffsp.lean`.)  No Mathlib.
-/
import Rl4co.Spec.Ffsp
namespace Rl4co.Spec.Ffsp
open Rl4co.Ffsp (Inst MT)

theorem valid_of_perm (i : Inst) {ops ops' : List Op} (hp : ops.Perm ops') (hv : Valid i ops) : Valid i ops' where
  range := fun o ho => hv.range o (hp.mem_iff.mpr ho)
  once := by
    intro j hj k hk
    have := hv.once j hj k hk
    unfold opsAt at this ⊢
    rw [← (hp.filter _).length_eq]; exact this
  order := fun o ho o' ho' => hv.order o (hp.mem_iff.mpr ho) o' (hp.mem_iff.mpr ho')
  machine := fun o ho o' ho' => hv.machine o (hp.mem_iff.mpr ho) o' (hp.mem_iff.mpr ho')

theorem isMakespan_of_perm (i : Inst) {ops ops' : List Op} (hp : ops.Perm ops') {v : Int}
    (hm : IsMakespan i ops v) : IsMakespan i ops' v := by
  obtain ⟨⟨o, ho, hov⟩, hall⟩ := hm
  exact ⟨⟨o, hp.mem_iff.mp ho, hov⟩, fun o' ho' => hall o' (hp.mem_iff.mpr ho')⟩

def shift (c : Int) (ops : List Op) : List Op := ops.map (fun o => { o with start := o.start + c })

/-- **time-shift invariance**: delaying every operation by `c ≥ 0` keeps the schedule valid … -/
theorem valid_shift (i : Inst) (c : Int) (hc : 0 ≤ c) {ops : List Op} (hv : Valid i ops) :
    Valid i (shift c ops) := by
  exact {
    range := by
      intro o ho
      obtain ⟨o0, h0, rfl⟩ := List.mem_map.mp ho
      have := hv.range o0 h0
      exact ⟨this.1, this.2.1, Int.add_nonneg this.2.2 hc⟩
    once := by
      intro j hj k hk
      have := hv.once j hj k hk
      unfold opsAt at this ⊢
      unfold shift
      rw [List.filter_map, List.length_map]
      exact this
    order := by
      intro o ho o' ho' hj hs
      obtain ⟨o0, h0, rfl⟩ := List.mem_map.mp ho
      obtain ⟨o1, h1, rfl⟩ := List.mem_map.mp ho'
      have := hv.order o0 h0 o1 h1 hj hs
      show o0.start + c + _ ≤ o1.start + c
      rw [Int.add_right_comm]; exact Int.add_le_add_right this c
    machine := by
      intro o ho o' ho' hne hm
      obtain ⟨o0, h0, rfl⟩ := List.mem_map.mp ho
      obtain ⟨o1, h1, rfl⟩ := List.mem_map.mp ho'
      have hne' : o0 ≠ o1 := fun hh => hne (by rw [hh])
      show o0.start + c + _ ≤ o1.start + c ∨ o1.start + c + _ ≤ o0.start + c
      rw [Int.add_right_comm, Int.add_right_comm o1.start]
      exact (hv.machine o0 h0 o1 h1 hne' hm).imp (Int.add_le_add_right · c) (Int.add_le_add_right · c) }

/-- … and shifts the makespan by `c` -/
theorem isMakespan_shift (i : Inst) (c : Int) {ops : List Op} {v : Int} (hm : IsMakespan i ops v) :
    IsMakespan i (shift c ops) (v + c) := by
  obtain ⟨⟨o, ho, hov⟩, hall⟩ := hm
  constructor
  · refine ⟨{ o with start := o.start + c }, List.mem_map.mpr ⟨o, ho, rfl⟩, ?_⟩
    show o.start + c + _ = v + c
    rw [Int.add_right_comm]; exact congrArg (· + c) hov
  · intro o' ho'
    obtain ⟨o0, h0, rfl⟩ := List.mem_map.mp ho'
    show o0.start + c + _ ≤ v + c
    rw [Int.add_right_comm]; exact Int.add_le_add_right (hall o0 h0) c

theorem makespan_ge (i : Inst) {ops : List Op} (hv : Valid i ops) {v : Int} (hm : IsMakespan i ops v)
    {o : Op} (ho : o ∈ ops) : o.fin i ≤ v ∧ (i.dur o.job o.machine : Int) ≤ v := by
  have h1 := hm.2 o ho
  exact ⟨h1, Int.le_trans (Int.le_add_of_nonneg_left (hv.range o ho).2.2) h1⟩

end Rl4co.Spec.Ffsp
