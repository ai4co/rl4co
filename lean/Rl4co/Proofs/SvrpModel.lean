/-
The SVRP model (`Rl4co/Env/Svrp.lean`) in the form the property proofs use.  `mask_eq`, `step_eq`, `locOk_iff`, `done_iff`
are the obligations on the extracted tokens; from them the model as a depot-routing environment (`routing`,
Proofs/VisitedRow), the invariant `TechOk` (the technician index is in range while a customer is unvisited), and the Spec's
skill clause read along the action list (`SkillsFrom`, `routesOk_routes`).  `WF`: the last technician covers every customer.
No Mathlib.
-/
import Rl4co.Spec.Svrp
import Rl4co.Proofs.VisitedRow

namespace Rl4co.Svrp
open Rl4co.Spec.Svrp

/-- there is a technician and the last one covers every customer -/
structure WF (i : Inst) : Prop where
  tech : 1 ≤ i.T
  last : ∀ j, 1 ≤ j → j ≤ i.n → i.skills j ≤ i.techs (i.T - 1)

/-- `get_action_mask` / `_step` in the shape the proofs use.  The model has it because the extracted source
compares `current_tech == techs.size(-2) - 1` (`Params.svrpMaskLastCmp = eq`, `Params.svrpMaskLastOffset = 1`) and
increments the technician with `(current_node == 0)` (`Params.svrpStepDepotCmp = eq`): a source edit of any of the
three breaks these two proofs. -/
theorem mask_eq (i : Inst) (s : State) (a : Nat) :
    mask i s a = if a = 0 then !((s.cur == 0 || s.tech == i.T - 1) && anyLoc i s) else locOk i s a := by
  have h : Params.svrpMaskLastCmp.evalNat s.tech (i.T - Params.svrpMaskLastOffset) = (s.tech == i.T - 1) :=
    (Bool.beq_eq_decide_eq _ _).symm
  rw [mask, h]

theorem step_eq (i : Inst) (s : State) (a : Nat) :
    step i s a = { cur := a, tech := s.tech + (if a = 0 then 1 else 0), vis := upd s.vis a true } := by
  by_cases h : a = 0 <;> simp [step, Params.svrpStepDepotCmp, Cmp.evalNat, h]

theorem mask_ne (i : Inst) (s : State) {a : Nat} (h0 : a ≠ 0) : mask i s a = locOk i s a := by
  rw [mask_eq, if_neg h0]

theorem locOk_iff (i : Inst) (s : State) (j : Nat) :
    locOk i s j = true ↔ s.vis j = false ∧ i.skills j ≤ i.techs s.tech := by
  simp only [locOk, Params.svrpMaskSkillCmp, Cmp.eval, Bool.and_eq_true, Bool.not_eq_true', decide_eq_true_eq]

theorem locOk_eq_false (i : Inst) (s : State) (j : Nat) :
    locOk i s j = false ↔ s.vis j = true ∨ ¬ i.skills j ≤ i.techs s.tech := by
  rw [← Bool.not_eq_true, locOk_iff, Decidable.not_and_iff_not_or_not, Bool.not_eq_false]

theorem mask_customer {i : Inst} {s : State} {a : Nat} (h0 : a ≠ 0) (hm : mask i s a = true) :
    s.vis a = false ∧ i.skills a ≤ i.techs s.tech :=
  (locOk_iff i s a).mp ((mask_ne i s h0).symm.trans hm)

theorem mask_zero_iff (i : Inst) (s : State) :
    mask i s 0 = true ↔
      (s.cur = 0 ∨ s.tech = i.T - 1 → ∀ j, 1 ≤ j → j ≤ i.n → s.vis j = true ∨ ¬ i.skills j ≤ i.techs s.tech) := by
  have h : anyLoc i s = false ↔ ∀ j, 1 ≤ j → j ≤ i.n → s.vis j = true ∨ ¬ i.skills j ≤ i.techs s.tech :=
    any_succ_eq_false.trans (forall_congr' fun j => imp_congr_right fun _ => imp_congr_right fun _ =>
      locOk_eq_false i s j)
  rw [mask_eq, ← h]
  show (!((s.cur == 0 || s.tech == i.T - 1) && anyLoc i s)) = true ↔ _
  cases anyLoc i s <;> simp

theorem step_vis (i : Inst) (s : State) (a : Nat) : (env.step i s a).vis = upd s.vis a true := rfl

theorem step_tech_zero (i : Inst) (s : State) : (env.step i s 0).tech = s.tech + 1 := by
  show (step i s 0).tech = _
  rw [step_eq]; rfl

theorem step_tech_ne (i : Inst) (s : State) {a : Nat} (h0 : a ≠ 0) : (env.step i s a).tech = s.tech := by
  show (step i s a).tech = _
  rw [step_eq, if_neg h0]; rfl

theorem vis_step_mono (i : Inst) (s : State) (a : Nat) {j : Nat} (hv : s.vis j = true) :
    (env.step i s a).vis j = true := by
  rw [step_vis, upd_apply]
  split
  · rfl
  · exact hv

def AllVis (i : Inst) (s : State) : Prop := ∀ j, 1 ≤ j → j ≤ i.n → s.vis j = true

theorem allVis_step {i : Inst} {s : State} (a : Nat) (hall : AllVis i s) : AllVis i (env.step i s a) :=
  fun j h1 h2 => vis_step_mono i s a (hall j h1 h2)

/-- invariant: the technician index is in range as long as a customer is unvisited -/
def TechOk (i : Inst) (s : State) : Prop := s.tech < i.T ∨ AllVis i s

theorem allVis_of_depot_last {i : Inst} (hw : WF i) {s : State} (ht : s.tech = i.T - 1)
    (hm : mask i s 0 = true) : AllVis i s := fun j h1 h2 =>
  ((mask_zero_iff i s).mp hm (Or.inr ht) j h1 h2).resolve_right fun h => h (ht ▸ hw.last j h1 h2)

theorem techOk_step (i : Inst) (hw : WF i) (s : State) (a : Nat) (hi : TechOk i s)
    (hm : env.mask i s a = true) : TechOk i (env.step i s a) := by
  rcases hi with hlt | hall
  · by_cases h0 : a = 0
    · subst h0
      by_cases hlast : s.tech + 1 < i.T
      · exact Or.inl (by rw [step_tech_zero]; exact hlast)
      · exact Or.inr (allVis_step 0 (allVis_of_depot_last hw
          (Nat.eq_sub_of_add_eq (Nat.le_antisymm hlt (Nat.not_lt.mp hlast))) hm))
    · exact Or.inl (by rw [step_tech_ne i s h0]; exact hlt)
  · exact Or.inr (allVis_step a hall)

/-- `Spec.routesOk` read along the action list: technician `k` drives every customer up to the next depot
visit, technician `k + 1` continues from there -/
def SkillsFrom (i : Inst) : Nat → List Nat → Prop
  | _, [] => True
  | k, a :: as =>
    if a = 0 then SkillsFrom i (k + 1) as else (k < i.T ∧ i.skills a ≤ i.techs k) ∧ SkillsFrom i k as

theorem skillsFrom_zero_cons (i : Inst) (k : Nat) (as : List Nat) :
    SkillsFrom i k (0 :: as) ↔ SkillsFrom i (k + 1) as := by
  rw [SkillsFrom, if_pos rfl]

theorem skillsFrom_cons (i : Inst) (k : Nat) {a : Nat} (h0 : a ≠ 0) (as : List Nat) :
    SkillsFrom i k (a :: as) ↔ (k < i.T ∧ i.skills a ≤ i.techs k) ∧ SkillsFrom i k as := by
  rw [SkillsFrom, if_neg h0]

theorem routeOk_cons (i : Inst) (k a : Nat) (r : List Nat) :
    routeOk i k (a :: r) = true ↔ (k < i.T ∧ i.skills a ≤ i.techs k) ∧ routeOk i k r = true := by
  simp only [routeOk, List.isEmpty_cons, Bool.false_or, List.all_cons, Bool.and_eq_true, decide_eq_true_eq,
    Bool.or_eq_true, List.isEmpty_iff, List.all_eq_true]
  constructor
  · rintro ⟨h1, h2, h3⟩; exact ⟨⟨h1, h2⟩, Or.inr ⟨h1, h3⟩⟩
  · rintro ⟨⟨h1, h2⟩, h3 | h3⟩
    · exact ⟨h1, h2, fun j hj => by rw [h3] at hj; cases hj⟩
    · exact ⟨h1, h2, h3.2⟩

theorem routesOk_routes (i : Inst) (as : List Nat) : ∀ k, routesOk i k (routes as) = true ↔ SkillsFrom i k as := by
  induction as with
  | nil => intro k; exact ⟨fun _ => trivial, fun _ => rfl⟩
  | cons a as ih =>
    intro k
    by_cases h0 : a = 0
    · subst h0
      rw [skillsFrom_zero_cons, ← ih (k + 1)]
      show (routeOk i k [] && routesOk i (k + 1) (routes as)) = true ↔ _
      rw [show routeOk i k [] = true from rfl, Bool.true_and]
    · have ih' := ih k
      rw [routes_eq, routesOk, Bool.and_eq_true] at ih'
      rw [skillsFrom_cons i k h0, ← ih', routes_eq, firstRoute_cons h0, restRoutes_cons h0, routesOk, Bool.and_eq_true,
        routeOk_cons, and_assoc]

theorem done_iff (i : Inst) (s : State) : env.done i s = true ↔ ∀ j, j < i.n + 1 → s.vis j = true := by
  rw [← cnt_eq_n]
  simp [env, done, Params.svrpDoneCmp, Cmp.evalNat]

theorem routing : Routing.DepotRouting env Inst.n State.vis where
  nAct _ := rfl
  step_vis := step_vis
  mask_customer _ _ _ h0 hm := (mask_customer h0 hm).1
  done_iff := done_iff
  depot_offered _ _ := depot_offered_of_any rfl

/-- two technicians (levels 2 and 5), customer 1 needs exactly 2 (= level of technician 0), customer 2 needs 5 (only
the last technician): the instance of the non-vacuity examples -/
def exInst : Inst :=
  { n := 2, T := 2, techs := fun k => if k = 0 then 2 else 5, skills := fun j => if j = 1 then 2 else 5,
    costs := fun k => (k : Int) + 1, D := fun a b => if a = b then 0 else (a + b : Int) }

end Rl4co.Svrp
