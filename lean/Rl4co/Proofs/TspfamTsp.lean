/-
TSP and ATSP as instances of the generic permutation environment (`Proofs/TspfamAvail.lean`), and the link
between their common spec and `List.Perm (range n)`.  Core only, no Mathlib.
-/
import Rl4co.Env.Tsp
import Rl4co.Env.Atsp
import Rl4co.Spec.Tsp
import Rl4co.Proofs.TspfamAvail
import Rl4co.Proofs.TspfamParams
namespace Rl4co.Spec.Tsp

theorem feasible_iff_perm (n : Nat) (as : List Nat) : Feasible n as ↔ as.Perm (List.range n) := by
  rw [perm_iff_mem_count List.nodup_range]
  simp only [List.mem_range]
  exact ⟨fun ⟨h1, h2⟩ => ⟨h1, h2⟩, fun ⟨h1, h2⟩ => ⟨h1, h2⟩⟩

theorem Feasible.length_eq {n : Nat} {as : List Nat} (h : Feasible n as) : as.length = n :=
  length_of_perm_range ((feasible_iff_perm n as).mp h)

theorem sortedIsRange_iff_feasible (n : Nat) (as : List Nat) : sortedIsRange n as = true ↔ Feasible n as := by
  rw [sortedIsRange_iff, feasible_iff_perm]

/-- with `n` read off the width of the list the idiom loses the width test -/
theorem feasible_iff_sortedIsRange_width (n : Nat) (as : List Nat) :
    Feasible n as ↔ (sortedIsRange as.length as = true ∧ as.length = n) := by
  rw [sortedIsRange_iff_feasible]
  exact ⟨fun h => ⟨h.length_eq.symm ▸ h, h.length_eq⟩, fun ⟨h, hl⟩ => hl ▸ h⟩

/-- the clause with `n` taken from the instance puts the width test back -/
theorem widthTest_and_sortedIsRange_iff (n : Nat) (as : List Nat) :
    (decide (as.length = n) && sortedIsRange n as) = true ↔ Feasible n as := by
  rw [Bool.and_eq_true, decide_eq_true_eq, sortedIsRange_iff_feasible]
  exact ⟨fun h => h.2, fun h => ⟨h.length_eq, h⟩⟩

end Rl4co.Spec.Tsp

namespace Rl4co.Tsp
open Rl4co.Tspfam

def availEnv : AvailEnv env where
  avail s := s.avail
  todo i := i.n
  Inv _ _ := True
  inv_reset _ := trivial
  inv_step := fun _ _ _ _ _ _ => trivial
  mask_avail := fun _ _ _ _ h => h
  step_avail := fun _ _ _ => rfl
  step_done := fun _ _ _ => doneCmp_eq _
  reset_done := fun _ => rfl
  reset_cnt := fun _ => cnt_eq_n.mpr (fun _ _ => rfl)

theorem mask_eq_avail (i : Inst) (s : State) (a : Nat) : env.mask i s a = availEnv.avail s a := rfl

theorem initial_eq (i : Inst) : availEnv.initial i = List.range i.n :=
  List.filter_eq_self.mpr (fun _ _ => rfl)

end Rl4co.Tsp

namespace Rl4co.Atsp
open Rl4co.Tspfam

def availEnv : AvailEnv env where
  avail s := s.avail
  todo i := i.n
  Inv _ _ := True
  inv_reset _ := trivial
  inv_step := fun _ _ _ _ _ _ => trivial
  mask_avail := fun _ _ _ _ h => h
  step_avail := fun _ _ _ => rfl
  step_done := fun _ _ _ => doneCmp_eq _
  reset_done := fun _ => rfl
  reset_cnt := fun _ => cnt_eq_n.mpr (fun _ _ => rfl)

theorem mask_eq_avail (i : Inst) (s : State) (a : Nat) : env.mask i s a = availEnv.avail s a := rfl

theorem initial_eq (i : Inst) : availEnv.initial i = List.range i.n :=
  List.filter_eq_self.mpr (fun _ _ => rfl)

end Rl4co.Atsp
