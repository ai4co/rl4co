/-
A depot-routing environment, as far as the visits go, is an `Env` with a visited row over the nodes `0..n` (0 = depot)
obeying three laws (`VisitedRow`): `n+1` actions, a step marks the chosen node, the mask offers no marked customer.
`DepotRouting` adds the two laws most of them share: `done` = every node is marked, and the depot is offered whenever no
customer is (the common part of their depot rules).  CVRP (and CVRPTW through its CVRP base), MTVRP and SVRP are
`DepotRouting`; OP and PCTSP are `VisitedRow` only (`Prize.IsTour` extends it; their `done` is a depot visit), and so is mTSP
(`Mtsp.routing`: its row is the complement of the availability row, and its depot entry is reopened).
The laws speak of every state, reachable or not, and `DepotRouting` has both or none: an environment whose mask adds a
test to CVRP's (CVRPTW's time windows) can dead-end, so it is no `DepotRouting`; it projects its runs to the CVRP base
(`Cvrptw.run_base`, `run_lift`) and takes CVRP's theorems, while one that changes the customer test inside the same depot
rule instantiates `DepotRouting` itself.
Visit counts, `done`, dead ends, padding and the `2n+1` step bound follow from the laws alone.  A family still proves what
is its own: the per-route resource (loads, clock, skills, route continuation), the idle law of `steps_le` (where its
well-formedness enters), and the one step of its admission condition (`StepKeeps`).  Core only, no Mathlib.
-/
import Rl4co.Core.Basic

namespace Rl4co.Routing
variable {I S : Type}

def unvisited (n : Nat) (v : Nat → Bool) : Nat := cnt n (fun k => !v (k + 1))

theorem unvisited_le (n : Nat) (v : Nat → Bool) : unvisited n v ≤ n := cnt_le n _

theorem unvisited_none (n : Nat) : unvisited n (fun _ => false) = n := cnt_eq_n.mpr fun _ _ => rfl

theorem unvisited_eq_zero {n : Nat} {v : Nat → Bool} : unvisited n v = 0 ↔ ∀ j, 1 ≤ j → j ≤ n → v j = true := by
  rw [unvisited, cnt_succ_eq_zero (p := fun j => !v j)]
  simp only [Bool.not_eq_false']

theorem unvisited_upd_customer {n a : Nat} {v : Nat → Bool} (h0 : a ≠ 0) (ha : a ≤ n) (hv : v a = false) :
    unvisited n (upd v a true) + 1 = unvisited n v := by
  refine cnt_succ_upd_false (p := fun j => !v j) (q := fun j => !upd v a true j) (Nat.pos_of_ne_zero h0) ha ?_ ?_
    (fun j _ hj => ?_)
  · show (!v a) = true
    rw [hv]; rfl
  · show (!upd v a true a) = false
    rw [upd_same]; rfl
  · show (!upd v a true j) = !v j
    rw [upd_other _ _ _ _ hj]

theorem unvisited_upd_depot (n : Nat) (v : Nat → Bool) (b : Bool) : unvisited n (upd v 0 b) = unvisited n v :=
  cnt_congr fun k _ => by rw [upd_other _ _ _ _ (Nat.succ_ne_zero k)]

/-- the customers listed in `as` are pairwise different and not marked in `v`; in this arithmetic form it is what
`count_of_run` gives by one rewrite, and `head` / `tail` are one `count_cons` each -/
def Unmarked (v : Nat → Bool) (as : List Nat) : Prop := ∀ j, j ≠ 0 → as.count j + (v j).toNat ≤ 1

theorem Unmarked.head {v : Nat → Bool} {a : Nat} {as : List Nat} (h : Unmarked v (a :: as)) (h0 : a ≠ 0) :
    v a = false := by
  have := h a h0
  rw [List.count_cons_self] at this
  cases hv : v a with
  | false => rfl
  | true =>
    rw [hv] at this
    exact absurd (Nat.le_trans (Nat.le_add_left 2 (as.count a)) this) (by decide)

theorem Unmarked.tail {v : Nat → Bool} {a : Nat} {as : List Nat} (h : Unmarked v (a :: as)) :
    Unmarked (upd v a true) as := by
  intro j hj
  have := h j hj
  rw [upd_apply]
  by_cases hja : j = a
  · rw [hja, List.count_cons_self] at this
    rw [if_pos hja, hja]
    exact Nat.le_trans (Nat.add_le_add_left (Bool.toNat_le _) _) (Nat.le_trans (Nat.le_add_right _ _) this)
  · rw [List.count_cons_of_ne (Ne.symm hja)] at this
    rw [if_neg hja]
    exact this

theorem Unmarked.not_mem {v : Nat → Bool} {as : List Nat} (h : Unmarked v as) {j : Nat} (hj : j ≠ 0) (hv : v j = true) :
    j ∉ as := fun hm => by
  have := h j hj
  rw [hv] at this
  exact Nat.not_succ_le_self _ (Nat.le_trans (Nat.succ_le_succ (List.count_pos_iff.mpr hm)) this)

theorem unmarked_of_once {n : Nat} {v : Nat → Bool} {as : List Nat} (hr : ∀ a ∈ as, a ≤ n)
    (ho : ∀ j, 1 ≤ j → j ≤ n → as.count j = 1) (hv : ∀ j, v j = false) : Unmarked v as := fun j hj =>
  hv j ▸ count_le_one_of_range hr (fun j h1 h2 => Nat.le_of_eq (ho j h1 h2)) j (Nat.pos_of_ne_zero hj)

structure VisitedRow (e : Env I S) (n : I → Nat) (vis : S → Nat → Bool) : Prop where
  nAct : ∀ i, e.nAct i = n i + 1
  step_vis : ∀ i s a, vis (e.step i s a) = upd (vis s) a true
  mask_customer : ∀ i s a, a ≠ 0 → e.mask i s a = true → vis s a = false

namespace VisitedRow
variable {e : Env I S} {n : I → Nat} {vis : S → Nat → Bool} {i : I}

theorem range_of_run (V : VisitedRow e n vis) {s s' : S} {as : List Nat} (h : Run e i s as s') :
    ∀ a ∈ as, a ≤ n i :=
  fun a ha => Nat.le_of_lt_succ (Nat.lt_of_lt_of_eq (h.lt_nAct a ha) (V.nAct i))

theorem count_of_run (V : VisitedRow e n vis) {s s' : S} {as : List Nat} (h : Run e i s as s') {j : Nat}
    (hj : j ≠ 0) : as.count j + (vis s j).toNat = (vis s' j).toNat := by
  induction h with
  | nil s => exact Nat.zero_add _
  | @cons s s' a as _ hm _ ih =>
    rw [V.step_vis, upd_apply] at ih
    by_cases hja : j = a
    · subst hja
      rw [if_pos rfl] at ih
      rw [List.count_cons_self, V.mask_customer i s j hj hm, ← ih]
      rfl
    · rw [if_neg hja] at ih
      rw [List.count_cons_of_ne (Ne.symm hja), ih]

theorem unmarked_of_run (V : VisitedRow e n vis) {s s' : S} {as : List Nat} (h : Run e i s as s') :
    Unmarked (vis s) as :=
  fun _ hj => V.count_of_run h hj ▸ Bool.toNat_le _

theorem vis_exec (V : VisitedRow e n vis) (s : S) (as : List Nat) (j : Nat) :
    vis (exec e i s as) j = (vis s j || decide (j ∈ as)) := by
  induction as generalizing s with
  | nil => simp [exec]
  | cons a as ih =>
    show vis (exec e i (e.step i s a) as) j = _
    rw [ih, V.step_vis, upd_apply]
    by_cases hja : j = a <;> simp [hja]

theorem vis_of_run (V : VisitedRow e n vis) {s s' : S} {as : List Nat} (h : Run e i s as s') (j : Nat) :
    vis s' j = (vis s j || decide (j ∈ as)) :=
  h.exec_eq ▸ V.vis_exec s as j

theorem unvisited_step_customer (V : VisitedRow e n vis) {s : S} {a : Nat} (h0 : a ≠ 0) (ha : a < e.nAct i)
    (hm : e.mask i s a = true) : unvisited (n i) (vis (e.step i s a)) + 1 = unvisited (n i) (vis s) := by
  rw [V.step_vis]
  exact unvisited_upd_customer h0 (Nat.le_of_lt_succ (Nat.lt_of_lt_of_eq ha (V.nAct i))) (V.mask_customer i s a h0 hm)

theorem unvisited_step_depot (V : VisitedRow e n vis) (s : S) :
    unvisited (n i) (vis (e.step i s 0)) = unvisited (n i) (vis s) := by
  rw [V.step_vis, unvisited_upd_depot]

/-- `Q` (state, actions still to come) is an admission condition of the environment.  What each family proves for the
converse of C01 is one such step (`Cvrp.admissible_step`, `Svrp.admissible_step`, `Mtvrp.cont_step`).  The `VisitedRow`
argument is not used: it is there so that a family writes `routing.StepKeeps i Q` (also from a `DepotRouting`). -/
def StepKeeps (_ : VisitedRow e n vis) (i : I) (Q : S → List Nat → Prop) : Prop :=
  ∀ s a as, (∀ b ∈ a :: as, b ≤ n i) → Unmarked (vis s) (a :: as) → Q s (a :: as) →
    e.mask i s a = true ∧ Q (e.step i s a) as

theorem run_of_admissible (V : VisitedRow e n vis) {Q : S → List Nat → Prop} (hQ : V.StepKeeps i Q) :
    ∀ (as : List Nat) (s : S), (∀ a ∈ as, a ≤ n i) → Unmarked (vis s) as → Q s as → ∃ s', Run e i s as s' := by
  intro as
  induction as with
  | nil => intro s _ _ _; exact ⟨s, Run.nil s⟩
  | cons a as ih =>
    intro s hr hf hq
    obtain ⟨hm, hq'⟩ := hQ s a as hr hf hq
    obtain ⟨s', hrun⟩ := ih (e.step i s a) (fun b hb => hr b (List.mem_cons_of_mem _ hb))
      (V.step_vis i s a ▸ hf.tail) hq'
    exact ⟨s', Run.cons (V.nAct i ▸ Nat.lt_succ_of_le (hr a List.mem_cons_self)) hm hrun⟩

end VisitedRow

structure DepotRouting (e : Env I S) (n : I → Nat) (vis : S → Nat → Bool) : Prop extends VisitedRow e n vis where
  done_iff : ∀ i s, e.done i s = true ↔ ∀ j, j < n i + 1 → vis s j = true
  depot_offered : ∀ i s, (∀ j, 1 ≤ j → j ≤ n i → e.mask i s j = false) → e.mask i s 0 = true

namespace DepotRouting
variable {e : Env I S} {n : I → Nat} {vis : S → Nat → Bool} {i : I}

theorem done_stable (V : DepotRouting e n vis) (s : S) (a : Nat) (hd : e.done i s = true) :
    e.done i (e.step i s a) = true :=
  (V.done_iff i _).2 fun j hj => by
    rw [V.step_vis, upd_apply]
    split
    · rfl
    · exact (V.done_iff i s).1 hd j hj

theorem once_of_done_run (V : DepotRouting e n vis) {s s' : S} {as : List Nat} (h : Run e i s as s')
    (hd : e.done i s' = true) {j : Nat} (h1 : 1 ≤ j) (h2 : j ≤ n i) (hv : vis s j = false) : as.count j = 1 := by
  have := V.count_of_run h (Nat.ne_of_gt h1)
  rwa [hv, (V.done_iff i s').1 hd j (Nat.lt_succ_of_le h2)] at this

theorem done_of_all_listed (V : DepotRouting e n vis) {s s' : S} {as : List Nat} (h : Run e i s as s')
    (hc : ∀ j, j ≤ n i → j ∈ as) : e.done i s' = true :=
  (V.done_iff i s').2 fun j hj => by
    rw [V.vis_of_run h j, decide_eq_true (hc j (Nat.le_of_lt_succ hj)), Bool.or_true]

theorem done_exec_iff (V : DepotRouting e n vis) {s : S} (hv : ∀ j, vis s j = false) (p : List Nat) :
    e.done i (exec e i s p) = true ↔ ∀ j, j ≤ n i → j ∈ p := by
  rw [V.done_iff]
  refine forall_congr' fun j => ?_
  rw [V.vis_exec, hv j, Bool.false_or, decide_eq_true_eq, Nat.lt_succ_iff]

/-- The converse of C01 for a family: its one step `hQ`, then range (`hr`) and every customer once (`ho`) as the
specification states them, a depot visit (`hdep`: `done` wants node 0 marked), nothing marked in the start state (`hv`,
`fun _ => rfl` at reset), and the admission condition there (`hq`). -/
theorem run_of_once (V : DepotRouting e n vis) {Q : S → List Nat → Prop} (hQ : V.StepKeeps i Q)
    {as : List Nat} {s : S} (hr : ∀ a ∈ as, a ≤ n i) (ho : ∀ j, 1 ≤ j → j ≤ n i → as.count j = 1) (hdep : 0 ∈ as)
    (hv : ∀ j, vis s j = false) (hq : Q s as) : ∃ s', Run e i s as s' ∧ e.done i s' = true := by
  obtain ⟨s', hrun⟩ := V.run_of_admissible hQ as s hr (unmarked_of_once hr ho hv) hq
  refine ⟨s', hrun, V.done_of_all_listed hrun fun j hj => ?_⟩
  cases j with
  | zero => exact hdep
  | succ k => exact mem_of_count_eq_one (ho (k + 1) (Nat.succ_pos k) hj)

theorem mask_nonempty (V : DepotRouting e n vis) (i : I) (s : S) : ∃ a, a < e.nAct i ∧ e.mask i s a = true :=
  mask_nonempty_of_depot_offered (V.nAct i) (V.depot_offered i s)

theorem mask_of_done (V : DepotRouting e n vis) {s : S} (hd : e.done i s = true) {a : Nat} (ha : a < e.nAct i) :
    e.mask i s a = decide (a = 0) := by
  have hall := (V.done_iff i s).1 hd
  have hno : ∀ j, j ≠ 0 → j < n i + 1 → e.mask i s j = false := fun j h0 hj =>
    Bool.eq_false_iff.2 fun hm => Bool.false_ne_true ((V.mask_customer i s j h0 hm).symm.trans (hall j hj))
  by_cases h0 : a = 0
  · rw [h0, V.depot_offered i s fun j h1 h2 => hno j (Nat.ne_of_gt h1) (Nat.lt_succ_of_le h2)]
    rfl
  · rw [decide_eq_false h0]
    exact hno a h0 (V.nAct i ▸ ha)

/-- rl4co keeps stepping a finished instance while its batch-mates run -/
theorem pad (V : DepotRouting e n vis) {s : S} (hd : e.done i s = true) {a : Nat} (ha : a < e.nAct i)
    (hm : e.mask i s a = true) :
    a = 0 ∧ e.done i (e.step i s a) = true ∧ ∀ b, b < e.nAct i → e.mask i (e.step i s a) b = e.mask i s b :=
  have hd' := V.done_stable s a hd
  ⟨of_decide_eq_true ((V.mask_of_done hd ha).symm.trans hm), hd',
    fun _ hb => (V.mask_of_done hd' hb).trans (V.mask_of_done hd hb).symm⟩

def mu (n : Nat) (v : Nat → Bool) (cur : Nat) : Nat :=
  2 * unvisited n v + (if cur ≠ 0 then 1 else 0) + (if v 0 then 0 else 1)

theorem mu_decreases (V : DepotRouting e n vis) {s : S} {a c : Nat}
    (hidle : c = 0 → e.mask i s 0 = true → ∀ j, 1 ≤ j → j ≤ n i → vis s j = true)
    (hd : e.done i s = false) (ha : a < e.nAct i) (hm : e.mask i s a = true) :
    mu (n i) (vis (e.step i s a)) a < mu (n i) (vis s) c := by
  unfold mu
  by_cases h0 : a = 0
  · subst h0
    rw [V.unvisited_step_depot, V.step_vis, upd_same, if_neg (fun h => h rfl), if_pos rfl]
    by_cases hc : c = 0
    · -- at the depot, every customer visited, unfinished: the depot is not visited
      have hall := hidle hc hm
      have hv0 : vis s 0 = false := (Bool.not_eq_true _).mp fun hv0 => Bool.false_ne_true <| hd.symm.trans <|
        (V.done_iff i s).2 fun j hj => by
          cases j with
          | zero => exact hv0
          | succ k => exact hall (k + 1) (Nat.succ_pos k) (Nat.le_of_lt_succ hj)
      rw [hv0, if_neg Bool.false_ne_true]
      exact Nat.lt_succ_of_le (Nat.le_add_right _ _)
    · rw [if_pos hc]
      exact Nat.lt_of_lt_of_le (Nat.lt_succ_self _) (Nat.le_add_right _ _)
  · rw [← V.unvisited_step_customer h0 ha hm, V.step_vis, upd_other _ _ _ _ (Ne.symm h0), if_pos h0, Nat.mul_succ]
    exact Nat.add_lt_add_right (Nat.lt_of_lt_of_le (Nat.lt_succ_self _) (Nat.le_add_right _ _)) _

/-- In the measure `mu` a customer visit pays for itself and for the way back, the depot bit for the last return.  The family
supplies `cur` (the node it stands at), an invariant `Inv` of admitted steps (empty vehicle at the depot) and the idle law
`hidle`; without it the vehicle could stay at the depot forever, and it is where the family's well-formedness enters (an
unvisited customer fits a fresh vehicle, so it is offered and the depot rule closes the depot). -/
theorem steps_le (V : DepotRouting e n vis) {cur : S → Nat} (hcur : ∀ s a, cur (e.step i s a) = a)
    {Inv : S → Prop} (hInv : ∀ s a, Inv s → a < e.nAct i → e.mask i s a = true → Inv (e.step i s a))
    (hidle : ∀ s, Inv s → cur s = 0 → e.mask i s 0 = true → ∀ j, 1 ≤ j → j ≤ n i → vis s j = true)
    {s s' : S} {as : List Nat} (h : RunND e i s as s') (h0 : Inv s) (hc : cur s = 0) :
    as.length ≤ 2 * n i + 1 := by
  have := steps_le_of_measure (e := e) (i := i) (fun s => mu (n i) (vis s) (cur s)) Inv hInv
    (fun s a hi hd ha hm => by rw [hcur]; exact V.mu_decreases (hidle s hi) hd ha hm) h h0
  have hs : mu (n i) (vis s) (cur s) ≤ 2 * n i + 1 := by
    unfold mu
    rw [hc, if_neg (fun h => h rfl)]
    exact Nat.add_le_add (Nat.mul_le_mul_left 2 (unvisited_le _ _)) (by split <;> decide)
  exact Nat.le_trans (Nat.le_trans (Nat.le_add_right _ _) this) hs

end DepotRouting
end Rl4co.Routing
