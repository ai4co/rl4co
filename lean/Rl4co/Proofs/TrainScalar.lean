/-
The scalar functions of the PPO losses on one sample — `clamp`, `min`, `max` on dual numbers and the weight of a sample
in the reference gradient: which value and which derivative each branch returns.  The models take the scalar type
through its notation classes only; the lemmas add the order, or the laws of `0` and `1`, where a proof uses them.
-/
import Rl4co.Train.Loss
import Rl4co.Train.NStep
import Rl4co.Spec.Train
import Mathlib.Order.Defs.LinearOrder
import Mathlib.Algebra.GroupWithZero.Defs

namespace Rl4co.Train
open Rl4co.Spec.Train

section unfolding
variable {K : Type} [LT K] [DecidableLT K]

theorem minD_d [Add K] [Div K] [NatCast K] (a b : Dual K) :
    (minD a b).d = if a.v < b.v then a.d else if b.v < a.v then b.d else (a.d + b.d) / ((2 : Nat) : K) := by
  simp only [minD, apply_ite Dual.d]

variable [Zero K]

theorem clampD_v (lo hi : K) (x : Dual K) : (clampD lo hi x).v = clip lo hi x.v := by
  simp only [clampD, clip, apply_ite Dual.v, Dual.const_v, ite_self]

/-- `torch.clamp` with the gradient convention at the bounds as a parameter -/
def clampG (pass : Bool) (lo hi : K) (x : Dual K) : Dual K :=
  if x.v < lo then Dual.const lo else if hi < x.v then Dual.const hi
  else if (lo < x.v ∧ x.v < hi) ∨ pass = true then x else Dual.const x.v

theorem clampD_eq_clampG (lo hi : K) (x : Dual K) : clampD lo hi x = clampG false lo hi x := by
  simp only [clampD, clampG, Bool.false_eq_true, or_false]

end unfolding

section order
variable {K : Type} [Add K] [Div K] [NatCast K] [LinearOrder K]

theorem minD_v (a b : Dual K) : (minD a b).v = minK a.v b.v := by
  unfold minD minK
  by_cases h : b.v < a.v
  · rw [if_neg (lt_asymm h), if_pos h, if_pos h]
  · rw [if_neg h, if_neg h, apply_ite Dual.v, ite_self]

theorem NStep.maxDv_v (a b : Dual K) : (NStep.maxDv a b).v = if a.v < b.v then b.v else a.v := by
  simp only [NStep.maxDv, apply_ite Dual.v]
  by_cases h : a.v < b.v
  · rw [if_neg (lt_asymm h), if_pos h]
  · rw [if_neg h, ite_self]

end order

section weight
variable {K : Type} [MulZeroOneClass K] [Div K] [NatCast K] [LinearOrder K]

theorem ppoWeight_mul_of_ne (pass : Bool) (lo hi r A x : K) (hlo : r ≠ lo) (hhi : r ≠ hi) :
    ppoWeight pass lo hi r A * x = if ppoActive lo hi r A then x else 0 := by
  unfold ppoWeight ppoActive
  by_cases h : lo < r ∧ r < hi
  · rw [if_pos h, if_pos h, one_mul, if_pos rfl]
  · rw [if_neg h, if_neg h]
    by_cases h2 : hi < r
    · rw [if_pos h2, if_pos h2, ite_mul, one_mul, zero_mul]
      simp only [decide_eq_true_eq]
    · rw [if_neg h2, if_neg h2]
      have h1 : r < lo := lt_of_not_ge fun hge =>
        h ⟨lt_of_le_of_ne hge (Ne.symm hlo), lt_of_le_of_ne (not_lt.mp h2) hhi⟩
      rw [if_pos h1, if_pos h1, ite_mul, one_mul, zero_mul]
      simp only [decide_eq_true_eq]

end weight

end Rl4co.Train
