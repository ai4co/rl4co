/-
Converse direction for the MTVRP model (used by C05): from the route-continuation invariant back to the mask, for
`Canonical` action lists under the `Metric` side conditions (if the rest of a route can be completed within the deadline /
the distance limit, so can the direct way back to the depot — triangle inequality), and the canonical form of a
solution.  No Mathlib.
-/
import Rl4co.Proofs.MtvrpRun
import Rl4co.Proofs.VrpCanon

namespace Rl4co.Mtvrp
open Rl4co.Spec.Mtvrp

/-- canonical action lists relative to the node the vehicle stands at: the depot is never chosen while
standing at the depot (the documented pruning of the mask) -/
def canon : Nat → List Nat → Bool
  | _, [] => true
  | cur, a :: as => (a != 0 || cur != 0) && canon a as

/-- Canonical complete solutions: no leading depot visit, no two consecutive depot visits, and the depot
is visited at least once (the environment only declares an episode finished once the depot is visited). -/
def Canonical (as : List Nat) : Prop := canon 0 as = true ∧ 0 ∈ as

/-- metric side conditions: non-negative distances / travel times / service times and the triangle
inequality towards the depot (Euclidean instances satisfy them) -/
structure Metric (i : Inst) : Prop where
  dNonneg : ∀ a b, 0 ≤ i.D a b
  dTri    : ∀ a b, i.D a 0 ≤ i.D a b + i.D b 0
  tTri    : ∀ a b, i.T a 0 ≤ i.T a b + i.T b 0
  sNonneg : ∀ a, 0 ≤ i.service a

/-- a route that can be completed can be ended where the vehicle stands: the direct way back is no longer and arrives no
later (triangle inequality; waiting and service only delay) -/
theorem RestOk.cut {i : Inst} (hm : Metric i) {od ot : Bool} : ∀ {r : List Nat} {cur : Nat} {t len : Int},
    RestOk od ot i cur t len r → RestOk od ot i cur t len []
  | [], _, _, _, h => h
  | b :: _, cur, t, len, h => by
    obtain ⟨hl, ht⟩ := RestOk.cut hm h.2
    refine ⟨cmpInf_le_of_le_of_le ?_ hl, ht.imp_right (cmpInf_le_of_le_of_le ?_)⟩
    · rw [Int.add_assoc]
      refine Int.add_le_add_left ?_ len
      split
      · exact Int.add_nonneg (hm.dNonneg cur b) (Int.le_refl 0)
      · exact hm.dTri cur b
    · have := hm.tTri cur b
      have := hm.sNonneg b
      have : t + i.T cur b ≤ max (t + i.T cur b) (i.early b) := Int.le_max_left _ _
      omega

theorem canVisit_of_cont {i : Inst} (hwf : wf i = true) (hm : Metric i) {s : State} {a : Nat} {r : List Nat}
    (h0 : a ≠ 0) (ha : a ≤ i.n) (hr : ∀ b ∈ r, b ≤ i.n) (hv : s.vis a = false)
    (hc : Cont i s (a :: r)) : canVisit i s a = true := by
  obtain ⟨c1, c2, c3, _, c5, c6⟩ := hc
  obtain ⟨_, s2, s3, _⟩ := (servable_iff i a).1 (wf_servable hwf a (Nat.pos_of_ne_zero h0) ha)
  have hnnL : 0 ≤ (r.map i.dL).sum := sum_map_nonneg fun k hk => (wf_dem hwf k (Nat.lt_succ_of_le (hr k hk))).1
  have hnnB : 0 ≤ (r.map i.dB).sum := sum_map_nonneg fun k hk => (wf_dem hwf k (Nat.lt_succ_of_le (hr k hk))).2.1
  rw [List.map_cons, List.sum_cons] at c1 c2
  obtain ⟨hl, ht⟩ := c6.cut hm
  refine (canVisit_iff i s a).2 ⟨c5, ?_, ?_, hl, hv⟩
  · cases ho : i.openR
    · exact ht.resolve_left (ho ▸ Bool.false_ne_true)
    · rw [ho] at s2; exact s2
  · have fit : ∀ {d u S : Int}, 0 ≤ S → u + (d + S) ≤ i.cap → d + u ≤ i.cap := fun hS h =>
      Int.le_trans (Int.add_comm _ _ ▸ Int.add_le_add_left (Int.le_add_of_nonneg_right hS) _) h
    exact adm_dem hwf ha hv (s3.imp (fun h => ⟨h.1, fit hnnL c1⟩) fun h => ⟨h.1, fit hnnB c2⟩)
      fun hb => c3 hb a List.mem_cons_self

theorem routesOk_of_routeOk {i : Inst} (hwf : wf i = true) {s : State} (hcur : s.cur = 0) (hf : Fresh s)
    {as : List Nat} (h : ∀ r ∈ routes as, r ≠ [] → RouteOk .le i r) : RoutesOk i s as := by
  obtain ⟨h1, h2⟩ := forall_mem_routes.1 h
  refine ⟨fun hne => ?_, h2⟩
  obtain ⟨hlen, ht, hL, hB⟩ := hf hcur
  obtain ⟨c1, c2, c3, c4⟩ := (routeOk_iff i _).1 (h1 hne)
  refine ⟨by rw [hL, Int.zero_add]; exact c1, by rw [hB, Int.zero_add]; exact c2, ?_, c3, ?_⟩
  · rw [hcur, (wf_depot hwf).2]; exact fun h => absurd h (Int.lt_irrefl 0)
  · rw [hcur, ht, hlen]; exact c4

theorem cont_step (i : Inst) (hwf : wf i = true) (hm : Metric i) :
    routing.StepKeeps i fun s as => canon s.cur as = true ∧ RoutesOk i s as := by
  intro s a as hr hf ⟨hcanon, hroutes⟩
  show mask i s a = true ∧ canon (step i s a).cur as = true ∧ RoutesOk i (step i s a) as
  rw [canon, Bool.and_eq_true, Bool.or_eq_true, bne_iff_ne, bne_iff_ne] at hcanon
  suffices hs : mask i s a = true ∧ RoutesOk i (step i s a) as from
    ⟨hs.1, by rw [step_def]; exact hcanon.2, hs.2⟩
  by_cases h0 : a = 0
  · subst h0
    have hcur : s.cur ≠ 0 := hcanon.1.resolve_left fun h => h rfl
    exact ⟨by rw [mask_def, if_pos rfl, beq_false_of_ne hcur]; rfl,
      routesOk_of_routeOk hwf (s := step i s 0) rfl (fresh_step i s 0) hroutes.2⟩
  · rw [RoutesOk, firstRoute_cons h0, restRoutes_cons h0] at hroutes
    have hcont := hroutes.1 (List.cons_ne_nil _ _)
    rw [mask_def, if_neg h0]
    refine ⟨canVisit_of_cont hwf hm h0 (hr a List.mem_cons_self) (fun b hb => ?_) (hf.head h0) hcont,
      fun _ => cont_tail h0 hcont, hroutes.2⟩
    exact hr b (List.mem_cons_of_mem _ (mem_of_mem_routes as _ (routes_eq as ▸ List.mem_cons_self) b hb))

theorem canon_append_zero (rest : List Nat) : ∀ (r : List Nat) (cur : Nat), r ≠ [] ∨ cur ≠ 0 → 0 ∉ r →
    canon cur (r ++ 0 :: rest) = canon 0 rest
  | [], cur, h, _ => by
    rw [List.nil_append, canon, bne_iff_ne.2 (h.resolve_left fun e => e rfl), Bool.or_true, Bool.true_and]
  | a :: r, cur, _, h => by
    have ha : a ≠ 0 := fun e => h (e ▸ List.mem_cons_self)
    rw [List.cons_append, canon, bne_iff_ne.2 ha, Bool.true_or, Bool.true_and]
    exact canon_append_zero rest r a (Or.inr ha) fun e => h (List.mem_cons_of_mem _ e)

theorem canon_rebuild : ∀ (rs : List (List Nat)), (∀ r ∈ rs, r ≠ [] ∧ 0 ∉ r) → canon 0 (rebuild rs) = true
  | [], _ => rfl
  | r :: rs, h => by
    rw [rebuild, canon_append_zero _ r 0 (Or.inl (h r List.mem_cons_self).1) (h r List.mem_cons_self).2]
    exact canon_rebuild rs fun r' hr' => h r' (List.mem_cons_of_mem _ hr')

theorem objective_normalize (i : Inst) (as : List Nat) : objective i (normalize as) = objective i as := by
  rw [objective, objective, routes_normalize, List.map_append, List.sum_append,
    sum_map_filter_nonempty (routeCost i) rfl]
  exact Int.add_zero _

theorem feasible_normalize {i : Inst} {as : List Nat} (hf : Feasible i as) : Feasible i (normalize as) := by
  refine ⟨fun a ha => ?_, fun j h1 h2 => ?_, fun r hr hne => ?_⟩
  · rcases mem_normalize as a ha with h | h
    · rw [h]; exact Nat.zero_le _
    · exact hf.range a h
  · rw [count_normalize as j (Nat.ne_of_gt h1)]
    exact hf.once j h1 h2
  · exact hf.route r ((mem_routes_normalize hr).resolve_right hne) hne

theorem canonical_normalize {i : Inst} {as : List Nat} (hn : 0 < i.n) (hf : Feasible i as) :
    Canonical (normalize as) := by
  refine ⟨canon_rebuild _ (mem_filter_nonempty_routes as), zero_mem_normalize Nat.one_ne_zero ?_⟩
  -- customer 1 is visited
  exact List.count_pos_iff.mp (by rw [hf.once 1 (Nat.le_refl 1) hn]; exact Nat.one_pos)

end Rl4co.Mtvrp
