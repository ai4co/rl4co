/-
What the mTSP property files share (`Rl4co.Mtsp`; they import this file, C05 by way of C01 and C03): the equations of `step`
field by field, the visited row `routing` (visit counts come from `Proofs/VisitedRow`), the invariant `Inv` of the reachable states, the
length bookkeeping `InvLen`, and `starts`, the departures from the depot counted along an action list, through which the
agent counter meets the Spec's `routes`.
-/
import Rl4co.Env.Mtsp
import Rl4co.Spec.Mtsp
import Rl4co.Proofs.VisitedRow

namespace Rl4co.Mtsp

theorem anyCust_eq_false {n : Nat} {f : Nat → Bool} :
    anyCust n f = false ↔ ∀ j, 1 ≤ j → j ≤ n → f j = false := any_succ_eq_false

theorem anyCust_eq_true {n : Nat} {f : Nat → Bool} :
    anyCust n f = true ↔ ∃ j, 1 ≤ j ∧ j ≤ n ∧ f j = true := by
  rw [anyCust, List.any_eq_true]
  constructor
  · rintro ⟨k, hk, hf⟩
    exact ⟨k + 1, Nat.succ_pos k, Nat.succ_le_of_lt (List.mem_range.mp hk), hf⟩
  · rintro ⟨j, h1, h2, hf⟩
    obtain ⟨k, rfl⟩ : ∃ k, j = k + 1 := ⟨j - 1, (Nat.sub_add_cancel h1).symm⟩
    exact ⟨k, List.mem_range.mpr (Nat.lt_of_succ_le h2), hf⟩

/-- the depot entry is not a customer -/
theorem anyCust_upd_zero (n : Nat) (f : Nat → Bool) (b : Bool) : anyCust n (upd f 0 b) = anyCust n f := by
  simp only [anyCust, upd_other _ _ _ _ (Nat.succ_ne_zero _)]

/-- the operator the theorems need: "an agent is left" is the strict comparison (obligation on the
extracted parameter `Params.mtspAgentCmp`) -/
theorem agentLeft_eq (i : Inst) (s : State) : agentLeft i s = decide (s.agent + 1 < i.m) := by
  simp [agentLeft, Params.mtspAgentCmp, Cmp.evalNat]

@[simp] theorem agentInc_eq (a : Nat) : agentInc a = if a = 0 then 1 else 0 := by
  simp [agentInc, Params.mtspAgentIncCmp, Cmp.evalNat]
@[simp] theorem depotNe_eq (a : Nat) : depotNe a = decide (a ≠ 0) := by
  simp [depotNe, Params.mtspDepotNeCmp, Cmp.evalNat]
@[simp] theorem sameAgent_eq (x y : Nat) : sameAgent x y = decide (x = y) := by
  simp [sameAgent, Params.mtspResetCmp, Cmp.evalNat]

theorem cnt_cust_eq_zero {n : Nat} {av : Nat → Bool} :
    cnt n (fun k => av (k + 1)) = 0 ↔ anyCust n av = false :=
  cnt_succ_eq_zero.trans any_succ_eq_false.symm

/-- "no customer left" is the test `count == 0` (obligation on `Params.mtspDoneCmp`) -/
@[simp] theorem doneTest_eq (n : Nat) (av : Nat → Bool) : doneTest n av = !(anyCust n av) := by
  simp only [doneTest, Params.mtspDoneCmp, Cmp.evalNat, cnt_cust_eq_zero]
  cases anyCust n av <;> rfl


@[simp] theorem step_cur (i : Inst) (s : State) (a : Nat) : (step i s a).cur = a := rfl

@[simp] theorem step_agent (i : Inst) (s : State) (a : Nat) :
    (step i s a).agent = s.agent + (if a = 0 then 1 else 0) := by
  show s.agent + agentInc a = _
  rw [agentInc_eq]

theorem step_used (i : Inst) (s : State) (a : Nat) :
    (step i s a).agent + (if a ≠ 0 then 1 else 0) = s.agent + 1 := by
  rw [step_agent]
  by_cases h0 : a = 0
  · rw [if_pos h0, if_neg (fun h => h h0)]
  · rw [if_neg h0, if_pos h0]

theorem step_i (i : Inst) (s : State) (a : Nat) : (step i s a).i = s.i + 1 := rfl

/-- `available` after a step: the visited node is switched off, the depot entry is written twice -/
theorem step_avail (i : Inst) (s : State) (a : Nat) :
    (step i s a).avail = upd (upd (upd s.avail a false) 0 (depotNe a && agentLeft i s)) 0
      ((step i s a).done || (depotNe a && agentLeft i s)) := rfl

theorem step_avail_cust (i : Inst) (s : State) (a j : Nat) (hj : j ≠ 0) :
    (step i s a).avail j = (if j = a then false else s.avail j) := by
  rw [step_avail, upd_other _ _ _ _ hj, upd_other _ _ _ _ hj, upd_apply]

/-- The visited row through which mTSP is a `Routing.VisitedRow`: a customer is visited when it is no longer available.
The depot entry of `avail` is rewritten by every step (`step_avail_depot`), so the depot counts as visited throughout. -/
def visited (s : State) (j : Nat) : Bool := decide (j = 0) || !s.avail j

theorem visited_cust (s : State) {j : Nat} (hj : j ≠ 0) : visited s j = !s.avail j := by
  rw [visited, decide_eq_false hj, Bool.false_or]

theorem routing : Routing.VisitedRow env Inst.n visited where
  nAct _ := rfl
  step_vis i s a := funext fun j => by
    rw [upd_apply]
    by_cases hj : j = 0
    · subst hj
      exact (ite_self true).symm
    · rw [visited_cust _ hj, visited_cust _ hj, show env.step i s a = step i s a from rfl, step_avail_cust i s a j hj]
      split <;> rfl
  mask_customer i s a h0 hm := by rw [visited_cust s h0, show s.avail a = true from hm]; rfl

theorem step_avail_depot (i : Inst) (s : State) (a : Nat) :
    (step i s a).avail 0 = ((step i s a).done || (decide (a ≠ 0) && decide (s.agent + 1 < i.m))) := by
  rw [step_avail, upd_same, depotNe_eq, agentLeft_eq]

theorem step_done (i : Inst) (s : State) (a : Nat) :
    (step i s a).done = !(anyCust i.n (step i s a).avail) := by
  -- `done` is computed before the depot entry is set for the last time
  rw [step_avail, anyCust_upd_zero, ← doneTest_eq]
  rfl

/-- the closing leg is not stored -/
theorem step_curLen (i : Inst) (s : State) (a : Nat) :
    (step i s a).curLen = if a = 0 then 0 else s.curLen + i.D s.cur a := by
  simp only [step, stepWith]
  by_cases h0 : a = 0
  · subst h0; simp
  · simp [h0]

theorem ite_gt_eq_max (x m : Int) : (if x > m then x else m) = max m x := by
  by_cases h : x > m
  · rw [if_pos h, Int.max_eq_right (Int.le_of_lt h)]
  · rw [if_neg h, Int.max_eq_left (Int.not_lt.mp h)]

/-- the running maximum takes the leg just driven, and the closing leg when the episode ends -/
theorem step_maxLen (i : Inst) (s : State) (a : Nat) :
    (step i s a).maxLen =
      max s.maxLen (s.curLen + i.D s.cur a + (if (step i s a).done then i.D a 0 else 0)) := by
  have : ∀ (d : Bool) (l x : Int), (l + if d = true then x else 0) = if d = true then l + x else l := by
    intro d l x
    cases d
    · exact Int.add_zero l
    · rfl
  rw [this]
  exact ite_gt_eq_max _ _

theorem step_done_true {i : Inst} {s : State} {a : Nat} (h : (step i s a).done = true) :
    ∀ j, 1 ≤ j → j ≤ i.n → (step i s a).avail j = false := by
  rw [step_done] at h
  exact anyCust_eq_false.mp (by simpa using h)

theorem step_done_false {i : Inst} {s : State} {a : Nat} (h : (step i s a).done = false) :
    ∃ j, 1 ≤ j ∧ j ≤ i.n ∧ (step i s a).avail j = true := by
  rw [step_done] at h
  exact anyCust_eq_true.mp (by simpa using h)


structure Inv (i : Inst) (s : State) : Prop where
  doneNo   : s.done = true → ∀ j, 1 ≤ j → j ≤ i.n → s.avail j = false
  doneDep  : s.done = true → s.avail 0 = true
  someCust : s.done = false → ∃ j, 1 ≤ j ∧ j ≤ i.n ∧ s.avail j = true
  depot    : s.done = false → s.avail 0 = true → s.cur ≠ 0 ∧ s.agent + 1 < i.m
  agentOk  : s.done = false → s.agent + 1 ≤ i.m

theorem inv_reset (i : Inst) (hn : 1 ≤ i.n) (hm : 1 ≤ i.m) : Inv i (reset i) where
  doneNo h := by cases h
  doneDep h := by cases h
  someCust _ := ⟨1, Nat.le_refl 1, hn, rfl⟩
  depot _ h := by cases h
  agentOk _ := hm

theorem depot_of_none_left {i : Inst} {s : State} (hno : ∀ j, 1 ≤ j → j ≤ i.n → s.avail j = false)
    {a : Nat} (ha : a < i.n + 1) (hm : s.avail a = true) : a = 0 := by
  cases a with
  | zero => rfl
  | succ k =>
    rw [hno (k + 1) (Nat.succ_pos k) (Nat.le_of_lt_succ ha)] at hm
    cases hm

theorem done_step_of_none_left {i : Inst} {s : State} (hno : ∀ j, 1 ≤ j → j ≤ i.n → s.avail j = false) (a : Nat) :
    (step i s a).done = true := by
  rw [step_done]
  have : anyCust i.n (step i s a).avail = false := by
    apply anyCust_eq_false.mpr
    intro j h1 h2
    rw [step_avail_cust i s a j (Nat.ne_of_gt h1), hno j h1 h2]
    split <;> rfl
  rw [this]
  rfl

theorem inv_step {i : Inst} {s : State} {a : Nat} (hi : Inv i s)
    (hm : s.avail a = true) : Inv i (step i s a) := by
  have hdone : s.done = true → (step i s a).done = true := fun hd => done_step_of_none_left (hi.doneNo hd) a
  refine ⟨fun h => step_done_true h, ?_, fun h => step_done_false h, ?_, ?_⟩
  · intro h; rw [step_avail_depot, h]; rfl
  · intro h h0
    rw [step_avail_depot, h] at h0
    simp only [Bool.false_or, Bool.and_eq_true, decide_eq_true_eq] at h0
    simp only [step_cur, step_agent, h0.1, if_false]
    exact ⟨h0.1, h0.2⟩
  · intro h
    have hs : s.done = false := by
      cases hd : s.done with
      | false => rfl
      | true => rw [hdone hd] at h; cases h
    rw [step_agent]
    by_cases h0 : a = 0
    · subst h0
      rw [if_pos rfl]
      exact (hi.depot hs hm).2
    · rw [if_neg h0]
      exact hi.agentOk hs

theorem inv_of_run {i : Inst} {s s' : State} {as : List Nat} (h : Run env i s as s') (hi : Inv i s) :
    Inv i s' :=
  h.inv (Inv := Inv i) (fun _ _ hi _ hm => inv_step hi hm) hi

theorem inv_of_reach {i : Inst} (hn : 1 ≤ i.n) (hm : 1 ≤ i.m) {s : State} (h : Reach env i s) :
    Inv i s :=
  Exists.elim h fun _ hr => inv_of_run hr (inv_reset i hn hm)

/-- the first action of an episode is a customer: no episode finishes on an instance without one -/
theorem one_le_n_of_run {i : Inst} {as : List Nat} {s : State} (h : Run env i (env.reset i) as s)
    (hd : s.done = true) : 1 ≤ i.n := by
  cases h with
  | nil => cases hd
  | @cons _ _ a _ ha hmk _ =>
    have h0 : a ≠ 0 := by
      intro h0; subst h0; cases hmk
    exact Nat.lt_of_lt_of_le (Nat.pos_of_ne_zero h0) (Nat.le_of_lt_succ ha)

def WF (i : Inst) : Prop := 1 ≤ i.n ∧ 1 ≤ i.m

theorem WF.customers {i : Inst} (h : WF i) : 1 ≤ i.n := h.1
theorem WF.agents {i : Inst} (h : WF i) : 1 ≤ i.m := h.2

def WFD (i : Inst) : Prop := (∀ a b, 0 ≤ i.D a b) ∧ i.D 0 0 = 0

theorem WFD.nonneg {i : Inst} (h : WFD i) : ∀ a b, 0 ≤ i.D a b := h.1
theorem WFD.depot {i : Inst} (h : WFD i) : i.D 0 0 = 0 := h.2

/-- the running maximum is non-negative, and in a finished state it already holds the closed last
tour (a padding step would otherwise add the closing leg a second time) -/
structure InvLen (i : Inst) (s : State) : Prop where
  maxNonneg : 0 ≤ s.maxLen
  closedIn  : s.done = true → s.curLen + i.D s.cur 0 ≤ s.maxLen

theorem invLen_reset (i : Inst) : InvLen i (reset i) :=
  ⟨Int.le_refl 0, fun h => by cases h⟩

theorem invLen_step {i : Inst} (h00 : i.D 0 0 = 0) {s : State} {a : Nat} (hp : InvLen i s) :
    InvLen i (step i s a) := by
  have hmx : 0 ≤ (step i s a).maxLen := by
    rw [step_maxLen]; exact Int.le_trans hp.maxNonneg (Int.le_max_left _ _)
  refine ⟨hmx, fun hd => ?_⟩
  rw [step_curLen, step_cur]
  by_cases h0 : a = 0
  · subst h0
    rw [if_pos rfl, h00]
    exact hmx
  · rw [if_neg h0, step_maxLen, hd, if_pos rfl]
    exact Int.le_max_right _ _

theorem invLen_of_reach {i : Inst} (h00 : i.D 0 0 = 0) {s : State} (h : Reach env i s) : InvLen i s :=
  Rl4co.inv_of_reach (e := env) (Inv := InvLen i) (invLen_reset i) (fun _ _ hp _ _ => invLen_step h00 hp) h

theorem maxLen_pad {i : Inst} (h00 : i.D 0 0 = 0) {s : State}
    (hno : ∀ j, 1 ≤ j → j ≤ i.n → s.avail j = false) (hp : InvLen i s) (hd : s.done = true) :
    (step i s 0).maxLen = s.maxLen := by
  rw [step_maxLen, done_step_of_none_left hno 0, if_pos rfl, h00, Int.add_zero]
  exact Int.max_eq_left (hp.closedIn hd)

/-- number of departures from the depot along `as`, `p` being the node visited before -/
def starts : Nat → List Nat → Nat
  | _, [] => 0
  | p, a :: as => (if a ≠ 0 ∧ p = 0 then 1 else 0) + starts a as

theorem starts_cons_zero (p : Nat) (as : List Nat) : starts p (0 :: as) = starts 0 as := by
  rw [starts, if_neg (fun h => h.1 rfl), Nat.zero_add]

/-- The agent budget `departures to come + agents used + [one is on its way]` across a step that is not a stay at
the depot, `g` being the agents used before it.  On the right `g + 1` stands for `agents used after the step + [a ≠ 0]`
(`step_used`), so with `step_cur` both sides are the budget, before and after. -/
theorem starts_cons {p a : Nat} (h : a ≠ 0 ∨ p ≠ 0) (as : List Nat) (g : Nat) :
    starts p (a :: as) + g + (if p ≠ 0 then 1 else 0) = starts a as + (g + 1) := by
  rw [starts]
  by_cases hp : p = 0
  · have ha : a ≠ 0 := h.resolve_right (fun h => h hp)
    rw [if_pos ⟨ha, hp⟩, if_neg (fun h => h hp), Nat.add_zero, Nat.add_comm 1, Nat.add_assoc,
      Nat.add_comm 1]
  · rw [if_neg (fun h => hp h.2), if_pos hp, Nat.zero_add, Nat.add_assoc]

/-- departures = non-empty routes, the route in progress counted only if the walk starts at the depot -/
theorem starts_eq_routes (as : List Nat) : ∀ p,
    starts p as = ((if p = 0 then routes as else restRoutes as).filter (fun r => !r.isEmpty)).length := by
  induction as with
  | nil =>
    intro p
    split <;> rfl
  | cons a as ih =>
    intro p
    by_cases h0 : a = 0
    · -- a depot visit closes the route in progress empty; what follows is counted from the depot
      subst h0
      rw [starts_cons_zero, ih 0, if_pos rfl]
      split <;> rfl
    · rw [starts, ih a, if_neg h0]
      by_cases hp : p = 0
      · rw [if_pos ⟨h0, hp⟩, if_pos hp, routes_eq, firstRoute_cons h0, restRoutes_cons h0, Nat.add_comm]
        rfl
      · rw [if_neg (fun h => hp h.2), if_neg hp, restRoutes_cons h0, Nat.zero_add]

theorem tours_length_eq_starts (as : List Nat) : (Spec.Mtsp.tours as).length = starts 0 as := by
  rw [starts_eq_routes, if_pos rfl]
  rfl

end Rl4co.Mtsp
