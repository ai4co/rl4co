/-
FFSP, progress argument behind the step bound (C02): in every time unit of an unfinished row some
machine is busy or an operation of duration 0 was started, so `time + (remaining busy time of the machines)`
— plus one spare unit while the sweep has passed an unfinished job's stage with no machine busy — never
exceeds the work started so far (at the longest durations, a duration 0 counted as 1), which is within the
total work `D`; hence the clock of an unfinished row never exceeds `D`, for ALL durations ≥ 0.
No Mathlib.
-/
import Rl4co.Proofs.Ffsp
namespace Rl4co.Ffsp

theorem sumN_congr {n : Nat} {f g : Nat → Nat} (h : ∀ x, x < n → f x = g x) : sumN n f = sumN n g := by
  induction n with
  | zero => rfl
  | succ n ih => simp only [sumN]; rw [ih (fun x hx => h x (Nat.lt_succ_of_lt hx)), h n (Nat.lt_succ_self n)]

theorem sumN_le {n : Nat} {f g : Nat → Nat} (h : ∀ x, x < n → f x ≤ g x) : sumN n f ≤ sumN n g := by
  induction n with
  | zero => exact Nat.le_refl _
  | succ n ih =>
    exact Nat.add_le_add (ih (fun x hx => h x (Nat.lt_succ_of_lt hx))) (h n (Nat.lt_succ_self n))

theorem sumN_prefix_le (f : Nat → Nat) {a b : Nat} (h : a ≤ b) : sumN a f ≤ sumN b f := by
  induction h with
  | refl => exact Nat.le_refl _
  | step _ ih => exact Nat.le_trans ih (Nat.le_add_right _ _)

theorem sumN_upd {n : Nat} (f : Nat → Nat) {a : Nat} (v : Nat) (ha : a < n) :
    sumN n (upd f a v) + f a = sumN n f + v := by
  induction n with
  | zero => cases ha
  | succ n ih =>
    simp only [sumN]
    by_cases han : a = n
    · subst han
      have : sumN a (upd f a v) = sumN a f := sumN_congr (fun x hx => upd_other _ _ _ _ (Nat.ne_of_lt hx))
      rw [this, upd_same]; omega
    · have := ih (Nat.lt_of_le_of_ne (Nat.le_of_lt_succ ha) han)
      rw [upd_other _ _ _ _ (fun hh => han hh.symm)]; omega

theorem sumN_sub_le {n : Nat} (f : Nat → Nat) (w : Nat) : sumN n (fun x => f x - w) ≤ sumN n f :=
  sumN_le (fun _ _ => Nat.sub_le _ _)

theorem sumN_sub_add_le {n : Nat} (f : Nat → Nat) {w a : Nat} (ha : a < n) (hw : w ≤ f a) :
    sumN n (fun x => f x - w) + w ≤ sumN n f := by
  induction n with
  | zero => cases ha
  | succ n ih =>
    simp only [sumN]
    by_cases han : a = n
    · subst han
      have := sumN_sub_le (n := a) f w
      omega
    · have := ih (Nat.lt_of_le_of_ne (Nat.le_of_lt_succ ha) han)
      omega

theorem dur_le_maxDur (i : Inst) (h : WF i) (j m : Nat) : i.dur j m ≤ maxDur i j (m / i.M) := by
  apply le_maxL
  refine List.mem_map.mpr ⟨m % i.M, List.mem_range.mpr (Nat.mod_lt _ h.M_pos), ?_⟩
  rw [Nat.mul_comm, Nat.div_add_mod]

/-- longest duration of job `j` in stage `k`, a duration 0 counted as 1 -/
def maxDur1 (i : Inst) (j k : Nat) : Nat := max 1 (maxDur i j k)

/-- work started so far: the stages `< jloc j` of every job, each at its longest duration -/
def startedWork (i : Inst) (s : State) : Nat := sumN i.J (fun j => sumN (s.jloc j) (maxDur1 i j))
def busySum (i : Inst) (s : State) : Nat := sumN (MT i) s.mwait
/-- clock + remaining busy time of the machines -/
def load (i : Inst) (s : State) : Nat := s.time + busySum i s

theorem started_le_total {i : Inst} {s : State} (c : Core i s) : startedWork i s ≤ totalWork i :=
  sumN_le (fun j hj => sumN_prefix_le _ (c.loc_le j hj))

def Busy (i : Inst) (s : State) : Prop := ∃ m, m < MT i ∧ 0 < s.mwait m

/-- a job that is being processed keeps a machine busy -/
theorem busy_of_jwait {i : Inst} {s : State} (c : Core i s) (hd : s.done = false) (x : JExact i s) {j : Nat}
    (hj : j < i.J) (hp : 0 < s.jwait j) : Busy i s := by
  obtain ⟨m, hs, he⟩ := x j hj hp
  have := c.mach_busy hd m j hj hs
  rw [he] at this
  exact ⟨m, (c.set_stage m j hj hs).1, Nat.lt_of_lt_of_le hp (Int.ofNat_le.mp (Int.le_of_add_le_add_left this))⟩

/-- the sweep of the current time unit has not passed the stage of any unfinished job, or a machine is busy -/
def SweepBehind (i : Inst) (s : State) : Prop :=
  Busy i s ∨ ∀ j, j < i.J → s.jloc j < i.S → stageOf i s.sub ≤ s.jloc j
/-- the strict form: what a state found not ready adds to `SweepBehind` (`nonready_strict`), and what the loop body
needs to keep it -/
def SweepBefore (i : Inst) (s : State) : Prop :=
  Busy i s ∨ ∀ j, j < i.J → s.jloc j < i.S → stageOf i s.sub < s.jloc j

/-- the load is covered by the work started, with one spare unit when `q` fails -/
def Pot (i : Inst) (s : State) (q : Prop) : Prop :=
  load i s ≤ startedWork i s ∧ (¬ q → load i s + 1 ≤ startedWork i s)

theorem last_stage {i : Inst} (h : WF i) {sub : Nat} (hw : sub + 1 = MT i) : i.S ≤ stageOf i sub + 1 := by
  obtain ⟨S', hS'⟩ : ∃ S', i.S = S' + 1 := ⟨i.S - 1, (Nat.sub_add_cancel h.S_pos).symm⟩
  have hM := h.M_pos
  unfold MT at hw
  rw [hS', Nat.mul_succ] at hw
  have : S' ≤ sub / i.M := (Nat.le_div_iff_mul_le hM).mpr (by rw [Nat.mul_comm]; omega)
  rw [hS']; exact Nat.succ_le_succ this

theorem stage_succ_le (i : Inst) (h : WF i) (sub : Nat) : stageOf i (sub + 1) ≤ stageOf i sub + 1 := by
  have h1 : (sub + 1) / i.M ≤ (sub + i.M) / i.M := Nat.div_le_div_right (Nat.add_le_add_left h.M_pos _)
  rwa [Nat.add_div_right _ h.M_pos] at h1

theorem load_advance (i : Inst) (x : State) :
    load i (advance i x) ≤ load i x + wrap i x ∧ (Busy i x → load i (advance i x) ≤ load i x) := by
  have e : load i (advance i x) = x.time + wrap i x + sumN (MT i) (fun m => x.mwait m - wrap i x) := by
    unfold load busySum
    rw [advance_time, sumN_congr (fun m _ => advance_mwait i x m)]
  rw [e]
  constructor
  · have := sumN_sub_le (n := MT i) x.mwait (wrap i x)
    unfold load busySum; omega
  · rintro ⟨m, hm, hp⟩
    have hw : wrap i x ≤ x.mwait m := by
      rcases wrap_cases i x with ⟨_, e⟩ | ⟨_, e⟩
      · rw [e]; exact hp
      · rw [e]; exact Nat.zero_le _
    have := sumN_sub_add_le x.mwait hm hw
    unfold load busySum; omega

/-- one iteration of the loop body, from a post-action or non-ready state -/
theorem adv_prog (i : Inst) (h : WF i) (x : State) (c : Core i x) (hd : x.done = false)
    (pt : Pot i x (SweepBefore i x)) : Pot i (advance i x) (SweepBehind i (advance i x)) := by
  obtain ⟨hload, hloadb⟩ := load_advance i x
  -- the loop body starts no job
  rw [Pot, show startedWork i (advance i x) = startedWork i x from rfl]
  rcases wrap_cases i x with ⟨hw, e⟩ | ⟨hw, e⟩
  · -- wrap: the sweep restarts at stage 0
    have hQy : SweepBehind i (advance i x) := by
      right; intro j _ _
      rw [advance_sub, if_pos hw]; exact Nat.le_trans (Nat.le_of_eq (Nat.zero_div _)) (Nat.zero_le _)
    refine ⟨?_, fun hn => absurd hQy hn⟩
    by_cases hbusy : Busy i x
    · exact Nat.le_trans (hloadb hbusy) pt.1
    · -- no machine busy at the wrap: the sweep has passed every unfinished job, the spare unit pays
      have hnq : ¬ SweepBefore i x := by
        rintro (hb' | hq)
        · exact hbusy hb'
        · obtain ⟨j, hj, hlt⟩ := exists_unfinished c hd
          exact Nat.lt_irrefl _ (Nat.lt_of_lt_of_le hlt (Nat.le_trans (last_stage h hw) (hq j hj hlt)))
      rw [e] at hload
      exact Nat.le_trans hload (pt.2 hnq)
  · have hQQ : SweepBefore i x → SweepBehind i (advance i x) := by
      rintro (⟨m, hm, hp⟩ | hq)
      · left; exact ⟨m, hm, by rw [advance_mwait, e]; exact hp⟩
      · right; intro j hj hlt
        rw [advance_sub, if_neg hw]
        exact Nat.le_trans (stage_succ_le i h x.sub) (hq j hj hlt)
    rw [e] at hload
    exact ⟨Nat.le_trans hload pt.1, fun hn => Nat.le_trans (Nat.succ_le_succ hload) (pt.2 (fun hq' => hn (hQQ hq')))⟩

/-- a non-ready state inside the loop has strictly passed no unfinished job's stage -/
theorem nonready_strict (i : Inst) (h : WF i) (y : State) (c : Core i y) (hd : y.done = false)
    (jx : JExact i y) (pt : Pot i y (SweepBehind i y)) (hr : ready i y = false) : Pot i y (SweepBefore i y) := by
  refine ⟨pt.1, fun hn => pt.2 (fun q => hn ?_)⟩
  rcases q with hb | hq
  · exact Or.inl hb
  · by_cases hb : Busy i y
    · exact Or.inl hb
    · right
      intro j hj hlt
      have hm0 : ∀ m, m < MT i → y.mwait m = 0 := fun m hm =>
        Nat.eq_zero_of_not_pos fun hp => hb ⟨m, hm, hp⟩
      have hj0 : y.jwait j = 0 := Nat.eq_zero_of_not_pos fun hp => hb (busy_of_jwait c hd jx hj hp)
      refine Nat.lt_of_le_of_ne (hq j hj hlt) (fun heq => ?_)
      rw [(ready_iff i y).mpr ⟨hm0 _ (c.midx_lt h), j, hj, heq.symm, hj0⟩] at hr
      cases hr

/-- booking an operation: `d` units of busy time appear on an idle machine (`w = 0`), the `x` units planned for the
stage join the work started; as `x` covers `d` the load stays covered, with a spare unit when `d = 0 < x` -/
theorem load_book {t B B' W W' r x d w D : Nat} (hb : B' + w = B + d) (hw : w = 0)
    (hr : W' + r = W + (r + x)) (hle : d ≤ D) (h1 : 1 ≤ x) (h2 : D ≤ x) (h : t + B ≤ W) :
    t + B' ≤ W' ∧ (d = 0 → t + B' + 1 ≤ W') := by
  omega

theorem apply_job_prog (i : Inst) (h : WF i) (s : State) (l : Live i s) (pr : Pot i s (SweepBehind i s)) (a : Nat)
    (ha : a < i.J) (hm : s.mask a = true) : Pot i (apply i s a) (SweepBefore i (apply i s a)) := by
  obtain ⟨_, hloc, _, hmw, hmid, hst, _⟩ := job_action_facts i h s l a ha hm
  have hk : s.midx / i.M = s.jloc a := hst.trans hloc.symm
  have hdur := jobDur_job i ha s.midx
  -- the work started grows by the longest duration (at least 1), the load by the actual duration
  obtain ⟨hcov, hcov0⟩ : load i (apply i s a) ≤ startedWork i (apply i s a) ∧
      (i.dur a s.midx = 0 → load i (apply i s a) + 1 ≤ startedWork i (apply i s a)) := by
    unfold load busySum startedWork
    rw [apply_mwait, apply_jloc, hdur]
    have hF : (fun j => sumN (upd s.jloc a (s.jloc a + 1) j) (maxDur1 i j)) =
        upd (fun j => sumN (s.jloc j) (maxDur1 i j)) a (sumN (s.jloc a + 1) (maxDur1 i a)) := by
      funext j
      simp only [upd_apply]
      by_cases hja : j = a
      · subst hja; simp
      · simp [hja]
    rw [hF]
    -- `sumN (k + 1) f` is `sumN k f + f k` by definition: the `r + x` of `load_book`
    exact load_book (sumN_upd s.mwait (i.dur a s.midx) hmid) hmw
      (sumN_upd (fun j => sumN (s.jloc j) (maxDur1 i j)) (sumN (s.jloc a + 1) (maxDur1 i a)) ha)
      (hk ▸ dur_le_maxDur i h a s.midx) (Nat.le_max_left _ _) (Nat.le_max_right _ _) pr.1
  refine ⟨hcov, fun hnq => ?_⟩
  by_cases hd0 : i.dur a s.midx = 0
  · exact hcov0 hd0
  · exact absurd (Or.inl ⟨s.midx, hmid, by rw [apply_mwait_same, hdur]; exact Nat.pos_of_ne_zero hd0⟩) hnq

theorem apply_wait_prog (i : Inst) (h : WF i) (s : State) (l : Live i s)
    (hd : s.done = false) (jx : JExact i s) (pr : Pot i s (SweepBehind i s)) (hm : s.mask i.J = true) :
    Pot i (apply i s i.J) (SweepBefore i (apply i s i.J)) := by
  have hmw := l.idle hd
  have hmid := l.core.midx_lt h
  -- waiting is only offered while a machine is busy — provided the sweep has not passed an unfinished job
  have hbusy : SweepBehind i s → Busy i s := by
    intro hQ
    rcases (mask_wait_iff i s l.fresh hd).mp hm with ⟨j, hj, hlt⟩ | ⟨j, hj, _, hpos⟩
    · rcases hQ with hb | hq
      · exact hb
      · have h1 := stageOf_lt l.core.sub_lt
        exact absurd (hq j hj (Nat.lt_trans hlt h1)) (Nat.not_le_of_lt hlt)
    · exact busy_of_jwait l.core hd jx hj hpos
  have hmw' : ∀ m, 0 < s.mwait m → (apply i s i.J).mwait m = s.mwait m := by
    intro m hpos
    exact apply_mwait_other i s _ (by rintro rfl; rw [hmw] at hpos; cases hpos)
  have hload : load i (apply i s i.J) = load i s := by
    unfold load busySum
    rw [apply_mwait, jobDur_wait]
    have hb := sumN_upd s.mwait 0 hmid
    show s.time + _ = s.time + _
    omega
  have hwork : startedWork i (apply i s i.J) = startedWork i s :=
    sumN_congr (fun j hj => by rw [apply_jloc_other i s (Nat.ne_of_lt hj)])
  rw [Pot, hload, hwork]
  refine ⟨pr.1, fun hnq => pr.2 fun hQ => ?_⟩
  obtain ⟨m, hm1, hm2⟩ := hbusy hQ
  exact hnq (Or.inl ⟨m, hm1, by rw [hmw' m hm2]; exact hm2⟩)

theorem prog_reset (i : Inst) : Pot i (reset i) (SweepBehind i (reset i)) := by
  have h0 : load i (reset i) = 0 := by
    show 0 + sumN (MT i) (fun _ => 0) = 0
    generalize MT i = n
    induction n with
    | zero => rfl
    | succ n ih => exact ih
  exact ⟨h0 ▸ Nat.zero_le _,
    fun hn => absurd (Or.inr (fun _ _ _ => Nat.le_trans (Nat.le_of_eq (Nat.zero_div _)) (Nat.zero_le _))) hn⟩

theorem prog_of_reach (i : Inst) (h : WF i) {s : State} (hr : Reach envM i s) (hd : s.done = false) :
    Pot i s (SweepBehind i s) :=
  ((unfinished_induct i h (Q := fun x => Pot i x (SweepBefore i x)) (prog_reset i)
    (fun s a l hd e pr ha hm _ => by
      rcases Nat.lt_succ_iff_lt_or_eq.mp ha with haJ | rfl
      · exact apply_job_prog i h s l pr a haJ hm
      · exact apply_wait_prog i h s l hd e.jx pr hm)
    (fun x c hd _ => adv_prog i h x c hd) (fun y c hd e => nonready_strict i h y c hd e.jx)
    (fun _ p => p) hr).2 hd).2

end Rl4co.Ffsp
