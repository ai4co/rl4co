/-
PDP as an instance of the generic permutation environment, with the invariant `Main` that ties the stored
`action_mask` and `to_deliver` vectors to `available`: `action_mask = available & to_deliver`, and the delivery
`p + h` is open exactly when its pickup `p` has been visited; and `OpenPrec`, the condition on the actions to come that the
mask enforces from a `Main` state.  No Mathlib.
-/
import Rl4co.Env.Pdp
import Rl4co.Spec.Pdp
import Rl4co.Proofs.TspfamParams
import Rl4co.Proofs.TspfamAvail

namespace Rl4co.Pdp
open Rl4co.Tspfam

theorem pairIdx_pickup (i : Inst) {a : Nat} (ha : a ≤ i.h) : pairIdx i a = a + i.h := by
  rw [pairIdx_eq, n_div_two]
  exact Nat.mod_eq_of_lt (by simp only [Inst.n]; omega)

/-- the delivery `h + q + 1` touches the entry `q` (its pickup's, less one) -/
theorem pairIdx_delivery (i : Inst) {q : Nat} (hq : q < i.h) : pairIdx i (i.h + q + 1) = q := by
  rw [pairIdx_eq, n_div_two, Inst.n, show i.h + q + 1 + i.h = q + (2 * i.h + 1) by omega, Nat.add_mod_right]
  exact Nat.mod_eq_of_lt (Nat.lt_of_lt_of_le hq (Nat.le_succ_of_le (Nat.le_mul_of_pos_left _ (by decide))))

/-- so a delivery touches an entry below `h` (which is set from reset on) -/
theorem pairIdx_delivery_lt (i : Inst) {a : Nat} (h1 : i.h < a) (h2 : a ≤ i.n) : pairIdx i a < i.h := by
  obtain ⟨q, rfl⟩ := Nat.exists_eq_add_of_lt h1
  have hq : q < i.h := by
    rw [Inst.n, Nat.two_mul, Nat.add_assoc] at h2; exact Nat.le_of_add_le_add_left h2
  rw [pairIdx_delivery i hq]; exact hq

theorem exists_pickup (i : Inst) {a : Nat} (h1 : ¬ a ≤ i.h) (h2 : a < i.n + 1) :
    ∃ p, a = p + i.h ∧ 1 ≤ p ∧ p ≤ i.h :=
  have hlt := Nat.lt_of_not_le h1
  ⟨a - i.h, (Nat.sub_add_cancel (Nat.le_of_lt hlt)).symm, Nat.sub_pos_of_lt hlt,
    Nat.sub_le_of_le_add (by rw [← Nat.two_mul]; exact Nat.le_of_lt_succ h2)⟩

theorem pair_bounds {p h : Nat} (hp1 : 1 ≤ p) (hp2 : p ≤ h) : p ≤ 2 * h ∧ 1 ≤ p + h ∧ p + h ≤ 2 * h :=
  ⟨Nat.le_trans hp2 (Nat.le_mul_of_pos_left h (by decide)), Nat.add_pos_left hp1 h,
    Nat.two_mul h ▸ Nat.add_le_add_right hp2 h⟩

theorem step_avail (i : Inst) (s : State) (a : Nat) : (step i s a).avail = upd s.avail a false := rfl

theorem env_step (i : Inst) (s : State) (a : Nat) : env.step i s a = step i s a := rfl

theorem env_mask (i : Inst) (s : State) (a : Nat) : env.mask i s a = s.amask a := rfl

theorem step_toDeliver (i : Inst) (s : State) (a : Nat) :
    (step i s a).toDeliver = upd s.toDeliver (pairIdx i a) true := rfl

theorem reset_toDeliver (i : Inst) : (reset i).toDeliver = toDeliver0 i := by
  rw [reset]; split <;> rfl

theorem reset_avail (i : Inst) (hf : i.force = false) (j : Nat) : (reset i).avail j = decide (j ≠ 0) := by
  rw [reset, if_neg (by rw [hf]; decide)]

theorem reset_amask (i : Inst) (hf : i.force = false) (j : Nat) :
    (reset i).amask j = if j = 0 then false else toDeliver0 i j := by
  rw [reset, if_neg (by rw [hf]; decide)]

theorem reset_avail_force (i : Inst) (hf : i.force = true) (j : Nat) : (reset i).avail j = true := by
  rw [reset, if_pos hf]

theorem forced_mask (i : Inst) (hf : i.force = true) (a : Nat) :
    (reset i).amask a = decide (a = 0) := by
  rw [reset, if_pos hf]

structure Main (i : Inst) (s : State) : Prop where
  av0 : s.avail 0 = false
  am  : ∀ j, s.amask j = (s.avail j && s.toDeliver j)
  tdp : ∀ j, j ≤ i.h → s.toDeliver j = true
  tdd : ∀ p, 1 ≤ p → p ≤ i.h → s.toDeliver (p + i.h) = !s.avail p

/-- with `force_start_at_depot` the reset state is NOT a `Main` state (`avail 0 = true`, the stored mask offers the depot
only); it becomes one by its first step (`main_forced_first`) -/
def Inv (i : Inst) (s : State) : Prop := (i.force = true ∧ s = reset i) ∨ Main i s

theorem Main.amask_pickup {i : Inst} {s : State} (hm : Main i s) {a : Nat} (ha : a ≤ i.h) :
    s.amask a = s.avail a := by
  rw [hm.am, hm.tdp a ha, Bool.and_true]

theorem Main.amask_delivery {i : Inst} {s : State} (hm : Main i s) {p : Nat} (hp1 : 1 ≤ p) (hp2 : p ≤ i.h) :
    s.amask (p + i.h) = (s.avail (p + i.h) && !s.avail p) := by
  rw [hm.am, hm.tdd p hp1 hp2]

/-- from a `Main` state the mask admits exactly the duplicate-free lists of available customers in which every pickup
still open precedes its delivery, as far as the delivery occurs (C01 `prec_of_run`, C05 `run_of_prec`) -/
def OpenPrec (i : Inst) (s : State) (cs : List Nat) : Prop :=
  ∀ p, 1 ≤ p → p ≤ i.h → s.avail p = true → (p + i.h) ∈ cs → cs.idxOf p < cs.idxOf (p + i.h)

theorem openPrec_nil (i : Inst) (s : State) : OpenPrec i s [] :=
  fun _ _ _ _ hmem => absurd hmem List.not_mem_nil

theorem OpenPrec.head {i : Inst} {s : State} {p : Nat} {cs : List Nat} (h : OpenPrec i s ((p + i.h) :: cs))
    (hp1 : 1 ≤ p) (hp2 : p ≤ i.h) : s.avail p = false := by
  cases hpav : s.avail p with
  | false => rfl
  | true =>
    have := h p hp1 hp2 hpav List.mem_cons_self
    rw [List.idxOf_cons_self] at this
    exact absurd this (Nat.not_lt_zero _)

theorem OpenPrec.tail {i : Inst} {s : State} {a : Nat} {cs : List Nat} (h : OpenPrec i s (a :: cs)) (hnot : a ∉ cs) :
    OpenPrec i (step i s a) cs := by
  intro p hp1 hp2 hpav hmem
  have hpa : p ≠ a := by
    intro h; rw [h, step_avail, upd_same] at hpav; cases hpav
  rw [step_avail, upd_other _ _ _ _ hpa] at hpav
  exact (idxOf_cons_lt_iff cs (Ne.symm hpa) (fun (h : a = p + i.h) => hnot (h ▸ hmem))).mp
    (h p hp1 hp2 hpav (List.mem_cons_of_mem _ hmem))

theorem OpenPrec.cons {i : Inst} {s : State} {a : Nat} {cs : List Nat} (h : OpenPrec i (step i s a) cs)
    (hd : ∀ p, 1 ≤ p → p ≤ i.h → s.avail p = true → a ≠ p + i.h) : OpenPrec i s (a :: cs) := by
  intro p hp1 hp2 hav hmem
  by_cases hap : a = p
  · subst hap
    rw [List.idxOf_cons_self, List.idxOf_cons, (beq_eq_false_iff_ne).mpr (by omega : a ≠ a + i.h)]
    exact Nat.succ_pos _
  · have had := hd p hp1 hp2 hav
    rw [idxOf_cons_lt_iff cs hap had]
    refine h p hp1 hp2 ?_ ((List.mem_cons.mp hmem).resolve_left (Ne.symm had))
    rw [step_avail, upd_other _ _ _ _ (Ne.symm hap)]
    exact hav

theorem main_reset (i : Inst) (hf : i.force = false) : Main i (reset i) := by
  refine ⟨?_, fun j => ?_, fun j hj => ?_, fun p hp1 hp2 => ?_⟩
  · rw [reset_avail i hf]; rfl
  · rw [reset_amask i hf, reset_avail i hf, reset_toDeliver]
    by_cases hj : j = 0
    · rw [hj]; rfl
    · rw [if_neg hj, decide_eq_true hj, Bool.true_and]
  · rw [reset_toDeliver, toDeliver0_eq, decide_eq_true_eq]; exact Nat.lt_succ_of_le hj
  · rw [reset_toDeliver, reset_avail i hf, toDeliver0_eq, decide_eq_false (by omega),
      decide_eq_true (Nat.ne_of_gt hp1)]
    rfl

theorem main_step (i : Inst) (s : State) (a : Nat) (hm : Main i s) (ha : a < i.n + 1)
    (hmask : s.amask a = true) : Main i (step i s a) := by
  have ha0 : a ≠ 0 := by
    intro h0
    rw [hm.am a, h0, hm.av0] at hmask
    cases hmask
  refine ⟨?_, fun _ => rfl, fun j hj => ?_, fun p hp1 hp2 => ?_⟩
  · rw [step_avail, upd_other _ _ _ _ (Ne.symm ha0)]; exact hm.av0
  · rw [step_toDeliver, upd_apply]; split
    · rfl
    · exact hm.tdp j hj
  · rw [step_toDeliver, step_avail]
    by_cases hah : a ≤ i.h
    · -- a pickup: opens its own delivery
      rw [pairIdx_pickup i hah]
      by_cases hpa : p = a
      · rw [hpa, upd_same, upd_same]; rfl
      · rw [upd_other _ _ _ _ (fun h => hpa (Nat.add_right_cancel h)), upd_other _ _ _ _ hpa]
        exact hm.tdd p hp1 hp2
    · -- a delivery: touches an entry below `h`, no delivery entry changes
      have hlt := Nat.lt_of_not_le hah
      have hnt := pairIdx_delivery_lt i hlt (Nat.le_of_lt_succ ha)
      rw [upd_other _ _ _ _ (Nat.ne_of_gt (Nat.lt_of_lt_of_le hnt (Nat.le_add_left _ _))),
        upd_other _ _ _ _ (Nat.ne_of_lt (Nat.lt_of_le_of_lt hp2 hlt))]
      exact hm.tdd p hp1 hp2

theorem main_forced_first (i : Inst) (hf : i.force = true) : Main i (step i (reset i) 0) := by
  have hnt : pairIdx i 0 = i.h := by rw [pairIdx_pickup i (Nat.zero_le _), Nat.zero_add]
  refine ⟨?_, fun _ => rfl, fun j hj => ?_, fun p hp1 hp2 => ?_⟩
  · rw [step_avail, upd_same]
  · rw [step_toDeliver, reset_toDeliver, upd_apply]; split
    · rfl
    · rw [toDeliver0_eq, decide_eq_true_eq]; exact Nat.lt_succ_of_le hj
  · rw [step_toDeliver, step_avail, reset_toDeliver, hnt,
      upd_other _ _ _ _ (Nat.ne_of_gt (Nat.lt_add_of_pos_left hp1)), upd_other _ _ _ _ (Nat.ne_of_gt hp1),
      reset_avail_force i hf, toDeliver0_eq, decide_eq_false (by omega)]
    rfl

theorem inv_step (i : Inst) (s : State) (a : Nat) (hi : Inv i s) (ha : a < env.nAct i)
    (hm : env.mask i s a = true) : Inv i (env.step i s a) := by
  right
  rcases hi with ⟨hf, hs⟩ | hmain
  · subst hs
    have h0 : a = 0 := of_decide_eq_true ((forced_mask i hf a).symm.trans hm)
    subst h0
    exact main_forced_first i hf
  · exact main_step i s a hmain ha hm

theorem reset_done (i : Inst) : (reset i).done = false := by
  simp only [reset]; split <;> rfl

def availEnv : AvailEnv env where
  avail s := s.avail
  todo i := if i.force then i.n + 1 else i.n
  Inv := Inv
  inv_reset := by
    intro i
    by_cases hf : i.force = true
    · exact Or.inl ⟨hf, rfl⟩
    · exact Or.inr (main_reset i (by simpa using hf))
  inv_step := inv_step
  mask_avail := by
    intro i s a hi hm
    rcases hi with ⟨hf, hs⟩ | hmain
    · subst hs; simp [reset, hf]
    · simp only [env, mask] at hm
      rw [hmain.am a] at hm
      simp only [Bool.and_eq_true] at hm
      exact hm.1
  step_avail := fun _ _ _ => rfl
  step_done := fun i s a => (doneCmp_ok (cnt (i.n + 1) (upd s.avail a false))).2.2.1
  reset_done := reset_done
  reset_cnt := by
    intro i
    by_cases hf : i.force = true
    · simp only [env, reset, hf, if_true]
      exact cnt_eq_n.mpr (fun _ _ => rfl)
    · have hf' : i.force = false := by simpa using hf
      simp only [env, reset, hf', Bool.false_eq_true, if_false]
      exact cnt_ne_zero i.n

theorem initial_eq (i : Inst) (hf : i.force = false) : availEnv.initial i = List.range' 1 i.n := by
  rw [← filter_ne_zero_range]
  exact List.filter_congr (fun j _ => reset_avail i hf j)

theorem initial_eq_force (i : Inst) (hf : i.force = true) : availEnv.initial i = 0 :: List.range' 1 i.n := by
  rw [← range_succ_eq_cons]
  exact List.filter_eq_self.mpr (fun j _ => reset_avail_force i hf j)

theorem spec_perm {h : Nat} {cs : List Nat} (hf : Spec.Pdp.Feasible h cs) :
    cs.Perm (List.range' 1 (2 * h)) :=
  (once_iff_perm (2 * h) cs).mp ⟨hf.range, hf.once⟩

theorem spec_nodup {h : Nat} {cs : List Nat} (hf : Spec.Pdp.Feasible h cs) : cs.Nodup :=
  (spec_perm hf).nodup_iff.mpr List.nodup_range'

theorem spec_length {h : Nat} {cs : List Nat} (hf : Spec.Pdp.Feasible h cs) : cs.length = 2 * h := by
  simpa using (spec_perm hf).length_eq

end Rl4co.Pdp
