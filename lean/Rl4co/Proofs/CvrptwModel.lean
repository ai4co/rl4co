/-
The CVRPTW model (`Rl4co/Env/Cvrptw.lean`) in the form the proofs use: the mask as CVRP's mask and the window test,
the projection of runs to the embedded CVRP model, the clock update of `_step`, the distance cache, the flat clock
`clockOk` the mask enforces along an action list with its two bridges to the per-route clock `Spec.Cvrptw.routeOk`
(flat ⇒ per-route needs the return condition `RetOK`), and the boundary instance `exInst` of the examples.  The checker's
clock `checkClockG` is related to `clockOk` in C06.  No Mathlib.
-/
import Rl4co.Spec.Cvrptw
import Rl4co.Proofs.CvrpModel

namespace Rl4co.Cvrptw
open Rl4co.Spec.Cvrptw

theorem mask_iff (i : Inst) (s : State) (a : Nat) :
    env.mask i s a = true ↔
      Cvrp.mask i.base s.base a = true ∧ s.time + i.base.D s.base.cur a ≤ i.twE a := by
  simp only [env, mask, canReach, Params.cvrptwMaskTwCmp, Cmp.eval, Bool.and_eq_true, decide_eq_true_eq]

theorem run_base (i : Inst) {s s' : State} {as : List Nat} (h : Run env i s as s') :
    Run Cvrp.env i.base s.base as s'.base := by
  induction h with
  | nil s => exact Run.nil _
  | cons ha hm _ ih => exact Run.cons ha ((mask_iff i _ _).1 hm).1 ih

theorem runND_base (i : Inst) {s s' : State} {as : List Nat} (h : RunND env i s as s') :
    RunND Cvrp.env i.base s.base as s'.base := by
  induction h with
  | nil s => exact RunND.nil _
  | cons hd ha hm _ ih => exact RunND.cons hd ha ((mask_iff i _ _).1 hm).1 ih

/-- the flat clock along an action list, as the mask sees it -/
def clockOk (i : Inst) : Int → Nat → List Nat → Bool
  | _, _, [] => true
  | t, cur, a :: as =>
    decide (t + i.base.D cur a ≤ i.twE a) &&
      clockOk i (if a ≠ 0 then max (t + i.base.D cur a) (i.twS a) + i.dur a else 0) a as

/-- depot visit or customer, the window test is the same; only the next clock differs (as in `step_time`) -/
theorem clockOk_cons_iff (i : Inst) (t : Int) (cur a : Nat) (as : List Nat) :
    clockOk i t cur (a :: as) = true ↔ t + i.base.D cur a ≤ i.twE a ∧
      clockOk i (if a ≠ 0 then max (t + i.base.D cur a) (i.twS a) + i.dur a else 0) a as = true := by
  rw [clockOk, Bool.and_eq_true, decide_eq_true_iff]

/-- the clock update of `_step` in the shape the proofs use; holds because the extracted source shape is
`(action != 0) * (max(current_time + distance, tw_start) + duration)` (`Params.cvrptwStepDepotCmp = ne`,
`Params.cvrptwStepDurAfterMax = true`): a source edit of either breaks this proof. -/
theorem step_time (i : Inst) (s : State) (a : Nat) :
    (env.step i s a).time = (if a ≠ 0 then max (s.time + s.dist a) (i.twS a) + i.dur a else 0) := by
  simp [env, step, refresh, Params.cvrptwStepDepotCmp, Params.cvrptwStepDurAfterMax, Cmp.evalNat]

/-- the cache invariant: `distances` is the row of the current node -/
def CacheOk (i : Inst) (s : State) : Prop := ∀ j, s.dist j = i.base.D s.base.cur j

theorem cache_refresh (i : Inst) (b : Cvrp.State) (t : Int) : CacheOk i (refresh i b t) := fun _ => rfl

/-- `_reset` and `_step` end in `get_action_mask`, which refreshes the cache -/
theorem cacheOk_reset (i : Inst) : CacheOk i (env.reset i) := cache_refresh i _ _

theorem cacheOk_step (i : Inst) (s : State) (a : Nat) : CacheOk i (env.step i s a) := cache_refresh i _ _

theorem step_cur (i : Inst) (s : State) (a : Nat) : (env.step i s a).base.cur = a := rfl

/-- well-formedness needed for the return legs: from every customer the depot is reached in time even
when the service started at the latest admissible moment; and the null trip depot→depot is in time -/
structure RetOK (i : Inst) : Prop where
  depot : i.base.D 0 0 ≤ i.twE 0
  ret   : ∀ j, 1 ≤ j → j ≤ i.base.n → max (i.twS j) (i.twE j) + i.dur j + i.base.D j 0 ≤ i.twE 0

theorem RetOK.back {i : Inst} (hw : RetOK i) {a : Nat} (h1 : 1 ≤ a) (h2 : a ≤ i.base.n) {t : Int}
    (ht : t ≤ i.twE a) : max t (i.twS a) + i.dur a + i.base.D a 0 ≤ i.twE 0 :=
  have hmax : max t (i.twS a) ≤ max (i.twS a) (i.twE a) :=
    Int.max_le.2 ⟨Int.le_trans ht (Int.le_max_right _ _), Int.le_max_left _ _⟩
  Int.le_trans (Int.add_le_add_right (Int.add_le_add_right hmax _) _) (hw.ret a h1 h2)

/-- flat clock ⇒ per-route clocks of the specification (the open last route returns in time by `RetOK`) -/
theorem routes_of_clock (i : Inst) (hw : RetOK i) (as : List Nat) :
    ∀ t cur, (∀ a ∈ as, a ≤ i.base.n) → clockOk i t cur as = true → t + i.base.D cur 0 ≤ i.twE 0 →
      routeOk i t cur (firstRoute as) = true ∧ ∀ r ∈ restRoutes as, routeOk i 0 0 r = true := by
  induction as with
  | nil => intro t cur _ _ hret; exact ⟨(routeOk_nil_iff i t cur).2 hret, fun _ h => nomatch h⟩
  | cons a as ih =>
    intro t cur hrange hc hret
    have hrange' : ∀ b ∈ as, b ≤ i.base.n := fun b hb => hrange b (List.mem_cons_of_mem _ hb)
    by_cases h0 : a = 0
    · subst h0
      rw [clockOk_cons_iff, if_neg (fun h => h rfl)] at hc
      rw [firstRoute_zero_cons, restRoutes_zero_cons, forall_mem_routes]
      exact ⟨(routeOk_nil_iff i t cur).2 hc.1, ih 0 0 hrange' hc.2 (by rw [Int.zero_add]; exact hw.depot)⟩
    · rw [clockOk_cons_iff, if_pos h0] at hc
      have := ih _ a hrange' hc.2 (hw.back (Nat.pos_of_ne_zero h0) (hrange a List.mem_cons_self) hc.1)
      rw [firstRoute_cons h0, restRoutes_cons h0, routeOk_cons_iff]
      exact ⟨⟨hc.1, this.1⟩, this.2⟩

theorem clock_of_routes (i : Inst) (as : List Nat) :
    ∀ t cur, routeOk i t cur (firstRoute as) = true → (∀ r ∈ restRoutes as, routeOk i 0 0 r = true) →
      clockOk i t cur as = true := by
  induction as with
  | nil => intro _ _ _ _; rfl
  | cons a as ih =>
    intro t cur h1 h2
    by_cases h0 : a = 0
    · subst h0
      rw [restRoutes_zero_cons, forall_mem_routes] at h2
      rw [clockOk_cons_iff, if_neg (fun h => h rfl)]
      exact ⟨(routeOk_nil_iff i t cur).1 h1, ih 0 0 h2.1 h2.2⟩
    · rw [firstRoute_cons h0, routeOk_cons_iff] at h1
      rw [restRoutes_cons h0] at h2
      rw [clockOk_cons_iff, if_pos h0]
      exact ⟨h1.1, ih _ a h1.2 h2⟩

/-- two customers on a line (depot 0, customer 1 at distance 2, customer 2 at distance 3,
one apart), windows met with equality: customer 1 exactly at its deadline 2, customer 2 at 3 after
service time 0, back at the depot exactly at the depot deadline 6. -/
def exInst : Inst :=
  { base := ⟨2, 8, fun _ => 4, fun a b => if a = b then 0 else if a = 0 then (b : Int) + 1 else if b = 0 then (a : Int) + 1 else 1⟩
    twS := fun _ => 0, twE := fun j => if j = 0 then 6 else if j = 1 then 2 else 3, dur := fun _ => 0 }

end Rl4co.Cvrptw
