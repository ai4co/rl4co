/-
Obligations tying the OP model to the expressions regenerated from the source (`Generated/Params.lean`,
probes in `harness/probes/prize.py`): `generated = model`, by `rfl` (or unfolding of the extracted
literal).  A source edit that changes the shape of one of these statements (operator, operand order,
parenthesisation) makes the lemma — and with it every property module of the family, which imports this
file — fail at `lake build`.  No Mathlib.
-/
import Rl4co.Env.Op

namespace Rl4co.Op
open Rl4co.Prize

theorem step_len_generated (i : Inst) (s : State) (a : Nat) :
    (step i s a).len = Params.opStepLenExpr s.len (i.D s.cur a) := rfl

theorem step_tot_generated (i : Inst) (s : State) (a : Nat) :
    (step i s a).tot = Params.opStepPrizeExpr s.tot (padded i.prize a) := rfl

theorem step_i_generated (i : Inst) (s : State) (a : Nat) :
    (step i s a).i = Params.opStepCounterExpr s.i := rfl

theorem exceeds_generated (i : Inst) (s : State) (j : Nat) :
    exceeds i s j = Params.opMaskLenCmp.eval (Params.opMaskLenExpr s.len (i.D s.cur j)) (i.budget j) := rfl

theorem baseMask_generated (i : Inst) (s : State) (j : Nat) :
    baseMask i s j = !(Params.opMaskOrExpr (s.vis j) (s.vis 0) (exceeds i s j)) := rfl

/-- the scaled pre-computation is the generated `_reset` expression applied to the scaled operands, the
float literal being the extracted constant `Params.opResetMargin` (the subtracted `eps` is `−num/den`) -/
theorem budgetSpec_generated (i : Inst) (U : Int) (j : Nat) :
    budgetSpecScaled i U j =
      Params.opResetBudgetExpr (Params.opResetMargin.2 * i.L) (Params.opResetMargin.2 * i.D j 0)
        (-(Params.opResetMargin.1 * U)) := by
  simp only [budgetSpecScaled, Params.opResetBudgetExpr, Params.opResetMargin]
  omega

theorem step_len (i : Inst) (s : State) (a : Nat) : (step i s a).len = s.len + i.D s.cur a := by
  rw [step_len_generated]; rfl

theorem step_i (i : Inst) (s : State) (a : Nat) : (step i s a).i = s.i + 1 := by
  rw [step_i_generated]; rfl

end Rl4co.Op
