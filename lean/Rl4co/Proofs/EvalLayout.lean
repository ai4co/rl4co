/-
The two list views of the evaluators (`Train/Eval.lean`): `tile K rows` (`batchify`: copy `k` of row `b` at position
`k * B + b`) and `unbatch K xs` (`unbatchify`: entry `[b][k]` is position `k * B + b`), read through the block layout
of Core/Lists.  No Mathlib.
-/
import Rl4co.Train.Eval
import Rl4co.Core.Lists
namespace Rl4co.Eval

theorem tile_succ {β : Type} (A : Nat) (rows : List β) : tile (A + 1) rows = rows ++ tile A rows := rfl

theorem tile_length {β : Type} (A : Nat) (rows : List β) : (tile A rows).length = A * rows.length :=
  length_flatten_replicate A rows

theorem tile_getElem? {β : Type} (A : Nat) (rows : List β) (a b : Nat) (ha : a < A) (hb : b < rows.length) :
    (tile A rows)[a * rows.length + b]? = rows[b]? :=
  getElem?_flatten_replicate rows ha hb

theorem tile_add {β : Type} (m n : Nat) (rows : List β) : tile (m + n) rows = tile m rows ++ tile n rows := by
  induction m with
  | zero => rw [Nat.zero_add]; rfl
  | succ m ih => rw [Nat.succ_add, tile_succ, tile_succ, ih, List.append_assoc]

/-- `batchify(x, (A, S))` = `batchify(x, S * A)` as lists of rows -/
theorem tile_tile {β : Type} (A S : Nat) (rows : List β) : tile A (tile S rows) = tile (S * A) rows := by
  induction A with
  | zero => rfl
  | succ A ih => rw [tile_succ, ih, Nat.mul_succ, Nat.add_comm, tile_add]

/-- `unbatchify(x, K)[b] = [x[0*B+b], x[1*B+b], …]`: the one-factor case of `Ops.unbatchify_layout` (Props/C12/Batchify) on
the list model, proved from the definition of `unbatch` and not from it -/
theorem unbatch_getElem? {β : Type} [Inhabited β] (K B : Nat) (hK : 0 < K) (xs : List β) (hlen : xs.length = K * B)
    (b : Nat) (hb : b < B) :
    (unbatch K xs)[b]? = some ((List.range K).map fun k => xs.getD (k * B + b) default) := by
  rw [unbatch, hlen, Nat.mul_div_cancel_left _ hK, List.getElem?_map, List.getElem?_range hb]
  rfl

theorem unbatch_length {β : Type} [Inhabited β] (K B : Nat) (hK : 0 < K) (xs : List β) (hlen : xs.length = K * B) :
    (unbatch K xs).length = B := by
  rw [unbatch, hlen, Nat.mul_div_cancel_left _ hK, List.length_map, List.length_range]

end Rl4co.Eval
