/-
The SDVRP model (`Rl4co/Env/Sdvrp.lean`) in the form the property proofs use.  `delivered_eq`, `step_used`,
`anyRem_eq_false`, `locOk_eq_false` are the obligations on the extracted tokens; from them the invariant `Inv` and
`greedy_step`: one step of the environment is one step of the greedy rule of the Spec, so that the remainders after a run are
those of the greedy replay (`rem_eq_greedyRem`), the invariant gives the facts about the rule (`greedy_facts`), and the greedy
split of an action list is valid iff the actions are in range and the replay leaves nothing undelivered
(`greedyFeasible_iff`).  The stored `done` flag is exact after every step, at reset only if some demand is positive
(`FlagOK`).  `WF`: capacity ≥ 0, demands ≥ 0; `WFpos`: capacity > 0, as termination and the exact statements need.  No Mathlib.
-/
import Rl4co.Proofs.SdvrpGreedy

namespace Rl4co.Sdvrp
open Rl4co.Spec.Sdvrp

structure WF (i : Inst) : Prop where
  cap    : 0 ≤ i.cap
  demand : ∀ j, 0 ≤ i.demand j

/-- well-formedness for termination: positive capacity, non-negative demands -/
structure WFpos (i : Inst) : Prop where
  cap    : 0 < i.cap
  demand : ∀ j, 0 ≤ i.demand j

theorem WFpos.wf {i : Inst} (h : WFpos i) : WF i := ⟨Int.le_of_lt h.cap, h.demand⟩

/-- the delivered amount in the shape the proofs use; holds because the extracted source shape is
`torch.min(selected_demand, vehicle_capacity - used_capacity)` (`Params.sdvrpStepDeliverIsMin`,
`Params.sdvrpStepFreeIsCapMinusUsed`): a source edit of either operand breaks this proof. -/
theorem delivered_eq (i : Inst) (s : State) (a : Nat) : delivered i s a = min (s.rem a) (i.cap - s.used) := by
  simp [delivered, Params.sdvrpStepDeliverIsMin, Params.sdvrpStepFreeIsCapMinusUsed]

/-- the load update `(used + delivered) * (current_node != 0)` (`Params.sdvrpStepDepotCmp = ne`) -/
theorem step_used (i : Inst) (s : State) (a : Nat) :
    (env.step i s a).used = (if a ≠ 0 then s.used + delivered i s a else 0) := by
  simp [env, step, Params.sdvrpStepDepotCmp, Cmp.evalNat]

theorem step_used_zero (i : Inst) (s : State) : (env.step i s 0).used = 0 := by
  rw [step_used, if_neg (fun h => h rfl)]

theorem step_used_ne (i : Inst) (s : State) {a : Nat} (h0 : a ≠ 0) :
    (env.step i s a).used = s.used + delivered i s a := by
  rw [step_used, if_pos h0]

theorem step_rem (i : Inst) (s : State) (a : Nat) :
    (env.step i s a).rem = upd s.rem a (s.rem a - delivered i s a) := rfl

theorem anyRem_eq_false {n : Nat} {rem : Nat → Int} : anyRem n rem = false ↔ ∀ j, j ≤ n → rem j ≤ 0 := by
  simp only [anyRem, List.any_eq_false, List.mem_range, Params.sdvrpDoneCmp, Cmp.eval, decide_eq_true_eq]
  exact ⟨fun h j hj => Int.not_lt.mp (h j (Nat.lt_succ_of_le hj)),
    fun h j hj => Int.not_lt.mpr (h j (Nat.le_of_lt_succ hj))⟩

/-- invariant of the environment (preserved by every step, admitted or not): bookkeeping of load and
remaining demands, soundness of the `done` flag, empty vehicle at the depot -/
structure Inv (i : Inst) (s : State) : Prop where
  used0 : 0 ≤ s.used
  usedC : s.used ≤ i.cap
  rem0  : s.rem 0 = 0
  remNN : ∀ j, 0 ≤ s.rem j
  flag  : s.done = true → ∀ j, j ≤ i.n → s.rem j ≤ 0
  depotEmpty : s.cur = 0 → s.used = 0

theorem inv_reset (i : Inst) (hw : WF i) : Inv i (env.reset i) := by
  refine ⟨Int.le_refl 0, hw.cap, rfl, fun j => ?_, (fun h => nomatch h), fun _ => rfl⟩
  show 0 ≤ if j = 0 then 0 else i.demand j
  split
  · exact Int.le_refl 0
  · exact hw.demand j

theorem delivered_bounds {i : Inst} {s : State} (hi : Inv i s) (a : Nat) :
    0 ≤ delivered i s a ∧ delivered i s a ≤ s.rem a ∧ s.used + delivered i s a ≤ i.cap := by
  rw [delivered_eq]
  exact ⟨Int.le_min.mpr ⟨hi.remNN a, Int.sub_nonneg_of_le hi.usedC⟩, Int.min_le_left _ _,
    Int.add_le_of_le_sub_left (Int.min_le_right _ _)⟩

theorem delivered_depot {i : Inst} {s : State} (hi : Inv i s) : delivered i s 0 = 0 := by
  obtain ⟨h0, h1, _⟩ := delivered_bounds hi 0
  rw [hi.rem0] at h1
  exact Int.le_antisymm h1 h0

theorem step_rem_depot {i : Inst} {s : State} (hi : Inv i s) : (env.step i s 0).rem = s.rem := by
  rw [step_rem, delivered_depot hi, Int.sub_zero]
  funext j
  rw [upd_apply]
  split
  · next h => rw [h]
  · rfl

theorem inv_step (i : Inst) (s : State) (a : Nat) (hi : Inv i s) : Inv i (env.step i s a) := by
  obtain ⟨hd0, hdr, hdc⟩ := delivered_bounds hi a
  refine ⟨?_, ?_, ?_, fun j => ?_, fun hdn => ?_, fun hc => ?_⟩
  · rw [step_used]
    split
    · exact Int.add_nonneg hi.used0 hd0
    · exact Int.le_refl 0
  · rw [step_used]
    split
    · exact hdc
    · exact Int.le_trans hi.used0 hi.usedC
  · by_cases h0 : a = 0
    · subst h0; rw [step_rem_depot hi]; exact hi.rem0
    · rw [step_rem, upd_other _ _ _ _ (Ne.symm h0)]; exact hi.rem0
  · rw [step_rem, upd_apply]
    split
    · exact Int.sub_nonneg_of_le hdr
    · exact hi.remNN j
  · have hdn' : (!anyRem i.n (env.step i s a).rem) = true := hdn
    exact anyRem_eq_false.mp ((Bool.not_eq_true' _).mp hdn')
  · have h0 : a = 0 := hc
    subst h0
    exact step_used_zero i s

theorem Inv.of_run {i : Inst} {s s' : State} {as : List Nat} (hi : Inv i s) (h : Run env i s as s') : Inv i s' :=
  h.inv (fun s a hi _ _ => inv_step i s a hi) hi

theorem greedy_step {i : Inst} {s : State} (hi : Inv i s) (a : Nat) (as : List Nat) :
    greedy i s.rem s.used (a :: as) =
      delivered i s a :: greedy i (env.step i s a).rem (env.step i s a).used as := by
  by_cases h0 : a = 0
  · subst h0; rw [delivered_depot hi, step_rem_depot hi, step_used_zero]; rfl
  · rw [greedy_ne i _ _ h0, step_used_ne i s h0, step_rem, delivered_eq]

theorem greedyRem_step {i : Inst} {s : State} (hi : Inv i s) (a : Nat) (as : List Nat) :
    greedyRem i s.rem s.used (a :: as) = greedyRem i (env.step i s a).rem (env.step i s a).used as := by
  by_cases h0 : a = 0
  · subst h0; rw [step_rem_depot hi, step_used_zero]; rfl
  · rw [greedyRem_ne i _ _ h0, step_used_ne i s h0, step_rem, delivered_eq]

theorem rem_eq_greedyRem (i : Inst) {s s' : State} {as : List Nat} (h : Run env i s as s')
    (hi : Inv i s) : s'.rem = greedyRem i s.rem s.used as := by
  induction h with
  | nil s => rfl
  | @cons s s' a as _ _ _ ih => rw [ih (inv_step i s a hi), greedyRem_step hi]

theorem reset_rem (i : Inst) {j : Nat} (hj : 1 ≤ j) : (env.reset i).rem j = i.demand j :=
  if_neg (Nat.ne_of_gt hj)

theorem greedy_reset (i : Inst) (as : List Nat) :
    greedy i (env.reset i).rem (env.reset i).used as = greedy i i.demand 0 as :=
  greedy_congr i as _ _ 0 (fun _ hj => reset_rem i hj)

/-- The greedy rule from the remainders and the load of a state: a step of the rule is a step of the environment
(`greedy_step`, for the depot as for a customer), whose invariant bounds the amount. -/
theorem greedy_facts (i : Inst) (as : List Nat) : ∀ s, Inv i s → GreedyFacts i s.rem s.used as := by
  induction as with
  | nil =>
    intro s hi
    refine ⟨nofun, nofun, fun l ls h => ?_, fun j _ => (Int.sub_self _).symm, fun j _ => hi.remNN j⟩
    obtain ⟨rfl, rfl⟩ := List.cons.inj h
    exact ⟨by rw [List.sum_nil, Int.zero_add]; exact hi.usedC, nofun⟩
  | cons a as ih =>
    intro s hi
    have F := ih _ (inv_step i s a hi)
    refine ⟨?_, ?_, ?_, ?_, by rw [greedyRem_step hi]; exact F.remNonneg⟩ <;> rw [greedy_step hi, List.zip_cons_cons]
    · exact List.forall_mem_cons.mpr ⟨(delivered_bounds hi a).1, F.nonneg⟩
    · exact List.forall_mem_cons.mpr ⟨fun (h0 : a = 0) => h0 ▸ delivered_depot hi, F.depot⟩
    · intro l ls h
      by_cases h0 : a = 0
      · subst h0
        rw [step_used_zero] at F h
        obtain ⟨rfl, rfl⟩ := List.cons.inj ((loads_cons_zero _ _).symm.trans h)
        exact ⟨by rw [List.sum_nil, Int.zero_add]; exact hi.usedC, F.loads_le⟩
      · obtain ⟨l1, ls1, h1⟩ := loads_cons_exists (as.zip (greedy i (env.step i s a).rem (env.step i s a).used as))
        rw [loads_cons_ne h0 _ _ l1 ls1 h1] at h
        obtain ⟨rfl, rfl⟩ := List.cons.inj h
        have hl := F.load l1 ls1 h1
        rw [step_used_ne i s h0] at hl
        refine ⟨?_, hl.2⟩
        rw [List.sum_cons, Int.add_comm (delivered i s a), Int.add_assoc, Int.add_comm (delivered i s a)]
        exact hl.1
    · intro j hj
      rw [greedyRem_step hi, deliveredTo, F.served j hj, step_rem, upd_apply]
      by_cases hja : a = j
      · rw [if_pos hja, if_pos hja.symm, hja, Int.sub_sub, Int.add_comm (delivered i s j) (greedyRem _ _ _ _ _), ← Int.sub_sub,
          Int.add_comm, Int.sub_add_cancel]
      · rw [if_neg hja, if_neg (fun h => hja h.symm), Int.zero_add]

/-- the greedy split of an action list is valid iff the actions are in range and the replay leaves nothing undelivered -/
theorem greedyFeasible_iff (i : Inst) (hw : WF i) (as : List Nat) :
    greedyFeasible i as = true ↔
      (∀ a ∈ as, a ≤ i.n) ∧ ∀ j, 1 ≤ j → j ≤ i.n → greedyRem i (env.reset i).rem (env.reset i).used as j = 0 := by
  have F := greedy_facts i as _ (inv_reset i hw)
  rw [greedyFeasible, greedySplit, ← greedy_reset, validSplit_iff]
  constructor
  · intro hv
    refine ⟨fun a ha => ?_, fun j h1 h2 => ?_⟩
    · rw [← List.map_fst_zip (Nat.le_of_eq (greedy_length i as _ _).symm)] at ha
      obtain ⟨z, hz, rfl⟩ := List.mem_map.mp ha
      exact hv.range z hz
    · have hs := F.served j h1
      rw [hv.served j h1 h2, reset_rem i h1] at hs
      omega
  · rintro ⟨hrange, hfin⟩
    refine ⟨fun z hz => hrange z.1 (List.of_mem_zip hz).1, F.nonneg, F.depot, F.loads_le, fun j h1 h2 => ?_⟩
    rw [F.served j h1, hfin j h1 h2, Int.sub_zero, reset_rem i h1]

theorem mask_ne (i : Inst) (s : State) {a : Nat} (h0 : a ≠ 0) : env.mask i s a = locOk i s a := if_neg h0

theorem locOk_eq_false (i : Inst) (s : State) (j : Nat) :
    locOk i s j = false ↔ s.rem j = 0 ∨ i.cap ≤ s.used := by
  simp only [locOk, Params.sdvrpMaskRemCmp, Params.sdvrpMaskCapCmp, Cmp.eval, Bool.not_eq_false',
    Bool.or_eq_true, decide_eq_true_eq, ge_iff_le]

theorem mask_zero_iff (i : Inst) (s : State) :
    env.mask i s 0 = true ↔ (s.cur = 0 → ∀ j, 1 ≤ j → j ≤ i.n → s.rem j = 0 ∨ i.cap ≤ s.used) := by
  have h : anyLoc i s = false ↔ ∀ j, 1 ≤ j → j ≤ i.n → s.rem j = 0 ∨ i.cap ≤ s.used :=
    any_succ_eq_false.trans (forall_congr' fun j => imp_congr_right fun _ => imp_congr_right fun _ =>
      locOk_eq_false i s j)
  rw [← h]
  show (!(s.cur == 0 && anyLoc i s)) = true ↔ _
  cases anyLoc i s <;> simp

theorem Inv.of_reach {i : Inst} (hw : WF i) {s : State} (h : Reach env i s) : Inv i s :=
  h.elim fun _ hr => (inv_reset i hw).of_run hr

theorem mask_customer_iff {i : Inst} {s : State} (hi : Inv i s) {a : Nat} (h0 : a ≠ 0) :
    env.mask i s a = true ↔ 0 < delivered i s a := by
  rw [mask_ne i s h0, delivered_eq, Int.lt_min, ← Bool.not_eq_false, locOk_eq_false, not_or, Int.not_le]
  exact ⟨fun h => ⟨Int.lt_iff_le_and_ne.mpr ⟨hi.remNN a, Ne.symm h.1⟩, Int.sub_pos_of_lt h.2⟩,
    fun h => ⟨Int.ne_of_gt h.1, Int.lt_of_sub_pos h.2⟩⟩

theorem rem_zero_of_mask_depot {i : Inst} {s : State} (hcap : 0 < i.cap) (hi : Inv i s) (hc : s.cur = 0)
    (hm : env.mask i s 0 = true) : ∀ j, 1 ≤ j → j ≤ i.n → s.rem j = 0 := fun j h1 h2 =>
  ((mask_zero_iff i s).mp hm hc j h1 h2).resolve_right fun h =>
    Int.not_lt.mpr (hi.depotEmpty hc ▸ h) hcap

theorem rem_zero_of_done {i : Inst} {s : State} (hi : Inv i s) (hd : env.done i s = true) (j : Nat)
    (hj : j ≤ i.n) : s.rem j = 0 :=
  Int.le_antisymm (hi.flag hd j hj) (hi.remNN j)

theorem mask_of_done (i : Inst) (s : State) (hi : Inv i s) (hd : env.done i s = true) (a : Nat)
    (ha : a < env.nAct i) : env.mask i s a = decide (a = 0) := by
  by_cases h0 : a = 0
  · subst h0
    exact (mask_zero_iff i s).mpr fun _ j _ hj => Or.inl (rem_zero_of_done hi hd j hj)
  · rw [mask_ne i s h0, decide_eq_false h0]
    exact (locOk_eq_false i s a).mpr (Or.inl (rem_zero_of_done hi hd a (Nat.le_of_lt_succ ha)))

/-- the `done` flag agrees with the remaining demands (true after every step; at reset iff some demand is
positive) -/
abbrev FlagOK (i : Inst) (s : State) : Prop := s.done = !(anyRem i.n s.rem)

theorem flagOK_step (i : Inst) (s : State) (a : Nat) : FlagOK i (env.step i s a) := rfl

theorem flagOK_of_run {i : Inst} {s s' : State} {as : List Nat} (h : Run env i s as s')
    (h0 : FlagOK i s ∨ as ≠ []) : FlagOK i s' := by
  induction h with
  | nil s => exact h0.resolve_right (fun h => h rfl)
  | cons _ _ _ ih => exact ih (Or.inl (flagOK_step i _ _))

theorem done_of_rem_zero {i : Inst} {s : State} (hi : Inv i s) (hf : FlagOK i s)
    (hz : ∀ j, 1 ≤ j → j ≤ i.n → s.rem j = 0) : s.done = true := by
  rw [hf, anyRem_eq_false.mpr (fun j hj => ?_)]
  · rfl
  · by_cases hj0 : j = 0
    · rw [hj0, hi.rem0]; exact Int.le_refl 0
    · exact Int.le_of_eq (hz j (Nat.pos_of_ne_zero hj0) hj)

/-- capacity 8, demands 4 and 12 (> capacity): customer 2 is served in two visits, the
first one filling the vehicle exactly (remaining capacity 4 = part of the demand). -/
def exInst : Inst := ⟨2, 8, fun j => if j = 1 then 4 else 12, fun a b => if a = b then 0 else (a + b : Int)⟩

end Rl4co.Sdvrp
