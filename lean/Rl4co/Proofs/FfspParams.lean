/-
Obligation tying the hard-coded comparison operators of the FFSP model (`Rl4co/Env/Ffsp.lean`) to the
operators `harness/probes/ffsp.py` extracts from the current source of
`rl4co/envs/scheduling/ffsp/env.py` on every run (`Rl4co/Generated/Params.lean`).  A source edit that
flips one of them makes this file — and everything that imports it — fail to compile; the check then
reports the broken tie and searches the real code for a failing input.  (Further extracted values enter
the model itself: the schedule sentinel `UNSET`, the key `_step` reads the machine index from
(`bookMachine`), the `pomo_idx` operator (`pomoIdx`), the job-column bound of the makespan (`rewardCols`),
the initial wait bit of the mask, and the generator defaults (`default_gen_wf`).)  No Mathlib.
-/
import Rl4co.Generated.Params
namespace Rl4co.Ffsp

/-- `ready` / `jobReady` / `advance` / `updateMask` (wait steps) / `updateMask` (stage) / `allAtEnd` use `== 0`, `== 0`,
`== MT`, (`== 0`, `> 0`), (`== stage`, `< stage`), `== S` respectively. -/
theorem params_match :
    Params.ffspMachineReadyCmp = .eq ∧ Params.ffspJobReadyWaitCmp = .eq ∧ Params.ffspWrapCmp = .eq ∧
    Params.ffspMaskWaitCmps = [.eq, .gt] ∧ Params.ffspMaskStageCmps = [.eq, .lt] ∧
    Params.ffspDoneCmp = .eq ∧
    -- `job_location += 1`, `sub_time_idx + 1`, `machine_wait_steps -= 1`, `job_wait_steps -= 1`
    Params.ffspStepConsts = [1, 1, 1, 1] ∧
    -- M·S machines, stage table `arange(S).repeat_interleave(M)`, `wait_allowed = prev + waiting + done`,
    -- done rows not selected by the loop, `time += wrap`, `sub := 0` on wrap
    Params.ffspShapeFlags = [true, true, true, true, true, true] ∧
    Params.ffspInitWaitMasked = true ∧ Params.ffspGenLowHigh = true ∧
    -- `end_schedule = schedule + job_duration.permute(0,2,1)`, two `max(dim=-1)`, `reward = -max`
    Params.ffspRewardShape = [true, true, true] := by decide

end Rl4co.Ffsp
