/-
The reading `Spec.Ffsp.ofMatrix` of a schedule matrix `σ` (the `schedule` of a state, or a target schedule) as a list
of operations, and the clauses of `Spec.Ffsp.Expressible` (`Idle`, `Avail`, `SkipOK`) in matrix terms.  Statements about
the list (`Spec.Ffsp.Valid`, `Expressible`) and about the matrix (`Ffsp.Core`, `Ffsp.SigmaOK`, the slot account of
`FfspExpr`) are carried across with these.  No Mathlib.
-/
import Rl4co.Spec.Ffsp
namespace Rl4co.Ffsp
open Rl4co.Spec.Ffsp

theorem mem_ofMatrix (i : Inst) (sched : Nat → Nat → Int) (o : Op) :
    o ∈ ofMatrix i sched ↔
      o.machine < MT i ∧ o.job < i.J ∧ sched o.machine o.job ≠ UNSET ∧ o.start = sched o.machine o.job := by
  simp only [ofMatrix, List.mem_flatMap, List.mem_map, List.mem_filter, List.mem_range, bne_iff_ne, ne_eq]
  constructor
  · rintro ⟨m, hm, j, ⟨hj, hs⟩, rfl⟩
    exact ⟨hm, hj, hs, rfl⟩
  · rintro ⟨hm, hj, hs, he⟩
    refine ⟨o.machine, hm, o.job, ⟨hj, hs⟩, ?_⟩
    cases o; simp_all

theorem op_of_entry (i : Inst) (sched : Nat → Nat → Int) {m j : Nat} (hm : m < MT i) (hj : j < i.J)
    (hs : sched m j ≠ UNSET) : (⟨j, m, sched m j⟩ : Op) ∈ ofMatrix i sched :=
  (mem_ofMatrix i sched _).mpr ⟨hm, hj, hs, rfl⟩

theorem op_eq_of_mem {i : Inst} {sched : Nat → Nat → Int} {o o' : Op} (ho : o ∈ ofMatrix i sched)
    (ho' : o' ∈ ofMatrix i sched) (hj : o.job = o'.job) (hm : o.machine = o'.machine) : o = o' := by
  have h := ((mem_ofMatrix i sched o).mp ho).2.2.2
  have h' := ((mem_ofMatrix i sched o').mp ho').2.2.2
  cases o; cases o'; simp_all

/-- the entry `(m', v)` sits at a slot after `(t, sub)` -/
def SlotAfter (i : Inst) (t sub : Nat) (v : Int) (m' : Nat) : Prop :=
  (t : Int) < v ∨ (v = (t : Int) ∧ ∃ sub', sub' < MT i ∧ sub < sub' ∧ m' = machineOf i sub')

def IdleM (i : Inst) (σ : Nat → Nat → Int) (m t : Nat) : Prop :=
  ∀ j, j < i.J → σ m j ≠ UNSET →
    ¬ (σ m j = (t : Int) ∨ (σ m j ≤ (t : Int) ∧ (t : Int) < σ m j + (i.dur j m : Int)))

def PrevDone (i : Inst) (σ : Nat → Nat → Int) (j t sub : Nat) : Prop :=
  sub / i.M = 0 ∨ ∃ m', m' < MT i ∧ m' / i.M + 1 = sub / i.M ∧ σ m' j ≠ UNSET ∧
    σ m' j + (i.dur j m' : Int) ≤ (t : Int)

def SkipM (i : Inst) (σ : Nat → Nat → Int) (k t : Nat) : Prop :=
  1 ≤ k ∧ ∃ j', j' < i.J ∧ ∀ m', m' < MT i → m' / i.M + 1 = k → σ m' j' ≠ UNSET →
    (t : Int) < σ m' j' + (i.dur j' m' : Int)

theorem idle_ofMatrix (i : Inst) (σ : Nat → Nat → Int) {m : Nat} (hm : m < MT i) (t : Nat) :
    Idle i (ofMatrix i σ) m t ↔ IdleM i σ m t := by
  constructor
  · intro h j hj hs
    exact h _ (op_of_entry i σ hm hj hs) rfl
  · intro h o ho hom
    obtain ⟨_, hj, hs, hv⟩ := (mem_ofMatrix i σ o).mp ho
    subst hom
    rw [Op.fin, hv]
    exact h o.job hj hs

theorem skipOK_ofMatrix (i : Inst) (σ : Nat → Nat → Int) (k t : Nat) :
    SkipOK i (ofMatrix i σ) k t ↔ SkipM i σ k t := by
  constructor
  · rintro ⟨hk, j, hj, h⟩
    exact ⟨hk, j, hj, fun m' hm' hst hs => h _ (op_of_entry i σ hm' hj hs) rfl hst⟩
  · rintro ⟨hk, j, hj, h⟩
    refine ⟨hk, j, hj, fun o ho hoj hst => ?_⟩
    obtain ⟨hm, _, hs, hv⟩ := (mem_ofMatrix i σ o).mp ho
    subst hoj
    rw [Op.fin, hv]
    exact h o.machine hm hst hs

theorem avail_ofMatrix (i : Inst) (σ : Nat → Nat → Int) {j : Nat} (hj : j < i.J) (t sub : Nat) :
    Avail i (ofMatrix i σ) j t sub ↔ PrevDone i σ j t sub ∧
      ∃ m', m' < MT i ∧ m' / i.M = sub / i.M ∧ σ m' j ≠ UNSET ∧ SlotAfter i t sub (σ m' j) m' := by
  constructor
  · rintro ⟨h1, o, ho, rfl, hst, hafter⟩
    obtain ⟨hm, _, hs, hv⟩ := (mem_ofMatrix i σ o).mp ho
    refine ⟨h1.imp_right ?_, o.machine, hm, hst, hs, hv ▸ hafter⟩
    rintro ⟨o', ho', hoj, hst', hfin⟩
    obtain ⟨hm', _, hs', hv'⟩ := (mem_ofMatrix i σ o').mp ho'
    rw [Op.fin, hv', hoj] at hfin
    exact ⟨o'.machine, hm', hst', hoj ▸ hs', hfin⟩
  · rintro ⟨h1, m', hm', hst, hs, hafter⟩
    refine ⟨h1.imp_right ?_, _, op_of_entry i σ hm' hj hs, rfl, hst, hafter⟩
    rintro ⟨m'', hm'', hst'', hs'', hfin⟩
    exact ⟨_, op_of_entry i σ hm'' hj hs'', rfl, hst'', hfin⟩

theorem opsAt_ofMatrix (i : Inst) (sched : Nat → Nat → Int) (j k : Nat) (hj : j < i.J) :
    opsAt i (ofMatrix i sched) j k = cnt (MT i) (fun m => m / i.M == k && sched m j != UNSET) := by
  unfold opsAt ofMatrix
  generalize MT i = n
  induction n with
  | zero => simp [cnt]
  | succ n ih =>
    rw [List.range_succ, List.flatMap_append, List.filter_append, List.length_append, ih, cnt_succ]
    congr 1
    simp only [List.flatMap_cons, List.flatMap_nil, List.append_nil, List.filter_map, List.length_map,
      List.filter_filter]
    have : (List.filter (fun a => ((fun o : Op => o.job == j && Op.stage i o == k) ∘ fun j => ⟨j, n, sched n j⟩) a &&
        (sched n a != UNSET)) (List.range i.J)).length =
        cnt i.J (fun x => x == j && (n / i.M == k && sched n j != UNSET)) := by
      unfold cnt
      congr 1
      apply List.filter_congr
      intro x _
      simp only [Function.comp, Op.stage]
      by_cases hx : x = j
      · subst hx; simp [Bool.and_comm]
      · have hb : (x == j) = false := by simpa using hx
        rw [hb]; simp
    rw [this, cnt_pin]
    simp [hj]

theorem ofMatrix_eq (i : Inst) {σ τ : Nat → Nat → Int}
    (h : ∀ m j, m < MT i → j < i.J → σ m j = τ m j) : ofMatrix i σ = ofMatrix i τ := by
  unfold ofMatrix
  rw [List.flatMap_def, List.flatMap_def]
  congr 1
  apply List.map_congr_left
  intro m hm
  have hm := List.mem_range.mp hm
  rw [List.filter_congr (q := fun j => τ m j != UNSET) (fun j hj => by rw [h m j hm (List.mem_range.mp hj)])]
  exact List.map_congr_left (fun j hj => by rw [h m j hm (List.mem_range.mp (List.mem_filter.mp hj).1)])

end Rl4co.Ffsp
