/-
Fuel-bounded `while` loops over an arbitrary state type `σ`; nothing here is about job shops; namespace and file name
are those of the users: `Fjsp.autoTransit` is an `sWhile` (`Proofs/FjspStep.lean`), `Fjsp.autoTransitBatch` a `bWhile`
(`Props/C04/Fjsp.lean`).  `sWhile sel f` is `while sel: f` for one row, `bWhile sel f g` is `while sel.any(): selected
rows get f, the others g` for a batch.  No Mathlib.
-/
namespace Rl4co.Fjsp

variable {σ : Type} (sel : σ → Bool) (f g : σ → σ)

def bWhile : Nat → List σ → List σ
  | 0, rows => rows
  | k + 1, rows =>
    if rows.any sel then bWhile k (rows.map (fun s => if sel s then f s else g s)) else rows

def sWhile : Nat → σ → σ
  | 0, s => s
  | k + 1, s => if sel s then sWhile k (f s) else s

theorem sWhile_of_not_sel {s : σ} (h : sel s = false) (k : Nat) : sWhile sel f k s = s := by
  cases k <;> simp [sWhile, h]

variable {sel f}

theorem sWhile_rel {τ : Type} {sel' : τ → Bool} {f' : τ → τ} (R : σ → τ → Prop)
    (h : ∀ s t, R s t → sel s = sel' t ∧ (sel s = true → R (f s) (f' t))) :
    ∀ k s t, R s t → R (sWhile sel f k s) (sWhile sel' f' k t) := by
  intro k
  induction k with
  | zero => intro s t hr; exact hr
  | succ k ih =>
    intro s t hr
    obtain ⟨he, hstep⟩ := h s t hr
    rw [sWhile, sWhile, ← he]
    cases hs : sel s with
    | false => exact hr
    | true => exact ih _ _ (hstep hs)

variable (sel f)

/-- **batched while = map of solo while**; both sides run on the same fuel `k`, so no measure is needed -/
theorem bWhile_eq_map_sWhile (P : σ → Prop) (hP : ∀ s, P s → sel s = true → P (f s))
    (hg : ∀ s, P s → sel s = false → g s = s) :
    ∀ (k : Nat) (rows : List σ), (∀ s ∈ rows, P s) → bWhile sel f g k rows = rows.map (sWhile sel f k) := by
  intro k
  induction k with
  | zero => intro rows _; exact (List.map_id' rows).symm
  | succ k ih =>
    intro rows h
    rw [bWhile]
    split
    · rw [ih, List.map_map]
      · refine List.map_congr_left fun s hs => ?_
        cases hsel : sel s with
        | true => simp [sWhile, hsel]
        | false => simp [hsel, hg s (h s hs) hsel, sWhile_of_not_sel sel f hsel]
      · intro s' hs'
        obtain ⟨s, hs, rfl⟩ := List.mem_map.mp hs'
        cases hsel : sel s with
        | true => simpa [hsel] using hP s (h s hs) hsel
        | false => simpa [hsel, hg s (h s hs) hsel] using h s hs
    · next hany =>
      refine (List.map_id' rows).symm.trans (List.map_congr_left fun s hs => ?_)
      exact (sWhile_of_not_sel sel f (by simpa using List.any_eq_false.mp (by simpa using hany) s hs) _).symm

end Rl4co.Fjsp
