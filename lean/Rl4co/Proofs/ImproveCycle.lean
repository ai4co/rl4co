/-
Chains and cycles of a successor array (`Linked`, `CycleOf`): the listing layer under every improvement-method proof (C09
operators, C06 checkers, the run-time oracles).  A tour is handled through its listing: unlink / splice edit the listing,
`argsort` (the model's insertion sort) is the predecessor array of a cycle, and the `visited_time` stamps are the positions
in the listing read from the depot.  A cycle has no preferred start: read the tour from the node one splices at
(`isTour_from`), and from the depot only when the claim is about the order seen from there.  Core Lean only.
-/
import Rl4co.Core.Lists
import Rl4co.Env.Improve
import Rl4co.Spec.Improve

namespace Rl4co.Improve
open Rl4co.Spec.Improve

theorem linked_cons_cons (r : Rec) (x y : Nat) (t : List Nat) :
    Linked r (x :: y :: t) ↔ r x = y ∧ Linked r (y :: t) := Iff.rfl

theorem linked_append_mid (r : Rec) (A : List Nat) (x : Nat) (B : List Nat) :
    Linked r (A ++ x :: B) ↔ Linked r (A ++ [x]) ∧ Linked r (x :: B) := by
  induction A with
  | nil => simp [Linked]
  | cons a A ih =>
    cases A with
    | nil => simp [Linked]
    | cons a' A' =>
      simp only [List.cons_append, linked_cons_cons] at ih ⊢
      rw [ih]; exact and_assoc.symm

theorem linked_prefix (r : Rec) : ∀ (A B : List Nat), Linked r (A ++ B) → Linked r A := by
  intro A
  induction A with
  | nil => intro _ _; trivial
  | cons a A ih =>
    intro B h
    cases A with
    | nil => trivial
    | cons a' A' =>
      simp only [List.cons_append, linked_cons_cons] at h ⊢
      exact ⟨h.1, ih B h.2⟩

theorem linked_suffix (r : Rec) (A B : List Nat) (h : Linked r (A ++ B)) : Linked r B := by
  cases B with
  | nil => trivial
  | cons x B => exact ((linked_append_mid r A x B).mp h).2

theorem eq_nil_or_snoc {α : Type} (l : List α) : l = [] ∨ ∃ L b, l = L ++ [b] := by
  simpa only [List.concat_eq_append] using List.eq_nil_or_concat l

theorem linked_concat (r : Rec) (L : List Nat) (z : Nat) (h : Linked r L)
    (hl : ∀ l, L.getLast? = some l → r l = z) : Linked r (L ++ [z]) := by
  rcases eq_nil_or_snoc L with rfl | ⟨N, l, rfl⟩
  · trivial
  · rw [List.append_assoc, List.singleton_append, linked_append_mid]
    exact ⟨h, hl l List.getLast?_concat, trivial⟩

theorem getLast_notMem_dropLast {L : List Nat} (hnd : L.Nodup) {l : Nat} (hl : L.getLast? = some l) :
    l ∉ L.dropLast := by
  obtain ⟨N, rfl⟩ := List.getLast?_eq_some_iff.mp hl
  rw [List.dropLast_concat]
  exact fun h => (List.nodup_append.mp hnd).2.2 l h l List.mem_cons_self rfl

theorem linked_congr (r1 r2 : Rec) (l : List Nat) (h : ∀ x ∈ l.dropLast, r1 x = r2 x) :
    Linked r1 l ↔ Linked r2 l := by
  induction l with
  | nil => simp [Linked]
  | cons a l ih =>
    cases l with
    | nil => simp [Linked]
    | cons b t =>
      simp only [linked_cons_cons]
      have ha : r1 a = r2 a := h a (by simp [List.dropLast])
      have := ih (fun x hx => h x (by simp [List.dropLast] at hx ⊢; exact Or.inr hx))
      rw [ha, this]

theorem linked_map (r : Rec) (l : List Nat) (z : Nat) (h : Linked r (l ++ [z])) :
    l.map r = (l ++ [z]).drop 1 := by
  induction l with
  | nil => simp
  | cons a l ih =>
    cases l with
    | nil => simp [Linked] at h ⊢; exact h
    | cons b t =>
      simp only [List.cons_append, linked_cons_cons] at h
      have := ih h.2
      simp only [List.map_cons, List.cons_append, List.drop_succ_cons, List.drop_zero] at this ⊢
      rw [this, h.1]

theorem cycleOf_cons (r : Rec) (x : Nat) (t : List Nat) :
    CycleOf r (x :: t) ↔ Linked r (x :: (t ++ [x])) := by
  simp [CycleOf]

theorem cycleOf_append_cons_cons (r : Rec) (a b : Nat) (A B : List Nat) :
    CycleOf r ((a :: A) ++ (b :: B)) ↔ Linked r (a :: (A ++ [b])) ∧ Linked r (b :: (B ++ [a])) := by
  rw [List.cons_append, cycleOf_cons]
  have : a :: ((A ++ b :: B) ++ [a]) = (a :: A) ++ b :: (B ++ [a]) := by simp
  rw [this, linked_append_mid]
  exact Iff.rfl

theorem cycleOf_rotate (r : Rec) (A B : List Nat) : CycleOf r (A ++ B) ↔ CycleOf r (B ++ A) := by
  cases A with
  | nil => simp
  | cons a A =>
    cases B with
    | nil => simp
    | cons b B =>
      rw [cycleOf_append_cons_cons, cycleOf_append_cons_cons]
      exact and_comm

theorem cycleOf_map (r : Rec) (x : Nat) (t : List Nat) (h : CycleOf r (x :: t)) :
    (x :: t).map r = t ++ [x] := by
  rw [cycleOf_cons] at h
  have := linked_map r (x :: t) x h
  simpa using this

theorem cycleOf_mem_closed (r : Rec) (seq : List Nat) (h : CycleOf r seq) {y : Nat} (hy : y ∈ seq) :
    r y ∈ seq := by
  cases seq with
  | nil => simp at hy
  | cons x t =>
    have hm := cycleOf_map r x t h
    have : r y ∈ (x :: t).map r := List.mem_map_of_mem hy
    rw [hm] at this
    simp at this ⊢
    exact this.symm

theorem cycleOf_inj (r : Rec) (seq : List Nat) (h : CycleOf r seq) (hnd : seq.Nodup)
    {x y : Nat} (hx : x ∈ seq) (hy : y ∈ seq) (hxy : r x = r y) : x = y := by
  cases seq with
  | nil => simp at hx
  | cons a t =>
    have hm := cycleOf_map r a t h
    have hnd' : ((a :: t).map r).Nodup := by
      rw [hm]
      have : (t ++ [a]).Perm (a :: t) := (List.perm_append_comm : (t ++ [a]).Perm ([a] ++ t))
      exact this.nodup_iff.mpr hnd
    exact inj_of_nodup_map (a :: t) hnd' x hx y hy hxy

theorem insertBy_perm (key : Nat → Nat) (x : Nat) : ∀ l : List Nat, (insertBy key x l).Perm (x :: l) := by
  intro l
  induction l with
  | nil => exact List.Perm.refl _
  | cons y ys ih =>
    simp only [insertBy]
    split
    · exact List.Perm.refl _
    · exact (List.Perm.cons y ih).trans (List.Perm.swap x y ys)

theorem isortBy_perm (key : Nat → Nat) : ∀ l : List Nat, (isortBy key l).Perm l := by
  intro l
  induction l with
  | nil => exact List.Perm.refl _
  | cons x xs ih => exact (insertBy_perm key x _).trans (List.Perm.cons x ih)

theorem insertBy_sorted (key : Nat → Nat) (x : Nat) : ∀ l : List Nat,
    l.Pairwise (fun a b => key a ≤ key b) → (insertBy key x l).Pairwise (fun a b => key a ≤ key b) := by
  intro l
  induction l with
  | nil => intro _; simp [insertBy]
  | cons y ys ih =>
    intro h
    simp only [insertBy]
    have h' := List.pairwise_cons.mp h
    split
    · rename_i hxy
      refine List.pairwise_cons.mpr ⟨?_, h⟩
      intro z hz
      rcases List.mem_cons.mp hz with rfl | hz
      · exact hxy
      · exact Nat.le_trans hxy (h'.1 z hz)
    · rename_i hxy
      refine List.pairwise_cons.mpr ⟨?_, ih h'.2⟩
      intro z hz
      have hz' : z ∈ x :: ys := (insertBy_perm key x ys).mem_iff.mp hz
      rcases List.mem_cons.mp hz' with rfl | hz'
      · omega
      · exact h'.1 z hz'

theorem isortBy_sorted (key : Nat → Nat) : ∀ l : List Nat,
    (isortBy key l).Pairwise (fun a b => key a ≤ key b) := by
  intro l
  induction l with
  | nil => simp [isortBy]
  | cons x xs ih => exact insertBy_sorted key x _ ih

theorem argsortL_map (n : Nat) (r : Rec) (hp : ((List.range n).map r).Perm (List.range n)) :
    (argsortL n r).map r = List.range n := by
  have h1 : ((argsortL n r).map r).Perm (List.range n) :=
    ((isortBy_perm r (List.range n)).map r).trans hp
  have h2 : ((argsortL n r).map r).Pairwise (· ≤ ·) := by
    rw [List.pairwise_map]; exact isortBy_sorted r (List.range n)
  exact List.Perm.eq_of_pairwise (le := fun a b : Nat => a ≤ b) (by intro a b _ _ h1 h2; omega)
    h2 ((List.pairwise_lt_range (n := n)).imp (by intro a b h; omega)) h1

theorem argsortL_length (n : Nat) (r : Rec) : (argsortL n r).length = n :=
  length_of_perm_range (isortBy_perm r (List.range n))

theorem argsort_getElem (n : Nat) (r : Rec) (y : Nat) (hy : y < (argsortL n r).length) :
    argsort n r y = (argsortL n r)[y] :=
  getD_eq_getElem _ 0 hy

theorem argsort_val (n : Nat) (r : Rec) (hp : ((List.range n).map r).Perm (List.range n)) (y : Nat) (hy : y < n) :
    r (argsort n r y) = y := by
  have hl : y < (argsortL n r).length := by rw [argsortL_length]; exact hy
  have := congrArg (fun l => l[y]?) (argsortL_map n r hp)
  simp only [List.getElem?_map, List.getElem?_range hy, List.getElem?_eq_getElem hl, Option.map_some,
    Option.some.injEq] at this
  rw [argsort_getElem n r y hl]; exact this

/-- **`argsort` of a permutation array is its inverse**: if the entries `rec[0..n-1]` are a permutation of
`0..n-1` and `rec[x] = y`, then `rec.argsort()[y] = x`. -/
theorem argsort_eq (n : Nat) (r : Rec) (hp : ((List.range n).map r).Perm (List.range n))
    (x y : Nat) (hx : x < n) (hxy : r x = y) : argsort n r y = x := by
  have hy : y < n := by
    have : y ∈ (List.range n).map r := List.mem_map.mpr ⟨x, List.mem_range.mpr hx, hxy⟩
    exact List.mem_range.mp (hp.mem_iff.mp this)
  have hmem : argsort n r y ∈ List.range n :=
    List.mem_range.mpr (getD_lt_of_perm_range (isortBy_perm r (List.range n)) 0 hy)
  exact inj_of_nodup_map (List.range n) (nodup_of_perm_range hp) _ hmem x (List.mem_range.mpr hx)
    ((argsort_val n r hp y hy).trans hxy.symm)

theorem cycle_map_perm (r : Rec) (seq : List Nat) (hc : CycleOf r seq) : (seq.map r).Perm seq := by
  cases seq with
  | nil => simp
  | cons x t =>
    rw [cycleOf_map r x t hc]
    exact (List.perm_append_comm : (t ++ [x]).Perm ([x] ++ t))

/-- `F`: the nodes taken out of the tour, left as self-loops (see `cycle_unlink`) -/
theorem map_perm_of_cycle_fixed (n : Nat) (r : Rec) (F seq : List Nat) (hp : (F ++ seq).Perm (List.range n))
    (hc : CycleOf r seq) (hfix : ∀ q ∈ F, r q = q) : ((List.range n).map r).Perm (List.range n) := by
  refine (hp.symm.map r).trans (List.Perm.trans ?_ hp)
  rw [List.map_append, (List.map_congr_left hfix : F.map r = F.map id), List.map_id]
  exact (cycle_map_perm r seq hc).append_left F

theorem map_perm_of_cycle (n : Nat) (r : Rec) (seq : List Nat) (hp : seq.Perm (List.range n))
    (hc : CycleOf r seq) : ((List.range n).map r).Perm (List.range n) :=
  map_perm_of_cycle_fixed n r [] seq hp hc fun _ h => nomatch h

theorem argsort_of_cycle (n : Nat) (r : Rec) (seq : List Nat) (hp : seq.Perm (List.range n))
    (hc : CycleOf r seq) (x y : Nat) (hx : x < n) (hxy : r x = y) : argsort n r y = x :=
  argsort_eq n r (map_perm_of_cycle n r seq hp hc) x y hx hxy

theorem cycleOf_upd_notMem (r : Rec) (seq : List Nat) (v w : Nat) (hv : v ∉ seq) :
    CycleOf (upd r v w) seq ↔ CycleOf r seq := by
  unfold CycleOf
  apply linked_congr
  intro x hx
  have : x ∈ seq := by
    have := List.dropLast_subset _ hx
    rcases List.mem_append.mp this with h | h
    · exact h
    · exact List.mem_of_mem_take h
  have hne : x ≠ v := fun e => hv (e ▸ this)
  simp [upd, hne]

/-- how a splice re-uses the rest of the cycle behind the node it edits -/
theorem linked_head_congr (r r' : Rec) (u u' : Nat) (K : List Nat)
    (h : Linked r (u :: K)) (hu : r' u' = r u) (hK : ∀ z ∈ K.dropLast, r' z = r z) :
    Linked r' (u' :: K) := by
  cases K with
  | nil => trivial
  | cons k K' =>
    rw [linked_cons_cons] at h ⊢
    exact ⟨by rw [hu, h.1], (linked_congr r' r (k :: K') hK).mpr h.2⟩

/-- unlink: `… x v y …` becomes `… x y …` when the successor of `x` is set to the successor of `v` -/
theorem cycle_remove (r : Rec) (L R : List Nat) (x v : Nat)
    (hc : CycleOf r (L ++ x :: v :: R)) (hnd : (L ++ x :: v :: R).Nodup) :
    CycleOf (upd r x (r v)) (L ++ x :: R) := by
  have hx : x ∉ v :: (R ++ L) :=
    (List.nodup_cons.mp ((List.perm_append_comm (l₁ := L)).nodup_iff.mp hnd)).1
  rw [cycleOf_rotate, List.cons_append, cycleOf_cons] at hc ⊢
  refine linked_head_congr r _ v x _ hc.2 (upd_same _ _ _) fun z hz => upd_other _ _ _ _ fun e => hx ?_
  rw [List.dropLast_concat] at hz
  exact e ▸ List.mem_cons_of_mem v hz

/-- splice: `… s y …` becomes `… s v y …` -/
theorem cycle_insert (r : Rec) (S1 S2 : List Nat) (s v : Nat)
    (hc : CycleOf r (S1 ++ s :: S2)) (hnd : (S1 ++ s :: S2).Nodup) (hv : v ∉ S1 ++ s :: S2) :
    CycleOf (upd (upd r s v) v (r s)) (S1 ++ s :: v :: S2) := by
  have hs : s ∉ S2 ++ S1 := (List.nodup_cons.mp ((List.perm_append_comm (l₁ := S1)).nodup_iff.mp hnd)).1
  have hv' : v ∉ s :: (S2 ++ S1) := fun h => hv ((List.perm_append_comm (l₁ := S1)).mem_iff.mpr h)
  have hvs : v ≠ s := fun e => hv' (e ▸ List.mem_cons_self)
  rw [cycleOf_rotate, List.cons_append, cycleOf_cons] at hc
  rw [cycleOf_rotate, List.cons_append, List.cons_append, cycleOf_cons, List.cons_append, linked_cons_cons]
  refine ⟨by rw [upd_other _ _ _ _ hvs.symm, upd_same], ?_⟩
  refine linked_head_congr r _ s v _ hc (upd_same _ _ _) fun z hz => ?_
  rw [List.dropLast_concat] at hz
  have hzv : z ≠ v := fun e => hv' (e ▸ List.mem_cons_of_mem s hz)
  have hzs : z ≠ s := fun e => hs (e ▸ hz)
  rw [upd_other _ _ _ _ hzv, upd_other _ _ _ _ hzs]

theorem perm_insert (S1 S2 : List Nat) (s v : Nat) : (S1 ++ s :: v :: S2).Perm (v :: (S1 ++ s :: S2)) := by
  rw [← List.singleton_append (l := v :: S2), ← List.append_assoc]
  exact List.perm_middle.trans (List.Perm.of_eq (by simp))

/-- the bridge from the Spec's `IsTour` to a listing, read from any node `a` (back: `⟨listing, hperm, hcyc⟩`).  Operator proofs
start here, at the node they splice behind; the oracles and checkers start from `isTour_iff_walk` (the walk from node 0). -/
theorem isTour_from (r : Rec) (n : Nat) (h : IsTour r n) (a : Nat) (ha : a < n) :
    ∃ rest, (a :: rest).Perm (List.range n) ∧ CycleOf r (a :: rest) := by
  obtain ⟨seq, hperm, hcyc⟩ := h
  obtain ⟨X, Y, hX⟩ := List.append_of_mem ((mem_of_perm_range hperm a).mpr ha)
  refine ⟨Y ++ X, ?_, ?_⟩
  · rw [hX] at hperm; exact (List.perm_append_comm (l₁ := a :: Y) (l₂ := X)).trans hperm
  · rw [hX] at hcyc; exact (cycleOf_rotate r X (a :: Y)).mp hcyc

theorem filter_ne_decomp (L R : List Nat) (v : Nat) (hnd : (L ++ v :: R).Nodup) :
    (L ++ v :: R).filter (· != v) = L ++ R := by
  -- in a duplicate-free list, filtering `v` out is erasing its one occurrence
  have hvL : v ∉ L := fun hm => (List.nodup_append.mp hnd).2.2 v hm v List.mem_cons_self rfl
  rw [← hnd.erase_eq_filter, List.erase_append_right _ hvL, List.erase_cons_head]

theorem mem_filter_ne {l : List Nat} {v z : Nat} : z ∈ l.filter (· != v) ↔ z ∈ l ∧ z ≠ v := by
  rw [List.mem_filter, bne_iff_ne]

theorem perm_cons_filter_ne {l : List Nat} {v : Nat} (hnd : l.Nodup) (hv : v ∈ l) :
    l.Perm (v :: l.filter (· != v)) := by
  rw [← hnd.erase_eq_filter]; exact List.perm_cons_erase hv

theorem before_filter_ne {l : List Nat} {v i j : Nat} (h : Before l i j) (hi : i ≠ v) (hj : j ≠ v) :
    Before (l.filter (· != v)) i j := by
  have := List.Sublist.filter (· != v) h
  rwa [List.filter_cons_of_pos (p := (· != v)) (bne_iff_ne.mpr hi),
    List.filter_cons_of_pos (p := (· != v)) (bne_iff_ne.mpr hj), List.filter_nil] at this

/-- `cycle_remove` as the source does it, the predecessor of `v` found by `argsort`: the nodes `F` taken out earlier are
self-loops (`hfix`), so that the array is still a permutation of `0..gs-1` and `argsort` still inverts it (a whole tour:
`F := []`, `hfix := fun _ h => nomatch h`) -/
theorem cycle_unlink (gs : Nat) (r : Rec) (F : List Nat) (y : Nat) (P : List Nat) (v : Nat) (R : List Nat)
    (hperm : (F ++ (y :: P ++ v :: R)).Perm (List.range gs)) (hfix : ∀ q ∈ F, r q = q)
    (hcyc : CycleOf r (y :: P ++ v :: R)) :
    CycleOf (upd r (argsort gs r v) (r v)) (y :: P ++ R) := by
  obtain ⟨L, x, hLx⟩ := (eq_nil_or_snoc (y :: P)).resolve_left (List.cons_ne_nil _ _)
  have hnd : (y :: P ++ v :: R).Nodup := (List.nodup_append.mp (nodup_of_perm_range hperm)).2.1
  have hx : x < gs := (mem_of_perm_range hperm x).mp
    (List.mem_append_right F (List.mem_append_left _ (hLx ▸ List.mem_append_right L List.mem_cons_self)))
  rw [hLx, List.append_assoc] at hcyc hnd
  have hxv : r x = v := ((cycleOf_cons r x _).mp ((cycleOf_rotate r L (x :: v :: R)).mp hcyc)).1
  rw [argsort_eq gs r (map_perm_of_cycle_fixed gs r F _ hperm (by rw [hLx, List.append_assoc]; exact hcyc) hfix) x v hx hxv,
    hLx, List.append_assoc]
  exact cycle_remove r L R x v hcyc hnd

/-- `cycle_unlink` on a listing one did not choose: `v` may be its first entry (its predecessor is then the last one), as
long as the listing has another node `y`; the listing loses `v` -/
theorem cycle_unlink_filter (gs : Nat) (r : Rec) (F l : List Nat) (v : Nat) {y : Nat}
    (hperm : (F ++ l).Perm (List.range gs)) (hfix : ∀ q ∈ F, r q = q) (hcyc : CycleOf r l)
    (hv : v ∈ l) (hy : y ∈ l) (hyv : y ≠ v) :
    CycleOf (upd r (argsort gs r v) (r v)) (l.filter (· != v)) := by
  have hnd : l.Nodup := (List.nodup_append.mp (nodup_of_perm_range hperm)).2.1
  obtain ⟨L, R, rfl⟩ := List.append_of_mem hv
  rw [filter_ne_decomp L R v hnd]
  cases L with
  | cons a P => exact cycle_unlink gs r F a P v R hperm hfix hcyc
  | nil =>
    cases R with
    | nil => exact absurd (List.mem_singleton.mp hy) hyv
    | cons a R' =>
      -- read from `a`, the listing is `a, R', v`
      have := cycle_unlink gs r F a R' v [] ((List.Perm.append_left F List.perm_append_comm).trans hperm) hfix
        ((cycleOf_rotate r [v] (a :: R')).mp hcyc)
      rwa [List.append_nil] at this

theorem walk_length (r : Rec) : ∀ (k pre : Nat), (walk r k pre).length = k := by
  intro k; induction k with
  | zero => intro _; rfl
  | succ k ih => intro pre; simp [walk, ih]

theorem walk_linked (r : Rec) : ∀ (k pre : Nat), Linked r (pre :: walk r k pre) := by
  intro k; induction k with
  | zero => intro _; trivial
  | succ k ih => intro pre; exact ⟨rfl, ih (r pre)⟩

theorem walk_append (r : Rec) : ∀ (a b x : Nat),
    walk r (a + b) x = walk r a x ++ walk r b ((x :: walk r a x).getLastD x) := by
  intro a
  induction a with
  | zero => intro b x; rw [Nat.zero_add]; rfl
  | succ a ih =>
    intro b x
    rw [Nat.add_right_comm]
    show r x :: walk r (a + b) (r x) = r x :: (walk r a (r x) ++ _)
    rw [ih b (r x)]
    rfl

theorem walk_of_linked (r : Rec) : ∀ (W : List Nat) (pre : Nat), Linked r (pre :: W) →
    walk r W.length pre = W := by
  intro W
  induction W with
  | nil => intro pre _; rfl
  | cons w W ih =>
    intro pre h
    rw [linked_cons_cons] at h
    simp only [List.length_cons, walk, h.1, ih w h.2]

theorem walk_of_cycle (r : Rec) (a : Nat) (X : List Nat) (h : CycleOf r (a :: X)) :
    walk r (X.length + 1) a = X ++ [a] := by
  rw [cycleOf_cons] at h
  have := walk_of_linked r (X ++ [a]) a h
  rwa [List.length_append] at this

theorem idxOf_decomp (A : List Nat) (x : Nat) (B : List Nat) (hx : x ∉ A) :
    (A ++ x :: B).idxOf x = A.length := by
  rw [List.idxOf_append, if_neg hx, List.idxOf_cons_self, Nat.zero_add]

theorem idxOf_lt_of_mem_right {A : List Nat} {x : Nat} {B : List Nat} (hnd : (A ++ x :: B).Nodup) {z : Nat}
    (hz : z ∈ B) : (A ++ x :: B).idxOf x < (A ++ x :: B).idxOf z := by
  have hd := List.nodup_append.mp hnd
  have hxA : x ∉ A := fun h => hd.2.2 x h x List.mem_cons_self rfl
  have hzA : z ∉ A := fun h => hd.2.2 z h z (List.mem_cons_of_mem _ hz) rfl
  have hzx : x ≠ z := fun e => (List.nodup_cons.mp hd.2.1).1 (e ▸ hz)
  rw [idxOf_decomp A x B hxA, List.idxOf_append, if_neg hzA, List.idxOf_cons, beq_false_of_ne hzx]
  simp only [cond_false]; omega

theorem mem_right_of_idxOf_lt {A : List Nat} {x : Nat} {B : List Nat} (hnd : (A ++ x :: B).Nodup) {z : Nat}
    (hz : z ∈ A ++ x :: B) (hlt : (A ++ x :: B).idxOf x < (A ++ x :: B).idxOf z) : z ∈ B := by
  have hxA : x ∉ A := fun h => (List.nodup_append.mp hnd).2.2 x h x List.mem_cons_self rfl
  rw [idxOf_decomp A x B hxA] at hlt
  rcases List.mem_append.mp hz with h | h
  · have := List.idxOf_lt_length_of_mem h
    rw [List.idxOf_append, if_pos h] at hlt
    omega
  · rcases List.mem_cons.mp h with rfl | h
    · rw [idxOf_decomp A z B hxA] at hlt; omega
    · exact h

theorem sublist_pair_decomp {x y : Nat} {l : List Nat} (h : [x, y].Sublist l) :
    ∃ A B C, l = A ++ x :: (B ++ y :: C) := by
  obtain ⟨r₁, r₂, rfl, hx, hy⟩ := List.cons_sublist_iff.mp h
  obtain ⟨A, B, rfl⟩ := List.append_of_mem hx
  obtain ⟨B', C, rfl⟩ := List.append_of_mem (List.singleton_sublist.mp hy)
  exact ⟨A, B ++ B', C, by simp⟩

theorem before_of_mem_right (A : List Nat) (x : Nat) (B : List Nat) {y : Nat} (hy : y ∈ B) :
    Before (A ++ x :: B) x y :=
  (List.Sublist.cons_cons x (List.singleton_sublist.mpr hy)).trans (List.sublist_append_right A _)

theorem before_iff_idxOf (l : List Nat) (hnd : l.Nodup) (x y : Nat) (hy : y ∈ l) :
    Before l x y ↔ l.idxOf x < l.idxOf y := by
  constructor
  · intro h
    obtain ⟨A, B, C, rfl⟩ := sublist_pair_decomp h
    exact idxOf_lt_of_mem_right hnd (List.mem_append_right B List.mem_cons_self)
  · intro h
    have hx : x ∈ l := List.idxOf_lt_length_iff.mp (Nat.lt_of_lt_of_le h List.idxOf_le_length)
    obtain ⟨A, B, rfl⟩ := List.append_of_mem hx
    exact before_of_mem_right A x B (mem_right_of_idxOf_lt hnd hy h)

/-- `x` is not behind `y` -/
theorem eq_or_before_of_idxOf_le {l : List Nat} (hnd : l.Nodup) {x y : Nat} (hx : x ∈ l) (hy : y ∈ l)
    (h : l.idxOf x ≤ l.idxOf y) : x = y ∨ Before l x y := by
  rcases Nat.lt_or_eq_of_le h with h | h
  · exact Or.inr ((before_iff_idxOf l hnd x y hy).mpr h)
  · left
    rw [← List.getElem_idxOf (List.idxOf_lt_length_of_mem hx),
      ← List.getElem_idxOf (List.idxOf_lt_length_of_mem hy)]
    simp only [h]

theorem idxOf_rotate (U W : List Nat) (hnd : (U ++ W).Nodup) {z : Nat} (hz : z ∈ U ++ W) :
    (W ++ U).idxOf z = ((U ++ W).idxOf z + W.length) % (U.length + W.length) := by
  have hdis := (List.nodup_append.mp hnd).2.2
  rw [List.idxOf_append, List.idxOf_append]
  rcases List.mem_append.mp hz with h | h
  · have hW : z ∉ W := fun h' => hdis z h z h' rfl
    have := List.idxOf_lt_length_of_mem h
    rw [if_neg hW, if_pos h, Nat.mod_eq_of_lt (by omega)]
  · have hU : z ∉ U := fun h' => hdis z h' z h rfl
    have := List.idxOf_lt_length_of_mem h
    rw [if_pos h, if_neg hU, Nat.add_right_comm, Nat.add_assoc, Nat.add_comm W.length, Nat.add_mod_right,
      Nat.mod_eq_of_lt (by omega)]

/-- the `visited_time` walk on ANY successor array (no validity assumed): a node keeps the stamp of the LAST
time the walk meets it -/
theorem vtLoop_general (r : Rec) : ∀ (k pre i : Nat) (vt : Nat → Nat) (x : Nat),
    (x ∉ walk r k pre ∧ vtLoop r k i pre vt x = vt x) ∨
      (∃ A B, walk r k pre = A ++ x :: B ∧ x ∉ B ∧ vtLoop r k i pre vt x = i + A.length + 1) := by
  intro k
  induction k with
  | zero => intro pre i vt x; exact Or.inl ⟨List.not_mem_nil, rfl⟩
  | succ k ih =>
    intro pre i vt x
    rw [walk, vtLoop]
    rcases ih (r pre) (i + 1) (upd vt (r pre) (i + 1)) x with ⟨hx, hv⟩ | ⟨A, B, hW, hxB, hv⟩
    · by_cases hxw : x = r pre
      · subst hxw
        right
        exact ⟨[], _, rfl, hx, by rw [hv]; simp [upd]⟩
      · left
        exact ⟨by simp [hxw, hx], by rw [hv]; simp [upd, hxw]⟩
    · right
      exact ⟨r pre :: A, B, by rw [hW]; rfl, hxB, by rw [hv]; simp; omega⟩

/-- on a duplicate-free walk the last visit is the only one -/
theorem vtLoop_spec (r : Rec) (k pre i : Nat) (vt : Nat → Nat) (hnd : (walk r k pre).Nodup) (x : Nat) :
    vtLoop r k i pre vt x = if x ∈ walk r k pre then i + (walk r k pre).idxOf x + 1 else vt x := by
  rcases vtLoop_general r k pre i vt x with ⟨hx, hv⟩ | ⟨A, B, hW, _, hv⟩
  · rw [hv, if_neg hx]
  · rw [hW] at hnd ⊢
    rw [hv, if_pos (List.mem_append_right A List.mem_cons_self),
      idxOf_decomp A x B fun h => (List.nodup_append.mp hnd).2.2 x h x List.mem_cons_self rfl]

/-- exact stamps on a tour read from the depot: the position in the tour, and `gs` for the depot itself -/
theorem vt_exact (gs : Nat) (r : Rec) (rest : List Nat) (hperm : (0 :: rest).Perm (List.range gs))
    (hc : CycleOf r (0 :: rest)) {x : Nat} (hx : x < gs) :
    visitedTime gs r x = if x = 0 then gs else (0 :: rest).idxOf x := by
  have hnd := nodup_of_perm_range hperm
  have hlen := length_of_perm_range hperm
  have hx := (mem_of_perm_range hperm x).mpr hx
  have h0 : 0 ∉ rest := (List.nodup_cons.mp hnd).1
  have hw : walk r gs 0 = rest ++ [0] := hlen ▸ walk_of_cycle r 0 rest hc
  have hxW : x ∈ rest ++ [0] := by
    rcases List.mem_cons.mp hx with h | h
    · exact List.mem_append_right _ (by simp [h])
    · exact List.mem_append_left _ h
  rw [visitedTime, vtLoop_spec r gs 0 0 _ (hw ▸ (List.perm_append_comm (l₁ := [0])).nodup_iff.mp hnd), hw,
    if_pos hxW]
  by_cases hx0 : x = 0
  · subst hx0
    rw [if_pos rfl, idxOf_decomp rest 0 [] h0, ← hlen, List.length_cons, Nat.zero_add]
  · have hxr : x ∈ rest := (List.mem_cons.mp hx).resolve_left hx0
    rw [if_neg hx0, List.idxOf_append, if_pos hxr, List.idxOf_cons, beq_false_of_ne (Ne.symm hx0), Nat.zero_add]
    rfl

/-- `visited_time % gs` is the position in the tour read from the depot -/
theorem vt_mod (gs : Nat) (r : Rec) (rest : List Nat) (hperm : (0 :: rest).Perm (List.range gs))
    (hc : CycleOf r (0 :: rest)) {x : Nat} (hx : x < gs) :
    visitedTime gs r x % gs = (0 :: rest).idxOf x := by
  rw [vt_exact gs r rest hperm hc hx]
  by_cases hx0 : x = 0
  · rw [if_pos hx0, hx0, Nat.mod_self, List.idxOf_cons_self]
  · rw [if_neg hx0, Nat.mod_eq_of_lt
      (length_of_perm_range hperm ▸ List.idxOf_lt_length_of_mem ((mem_of_perm_range hperm x).mpr hx))]

theorem mask2_iff {a b : Nat} : mask2 a b = true ↔ a ≠ b := bne_iff_ne

/-- what `PDPRuinRepairEnv.get_mask` admits for pickup node `p`: `first` is not stamped later than `second`, and neither
is `p` or its delivery -/
theorem pdpMask_iff (gs : Nat) (vt : Nat → Nat) (p f s : Nat) : pdpMask gs vt p f s = true ↔
    vt f % gs ≤ vt s % gs ∧ f ≠ p ∧ f ≠ p + gs / 2 ∧ s ≠ p ∧ s ≠ p + gs / 2 := by
  simp [pdpMask, and_assoc]

/-- the term `(R ++ [t0]).headD t0` of `Spec.Improve.pairs`: the node that followed the last segment, `a0` when the
tour ends there -/
def closeNode (a0 : Nat) (Y : List Nat) : Nat := (Y ++ [a0]).headD a0

theorem closeNode_cons (a0 y : Nat) (Y : List Nat) : closeNode a0 (y :: Y) = y := rfl

theorem closeNode_mem (a0 : Nat) (Y : List Nat) : closeNode a0 Y = a0 ∨ closeNode a0 Y ∈ Y := by
  cases Y with
  | nil => exact Or.inl rfl
  | cons y Y' => exact Or.inr (by simp [closeNode_cons])

/-- one link read off a listing: the node `u` points to what follows it, and the last node back to the first -/
theorem cycleOf_link (r : Rec) (a0 : Nat) (X Pre : List Nat) (u : Nat) (Rest : List Nat)
    (h : CycleOf r (a0 :: X)) (hdec : a0 :: X = Pre ++ u :: Rest) : r u = closeNode a0 Rest := by
  rw [cycleOf_cons, ← List.cons_append, hdec, List.append_assoc, List.cons_append, linked_append_mid] at h
  cases Rest with
  | nil => exact h.2.1
  | cons b B' => exact h.2.1

/-- the two columns are the canonical `k_action_left` / `k_action_right` of the builder (`KoptGen.wf_of_canonical`) -/
theorem pairs_eq_zip (t0 : Nat) : ∀ (segs : List (List Nat)) (R : List Nat) (u : Nat),
    pairs t0 u segs R = List.zip (u :: segs.map (·.headD t0)) (segs.map (·.getLastD t0) ++ [closeNode t0 R]) := by
  intro segs
  induction segs with
  | nil => intro R u; rfl
  | cons S segs ih => intro R u; simp [pairs, ih]

end Rl4co.Improve
