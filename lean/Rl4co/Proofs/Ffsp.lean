/-
The invariants of the FFSP model.  `Core`: the `schedule` matrix, `job_location` and the wait counters of a row in
every state; on a finished row it gives a valid schedule whose makespan is the reward.  `Exact`, for the unfinished
rows of a running batch (`Live`): the wait counters are the remaining processing times of entries of the matrix
(`Core.job_busy` / `Core.mach_busy` are the upper bounds), and every entry sits at a slot the sweep has dealt with.
The step rule `stepM_rule` carries a property through `_move_to_next_machine` with `Core` and `Exact` at hand;
`FfspWork` and `FfspExpr` go through it by `unfinished_induct`, `FfspComplete` directly.  No Mathlib.
-/
import Rl4co.Proofs.FfspModel
import Rl4co.Proofs.FfspMatrix
namespace Rl4co.Ffsp

/-- `mach_busy` alone is guarded by `done = false`: a finished row is padded with the wait action, which sets `mwait`
of the current machine to 0 although its last operation may still be running. -/
structure Core (i : Inst) (s : State) : Prop where
  sub_lt : s.sub < MT i
  midx_eq : s.midx = machineOf i s.sub
  loc_le : ∀ j, j < i.J → s.jloc j ≤ i.S
  done_eq : s.done = allAtEnd i s.jloc
  set_stage : ∀ m j, j < i.J → s.sched m j ≠ UNSET → m < MT i ∧ m / i.M < s.jloc j
  stage_has : ∀ j k, j < i.J → k < s.jloc j → ∃ m, m / i.M = k ∧ s.sched m j ≠ UNSET
  stage_uniq : ∀ j m m', j < i.J → s.sched m j ≠ UNSET → s.sched m' j ≠ UNSET →
    m / i.M = m' / i.M → m = m'
  start_rng : ∀ m j, j < i.J → s.sched m j ≠ UNSET → 0 ≤ s.sched m j ∧ s.sched m j ≤ (s.time : Int)
  job_busy : ∀ m j, j < i.J → s.sched m j ≠ UNSET →
    s.sched m j + (i.dur j m : Int) ≤ (s.time : Int) + (s.jwait j : Int)
  mach_busy : s.done = false → ∀ m j, j < i.J → s.sched m j ≠ UNSET →
    s.sched m j + (i.dur j m : Int) ≤ (s.time : Int) + (s.mwait m : Int)
  order : ∀ j m m', j < i.J → s.sched m j ≠ UNSET → s.sched m' j ≠ UNSET → m / i.M < m' / i.M →
    s.sched m j + (i.dur j m : Int) ≤ s.sched m' j
  disjoint : ∀ m j j', j < i.J → j' < i.J → j ≠ j' → s.sched m j ≠ UNSET → s.sched m j' ≠ UNSET →
    s.sched m j + (i.dur j m : Int) ≤ s.sched m j' ∨ s.sched m j' + (i.dur j' m : Int) ≤ s.sched m j

theorem Core.midx_lt {i : Inst} {s : State} (c : Core i s) (h : WF i) : s.midx < MT i :=
  c.midx_eq ▸ machineOf_lt h c.sub_lt

theorem jloc_of_done {i : Inst} {s : State} (c : Core i s) (hd : s.done = true) :
    ∀ j, j < i.J → s.jloc j = i.S := by
  rw [c.done_eq] at hd
  exact (allAtEnd_true i s.jloc).mp hd

theorem exists_unfinished {i : Inst} {s : State} (c : Core i s) (hd : s.done = false) :
    ∃ j, j < i.J ∧ s.jloc j < i.S := by
  apply Classical.byContradiction
  intro hn
  rw [c.done_eq, (allAtEnd_true i s.jloc).mpr fun j hj => Classical.byContradiction fun hne =>
    hn ⟨j, hj, Nat.lt_of_le_of_ne (c.loc_le j hj) hne⟩] at hd
  cases hd

theorem core_reset (i : Inst) (h : WF i) : Core i (reset i) where
  sub_lt := MT_pos h
  midx_eq := rfl
  loc_le := fun _ _ => Nat.zero_le _
  done_eq := by
    show false = allAtEnd i fun _ => 0
    cases hh : allAtEnd i fun _ => 0
    · rfl
    · have := (allAtEnd_true i _).mp hh 0 h.J_pos
      exact absurd this (Nat.ne_of_lt h.S_pos)
  set_stage := fun m j _ hs => absurd rfl hs
  stage_has := fun j k _ hk => absurd hk (Nat.not_lt_zero _)
  stage_uniq := fun _ m _ _ hs => absurd rfl hs
  start_rng := fun m j _ hs => absurd rfl hs
  job_busy := fun m j _ hs => absurd rfl hs
  mach_busy := fun _ m j _ hs => absurd rfl hs
  order := fun _ m _ _ hs => absurd rfl hs
  disjoint := fun m j _ _ _ _ hs => absurd rfl hs

theorem core_advance (i : Inst) (s : State) (c : Core i s) : Core i (advance i s) :=
  { c with
    sub_lt := advance_sub_lt c.sub_lt
    midx_eq := rfl
    start_rng := fun m j hj hs => by
      have := c.start_rng m j hj hs
      refine ⟨this.1, ?_⟩
      show s.sched m j ≤ ((advance i s).time : Int)
      rw [advance_time, Int.natCast_add]; exact le_add_natCast this.2 _
    job_busy := fun m j hj hs => by
      show s.sched m j + (i.dur j m : Int) ≤ ((advance i s).time : Int) + ((advance i s).jwait j : Int)
      rw [advance_time, advance_jwait]; exact busy_shift (c.job_busy m j hj hs) _
    mach_busy := fun hd m j hj hs => by
      show s.sched m j + (i.dur j m : Int) ≤ ((advance i s).time : Int) + ((advance i s).mwait m : Int)
      rw [advance_time, advance_mwait]; exact busy_shift (c.mach_busy hd m j hj hs) _ }

theorem core_updateMask (i : Inst) (s : State) (c : Core i s) : Core i (updateMask i s) :=
  { c with }

theorem core_setReward (i : Inst) (s : State) (c : Core i s) (r : Option Int) :
    Core i { s with reward := r } :=
  { c with }

theorem core_moveNext (i : Inst) (s : State) (c : Core i s) : Core i (moveNext i s) :=
  moveNext_preserves i (core_advance i) s c

theorem apply_done_of_not_job {i : Inst} {s : State} (c : Core i s) {a : Nat} (ha : ¬ a < i.J) :
    (apply i s a).done = s.done := by
  rw [c.done_eq]
  exact allAtEnd_congr i (fun j hj => apply_jloc_other i s (fun e => ha (e ▸ hj)))

/-- The bookkeeping half of `_step` keeps the schedule invariant `Core` when the current machine is idle and the chosen job,
if it is one, is ready.  The wait action books the dummy job `J`, whose column and counters `Core` does not look at: only
the cases of an old entry arise for it (on a finished row `mach_busy` asks nothing). -/
theorem core_book (i : Inst) (h : WF i) (s : State) (c : Core i s) (a : Nat)
    (hjob : a < i.J → s.jloc a = stageOf i s.sub ∧ s.jwait a = 0)
    (hmw : s.done = false → s.mwait s.midx = 0) : Core i (apply i s a) := by
  have hk : a < i.J → s.midx / i.M = s.jloc a := fun ha => by rw [c.midx_eq, machineOf_stage h, (hjob ha).1]; rfl
  have hmid := c.midx_lt h
  have hkS : a < i.J → s.jloc a < i.S := fun ha => by rw [(hjob ha).1]; exact stageOf_lt c.sub_lt
  have hdj : a < i.J → s.done = false := fun ha =>
    Bool.eq_false_iff.mpr fun hd => Nat.ne_of_lt (hkS ha) (jloc_of_done c hd a ha)
  have hd : (apply i s a).done = false → s.done = false := fun hd' =>
    Classical.byCases hdj fun ha => apply_done_of_not_job c ha ▸ hd'
  -- an old entry of job `a` lies in an earlier stage, and its operation is over
  have hold_a : a < i.J → ∀ m, s.sched m a ≠ UNSET →
      m / i.M < s.midx / i.M ∧ s.sched m a + (i.dur a m : Int) ≤ (s.time : Int) := by
    intro ha m hs
    have h1 := (c.set_stage m a ha hs).2
    have h2 := c.job_busy m a ha hs
    rw [(hjob ha).2] at h2
    exact ⟨by rw [hk ha]; exact h1, by simpa using h2⟩
  -- an old entry of the current machine is over
  have hold_m : s.done = false → ∀ j, j < i.J → s.sched s.midx j ≠ UNSET →
      s.sched s.midx j + (i.dur j s.midx : Int) ≤ (s.time : Int) := by
    intro hd j hj hs
    have := c.mach_busy hd s.midx j hj hs
    rw [hmw hd] at this
    simpa using this
  exact { c with
    loc_le := by
      intro j hj
      by_cases hja : j = a
      · rw [hja, apply_jloc_same]; exact hkS (hja ▸ hj)
      · rw [apply_jloc_other i s hja]; exact c.loc_le j hj
    done_eq := rfl
    set_stage := by
      intro m j hj hs
      rcases apply_entry i s a hs with ⟨rfl, rfl, _⟩ | ⟨_, hs', _⟩
      · exact ⟨hmid, by rw [apply_jloc_same, hk hj]; exact Nat.lt_succ_self _⟩
      · have h1 := c.set_stage m j hj hs'
        refine ⟨h1.1, Nat.lt_of_lt_of_le h1.2 ?_⟩
        by_cases hja : j = a
        · rw [hja, apply_jloc_same]; exact Nat.le_succ _
        · rw [apply_jloc_other i s hja]; exact Nat.le_refl _
    stage_has := by
      intro j k hj hk'
      by_cases hnew : j = a ∧ k = s.jloc a
      · refine ⟨s.midx, by rw [hk (hnew.1 ▸ hj), hnew.2], ?_⟩
        rw [hnew.1, apply_sched_new]; exact natCast_ne_unset _
      · have hk'' : k < s.jloc j := by
          by_cases hja : j = a
          · rw [hja, apply_jloc_same] at hk'
            rw [hja]
            exact Nat.lt_of_le_of_ne (Nat.le_of_lt_succ hk') (fun hh => hnew ⟨hja, hh⟩)
          · rwa [apply_jloc_other i s hja] at hk'
        obtain ⟨m, hm1, hm2⟩ := c.stage_has j k hj hk''
        refine ⟨m, hm1, ?_⟩
        rwa [apply_sched_old i s]
        rintro ⟨rfl, rfl⟩
        exact hnew ⟨rfl, hm1.symm.trans (hk hj)⟩
    stage_uniq := by
      intro j m m' hj hs hs' hmm
      rcases apply_entry i s a hs with ⟨e1, e2, _⟩ | ⟨_, hs1, _⟩
      · rcases apply_entry i s a hs' with ⟨e1', _, _⟩ | ⟨_, hs2, _⟩
        · rw [e1, e1']
        · subst e1 e2; exact absurd (hmm ▸ (hold_a hj m' hs2).1) (Nat.lt_irrefl _)
      · rcases apply_entry i s a hs' with ⟨e1', e2', _⟩ | ⟨_, hs2, _⟩
        · subst e1' e2'; exact absurd (hmm ▸ (hold_a hj m hs1).1) (Nat.lt_irrefl _)
        · exact c.stage_uniq j m m' hj hs1 hs2 hmm
    start_rng := by
      intro m j hj hs
      show _ ∧ _ ≤ (s.time : Int)
      rcases apply_entry i s a hs with ⟨_, _, he⟩ | ⟨he, hs', _⟩
      · rw [he]; exact ⟨Int.natCast_nonneg _, Int.le_refl _⟩
      · rw [he]; exact c.start_rng m j hj hs'
    job_busy := by
      intro m j hj hs
      show _ ≤ (s.time : Int) + _
      rcases apply_entry i s a hs with ⟨rfl, rfl, he⟩ | ⟨he, hs', _⟩
      · rw [he, apply_jwait_same, jobDur_job i hj]; exact Int.le_refl _
      · rw [he]
        by_cases hja : j = a
        · subst hja; exact le_add_natCast (hold_a hj m hs').2 _
        · rw [apply_jwait_other i s hja]; exact c.job_busy m j hj hs'
    mach_busy := by
      intro hd' m j hj hs
      show _ ≤ (s.time : Int) + _
      rcases apply_entry i s a hs with ⟨rfl, rfl, he⟩ | ⟨he, hs', _⟩
      · rw [he, apply_mwait_same, jobDur_job i hj]; exact Int.le_refl _
      · rw [he]
        by_cases hmm : m = s.midx
        · subst hmm; exact le_add_natCast (hold_m (hd hd') j hj hs') _
        · rw [apply_mwait_other i s a hmm]; exact c.mach_busy (hd hd') m j hj hs'
    order := by
      intro j m m' hj hs hs' hlt
      rcases apply_entry i s a hs with ⟨e1, e2, _⟩ | ⟨he, hs1, _⟩
      · rcases apply_entry i s a hs' with ⟨e1', _, _⟩ | ⟨_, hs2, _⟩
        · rw [e1, e1'] at hlt; exact absurd hlt (Nat.lt_irrefl _)
        · subst e1 e2; exact absurd (Nat.lt_trans hlt (hold_a hj m' hs2).1) (Nat.lt_irrefl _)
      · rcases apply_entry i s a hs' with ⟨e1', e2', he'⟩ | ⟨he', hs2, _⟩
        · subst e1' e2'; rw [he, he']; exact (hold_a hj m hs1).2
        · rw [he, he']; exact c.order j m m' hj hs1 hs2 hlt
    disjoint := by
      intro m j j' hj hj' hne hs hs'
      rcases apply_entry i s a hs with ⟨e1, e2, he⟩ | ⟨he, hs1, _⟩
      · rcases apply_entry i s a hs' with ⟨_, e2', _⟩ | ⟨he', hs2, _⟩
        · exact absurd (e2.trans e2'.symm) hne
        · subst e1; right; rw [he, he']; exact hold_m (hdj (e2 ▸ hj)) j' hj' hs2
      · rcases apply_entry i s a hs' with ⟨e1', e2', he'⟩ | ⟨he', hs2, _⟩
        · subst e1'; left; rw [he, he']; exact hold_m (hdj (e2' ▸ hj')) j hj hs1
        · rw [he, he']; exact c.disjoint m j j' hj hj' hne hs1 hs2 }

section
open Rl4co.Spec.Ffsp

theorem core_valid (i : Inst) (s : State) (c : Core i s) (hd : s.done = true) :
    Valid i (ofMatrix i s.sched) where
  range := by
    intro o ho
    obtain ⟨h1, h2, h3, h4⟩ := (mem_ofMatrix i s.sched o).mp ho
    exact ⟨h2, h1, by rw [h4]; exact (c.start_rng _ _ h2 h3).1⟩
  once := by
    intro j hj k hk
    rw [opsAt_ofMatrix i s.sched j k hj]
    obtain ⟨m, hm1, hm2⟩ := c.stage_has j k hj (by rw [jloc_of_done c hd j hj]; exact hk)
    apply cnt_eq_one (a := m) (c.set_stage m j hj hm2).1
    · simp [hm1, hm2]
    · intro b _ hb
      simp only [Bool.and_eq_true, beq_iff_eq, bne_iff_ne, ne_eq] at hb
      exact c.stage_uniq j b m hj hb.2 hm2 (by rw [hb.1, hm1])
  order := by
    intro o ho o' ho' hjj hst
    obtain ⟨_, h2, h3, h4⟩ := (mem_ofMatrix i s.sched o).mp ho
    obtain ⟨_, _, h3', h4'⟩ := (mem_ofMatrix i s.sched o').mp ho'
    simp only [Op.fin, h4, h4']
    rw [← hjj] at h3' ⊢
    exact c.order o.job o.machine o'.machine h2 h3 h3' hst
  machine := by
    intro o ho o' ho' hne hmm
    obtain ⟨_, h2, h3, h4⟩ := (mem_ofMatrix i s.sched o).mp ho
    obtain ⟨_, h2', h3', h4'⟩ := (mem_ofMatrix i s.sched o').mp ho'
    have hj : o.job ≠ o'.job := fun hjj => hne (op_eq_of_mem ho ho' hjj hmm)
    simp only [Op.fin, h4, h4']
    rw [← hmm] at h3' ⊢
    exact c.disjoint o.machine o.job o'.job h2 h2' hj h3 h3'

/-- On a finished state satisfying the invariant, `end_schedule.max()` is the makespan of the schedule. -/
theorem core_makespan (i : Inst) (h : WF i) (s : State) (c : Core i s) (hd : s.done = true) :
    IsMakespan i (ofMatrix i s.sched) (endMax i s) := by
  rw [endMax_eq]
  obtain ⟨⟨m, j, hm, hj, he⟩, hle⟩ :=
    maxI_matrix (fun m j => s.sched m j + (i.dur j m : Int)) (MT_pos h) h.J_pos
  constructor
  · by_cases hs : s.sched m j = UNSET
    · exfalso
      -- job 0 was processed in stage 0: that entry is ≥ 0, while an unset entry is negative
      obtain ⟨m0, _, hm02⟩ := c.stage_has 0 0 h.J_pos (by rw [jloc_of_done c hd 0 h.J_pos]; exact h.S_pos)
      have h1 := hle m0 0 (c.set_stage m0 0 h.J_pos hm02).1 h.J_pos
      have h2 := (c.start_rng m0 0 h.J_pos hm02).1
      have h3 := h.dur_lt j m hj hm
      rw [he, hs] at h1
      omega
    · exact ⟨⟨j, m, s.sched m j⟩, op_of_entry i s.sched hm hj hs, he.symm⟩
  · intro o ho
    obtain ⟨h1, h2, _, h4⟩ := (mem_ofMatrix i s.sched o).mp ho
    rw [Op.fin, h4]; exact hle _ _ h1 h2

end

/-- a job that is still being processed finishes exactly `jwait` time units from now -/
def JExact (i : Inst) (s : State) : Prop := ∀ j, j < i.J → 0 < s.jwait j →
  ∃ m, s.sched m j ≠ UNSET ∧ s.sched m j + (i.dur j m : Int) = (s.time : Int) + (s.jwait j : Int)

/-- a busy machine finishes its operation exactly `mwait` time units from now -/
def MExact (i : Inst) (s : State) : Prop := ∀ m, 0 < s.mwait m →
  ∃ j, j < i.J ∧ s.sched m j ≠ UNSET ∧ s.sched m j + (i.dur j m : Int) = (s.time : Int) + (s.mwait m : Int)

theorem exact_shift {x : Int} {t q : Nat} (w : Nat) (h : x = (t : Int) + (q : Int)) (hw : 0 < q - w) :
    x = ((t + w : Nat) : Int) + ((q - w : Nat) : Int) := by
  omega

theorem jexact_advance (i : Inst) (s : State) (e : JExact i s) : JExact i (advance i s) := by
  intro j hj hp
  rw [advance_jwait] at hp
  obtain ⟨m, h1, h2⟩ := e j hj (Nat.lt_of_lt_of_le hp (Nat.sub_le _ _))
  refine ⟨m, h1, ?_⟩
  show s.sched m j + _ = ((advance i s).time : Int) + ((advance i s).jwait j : Int)
  rw [advance_time, advance_jwait]; exact exact_shift _ h2 hp

theorem mexact_advance (i : Inst) (s : State) (e : MExact i s) : MExact i (advance i s) := by
  intro m hp
  rw [advance_mwait] at hp
  obtain ⟨j, hj, h1, h2⟩ := e m (Nat.lt_of_lt_of_le hp (Nat.sub_le _ _))
  refine ⟨j, hj, h1, ?_⟩
  show s.sched m j + _ = ((advance i s).time : Int) + ((advance i s).mwait m : Int)
  rw [advance_time, advance_mwait]; exact exact_shift _ h2 hp

theorem jexact_apply (i : Inst) (s : State) (e : JExact i s) (a : Nat) : JExact i (apply i s a) := by
  intro j hj hp
  by_cases hja : j = a
  · subst hja
    refine ⟨s.midx, ?_, ?_⟩
    · rw [apply_sched_new]; exact natCast_ne_unset _
    · rw [apply_sched_new, apply_jwait_same, jobDur_job i hj]; rfl
  · rw [apply_jwait_other i s hja] at hp ⊢
    obtain ⟨m, h1, h2⟩ := e j hj hp
    have hs := apply_sched_old i s (a := a) (m := m) (j := j) (fun hh => hja hh.2)
    exact ⟨m, by rw [hs]; exact h1, by rw [hs]; exact h2⟩

theorem mexact_apply (i : Inst) (s : State) (e : MExact i s) (a : Nat) : MExact i (apply i s a) := by
  intro m hp
  by_cases hmm : m = s.midx
  · subst hmm
    rw [apply_mwait_same] at hp ⊢
    have ha : a < i.J := Classical.byContradiction fun hn => by
      rw [jobDur, if_neg hn] at hp; exact Nat.lt_irrefl _ hp
    refine ⟨a, ha, ?_, ?_⟩
    · rw [apply_sched_new]; exact natCast_ne_unset _
    · rw [apply_sched_new, jobDur_job i ha]; rfl
  · rw [apply_mwait_other i s a hmm] at hp ⊢
    obtain ⟨j, hj, h1, h2⟩ := e m hp
    have hs := apply_sched_old i s (a := a) (m := m) (j := j) (fun hh => hmm hh.1)
    exact ⟨j, hj, by rw [hs]; exact h1, by rw [hs]; exact h2⟩

/-- `n` is the number of positions of the current time unit the sweep has dealt with: `s.sub` at a decision state and
after the loop body, `s.sub + 1` once the position the clock stands on has been booked or found not ready -/
structure Exact (i : Inst) (s : State) (n : Nat) : Prop where
  jx : JExact i s
  mx : MExact i s
  np : ∀ m j, j < i.J → s.sched m j ≠ UNSET → s.sched m j = (s.time : Int) →
    ∃ sub, sub < n ∧ sub < MT i ∧ m = machineOf i sub

theorem exact_reset (i : Inst) : Exact i (reset i) (reset i).sub :=
  ⟨fun _ _ hp => absurd hp (Nat.lt_irrefl 0), fun _ hp => absurd hp (Nat.lt_irrefl 0),
    fun _ _ _ hs => absurd rfl hs⟩

theorem exact_weaken {i : Inst} {s : State} {n n' : Nat} (a : Exact i s n) (h : n ≤ n') : Exact i s n' :=
  { a with
    np := fun m j hj hs ht => by
      obtain ⟨sub, h1, h2, h3⟩ := a.np m j hj hs ht
      exact ⟨sub, Nat.lt_of_lt_of_le h1 h, h2, h3⟩ }

theorem exact_advance (i : Inst) (x : State) (c : Core i x) (a : Exact i x (x.sub + 1)) :
    Exact i (advance i x) (advance i x).sub where
  jx := jexact_advance i x a.jx
  mx := mexact_advance i x a.mx
  np := by
    intro m j hj hs ht
    change x.sched m j = ((advance i x).time : Int) at ht
    rw [advance_time] at ht
    rcases wrap_cases i x with ⟨_, e⟩ | ⟨hw, e⟩
    · -- after a wrap no entry carries the new time yet
      have := (c.start_rng m j hj hs).2
      rw [ht, e] at this
      exact absurd (Int.ofNat_le.mp this) (Nat.not_succ_le_self _)
    · rw [advance_sub, if_neg hw]; exact a.np m j hj hs (by rw [ht, e]; rfl)

theorem exact_apply (i : Inst) (s : State) (c : Core i s) (a : Nat) (x : Exact i s s.sub) :
    Exact i (apply i s a) (s.sub + 1) where
  jx := jexact_apply i s x.jx a
  mx := mexact_apply i s x.mx a
  np := by
    intro m j hj hs ht
    rcases apply_entry i s a hs with ⟨e1, _, _⟩ | ⟨he, hs', _⟩
    · exact ⟨s.sub, Nat.lt_succ_self _, c.sub_lt, e1.trans c.midx_eq⟩
    · rw [he] at ht
      obtain ⟨sub, h1, h2, h3⟩ := x.np m j hj hs' ht
      exact ⟨sub, Nat.lt_succ_of_lt h1, h2, h3⟩

theorem running_job (i : Inst) {s : State} (c : Core i s) (jx : JExact i s) {j : Nat} (hj : j < i.J)
    (hpos : 0 < s.jwait j) : 1 ≤ s.jloc j ∧ ∀ m', m' / i.M + 1 = s.jloc j → s.sched m' j ≠ UNSET →
      (s.time : Int) < s.sched m' j + (i.dur j m' : Int) := by
  obtain ⟨m0, hs0, he0⟩ := jx j hj hpos
  have hst0 := (c.set_stage m0 j hj hs0).2
  have hend : (s.time : Int) < s.sched m0 j + (i.dur j m0 : Int) := by
    rw [he0]; exact Int.lt_add_of_pos_right _ (Int.natCast_pos.mpr hpos)
  refine ⟨Nat.lt_of_le_of_lt (Nat.zero_le _) hst0, fun m' hm' hset => ?_⟩
  rcases Nat.lt_or_ge (m0 / i.M) (m' / i.M) with hlt | hge
  · exact Int.lt_of_lt_of_le hend (le_add_natCast (c.order j m0 m' hj hs0 hset hlt) _)
  · have := c.stage_uniq j m0 m' hj hs0 hset
      (Nat.le_antisymm (Nat.le_of_lt_succ (Nat.lt_of_lt_of_le hst0 (Nat.le_of_eq hm'.symm))) hge)
    rw [← this]; exact hend

/-- invariant of the states a row is in while at least one row of its batch is unfinished -/
structure Live (i : Inst) (s : State) : Prop where
  core : Core i s
  fresh : Fresh i s
  rdy : s.done = false → ready i s = true

theorem mask_of_done (i : Inst) (s : State) (l : Live i s) (hd : s.done = true) (a : Nat) :
    s.mask a = decide (a = i.J) := by
  rcases Nat.lt_trichotomy a i.J with h | h | h
  · rw [mask_job i s l.fresh h, jloc_of_done l.core hd a h]
    have h2 : ¬ i.S = stageOf i s.sub := Nat.ne_of_gt (stageOf_lt l.core.sub_lt)
    simp [Nat.ne_of_lt h, h2]
  · subst h; simp [mask_wait i s l.fresh hd]
  · rw [mask_out i s l.fresh h]; simp [Nat.ne_of_gt h]

theorem Live.idle {i : Inst} {s : State} (l : Live i s) (hd : s.done = false) : s.mwait s.midx = 0 :=
  ((ready_iff i s).mp (l.rdy hd)).1

theorem live_reset (i : Inst) (h : WF i) : Live i (reset i) where
  core := core_reset i h
  fresh := by
    intro a
    simp only [reset, updateMask, stageOf, Nat.zero_div, Params.ffspInitWaitMasked]
    by_cases ha : a < i.J
    · simp [ha]
    · by_cases ha2 : a = i.J
      · subst ha2; simp
      · simp [ha, ha2]
  rdy := fun _ => (ready_iff i _).mpr ⟨rfl, 0, h.J_pos, (Nat.zero_div _).symm, rfl⟩

/-- **Termination of `_move_to_next_machine`** for every unfinished row satisfying the schedule
invariant: the loop ends, within its fuel, on an idle machine with an available job. -/
theorem move_terminates (i : Inst) (h : WF i) (s : State) (c : Core i s) (hd : s.done = false) :
    ready i (moveNext i s) = true := by
  rw [moveNext_eq_moveLoop hd]
  exact moveLoop_fuel_enough i h _ c.sub_lt (exists_unfinished c hd)

theorem job_action_facts (i : Inst) (h : WF i) (s : State) (l : Live i s) (a : Nat) (ha : a < i.J)
    (hm : s.mask a = true) :
    s.done = false ∧ s.jloc a = stageOf i s.sub ∧ s.jwait a = 0 ∧ s.mwait s.midx = 0 ∧
    s.midx < MT i ∧ s.midx / i.M = s.sub / i.M ∧ s.sched s.midx a = UNSET := by
  have hmk := mask_job i s l.fresh ha
  rw [hm] at hmk
  simp only [Bool.true_eq, Bool.and_eq_true, beq_iff_eq] at hmk
  have hd : s.done = false := by
    cases hdd : s.done with
    | false => rfl
    | true =>
      have := mask_of_done i s l hdd a
      rw [hm] at this
      exact absurd (of_decide_eq_true this.symm) (Nat.ne_of_lt ha)
  have hk : s.midx / i.M = s.sub / i.M := by rw [l.core.midx_eq, machineOf_stage h]
  refine ⟨hd, hmk.1, hmk.2, l.idle hd, l.core.midx_lt h, hk, ?_⟩
  apply Classical.byContradiction; intro hne
  have h1 := (l.core.set_stage s.midx a ha hne).2
  rw [hk, hmk.1] at h1
  exact Nat.lt_irrefl _ h1

theorem core_apply (i : Inst) (h : WF i) (s : State) (l : Live i s) (a : Nat) (hm : s.mask a = true) :
    Core i (apply i s a) :=
  core_book i h s l.core a
    (fun ha => ⟨(job_action_facts i h s l a ha hm).2.1, (job_action_facts i h s l a ha hm).2.2.1⟩) l.idle

/-- **Step rule**: `moveLoop_induct` for an admitted step that leaves the row unfinished, with `Core`, `Exact` and
`done = false` at hand inside the loop.  `Before` is asked of the state after the bookkeeping half and of every state
found not ready (in both the slot the clock stands on has been dealt with: `x.sub + 1`); `After` then holds of the
state the loop stops in, the next decision state. -/
theorem stepM_rule (i : Inst) (h : WF i) {Before After : State → Prop}
    (hadv : ∀ x, Core i x → x.done = false → Exact i x (x.sub + 1) → Before x → After (advance i x))
    (hnr : ∀ y, Core i y → y.done = false → Exact i y y.sub → After y → ready i y = false → Before y)
    {s : State} {a : Nat} (l : Live i s) (e : Exact i s s.sub) (hm : s.mask a = true)
    (hd : (apply i s a).done = false) (hp : Before (apply i s a)) :
    ∃ y, stepM i s a = updateMask i y ∧ Exact i y y.sub ∧ After y := by
  obtain ⟨f, hf⟩ := moveNext_of_not_done h hd
  obtain ⟨_, _, hy⟩ := moveLoop_induct i
    (Before := fun x => Core i x ∧ x.done = false ∧ Exact i x (x.sub + 1) ∧ Before x)
    (After := fun y => Core i y ∧ y.done = false ∧ Exact i y y.sub ∧ After y)
    (fun x hx => ⟨core_advance i x hx.1, hx.2.1, exact_advance i x hx.1 hx.2.2.1, hadv x hx.1 hx.2.1 hx.2.2.1 hx.2.2.2⟩)
    (fun y hy hr => ⟨hy.1, hy.2.1, exact_weaken hy.2.2.1 (Nat.le_succ _), hnr y hy.1 hy.2.1 hy.2.2.1 hy.2.2.2 hr⟩)
    f _ ⟨core_apply i h s l a hm, hd, exact_apply i s l.core a e, hp⟩
  exact ⟨_, congrArg (updateMask i) hf, hy⟩

theorem live_stepM (i : Inst) (h : WF i) (s : State) (l : Live i s) (a : Nat) (hm : s.mask a = true) :
    Live i (stepM i s a) := by
  have c1 := core_apply i h s l a hm
  refine ⟨core_updateMask i _ (core_moveNext i _ c1), fun _ => rfl, fun hd => ?_⟩
  rw [stepM_done] at hd
  exact move_terminates i h _ c1 hd

/-- `done` is absorbing: a finished row is only offered the wait action, which moves no job -/
theorem done_stable_live (i : Inst) (s : State) (l : Live i s) (hd : s.done = true)
    (a : Nat) (hm : s.mask a = true) (g : Bool) : (stepG i s a g).done = true := by
  have haJ : a = i.J := of_decide_eq_true ((mask_of_done i s l hd a).symm.trans hm)
  rw [stepG_done, apply_done_of_not_job l.core (haJ ▸ Nat.lt_irrefl _)]; exact hd

theorem not_done_of_stepM {i : Inst} {s : State} (l : Live i s) {a : Nat} (hm : s.mask a = true)
    (hd : (stepM i s a).done = false) : s.done = false := by
  cases hdd : s.done with
  | false => rfl
  | true => rw [stepM, done_stable_live i s l hdd a hm false] at hd; cases hd

theorem reach_stepM {i : Inst} {s : State} (hr : Reach envM i s) {a : Nat} (ha : a < i.J + 1)
    (hm : s.mask a = true) : Reach envM i (stepM i s a) :=
  hr.step ha hm

theorem live_of_run {i : Inst} (h : WF i) {s s' : State} {as : List Nat} (l : Live i s)
    (hr : Run envM i s as s') : Live i s' :=
  hr.inv (e := envM) (fun s a hl _ hm => live_stepM i h s hl a hm) l

theorem live_of_reach (i : Inst) (h : WF i) {s : State} (hr : Reach envM i s) : Live i s := by
  obtain ⟨as, hr⟩ := hr
  exact live_of_run h (live_reset i h) hr

/-- Induction over the states of a row with running batch-mates, through `stepM_rule`: `P` is kept at the decision
states of the unfinished row, `Q` inside `_move_to_next_machine` (after the bookkeeping half and at every state found not
ready); `Exact` comes along. -/
theorem unfinished_induct (i : Inst) (h : WF i) {P Q : State → Prop} (h0 : P (reset i))
    (hbook : ∀ s a, Live i s → s.done = false → Exact i s s.sub → P s → a < i.J + 1 → s.mask a = true →
      (apply i s a).done = false → Q (apply i s a))
    (hadv : ∀ x, Core i x → x.done = false → Exact i x (x.sub + 1) → Q x → P (advance i x))
    (hnr : ∀ y, Core i y → y.done = false → Exact i y y.sub → P y → ready i y = false → Q y)
    (hmask : ∀ y, P y → P (updateMask i y))
    {s : State} (hr : Reach envM i s) : Live i s ∧ (s.done = false → Exact i s s.sub ∧ P s) :=
  inv_of_reach (e := envM) (Inv := fun s => Live i s ∧ (s.done = false → Exact i s s.sub ∧ P s))
    ⟨live_reset i h, fun _ => ⟨exact_reset i, h0⟩⟩
    (fun s a hl ha hm => ⟨live_stepM i h s hl.1 a hm, fun hd' => by
      have hd := not_done_of_stepM hl.1 hm hd'
      obtain ⟨e, p⟩ := hl.2 hd
      replace hd' := (stepM_done i s a).symm.trans hd'
      obtain ⟨y, hy, e', p'⟩ := stepM_rule i h hadv hnr hl.1 e hm hd' (hbook s a hl.1 hd e p ha hm hd')
      show Exact i (stepM i s a) (stepM i s a).sub ∧ P (stepM i s a)
      rw [hy]
      exact ⟨⟨e'.jx, e'.mx, e'.np⟩, hmask y p'⟩⟩) hr

theorem exact_of_reach (i : Inst) (h : WF i) {s : State} (hr : Reach envM i s) :
    Live i s ∧ (s.done = false → Exact i s s.sub) := by
  obtain ⟨l, e⟩ := unfinished_induct i h (P := fun _ => True) (Q := fun _ => True) trivial
    (fun _ _ _ _ _ _ _ _ _ => trivial) (fun _ _ _ _ _ => trivial) (fun _ _ _ _ _ _ => trivial) (fun _ _ => trivial) hr
  exact ⟨l, fun hd => (e hd).1⟩

/-- a step keeps `Core`, whether or not it is the last of the batch (`g` = `done.all()`) -/
theorem core_stepG (i : Inst) (h : WF i) (s : State) (l : Live i s) (a : Nat) (hm : s.mask a = true) (g : Bool) :
    Core i (stepG i s a g) := by
  have c1 := core_apply i h s l a hm
  cases g
  · exact core_updateMask i _ (core_moveNext i _ c1)
  · exact core_setReward i _ c1 _

/-! A solo episode is, step for step, an episode of a row with running batch-mates, up to its last step, which
is taken with `done.all()` true. -/

theorem runM_of_solo {i : Inst} {as : List Nat} {s s' : State} (hr : RunND env i s as s')
    (hd : s'.done = false) : RunND envM i s as s' := by
  induction hr with
  | nil s => exact RunND.nil s
  | @cons s s' a as hnd ha hm hrest ih =>
    have hd1 : (step i s a).done = false := by
      cases hrest with
      | nil => exact hd
      | cons hnd' _ _ _ => exact hnd'
    rw [step, stepG_done] at hd1
    have hrest' := ih hd
    rw [show env.step i s a = stepM i s a from step_eq_stepM i s a hd1] at hrest'
    exact RunND.cons hnd ha hm hrest'

theorem solo_last {i : Inst} {as : List Nat} {s s' : State} (hr : RunND env i s as s')
    (hd : s'.done = true) :
    (as = [] ∧ s' = s) ∨ ∃ as0 a s0, as = as0 ++ [a] ∧ RunND envM i s as0 s0 ∧ s0.done = false ∧
      a < i.J + 1 ∧ s0.mask a = true ∧ (apply i s0 a).done = true ∧ s' = stepG i s0 a true := by
  rcases hr.snoc_inv with rfl | ⟨as0, a, s0, has, hr0, hd0, ha, hm, hs'⟩
  · cases hr; exact Or.inl ⟨rfl, rfl⟩
  · have hda : (apply i s0 a).done = true := by
      rw [hs'] at hd; rw [← stepG_done i s0 a (apply i s0 a).done]; exact hd
    exact Or.inr ⟨as0, a, s0, has, runM_of_solo hr0 hd0, hd0, ha, hm, hda, hs'.trans (step_of_apply_done i s0 a hda)⟩

/-- a solo episode is, action for action, an episode of a row with running batch-mates (the two differ
only in the mask / reward fields of the terminal state) -/
theorem solo_to_mates (i : Inst) {as : List Nat} {s s' : State} (hr : RunND env i s as s') :
    ∃ s'', RunND envM i s as s'' := by
  cases hd : s'.done with
  | false => exact ⟨s', runM_of_solo hr hd⟩
  | true =>
    rcases solo_last hr hd with ⟨rfl, _⟩ | ⟨as0, a, s0, rfl, hr0, hd0, ha, hm, _, _⟩
    · exact ⟨s, RunND.nil s⟩
    · exact ⟨_, hr0.snoc hd0 ha hm⟩

theorem solo_inv (i : Inst) (h : WF i) : ∀ {as : List Nat} {s s' : State}, Live i s →
    RunND env i s as s' → Core i s' ∧ (s'.done = false → Live i s') := by
  intro as s s' l hr
  have hlive : s'.done = false → Live i s' := fun hd => live_of_run h l (runM_of_solo hr hd).run
  refine ⟨?_, hlive⟩
  cases hd : s'.done with
  | false => exact (hlive hd).core
  | true =>
    rcases solo_last hr hd with ⟨_, rfl⟩ | ⟨as0, a, s0, _, hr0, _, ha, hm, _, rfl⟩
    · exact l.core
    · exact core_stepG i h s0 (live_of_run h l hr0.run) a hm true

theorem solo_reward (i : Inst) {as : List Nat} {s s' : State} (hd0 : s.done = false)
    (hr : RunND env i s as s') (hd : s'.done = true) : s'.reward = some (rewardVal i s') := by
  rcases solo_last hr hd with ⟨_, rfl⟩ | ⟨_, a, s0, _, _, _, _, _, _, rfl⟩
  · rw [hd0] at hd; cases hd
  · rfl

theorem solo_last_step (i : Inst) {as : List Nat} {s : State} (hr : RunND env i (env.reset i) as s)
    (hd : s.done = true) :
    ∃ s0 a, Reach envM i s0 ∧ s0.done = false ∧ a < i.J + 1 ∧ s0.mask a = true ∧
      (apply i s0 a).done = true ∧ s = stepG i s0 a true := by
  rcases solo_last hr hd with ⟨_, rfl⟩ | ⟨as0, a, s0, _, hr0, hd0, ha, hm, hda, he⟩
  · cases hd
  · exact ⟨s0, a, ⟨as0, hr0.run⟩, hd0, ha, hm, hda, he⟩

end Rl4co.Ffsp
