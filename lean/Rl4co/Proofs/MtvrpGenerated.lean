/-
Bridging lemmas for the statement-level translation of `MTVRPEnv.get_action_mask` and `MTVRPEnv._step`
(`Rl4co/Generated/MtvrpEnv.lean`, regenerated from the Python source on every run by
`harness/probes/mtvrp_trans.py`): the generated definitions ARE the model the property theorems talk about
(`envGen = env`; C01 and C02 are restated on `envGen` in `Props/C01/Mtvrp.lean`, `Props/C02/Mtvrp.lean`).  An edit of the
source that changes an operand, a term, the grouping or an operator of any of the translated statements changes the
generated term and these lemmas stop compiling.  No Mathlib.
-/
import Rl4co.Env.MtvrpGen
import Rl4co.Proofs.MtvrpParams

namespace Rl4co.Mtvrp

theorem canVisitGen_eq (i : Inst) (s : State) (j : Nat) : Generated.canVisitGen i s j = canVisit i s j := by
  simp only [Generated.canVisitGen, canVisit, meetsDemand, arrival, retTime, lenVia, lhMissing,
    Params.mtvrpMaskTwCmp, Params.mtvrpMaskDepotCmp, Params.mtvrpMaskLimitCmp, Params.mtvrpMaskCapLCmp,
    Params.mtvrpMaskCapBCmp, Cmp.eval, gt_iff_lt]

theorem stepGen_eq (i : Inst) (s : State) (a : Nat) : Generated.stepGen i s a = step i s a := by
  rw [step_def]
  simp only [Generated.stepGen, Cmp.evalNat, decide_eq_true_eq]

theorem envGen_eq : envGen = env := by
  have h1 : (fun (i : Inst) (s : State) (a : Nat) => if a = 0 then depotRule i s else Generated.canVisitGen i s a) = mask := by
    funext i s a; simp only [mask, canVisitGen_eq]
  have h2 : Generated.stepGen = step := by
    funext i s a; exact stepGen_eq i s a
  unfold envGen env
  rw [h1, h2]

end Rl4co.Mtvrp
