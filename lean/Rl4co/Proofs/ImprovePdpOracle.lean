/-
"Every pickup before its delivery" on a tour read from the depot, as a comparison of positions, of
`visited_time` stamps (the checker of the environment) and of walk positions (the run-time oracle `pdpValidB`,
which therefore decides the declarative `PdpValid`).
-/
import Rl4co.Proofs.ImproveOracle

namespace Rl4co.Improve
open Rl4co.Spec.Improve

/-- `g`: any numbering of the nodes that is their position in the listing, except at the depot -/
theorem prec_iff_idxOf (gs : Nat) (L : List Nat) (hperm : L.Perm (List.range gs)) (h : Nat) (hh : h + h < gs)
    (g : Nat → Nat) (hg : ∀ x, 0 < x → x < gs → g x = L.idxOf x) :
    (∀ i, 1 ≤ i → i ≤ h → Before L i (i + h)) ↔ ∀ k, k < h → g (k + 1) < g (k + 1 + h) := by
  rw [← forall_lt_succ_iff]
  refine forall_congr' fun k => imp_congr_right fun hk => ?_
  rw [hg _ (Nat.succ_pos k) (by omega), hg _ (by omega) (by omega)]
  exact before_iff_idxOf L (nodup_of_perm_range hperm) _ _ ((mem_of_perm_range hperm _).mpr (by omega))

theorem prec_iff_vt (gs : Nat) (r : Rec) (rest : List Nat) (hperm : (0 :: rest).Perm (List.range gs))
    (hcyc : CycleOf r (0 :: rest)) (h : Nat) (hh : h + h < gs) :
    (∀ i, 1 ≤ i → i ≤ h → Before (0 :: rest) i (i + h)) ↔
      ∀ k, k < h → visitedTime gs r (k + 1) < visitedTime gs r (k + 1 + h) :=
  prec_iff_idxOf gs _ hperm h hh _ fun x h0 hx => by
    rw [vt_exact gs r rest hperm hcyc hx, if_neg (Nat.ne_of_gt h0)]

theorem prec_iff_pos (gs : Nat) (r : Rec) (rest : List Nat) (hperm : (0 :: rest).Perm (List.range gs))
    (hcyc : CycleOf r (0 :: rest)) (h : Nat) (hh : h + h < gs) :
    (∀ i, 1 ≤ i → i ≤ h → Before (0 :: rest) i (i + h)) ↔
      ∀ k, k < h → posFrom0 r gs (k + 1) < posFrom0 r gs (k + 1 + h) :=
  prec_iff_idxOf gs _ hperm h hh _ fun x _ _ => by
    have hl : rest.length = gs - 1 := by have := length_of_perm_range hperm; simp at this; omega
    rw [posFrom0, ← hl, walk_of_linked r rest 0 (linked_prefix r (0 :: rest) [0] ((cycleOf_cons r 0 rest).mp hcyc))]

/-- the run-time PDP oracle decides `PdpValid` (for odd `gs`) -/
theorem pdpValidB_iff (r : Rec) (gs : Nat) (hgs : 0 < gs) (hodd : gs % 2 = 1) :
    pdpValidB r gs = true ↔ PdpValid r gs := by
  simp only [pdpValidB, Bool.and_eq_true, List.all_eq_true, List.mem_range, decide_eq_true_eq]
  constructor
  · rintro ⟨ht, hp⟩
    obtain ⟨rest, hperm, hcyc⟩ := isTour_from r gs ((isTourB_iff r gs).mp ht) 0 hgs
    exact ⟨rest, hperm, hcyc, (prec_iff_pos gs r rest hperm hcyc (gs / 2) (by omega)).mpr hp⟩
  · rintro ⟨rest, hperm, hcyc, hp⟩
    exact ⟨(isTourB_iff r gs).mpr ⟨_, hperm, hcyc⟩, (prec_iff_pos gs r rest hperm hcyc (gs / 2) (by omega)).mp hp⟩

end Rl4co.Improve
