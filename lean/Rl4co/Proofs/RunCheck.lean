/-
Executable exploration of all unfinished-state runs (`RunND`) of an environment from a given state, for
facts about one concrete instance: `allDone` is evaluated, its soundness lemma turns the result into a
statement about every run (used for the hidden optima of FJSP and FFSP, Props/C05).  No Mathlib.
-/
import Rl4co.Core.Basic
namespace Rl4co
variable {I S : Type}

/-- every `RunND`-run from `s` reaches a finished state within `fuel` steps, and `P` holds at each
finished state it can stop in -/
def allDone (e : Env I S) (i : I) (P : S → Bool) : Nat → S → Bool
  | 0, s => e.done i s && P s
  | fuel + 1, s =>
    if e.done i s then P s
    else (List.range (e.nAct i)).all fun a => !e.mask i s a || allDone e i P fuel (e.step i s a)

theorem allDone_sound {e : Env I S} {i : I} {P : S → Bool} {fuel : Nat} {s s' : S} {as : List Nat}
    (h : allDone e i P fuel s = true) (hr : RunND e i s as s') (hd : e.done i s' = true) :
    P s' = true := by
  induction hr generalizing fuel with
  | nil s => cases fuel <;> simpa [allDone, hd] using h
  | @cons s s' a as hnd ha hm _ ih =>
    cases fuel with
    | zero => simp [allDone, hnd] at h
    | succ fuel =>
      simp only [allDone, hnd, Bool.false_eq_true, if_false, List.all_eq_true, List.mem_range,
        Bool.or_eq_true, Bool.not_eq_true'] at h
      rcases h a ha with h | h
      · rw [hm] at h; cases h
      · exact ih h hd

end Rl4co
