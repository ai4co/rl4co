/-
Spec-level sanity lemmas for mTSP, independent of the environment model: they pin `Spec.Mtsp` down so that a
vacuous or mis-stated Spec would be noticed — a feasible solution exists whenever there is an agent, the longest tour
is at most the total length, and neither objective nor the number of tours depends on which agent drives which tour.
-/
import Rl4co.Proofs.Mtsp
import Rl4co.Core.Lists

namespace Rl4co.Mtsp
open Rl4co.Spec.Mtsp

theorem maxList_le_sum (l : List Int) (h : ∀ x ∈ l, 0 ≤ x) : maxList l ≤ l.sum := by
  induction l with
  | nil => exact Int.le_refl 0
  | cons x xs ih =>
    have hx := h x (List.mem_cons_self ..)
    have ih := ih (fun y hy => h y (List.mem_cons_of_mem _ hy))
    rw [maxList, List.sum_cons]
    exact Int.max_le.mpr ⟨Int.le_add_of_nonneg_right (Int.le_trans (maxList_nonneg xs) ih),
      Int.le_trans ih (Int.le_add_of_nonneg_left hx)⟩

theorem objMinmax_le_objSum (i : Inst) (hD : ∀ a b, 0 ≤ i.D a b) (as : List Nat) :
    objMinmax i as ≤ objSum i as := by
  apply maxList_le_sum
  intro x hx
  obtain ⟨r, _, rfl⟩ := List.mem_map.mp hx
  exact routeLen_nonneg i.D hD r

theorem maxList_perm {l l' : List Int} (h : l.Perm l') : maxList l = maxList l' := by
  induction h with
  | nil => rfl
  | cons x _ ih => rw [maxList, maxList, ih]
  | swap x y l =>
    show max y (max x _) = max x (max y _)
    rw [← Int.max_assoc, Int.max_comm y x, Int.max_assoc]
  | trans _ _ ih1 ih2 => rw [ih1, ih2]

theorem objMinmax_perm (i : Inst) {as bs : List Nat} (h : (routes as).Perm (routes bs)) :
    objMinmax i as = objMinmax i bs := maxList_perm (h.map _)
/-- a trailing depot visit appends an empty tour, which does not raise the maximum -/
theorem objMinmax_snoc_zero (i : Inst) (as : List Nat) : objMinmax i (as ++ [0]) = objMinmax i as := by
  rw [objMinmax, routes_append_zero, List.map_append, maxList_perm List.perm_append_comm]
  exact Int.max_eq_right (maxList_nonneg _)
theorem objSum_perm (i : Inst) {as bs : List Nat} (h : (routes as).Perm (routes bs)) :
    objSum i as = objSum i bs := (h.map _).foldr_eq' (fun x _ y _ z => Int.add_left_comm y x z) 0
theorem tours_length_perm {as bs : List Nat} (h : (routes as).Perm (routes bs)) :
    (tours as).length = (tours bs).length := (h.filter _).length_eq

/-- the single tour `1, 2, …, n` -/
def oneTour (n : Nat) : List Nat := (List.range n).map (· + 1)

theorem oneTour_eq (n : Nat) : oneTour n = List.range' 1 n := by
  rw [List.range'_eq_map_range]
  exact List.map_congr_left fun k _ => Nat.add_comm k 1

/-- **Every instance with at least one agent has a feasible solution.** -/
theorem feasible_exists (i : Inst) (hm : 1 ≤ i.m) : Feasible i (oneTour i.n) := by
  obtain ⟨hr, ho⟩ := (once_iff_perm i.n _).mpr (List.Perm.of_eq (oneTour_eq i.n))
  refine ⟨fun a ha => (hr a ha).2, ho, ?_⟩
  rw [tours, routes_of_zero_free _ (fun h => absurd (hr 0 h).1 (by decide))]
  exact Nat.le_trans (List.length_filter_le _ _) hm

example : objMinmax ⟨3, 2, fun a b => if a = b then 0 else (a + b : Int)⟩ [1, 2, 0, 3] =
    objMinmax ⟨3, 2, fun a b => if a = b then 0 else (a + b : Int)⟩ [3, 0, 1, 2] := by decide

end Rl4co.Mtsp
