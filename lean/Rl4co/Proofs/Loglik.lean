/-
Helper lemmas for C11 / C13 (decoding loop, log-likelihood bookkeeping): the closed forms of the extracted
tokens, list lemmas about the teacher-forcing spec, the per-row loop invariant
`RowInv` and its preservation, the replay lemma behind the evaluate round trip, the
predicates `DRun` / `LoopHyp` / `loopSafe` used to state loop termination.  Every fact about `loop` is proved by
its functional induction (no fuel / all rows done / one more pass).  No Mathlib.
-/
import Rl4co.Decode.Strategy
import Rl4co.Spec.Loglik

namespace Rl4co.Decode
open Rl4co.Spec.Loglik

variable {S : Type}

/- Extracted parameters (`Generated/Params.lean`, regenerated from the Python AST on every run): each lemma
states the closed form the proofs below use and is proved by evaluating the extracted token; it stops compiling
when the corresponding token of `decoding.py` / `constructive/base.py` / `ops.py` / `ppo.py` changes. -/

/-- `logprobs[~mask] = 0` -/
theorem maskVal_eq (v : LP) (keep : Bool) : maskVal v keep = if keep then v else some 0 := by
  cases keep <;> simp [maskVal, Params.gllMaskInverted, Params.gllMaskFill]

/-- `torch.zeros_like(action)` / `torch.zeros_like(td["action_mask"])` in `pre_decoder_hook` -/
theorem forcedRec_eq (storeAll : Bool) (N : Nat) :
    forcedRec storeAll N = if storeAll then .full (List.replicate N (some 0)) else .g (some 0) := by
  simp [forcedRec, Params.preForcedLogp, Params.preForcedLogpAll]

/-- `return logprobs.sum(1)` -/
theorem getLLSum_eq (recs : List Rec) (acts : List Nat) (mask : Option (List Bool)) :
    getLLSum recs acts mask = lpSum (getLL recs acts mask) := by
  simp [getLLSum, Params.gllSumAxis]

/-- `while not td["done"].all()` -/
theorem allDone_eq (e : DEnv S) (B : Nat) (b : Nat → RowSt S) :
    allDone e B b = (List.range B).all (fun r => e.done (b r).s) := by
  simp [allDone, Params.decodeLoopAllDone]

/-- `action=actions[..., step]` -/
theorem evalSel_eq (actions : Nat → List Nat) (r t : Nat) (row : Row) :
    evalSel actions r t row = (actions r).getD t 0 := by
  simp [evalSel, Params.evalActionOffset]

/-- `if step > max_steps: break` after the increment -/
theorem loopFuel_eq (maxSteps : Nat) : loopFuel maxSteps = maxSteps + 1 := by
  simp [loopFuel, Params.decodeBreakCmp]

/-- `.max(dim=-1)` in `_select_best`, `.max(1)` in `_select_best_beam` -/
theorem betterEq_eq (x y : Int) : betterEq x y = decide (y ≤ x) := by
  simp [betterEq, Params.selectBestIsMax, Params.beamBestIsMax]

theorem validArgmax_le {B S : Nat} {rew : Nat → Int} {arg : Nat → Nat} (h : ValidArgmax B S rew arg)
    (b : Nat) (hb : b < B) : arg b < S ∧ ∀ s, s < S → rew (s * B + b) ≤ rew (arg b * B + b) := by
  obtain ⟨h1, h2⟩ := h b hb
  refine ⟨h1, fun s hs => ?_⟩
  have := h2 s hs
  simpa [betterEq_eq] using this

/-- the executable check the driver runs on every recorded `max` outcome implies `ValidArgmax` -/
theorem validArgmax_sound {B S : Nat} {rew : Nat → Int} {arg : Nat → Nat}
    (h : validArgmax B S rew arg = true) : ValidArgmax B S rew arg := by
  simp only [validArgmax, List.all_eq_true, List.mem_range, Bool.and_eq_true, decide_eq_true_eq] at h
  exact h

/-- `unbatchify(rewards, self.num_starts)`: the model's copy count `S` is `num_starts` -/
theorem selectBest_factor : Params.selectBestFactorIsNumStarts = true := by decide

/-- `ratio = torch.exp(ll.sum(dim=-1) - sub_td["logprobs"])` -/
theorem ppoRatio_eq (ex : Int → Int) (llNew : List LP) (a b : Int) (h : lpSum llNew = some a) :
    ppoRatio ex llNew (some b) = some (ex (a - b)) := by
  simp [ppoRatio, h, Params.ppoRatioNewMinusOld]

/-- `entropy = -(logprobs.exp() * logprobs).sum(dim=-1)`; `entropy.sum(dim=1)` -/
theorem calculateEntropy_eq (prod : LP → Int) (rows : List Row) :
    calculateEntropy prod rows
      = -((rows.map (fun row => (row.map prod).foldr (· + ·) 0)).foldr (· + ·) 0) := by
  simp [calculateEntropy, Params.entropyNegated]

section
variable {e : DEnv S} {π : S → Row} {s : S} {as : List Nat} {a : Nat} {forced : Bool}

theorem execD_snoc : execD e s (as ++ [a]) = e.step (execD e s as) a := by
  simp [execD, List.foldl_append]

theorem execD_cons : execD e s (a :: as) = execD e (e.step s a) as := rfl

theorem tfVals_append (bs : List Nat) :
    tfVals e π s (as ++ bs) = tfVals e π s as ++ tfVals e π (execD e s as) bs := by
  induction as generalizing s with
  | nil => rfl
  | cons a as ih => simp [tfVals, execD_cons, ih]

theorem tfRows_snoc : tfRows e π s (as ++ [a]) = tfRows e π s as ++ [π (execD e s as)] := by
  induction as generalizing s with
  | nil => rfl
  | cons b bs ih => simp [tfRows, execD_cons, ih]

theorem admittedD_snoc :
    admittedD e s (as ++ [a]) = (admittedD e s as && e.mask (execD e s as) a) := by
  induction as generalizing s with
  | nil => simp [admittedD, execD]
  | cons b bs ih => simp [admittedD, execD_cons, ih, Bool.and_assoc]

theorem specVals_snoc (h : forced = true → as ≠ []) :
    specVals e π s forced (as ++ [a]) = specVals e π s forced as ++ [gather (π (execD e s as)) a] := by
  cases forced with
  | false => exact tfVals_append [a]
  | true =>
    cases as with
    | nil => exact absurd rfl (h rfl)
    | cons a0 rest => exact congrArg (some 0 :: ·) (tfVals_append [a])

theorem specRows_snoc {N : Nat} (h : forced = true → as ≠ []) :
    specRows e π N s forced (as ++ [a]) = specRows e π N s forced as ++ [π (execD e s as)] := by
  cases forced with
  | false => exact tfRows_snoc
  | true =>
    cases as with
    | nil => exact absurd rfl (h rfl)
    | cons a0 rest => exact congrArg (List.replicate N (some 0) :: ·) tfRows_snoc

end

theorem recVal_mkRec (storeAll : Bool) (row : Row) (a : Nat) :
    recVal (mkRec storeAll row a) a = gather row a := by
  cases storeAll <;> rfl

theorem recVal_forcedRec (storeAll : Bool) {N a : Nat} (h : a < N) :
    recVal (forcedRec storeAll N) a = some 0 := by
  rw [forcedRec_eq]
  cases storeAll
  · rfl
  · simp [recVal, gather, List.getD, h]

theorem fullRows_snoc (recs : List Rec) (row : Row) :
    fullRows (recs ++ [Rec.full row]) = (fullRows recs).map (· ++ [row]) := by
  induction recs with
  | nil => rfl
  | cons rc rest ih =>
    cases rc with
    | g v => rfl
    | full r0 =>
      simp only [List.cons_append, fullRows, ih]
      cases fullRows rest <;> rfl

theorem lpSum_eq_sumLP (xs : List LP) : lpSum xs = sumLP xs := by
  induction xs with
  | nil => rfl
  | cons x xs ih =>
    have : lpSum (x :: xs) = lpAdd (· + ·) x (lpSum xs) := rfl
    rw [this, ih]
    cases x with
    | none => rfl
    | some a => cases h : sumLP xs <;> simp [lpAdd, sumLP, h]

theorem sumLP_append (xs ys : List LP) :
    sumLP (xs ++ ys) = lpAdd (· + ·) (sumLP xs) (sumLP ys) := by
  induction xs with
  | nil => cases h : sumLP ys <;> simp [sumLP, lpAdd, h]
  | cons x xs ih =>
    cases x with
    | none => simp [sumLP, lpAdd]
    | some a =>
      simp only [List.cons_append, sumLP, ih]
      cases h1 : sumLP xs <;> cases h2 : sumLP ys <;> simp [lpAdd, Int.add_assoc]

theorem getLL_mask (recs : List Rec) (acts : List Nat) (m : Option (List Bool)) :
    getLL recs acts m = applyMask (getLL recs acts none) m := by
  cases m with
  | none => rfl
  | some m =>
    simp only [getLL, applyMask]
    congr 1
    funext v keep
    exact maskVal_eq v keep

/-- What a row of the batch looks like at any point of the loop, relative to the reset state `s0` of
its instance: the state is the one reached by the recorded actions, and the recorded log-probs are
the policy's along exactly these actions (a forced first move counting `0`). -/
structure RowInv (e : DEnv S) (π : S → Row) (storeAll : Bool) (N : Nat) (s0 : S) (forced : Bool)
    (st : RowSt S) : Prop where
  state : st.s = execD e s0 st.acts
  len : st.recs.length = st.acts.length
  nonempty : forced = true → st.acts ≠ []
  vals : getLL st.recs st.acts none = specVals e π s0 forced st.acts
  rows : storeAll = true → fullRows st.recs = some (specRows e π N s0 forced st.acts)

variable {e : DEnv S} {π : S → Row} {sel : Nat → Nat → Row → Nat} {sA : Bool} {B N : Nat}

theorem RowInv.getLL_eq {s0 : S} {forced : Bool} {st : RowSt S} (h : RowInv e π sA N s0 forced st)
    (m : Option (List Bool)) :
    getLL st.recs st.acts m = applyMask (specVals e π s0 forced st.acts) m := by
  rw [getLL_mask, h.vals]

theorem rowInv_pre (start : Option (Nat → Nat)) (s0 : Nat → S) (hstart : ∀ f, start = some f → ∀ r, f r < N)
    (r : Nat) : RowInv e π sA N (s0 r) start.isSome (pre e sA N start s0 r) := by
  cases start with
  | none => exact ⟨rfl, rfl, fun h => Bool.noConfusion h, rfl, fun _ => rfl⟩
  | some f =>
    refine ⟨rfl, rfl, fun _ => List.cons_ne_nil _ _, ?_, fun h => ?_⟩
    · exact congrArg (· :: []) (recVal_forcedRec sA (hstart f rfl r))
    · show fullRows [forcedRec sA N] = _
      rw [forcedRec_eq, h]
      rfl

theorem rowInv_step {s0 : S} {forced : Bool} (choose : Row → Nat) {st : RowSt S}
    (h : RowInv e π sA N s0 forced st) : RowInv e π sA N s0 forced (stepRow e sA π choose st) := by
  obtain ⟨hs, hl, hne, hv, hr⟩ := h
  constructor
  · simp only [stepRow]
    rw [execD_snoc, ← hs]
  · simp only [stepRow, List.length_append, hl, List.length_singleton]
  · intro _
    exact List.append_ne_nil_of_right_ne_nil _ (List.cons_ne_nil _ _)
  · simp only [stepRow]
    rw [specVals_snoc hne, ← hv, ← hs]
    simp only [getLL]
    rw [List.zipWith_append hl]
    simp only [List.zipWith_cons_cons, List.zipWith_nil_left, recVal_mkRec]
  · intro hsa
    simp only [stepRow]
    rw [specRows_snoc hne, ← hs]
    subst hsa
    simp only [mkRec, if_true]
    rw [fullRows_snoc, hr rfl]
    rfl

theorem loop_rows (P : Nat → RowSt S → Prop)
    (hstep : ∀ r st choose, P r st → P r (stepRow e sA π choose st))
    (f t : Nat) (b : Nat → RowSt S) (h : ∀ r, P r (b r)) (r : Nat) :
    P r ((loop e π sel sA B f t b).1 r) := by
  fun_induction loop e π sel sA B f t b with
  | case1 => exact h r
  | case2 => exact h r
  | case3 f t b _ ih => exact ih fun r => hstep r _ _ (h r)

theorem decode_rowInv {maxSteps : Nat} {start : Option (Nat → Nat)} {s0 : Nat → S}
    (hstart : ∀ f, start = some f → ∀ r, f r < N) (r : Nat) :
    RowInv e π sA N (s0 r) start.isSome ((decode e π sel sA B N maxSteps start s0).1 r) :=
  loop_rows (fun r st => RowInv e π sA N (s0 r) start.isSome st) (fun _ _ choose => rowInv_step choose)
    _ 0 _ (rowInv_pre start s0 hstart) r

/-- a rollout that is not multi-start (also: `policy(td, env, actions=…)`) -/
theorem decode_rowInv_none {maxSteps : Nat} {s0 : Nat → S} (r : Nat) :
    RowInv e π sA N (s0 r) false ((decode e π sel sA B N maxSteps none s0).1 r) :=
  decode_rowInv (start := none) (fun _ hf => nomatch hf) r

theorem loop_acts_prefix (f t : Nat) (b : Nat → RowSt S) (r : Nat) :
    ∃ ext, ((loop e π sel sA B f t b).1 r).acts = (b r).acts ++ ext :=
  loop_rows (fun r st => ∃ ext, st.acts = (b r).acts ++ ext)
    (fun r st choose ⟨ext, h⟩ => ⟨ext ++ [choose (π st.s)], by
      simp only [stepRow]
      rw [h, List.append_assoc]⟩)
    f t b (fun r => ⟨[], (List.append_nil _).symm⟩) r

/-- two batches agree on environment states and action buffers (what was recorded may differ) -/
def Sim (b b' : Nat → RowSt S) : Prop := ∀ r, (b r).s = (b' r).s ∧ (b r).acts = (b' r).acts

theorem Sim.allDone_eq {b b' : Nat → RowSt S} (h : Sim b b') : allDone e B b = allDone e B b' := by
  rw [Decode.allDone_eq, Decode.allDone_eq]
  exact congrArg _ (funext fun r => congrArg e.done (h r).1)

/-- Replaying through `Evaluate` (`actions[..., step]`) an action table `A` that starts, row by row, with the
actions a loop produced (anything may follow: padding), from a batch with the same states: same number of
passes, same states, same actions. -/
theorem loop_eval_replay (sA' : Bool) (A : Nat → List Nat) (f t : Nat) (b b' : Nat → RowSt S)
    (h : Sim b b') (hlen : ∀ r, (b r).acts.length = t)
    (hA : ∀ r, ∃ ext, A r = ((loop e π sel sA B f t b).1 r).acts ++ ext) :
    (loop e π (evalSel A) sA' B f t b').2 = (loop e π sel sA B f t b).2 ∧
      Sim (loop e π sel sA B f t b).1 (loop e π (evalSel A) sA' B f t b').1 := by
  fun_induction loop e π sel sA B f t b generalizing b' with
  | case1 => exact ⟨rfl, h⟩
  | case2 f t b hdone =>
    rw [loop, if_pos (h.allDone_eq ▸ hdone)]
    exact ⟨rfl, h⟩
  | case3 f t b hdone ih =>
    rw [loop, if_neg (h.allDone_eq ▸ hdone)]
    -- `A r` starts with the actions of `b r`, then the action of this pass
    have hsel : ∀ r, evalSel A r t (π (b' r).s) = sel r t (π (b r).s) := by
      intro r
      obtain ⟨ext, hext⟩ := hA r
      obtain ⟨ext', hext'⟩ := loop_acts_prefix (e := e) (π := π) (sel := sel) (sA := sA) (B := B) f (t + 1)
        (iter e sA π (fun r row => sel r t row) b) r
      rw [evalSel_eq, hext, hext', ← hlen r]
      simp [iter, stepRow, List.getD]
    refine ih _ (fun r => ?_) (fun r => ?_) hA
    · simp only [iter, stepRow]
      rw [hsel r, (h r).1, (h r).2]
      exact ⟨rfl, rfl⟩
    · simp only [iter, stepRow, List.length_append, hlen r, List.length_singleton]

/-- mask-confined runs of one row (actions appended at the end, as the loop does) -/
inductive DRun (e : DEnv S) : S → List Nat → S → Prop
  | nil (s : S) : DRun e s [] s
  | snoc {s s' : S} {as : List Nat} {a : Nat} :
      DRun e s as s' → e.mask s' a = true → DRun e s (as ++ [a]) (e.step s' a)

theorem DRun.cons {e : DEnv S} {s s' : S} {a : Nat} {as : List Nat} (hm : e.mask s a = true)
    (h : DRun e (e.step s a) as s') : DRun e s (a :: as) s' := by
  induction h with
  | nil => exact (DRun.snoc (DRun.nil s) hm : DRun e s ([] ++ [a]) _)
  | @snoc s'' as b _ hb ih => exact (DRun.snoc ih hb : DRun e s ((a :: as) ++ [b]) _)

/-- What C02 provides about the rows of a batch (initial states `init r`, `r < B`):
* `stepBound`: a mask-confined run of `bound` or more steps has finished (`E.steps_le`);
* `maskOK`: either every reachable state offers an action (variable-length families: a finished row
  stays steppable), or all rows finish after exactly `n` steps and every unfinished state offers an
  action (equal-length families: the all-false mask after the last step is never looked at). -/
structure LoopHyp (e : DEnv S) (B bound : Nat) (init : Nat → S) : Prop where
  stepBound : ∀ r, r < B → ∀ as s, DRun e (init r) as s → bound ≤ as.length → e.done s = true
  maskOK :
    (∀ r, r < B → ∀ as s, DRun e (init r) as s → ∃ a, e.mask s a = true) ∨
    (∃ n, ∀ r, r < B → ∀ as s, DRun e (init r) as s →
        ((e.done s = true ↔ as.length = n) ∧ (e.done s = false → ∃ a, e.mask s a = true)))

/-- every pass of the loop looks only at rows whose mask has a `True` (no all-false row reaches the
decoder / softmax) -/
def loopSafe (e : DEnv S) (π : S → Row) (sel : Nat → Nat → Row → Nat) (sA : Bool) (B : Nat) :
    Nat → Nat → (Nat → RowSt S) → Prop
  | 0, _, _ => True
  | f + 1, t, b =>
    if allDone e B b then True
    else (∀ r, r < B → ∃ a, e.mask (b r).s a = true) ∧
      loopSafe e π sel sA B f (t + 1) (iter e sA π (fun r row => sel r t row) b)

theorem allDone_iff (e : DEnv S) (B : Nat) (b : Nat → RowSt S) :
    allDone e B b = true ↔ ∀ r, r < B → e.done (b r).s = true := by
  simp [allDone_eq, List.all_eq_true]

variable {bound t : Nat} {init : Nat → S} {b : Nat → RowSt S}

/-- every row is where a mask-confined run of `t` steps from its initial state has led -/
def RowsAt (e : DEnv S) (B : Nat) (init : Nat → S) (t : Nat) (b : Nat → RowSt S) : Prop :=
  ∀ r, r < B → ∃ as, DRun e (init r) as (b r).s ∧ as.length = t

/-- while some row is unfinished every row offers an action: in the equal-length case a finished row
would mean that all rows (having made the same number of steps) are finished -/
theorem LoopHyp.exists_mask (H : LoopHyp e B bound init) (h : RowsAt e B init t b)
    (hnd : ¬ allDone e B b = true) : ∀ r, r < B → ∃ a, e.mask (b r).s a = true := by
  intro r hr
  obtain ⟨as, hrun, hlen⟩ := h r hr
  rcases H.maskOK with hA | ⟨n, hB⟩
  · exact hA r hr as _ hrun
  · refine (hB r hr as _ hrun).2 (Bool.eq_false_iff.mpr fun hd => hnd ?_)
    rw [allDone_iff]
    intro r' hr'
    obtain ⟨as', hrun', hlen'⟩ := h r' hr'
    exact (hB r' hr' as' _ hrun').1.mpr (hlen'.trans (hlen.symm.trans ((hB r hr as _ hrun).1.mp hd)))

theorem loop_terminates_aux (H : LoopHyp e B bound init)
    (hsel : ∀ r t s, (∃ a, e.mask s a = true) → e.mask s (sel r t (π s)) = true)
    (f t : Nat) (b : Nat → RowSt S) (hrun : RowsAt e B init t b) (h1 : t ≤ bound) (h2 : bound < t + f) :
    allDone e B (loop e π sel sA B f t b).1 = true ∧ (loop e π sel sA B f t b).2 ≤ bound ∧
      loopSafe e π sel sA B f t b := by
  fun_induction loop e π sel sA B f t b with
  | case1 => exact absurd h1 (Nat.not_le.mpr h2)
  | case2 f t b hdone =>
    rw [loopSafe, if_pos hdone]
    exact ⟨hdone, h1, trivial⟩
  | case3 f t b hdone ih =>
    have hlt : t < bound := Nat.lt_of_not_le fun hle => hdone <| (allDone_iff e B b).mpr fun r hr => by
      obtain ⟨as, hr1, hr2⟩ := hrun r hr
      exact H.stepBound r hr as _ hr1 (hr2 ▸ hle)
    have hmask := H.exists_mask hrun hdone
    have hrun' : RowsAt e B init (t + 1) (iter e sA π (fun r row => sel r t row) b) := fun r hr => by
      obtain ⟨as, hr1, hr2⟩ := hrun r hr
      exact ⟨as ++ [sel r t (π (b r).s)], DRun.snoc hr1 (hsel r t _ (hmask r hr)), by simp [hr2]⟩
    rw [loopSafe, if_neg hdone]
    obtain ⟨i1, i2, i3⟩ := ih hrun' hlt (Nat.add_right_comm t 1 f ▸ h2)
    exact ⟨i1, i2, hmask, i3⟩

end Rl4co.Decode
