/-
The translator tie of the MTVRP model: the model definitions `step`, `mask`, `charged`, `reward` are parametric in
the operators / expression shapes extracted from the Python AST (`Rl4co/Generated/Params.lean`).  The lemmas
below restate them in the plain form every property proof of the family uses; they are proved by unfolding the
CURRENT extracted values, so a one-token source edit (roll direction, `go_to` ↔ `go_from`, `!=` ↔ `==` in the reset
guard, a dropped `/ speed`, a changed depot rule) makes them — and with them every theorem of the family — fail at
`lake build`.  Also the lemmas about `cmpInf` (comparison with a possibly infinite bound).  No Mathlib.
-/
import Rl4co.Env.Mtvrp

namespace Rl4co.Mtvrp

theorem cmpInf_le_some {x y : Int} : cmpInf .le x (some y) = true ↔ x ≤ y := decide_eq_true_iff

theorem cmpInf_lt_some {x y : Int} : cmpInf .lt x (some y) = true ↔ x < y := decide_eq_true_iff

theorem cmpInf_not_gt (x : Int) (o : Option Int) : (!cmpInf .gt x o) = cmpInf .le x o := by
  cases o with
  | none => rfl
  | some y =>
    show (!decide (x > y)) = decide (x ≤ y)
    rw [← decide_not, decide_eq_decide]
    exact Int.not_lt

theorem cmpInf_le_of_lt {x : Int} {o : Option Int} (h : cmpInf .lt x o = true) : cmpInf .le x o = true := by
  cases o with
  | none => rfl
  | some y => exact cmpInf_le_some.2 (Int.le_of_lt (cmpInf_lt_some.1 h))

theorem cmpInf_lt_of_le_of_lt {x y : Int} {o : Option Int} (h : x ≤ y) (hy : cmpInf .lt y o = true) :
    cmpInf .lt x o = true := by
  cases o with
  | none => rfl
  | some l => exact cmpInf_lt_some.2 (Int.lt_of_le_of_lt h (cmpInf_lt_some.1 hy))

theorem cmpInf_le_of_le_of_le {x y : Int} {o : Option Int} (h : x ≤ y) (hy : cmpInf .le y o = true) :
    cmpInf .le x o = true := by
  cases o with
  | none => rfl
  | some l => exact cmpInf_le_some.2 (Int.le_trans h (cmpInf_le_some.1 hy))

theorem cmpInf_le_max {x y : Int} {o : Option Int} :
    cmpInf .le (max x y) o = true ↔ cmpInf .le x o = true ∧ cmpInf .le y o = true := by
  cases o with
  | none => exact ⟨fun _ => ⟨rfl, rfl⟩, fun _ => rfl⟩
  | some l => simp only [cmpInf_le_some]; exact Int.max_le

theorem moved_eq (a : Nat) : moved a = decide (a ≠ 0) := by
  simp [moved, Params.mtvrpStepGuardCmp, Cmp.evalNat]

theorem legTime_eq (i : Inst) (a b : Nat) : legTime i a b = i.T a b := by
  simp [legTime, Params.mtvrpStepClockDivSpeed]

theorem step_def (i : Inst) (s : State) (a : Nat) : step i s a =
    { cur := a
      len := if a ≠ 0 then s.len + i.D s.cur a else 0
      time := if a ≠ 0 then max (s.time + i.T s.cur a) (i.early a) + i.service a else 0
      usedL := if a ≠ 0 then s.usedL + i.dL a else 0
      usedB := if a ≠ 0 then s.usedB + i.dB a else 0
      vis := upd s.vis a true } := by
  by_cases h : a = 0 <;> simp [step, moved_eq, legTime_eq, h]

theorem numCust_pos (i : Inst) (s : State) : decide (numCust i s > 0) = anyCust i s := by
  rw [Bool.eq_iff_iff, decide_eq_true_iff]
  exact List.length_filter_pos_iff.trans List.any_eq_true.symm

theorem depotRule_eq (i : Inst) (s : State) : depotRule i s = !(s.cur == 0 && anyCust i s) := by
  simp only [depotRule, Params.mtvrpDepotRuleCurCmp, Params.mtvrpDepotRuleAnyCmp, Params.mtvrpDepotRuleNegated,
    Cmp.evalNat, if_true, numCust_pos]
  by_cases h : s.cur = 0 <;> simp [h]

theorem mask_def (i : Inst) (s : State) (a : Nat) :
    mask i s a = if a = 0 then !(s.cur == 0 && anyCust i s) else canVisit i s a := by
  simp only [mask, depotRule_eq]

/-- `can_visit[j]` in plain form: the three mask comparisons with an infinite bound read `≤`, both capacity tests `≤` -/
theorem canVisit_def (i : Inst) (s : State) (j : Nat) : canVisit i s j =
    (cmpInf .le (arrival i s j) (i.late j)
     && cmpInf .le (if i.openR then 0 else retTime i s j) (i.late 0)
     && ((lhMissing i s && decide (i.dL j + s.usedL ≤ i.cap) && !(decide (0 < i.dB s.cur)) && decide (0 < i.dL j))
         || (decide (i.dB j + s.usedB ≤ i.cap) && decide (0 < i.dB j)))
     && cmpInf .le (lenVia i s j) i.limit
     && !(s.vis j)) := by
  have hgt : ∀ x y : Int, (!Cmp.gt.eval x y) = decide (x ≤ y) := fun x y => cmpInf_not_gt x (some y)
  simp only [canVisit, meetsDemand, Params.mtvrpMaskTwCmp, Params.mtvrpMaskDepotCmp, Params.mtvrpMaskLimitCmp,
    Params.mtvrpMaskCapLCmp, Params.mtvrpMaskCapBCmp, cmpInf_not_gt, hgt]

theorem done_def (i : Inst) (s : State) : done i s = decide (cnt (i.n + 1) s.vis = i.n + 1) := rfl

theorem charged_def (i : Inst) : charged i = fun a b => if b = 0 ∧ i.openR = true then 0 else i.D a b := by
  funext a b
  simp [charged, Params.mtvrpRewardFreeLegIsTo]

/-- the extracted shift is `-1`, with which `rollBy` unfolds to `rotateLeft 1` -/
theorem rollBy_eq (xs : List Nat) : rollBy Params.mtvrpRewardRollShift xs = roll1 xs :=
  rotateLeft_one xs

/-- `_get_reward` in plain form: the gather / roll(-1) / masked-sum idiom -/
theorem reward_def (i : Inst) (as : List Nat) : reward i as = - rollLen (charged i) (0 :: as) := by
  simp only [reward, rollBy_eq, rollLen]

/-- the checker's replay loop at a depot visit, in plain form: the leg into the depot (free for open routes) against
the limit, the arrival against the depot deadline — also for open routes —, then a fresh vehicle -/
theorem checkReplay_zero (i : Inst) (cur : Nat) (t len : Int) (as : List Nat) :
    checkReplay i cur t len (0 :: as) = true ↔
      (cmpInf .le (len + if i.openR then 0 else i.D cur 0) i.limit = true ∧
        cmpInf .le (t + i.T cur 0) (i.late 0) = true ∧ cmpInf .le (i.early 0) (i.late 0) = true) ∧
      checkReplay i 0 0 0 as = true := by
  simp only [checkReplay, Params.mtvrpCheckFreeLegCmp, Params.mtvrpCheckClockDivSpeed, Params.mtvrpCheckLimitCmp,
    Params.mtvrpCheckTwCmp, Cmp.evalNat, decide_true, Bool.and_true, if_true, Bool.and_eq_true, cmpInf_le_max]

theorem checkReplay_ne (i : Inst) (cur : Nat) (t len : Int) {a : Nat} (h0 : a ≠ 0) (as : List Nat) :
    checkReplay i cur t len (a :: as) = true ↔
      (cmpInf .le (len + i.D cur a) i.limit = true ∧
        cmpInf .le (t + i.T cur a) (i.late a) = true ∧ cmpInf .le (i.early a) (i.late a) = true) ∧
      checkReplay i a (max (t + i.T cur a) (i.early a) + i.service a) (len + i.D cur a) as = true := by
  simp only [checkReplay, Params.mtvrpCheckFreeLegCmp, Params.mtvrpCheckClockDivSpeed, Params.mtvrpCheckLimitCmp,
    Params.mtvrpCheckTwCmp, Cmp.evalNat, h0, decide_false, Bool.and_false, Bool.false_eq_true, if_false, if_true,
    Bool.and_eq_true, cmpInf_le_max]

theorem checkReplay_nil (i : Inst) (cur : Nat) (t len : Int) : checkReplay i cur t len [] = true := rfl

theorem checkC1_cons (cap : Int) (dem : Nat → Int) (used : Int) (a : Nat) (as : List Nat) :
    checkC1 cap dem used (a :: as) = true ↔
      (if a ≠ 0 then used else 0) + dem a ≤ cap ∧ checkC1 cap dem ((if a ≠ 0 then used else 0) + dem a) as = true := by
  by_cases h : a = 0 <;> simp [checkC1, Params.mtvrpCheckC1GuardCmp, Params.mtvrpCheckCapCmp, Cmp.evalNat, Cmp.eval, h]

end Rl4co.Mtvrp
