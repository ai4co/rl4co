/-
Lemmas about the sort-and-compare idiom of the checkers (`Core/Sort.lean`): sorting gives the one sorted arrangement of a
list (`sortNat_eq_iff_perm`), hence
`sortedTest n as`  ↔  every entry ≤ n and every customer 1..n occurs exactly once   (routing checkers: CVRP, SVRP, MTVRP),
`sortedIsRange n as` ↔  `as` is a permutation of 0..n-1                             (TSP family, PDP, improvement checkers).
Core only, no Mathlib.
-/
import Rl4co.Core.Sort
import Rl4co.Core.Lists
namespace Rl4co
open List

theorem sortNat_perm (as : List Nat) : (sortNat as).Perm as := mergeSort_perm _ _

theorem sortNat_pairwise (as : List Nat) : (sortNat as).Pairwise (· ≤ ·) := pairwise_mergeSort_le as

theorem pairwise_le_zeros_range (k n : Nat) : (replicate k 0 ++ range' 1 n).Pairwise (· ≤ ·) := by
  rw [pairwise_append]
  refine ⟨by simp [pairwise_replicate], ?_, ?_⟩
  · exact (List.pairwise_lt_range' (s := 1) (n := n)).imp (by intro a b h; omega)
  · intro a ha b _
    simp [mem_replicate] at ha; omega

theorem sortNat_eq_iff_perm {l : List Nat} (hl : l.Pairwise (· ≤ ·)) (as : List Nat) :
    sortNat as = l ↔ as.Perm l := by
  constructor
  · intro h; rw [← h]; exact (sortNat_perm as).symm
  · intro h
    exact Perm.eq_of_pairwise (le := fun a b : Nat => a ≤ b) (by intro a b _ _ h1 h2; omega)
      (sortNat_pairwise as) hl ((sortNat_perm as).trans h)

theorem perm_zeros_range_iff (as : List Nat) (k n : Nat) :
    as.Perm (replicate k 0 ++ range' 1 n) ↔
      as.count 0 = k ∧ (∀ a ∈ as, a ≤ n) ∧ (∀ j, 1 ≤ j → j ≤ n → as.count j = 1) := by
  have hc : ∀ x, count x (replicate k 0 ++ range' 1 n) = if x = 0 then k else if x ≤ n then 1 else 0 := by
    intro x
    rw [count_append, count_replicate, count_range_1']
    by_cases hx : x = 0
    · subst hx; rw [if_pos (beq_self_eq_true 0), if_neg (fun h => absurd h.1 (by decide)), if_pos rfl]; rfl
    · rw [if_neg hx, if_neg (by simpa using Ne.symm hx), Nat.zero_add]
      by_cases hn : x ≤ n
      · rw [if_pos ⟨Nat.pos_of_ne_zero hx, Nat.lt_of_le_of_lt hn (Nat.lt_add_of_pos_left Nat.one_pos)⟩, if_pos hn]
      · rw [if_neg (fun h => hn (Nat.le_of_lt_succ (Nat.one_add n ▸ h.2))), if_neg hn]
  rw [perm_iff_count]
  constructor
  · intro h
    refine ⟨(h 0).trans ((hc 0).trans (if_pos rfl)), fun a ha => ?_, fun j h1 h2 => ?_⟩
    · have hpos := count_pos_iff.mpr ha
      rw [h a, hc a] at hpos
      by_cases ha0 : a = 0
      · exact ha0 ▸ Nat.zero_le n
      · rw [if_neg ha0] at hpos
        exact Decidable.by_contra fun hn => by rw [if_neg hn] at hpos; exact Nat.lt_irrefl 0 hpos
    · rw [h j, hc j, if_neg (Nat.ne_of_gt h1), if_pos h2]
  · rintro ⟨h0, hr, ho⟩ x
    rw [hc x]
    by_cases hx : x = 0
    · rw [if_pos hx, hx, h0]
    · rw [if_neg hx]
      by_cases hn : x ≤ n
      · rw [if_pos hn, ho x (Nat.pos_of_ne_zero hx) hn]
      · rw [if_neg hn, count_eq_zero_of_not_mem fun hm => hn (hr x hm)]

theorem sortedTest_iff (n : Nat) (as : List Nat) :
    sortedTest n as = true ↔
      (∀ a ∈ as, a ≤ n) ∧ (∀ j, 1 ≤ j → j ≤ n → as.count j = 1) := by
  -- the test says: the sorted list is `as.length - n` zeros followed by `1..n`
  have htest : sortedTest n as = true ↔
      n ≤ as.length ∧ sortNat as = replicate (as.length - n) 0 ++ range' 1 n := by
    have hl : (sortNat as).length = as.length := (sortNat_perm as).length_eq
    simp only [sortedTest, Bool.and_eq_true, decide_eq_true_eq, beq_iff_eq, all_eq_true, and_assoc]
    refine and_congr_right fun hlen => ⟨fun ⟨hd, ht⟩ => ?_, fun hs => ?_⟩
    · have htk : (sortNat as).take (as.length - n) = replicate (as.length - n) 0 :=
        eq_replicate_iff.2 ⟨by rw [length_take, hl]; exact Nat.min_eq_left (Nat.sub_le _ _), ht⟩
      rw [← take_append_drop (as.length - n) (sortNat as), hd, htk]
    · rw [hs, drop_left' (length_replicate ..), take_left' (length_replicate ..)]
      exact ⟨rfl, fun b hb => eq_of_mem_replicate hb⟩
  rw [htest, sortNat_eq_iff_perm (pairwise_le_zeros_range _ n), perm_zeros_range_iff]
  constructor
  · exact fun h => h.2.2
  · intro ⟨hr, ho⟩
    -- the number of zeros is what is left of the length
    have hp := (perm_zeros_range_iff as (as.count 0) n).2 ⟨rfl, hr, ho⟩
    have hlen : as.length = as.count 0 + n := by
      rw [hp.length_eq, length_append, length_replicate, length_range']
    exact ⟨hlen ▸ Nat.le_add_left _ _, by rw [hlen, Nat.add_sub_cancel], hr, ho⟩

/-- torch's `(arange == sorted).all()` is equality of the lists -/
theorem zipWith_eq_all (xs ys : List Nat) (h : xs.length = ys.length) :
    (List.zipWith (fun a b => decide (a = b)) xs ys).all id = (ys == xs) := by
  induction xs generalizing ys with
  | nil => cases ys <;> simp_all
  | cons x xs ih =>
    cases ys with
    | nil => simp at h
    | cons y ys =>
      simp only [List.length_cons, Nat.add_right_cancel_iff] at h
      simp only [List.zipWith_cons_cons, List.all_cons, id, ih ys h]
      by_cases hxy : x = y
      · subst hxy; simp
      · have : y ≠ x := fun h => hxy h.symm
        simp [hxy, this]

theorem sortedIsRange_iff (n : Nat) (as : List Nat) :
    sortedIsRange n as = true ↔ as.Perm (range n) := by
  rw [sortedIsRange, beq_iff_eq]
  exact sortNat_eq_iff_perm ((pairwise_lt_range (n := n)).imp Nat.le_of_lt) as

end Rl4co
