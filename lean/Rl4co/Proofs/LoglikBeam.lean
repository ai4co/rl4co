/-
Helper lemmas for C13 (beam search): `_backtrack` as a recursion over parents, the per-row invariant of
reachable beam-search states (`BeamReach`, `BeamInv`), index arithmetic of `_make_beam_step`, what a valid
`topk` outcome provides.  No Mathlib.
-/
import Rl4co.Decode.Beam
import Rl4co.Proofs.Loglik
import Rl4co.Core.Lists

namespace Rl4co.Decode
open Rl4co.Spec.Loglik

variable {S : Type}

/- Extracted parameters (`Generated/Params.lean`): the closed forms the proofs below use; each lemma is
proved by evaluating the token extracted from `BeamSearch` and stops compiling when that token changes. -/

/-- `selected = topk_ind % num_nodes` -/
theorem selectedOf_eq (c : BeamCfg) (top : Nat → List Nat) (i : Nat) :
    selectedOf c top i = topInd c top i % c.N := by
  simp [selectedOf, Params.beamSelectedIsMod]

/-- `beam_parent = (topk_ind // num_nodes).int()` -/
theorem parentOf_eq (c : BeamCfg) (top : Nat → List Nat) (i : Nat) :
    parentOf c top i = topInd c top i / c.N := by
  simp [parentOf, Params.beamParentIsFloorDiv]

/-- `batch_beam_idx = batch_beam_sequence + beam_parent * batch_size` -/
theorem bbiOf_eq (c : BeamCfg) (top : Nat → List Nat) (i : Nat) :
    bbiOf c top i = i % c.B + parentOf c top i * c.B := by
  simp [bbiOf, Params.beamBbiSeqPlusParentTimesB]

/-- `torch.topk(log_beam_prob_hstacked, self.beam_width, dim=1)`: the `beam_width` largest -/
theorem topkLe_eq (q p : LP) : topkLe q p = lpLe q p := by
  simp [topkLe, Params.beamTopkLargest, Params.beamTopkKIsWidth]

theorem validTop_lpLe {c : BeamCfg} {val : Nat → LP} {l : List Nat} (h : ValidTop c val l) {q p : Nat}
    (hq : q < c.W * c.N) (hn : q ∉ l) (hp : p ∈ l) : lpLe (val q) (val p) = true := by
  rw [← topkLe_eq]
  exact h.2.2.2 q hq hn p hp

/-- `_backtrack`: `batch_beam_idx = batch_beam_sequence + cur_parent * batch_size` -/
theorem btFromActs_cons (B b : Nat) (buf : BeamBuf) (rest : List BeamBuf) (cur : Nat) :
    btFromActs B b (buf :: rest) cur
      = btFromActs B b rest (buf.parent (b + cur * B)) ++ [buf.acts (b + cur * B)] := by
  simp [btFromActs, Params.beamBacktrackSeqPlusParentTimesB]

theorem btFromRows_cons (B b : Nat) (buf : BeamBuf) (rest : List BeamBuf) (cur : Nat) :
    btFromRows B b (buf :: rest) cur
      = btFromRows B b rest (buf.parent (b + cur * B)) ++ [buf.rows (b + cur * B)] := by
  simp [btFromRows, Params.beamBacktrackSeqPlusParentTimesB]

/-- `BeamSearch.pre_decoder_hook`: `logprobs = torch.zeros_like(td["action_mask"])` -/
theorem beamForced_eq : Params.beamForcedLogp = 0 := by decide

theorem add_mul_mod_self (a p B : Nat) : (a % B + p * B) % B = a % B := by
  rw [Nat.add_mul_mod_self_right, Nat.mod_mod]

/-- `_backtrack` is the natural recursion over parents: the sequence of final row `i` is the sequence
of its parent row at the previous step, followed by its own action (the `for` loop, entered with parent
`cur`, is `_backtrack` of the shorter buffer list for the row `cur` points at). -/
theorem btActs_cons (B : Nat) (buf : BeamBuf) (rest : List BeamBuf) (i : Nat) :
    btActs B (buf :: rest) i = btActs B rest (i % B + buf.parent i * B) ++ [buf.acts i] := by
  cases rest with
  | nil => rfl
  | cons buf' rest => rw [btActs, btFromActs_cons, btActs, add_mul_mod_self]

theorem btRows_cons (B : Nat) (buf : BeamBuf) (rest : List BeamBuf) (i : Nat) :
    btRows B (buf :: rest) i = btRows B rest (i % B + buf.parent i * B) ++ [buf.rows i] := by
  cases rest with
  | nil => rfl
  | cons buf' rest => rw [btRows, btFromRows_cons, btRows, add_mul_mod_self]

theorem btActs_ne_nil (B : Nat) (bufs : List BeamBuf) (h : bufs ≠ []) (i : Nat) :
    btActs B bufs i ≠ [] := by
  cases bufs with
  | nil => exact absurd rfl h
  | cons buf rest => simp [btActs]

/-- the accumulated score of a sequence of per-step values: the forced move's `0`, then
`logprobs + parent_beam_logprobs` step by step (in the code's order of operands) -/
def accScore (plus : Int → Int → Int) : List LP → LP
  | [] => some 0
  | v0 :: rest => rest.foldl (fun acc v => lpAdd plus v acc) v0

theorem accScore_snoc (plus : Int → Int → Int) (vs : List LP) (v : LP) (h : vs ≠ []) :
    accScore plus (vs ++ [v]) = lpAdd plus v (accScore plus vs) := by
  cases vs with
  | nil => exact absurd rfl h
  | cons v0 rest => simp [accScore, List.foldl_append]

theorem specVals_ne_nil (e : DEnv S) (π : S → Row) (s0 : S) (as : List Nat) (h : as ≠ []) :
    specVals e π s0 true as ≠ [] := by
  cases as with
  | nil => exact absurd rfl h
  | cons a rest => exact List.cons_ne_nil _ _

/-- States of a beam search: the pre-decoder hook, then any number of decoding steps in which the
decoder is the policy `π` evaluated on the current rows and `torch.topk` returned *some* valid
top-`W` set for every instance. -/
inductive BeamReach (e : DEnv S) (π : S → Row) (c : BeamCfg) (plus : Int → Int → Int)
    (start : Nat → Nat) (s0 : Nat → S) : BeamSt S → Prop
  | pre : BeamReach e π c plus start s0 (beamPre e c start s0)
  | step {st : BeamSt S} (top : Nat → List Nat) :
      BeamReach e π c plus start s0 st →
      (∀ b, b < c.B → ValidTop c (hstacked c plus (fun i => π (st.s i)) st.score b) (top b)) →
      BeamReach e π c plus start s0 (beamStep e c plus (fun i => π (st.s i)) top st)

/-- What every row of a reachable state looks like, relative to the reset state of its instance. -/
structure BeamInv (e : DEnv S) (π : S → Row) (c : BeamCfg) (plus : Int → Int → Int) (s0 : Nat → S)
    (st : BeamSt S) : Prop where
  nonempty : st.bufs ≠ []
  state : ∀ i, st.s i = execD e (s0 (i % c.B)) (btActs c.B st.bufs i)
  rows : ∀ i, btRows c.B st.bufs i = specRows e π c.N (s0 (i % c.B)) true (btActs c.B st.bufs i)
  score : ∀ i, st.score i = accScore plus (specVals e π (s0 (i % c.B)) true (btActs c.B st.bufs i))

variable {e : DEnv S} {π : S → Row} {c : BeamCfg} {plus : Int → Int → Int} {lp : Nat → Row}
  {top : Nat → List Nat} {st : BeamSt S}

theorem bbiOf_mod (c : BeamCfg) (top : Nat → List Nat) (i : Nat) : bbiOf c top i % c.B = i % c.B := by
  rw [bbiOf_eq, add_mul_mod_self]

theorem btActs_beamStep (i : Nat) :
    btActs c.B (beamStep e c plus lp top st).bufs i
      = btActs c.B st.bufs (bbiOf c top i) ++ [selectedOf c top i] := by
  rw [bbiOf_eq]
  exact btActs_cons c.B _ st.bufs i

theorem btRows_beamStep (i : Nat) :
    btRows c.B (beamStep e c plus lp top st).bufs i
      = btRows c.B st.bufs (bbiOf c top i) ++ [lp (bbiOf c top i)] := by
  rw [bbiOf_eq]
  exact btRows_cons c.B _ st.bufs i

theorem beamInv_of_reach (e : DEnv S) (π : S → Row) (c : BeamCfg) (plus : Int → Int → Int)
    (start : Nat → Nat) (s0 : Nat → S) {st : BeamSt S} (h : BeamReach e π c plus start s0 st) :
    BeamInv e π c plus s0 st := by
  induction h with
  | pre =>
    refine ⟨List.cons_ne_nil _ _, fun i => rfl, fun i => ?_, fun i => ?_⟩
    · show [List.replicate c.N (some Params.beamForcedLogp)] = _
      rw [beamForced_eq]
      rfl
    · show some Params.beamForcedLogp = _
      rw [beamForced_eq]
      rfl
  | @step st top _ _ ih =>
    obtain ⟨hne, hs, hr, hsc⟩ := ih
    have hnn : ∀ j, btActs c.B st.bufs j ≠ [] := btActs_ne_nil c.B st.bufs hne
    refine ⟨List.cons_ne_nil _ _, fun i => ?_, fun i => ?_, fun i => ?_⟩
    · rw [btActs_beamStep, execD_snoc, ← bbiOf_mod c top i, ← hs]
      rfl
    · rw [btActs_beamStep, btRows_beamStep, specRows_snoc fun _ => hnn _, hr, ← bbiOf_mod c top i, ← hs]
    · rw [btActs_beamStep, specVals_snoc fun _ => hnn _, accScore_snoc _ _ _ (specVals_ne_nil _ _ _ _ (hnn _)),
        ← bbiOf_mod c top i, ← hsc, ← hs]
      -- `log_beam_prob_hstacked` at the kept column: row `batch_beam_idx[i]`, action `selected[i]`
      rw [bbiOf_eq, parentOf_eq, selectedOf_eq, Nat.add_comm]
      rfl

/-! ### index arithmetic of `_make_beam_step`

A flat row index is `k·B + b` (beam `k` of instance `b < B`); a column of the hstacked score matrix is
`w·N + j` (action `j < N` of parent beam `w`): the same arithmetic (`idx_mod`, `idx_div`). -/

variable {k b : Nat}

theorem topInd_flat (c : BeamCfg) (top : Nat → List Nat) (hb : b < c.B) :
    topInd c top (k * c.B + b) = (top b).getD k 0 := by
  rw [topInd, idx_mod hb, idx_div hb]

theorem selectedOf_flat (hb : b < c.B) : selectedOf c top (k * c.B + b) = (top b).getD k 0 % c.N := by
  rw [selectedOf_eq, topInd_flat c top hb]

theorem bbiOf_flat (hb : b < c.B) : bbiOf c top (k * c.B + b) = (top b).getD k 0 / c.N * c.B + b := by
  rw [bbiOf_eq, parentOf_eq, topInd_flat c top hb, idx_mod hb, Nat.add_comm]

theorem btActs_beamStep_flat (hb : b < c.B) :
    btActs c.B (beamStep e c plus lp top st).bufs (k * c.B + b)
      = btActs c.B st.bufs ((top b).getD k 0 / c.N * c.B + b) ++ [(top b).getD k 0 % c.N] := by
  rw [btActs_beamStep, bbiOf_flat hb, selectedOf_flat hb]

theorem beamStep_s_flat (hb : b < c.B) :
    (beamStep e c plus lp top st).s (k * c.B + b)
      = e.step (st.s ((top b).getD k 0 / c.N * c.B + b)) ((top b).getD k 0 % c.N) := by
  show e.step (st.s (bbiOf c top (k * c.B + b))) (selectedOf c top (k * c.B + b)) = _
  rw [bbiOf_flat hb, selectedOf_flat hb]

theorem beamStep_score_flat (hb : b < c.B) :
    (beamStep e c plus lp top st).score (k * c.B + b) = hstacked c plus lp st.score b ((top b).getD k 0) := by
  show hstacked c plus lp st.score ((k * c.B + b) % c.B) (topInd c top (k * c.B + b)) = _
  rw [idx_mod hb, topInd_flat c top hb]

theorem lpLe_none_right {v : LP} (h : lpLe v none = true) : v = none := by
  cases v with
  | none => rfl
  | some a => cases h

/-- pigeonhole: if every parent beam `w < W` has a column (`q / N = w`) of finite value, `topk` keeps no
column `p` of value `-inf`: each of these columns would be kept beside `p`, but the `W - 1` other kept
columns cannot cover `W` parents -/
theorem validTop_finite {val : Nat → LP} {l : List Nat} (hv : ValidTop c val l)
    (hf : ∀ w, w < c.W → ∃ q, q / c.N = w ∧ q < c.W * c.N ∧ val q ≠ none) {p : Nat} (hp : p ∈ l) :
    val p ≠ none := by
  have hlen := hv.1
  intro hnone
  have hsub : List.range c.W ⊆ (l.erase p).map (· / c.N) := by
    intro w hw
    obtain ⟨q, hqw, hlt, hfin⟩ := hf w (List.mem_range.mp hw)
    have hq : q ∈ l :=
      Classical.byContradiction fun hnot => hfin (lpLe_none_right (hnone ▸ validTop_lpLe hv hlt hnot hp))
    have hne : q ≠ p := fun heq => hfin (heq ▸ hnone)
    exact List.mem_map.mpr ⟨q, (List.mem_erase_of_ne hne).mpr hq, hqw⟩
  have h1 := List.nodup_range.length_le_of_subset hsub
  rw [List.length_range, List.length_map, List.length_erase_of_mem hp, hlen] at h1
  exact absurd h1 (Nat.not_le.mpr (Nat.sub_lt (hlen ▸ List.length_pos_of_mem hp) Nat.one_pos))

/-- the executable check the driver runs on every recorded `topk` outcome implies `ValidTop` -/
theorem validTop_sound (c : BeamCfg) (val : Nat → LP) (l : List Nat) (h : validTop c val l = true) :
    ValidTop c val l := by
  simp only [validTop, Bool.and_eq_true, List.all_eq_true, decide_eq_true_eq, Bool.or_eq_true,
    List.mem_range] at h
  obtain ⟨⟨⟨h1, h2⟩, h3⟩, h4⟩ := h
  refine ⟨h1, h2, h3, fun q hq hnot p hp => ?_⟩
  rcases h4 q hq with hc | ha
  · exact absurd (by simpa using hc) hnot
  · exact ha p hp

end Rl4co.Decode
