/-
FFSP, C05: every valid *expressible* schedule is produced by some mask-confined episode.
The episode is obtained by following the schedule: at every decision state start the job the schedule
starts on the current machine at the current time, if any, and wait otherwise.  The proof shows that this
action is always offered by the mask (for the wait action this is exactly what `Expressible` demands) and
that the environment never skips a slot at which the schedule starts a job (`follow_step`).  That the episode
finishes, with the schedule it followed, is then the step bound: `expressible_reachable`, `Props/C05/Ffsp.lean`.
No Mathlib.
-/
import Rl4co.Proofs.Ffsp
namespace Rl4co.Ffsp
open Rl4co.Spec.Ffsp

/-- the facts about a schedule matrix `σ` that validity and expressibility of its operation list give -/
structure SigmaOK (i : Inst) (σ : Nat → Nat → Int) : Prop where
  nonneg : ∀ m j, m < MT i → j < i.J → σ m j ≠ UNSET → 0 ≤ σ m j
  has : ∀ j k, j < i.J → k < i.S → ∃ m, m < MT i ∧ m / i.M = k ∧ σ m j ≠ UNSET
  uniq : ∀ j m m', j < i.J → m < MT i → m' < MT i → σ m j ≠ UNSET → σ m' j ≠ UNSET →
    m / i.M = m' / i.M → m = m'
  order : ∀ j m m', j < i.J → m < MT i → m' < MT i → σ m j ≠ UNSET → σ m' j ≠ UNSET →
    m / i.M < m' / i.M → σ m j + (i.dur j m : Int) ≤ σ m' j
  machine : ∀ m j j', m < MT i → j < i.J → j' < i.J → j ≠ j' → σ m j ≠ UNSET → σ m j' ≠ UNSET →
    σ m j + (i.dur j m : Int) ≤ σ m j' ∨ σ m j' + (i.dur j' m : Int) ≤ σ m j
  nd : ∀ m j j', m < MT i → j < i.J → j' < i.J → j ≠ j' → σ m j ≠ UNSET → σ m j' ≠ UNSET → σ m j ≠ σ m j'
  expr : ∀ (t sub : Nat), sub < MT i →
    (∀ j, j < i.J → σ (machineOf i sub) j ≠ UNSET →
      ¬ (σ (machineOf i sub) j = (t : Int) ∨ (σ (machineOf i sub) j ≤ (t : Int) ∧
          (t : Int) < σ (machineOf i sub) j + (i.dur j (machineOf i sub) : Int)))) →
    (∃ j, j < i.J ∧
      (sub / i.M = 0 ∨ ∃ m', m' < MT i ∧ m' / i.M + 1 = sub / i.M ∧ σ m' j ≠ UNSET ∧
          σ m' j + (i.dur j m' : Int) ≤ (t : Int)) ∧
      (∃ m', m' < MT i ∧ m' / i.M = sub / i.M ∧ σ m' j ≠ UNSET ∧ SlotAfter i t sub (σ m' j) m')) →
    (1 ≤ sub / i.M ∧ ∃ j', j' < i.J ∧ ∀ m', m' < MT i → m' / i.M + 1 = sub / i.M → σ m' j' ≠ UNSET →
      (t : Int) < σ m' j' + (i.dur j' m' : Int))

/-- `SigmaOK.expr`, whose statement spells the formulas out, in the vocabulary of `Proofs/FfspMatrix.lean` -/
theorem SigmaOK.skip {i : Inst} {σ : Nat → Nat → Int} (ok : SigmaOK i σ) {t sub : Nat} (hsub : sub < MT i)
    (hidle : IdleM i σ (machineOf i sub) t)
    (hav : ∃ j, j < i.J ∧ PrevDone i σ j t sub ∧
      ∃ m', m' < MT i ∧ m' / i.M = sub / i.M ∧ σ m' j ≠ UNSET ∧ SlotAfter i t sub (σ m' j) m') :
    SkipM i σ (sub / i.M) t :=
  ok.expr t sub hsub hidle hav

theorem start_le_horizon {ops : List Op} {o : Op} (ho : o ∈ ops) : o.start.toNat ≤ horizon ops :=
  (foldl_max_ge id _ 0).2 _ (List.mem_map.mpr ⟨o, ho, rfl⟩)

theorem sigmaOK_of_spec (i : Inst) (h : WF i) (σ : Nat → Nat → Int)
    (hv : Valid i (ofMatrix i σ)) (he : Expressible i (ofMatrix i σ)) : SigmaOK i σ := by
  have hcnt : ∀ j k, j < i.J → k < i.S →
      cnt (MT i) (fun m => m / i.M == k && σ m j != UNSET) = 1 := by
    intro j k hj hk
    rw [← opsAt_ofMatrix i σ j k hj]; exact hv.once j hj k hk
  exact {
    nonneg := fun m j hm hj hs => (hv.range _ (op_of_entry i σ hm hj hs)).2.2
    has := by
      intro j k hj hk
      obtain ⟨m, hm, hp⟩ := cnt_pos.mp (Nat.lt_of_lt_of_le Nat.one_pos (Nat.le_of_eq (hcnt j k hj hk).symm))
      simp only [Bool.and_eq_true, beq_iff_eq, bne_iff_ne, ne_eq] at hp
      exact ⟨m, hm, hp.1, hp.2⟩
    uniq := by
      intro j m m' hj hm hm' hs hs' hmm
      apply cnt_one_unique (hcnt j (m / i.M) hj (stageOf_lt hm)) hm hm'
      · rw [beq_self_eq_true, Bool.true_and, bne_iff_ne]; exact hs
      · rw [hmm, beq_self_eq_true, Bool.true_and, bne_iff_ne]; exact hs'
    order := by
      intro j m m' hj hm hm' hs hs' hlt
      exact hv.order _ (op_of_entry i σ hm hj hs) _ (op_of_entry i σ hm' hj hs') rfl hlt
    machine := by
      intro m j j' hm hj hj' hne hs hs'
      exact hv.machine _ (op_of_entry i σ hm hj hs) _ (op_of_entry i σ hm hj' hs')
        (fun hh => hne (congrArg Op.job hh)) rfl
    nd := by
      intro m j j' hm hj hj' hne hs hs'
      exact he.2 _ (op_of_entry i σ hm hj hs) _ (op_of_entry i σ hm hj' hs')
        (fun hh => hne (congrArg Op.job hh)) rfl
    expr := by
      intro t sub hsub hidle hav
      obtain ⟨j, hj, hprev, m', hm', hst, hset, hafter⟩ := hav
      have ht : t ≤ horizon (ofMatrix i σ) := by
        have h1 := start_le_horizon (op_of_entry i σ hm' hj hset)
        have h2 : (t : Int) ≤ σ m' j := by
          rcases hafter with hl | ⟨he', _⟩
          · exact Int.le_of_lt hl
          · exact Int.le_of_eq he'.symm
        exact Nat.le_trans ((Int.le_toNat (Int.le_trans (Int.natCast_nonneg t) h2)).mpr h2) h1
      exact (skipOK_ofMatrix i σ _ t).mp (he.1 t ht sub hsub
        ((idle_ofMatrix i σ (machineOf_lt h hsub) t).mpr hidle)
        ⟨j, hj, (avail_ofMatrix i σ hj t sub).mpr ⟨hprev, m', hm', hst, hset, hafter⟩⟩) }

/-- the state agrees with `σ`: what is scheduled is `σ`'s, and everything `σ` starts at a slot before
position `n` is scheduled -/
structure Sim (i : Inst) (σ : Nat → Nat → Int) (s : State) (n : Nat) : Prop where
  agree : ∀ m j, j < i.J → s.sched m j ≠ UNSET → s.sched m j = σ m j
  upto : Upto i n fun t' sub' => ∀ j, j < i.J → σ (machineOf i sub') j = (t' : Int) →
    s.sched (machineOf i sub') j = (t' : Int)

theorem sim_congr (i : Inst) (σ : Nat → Nat → Int) {s x : State}
    (hs : ∀ m j, j < i.J → x.sched m j = s.sched m j) {n : Nat} (sm : Sim i σ s n) : Sim i σ x n :=
  { agree := fun m j hj hset => by rw [hs m j hj] at hset ⊢; exact sm.agree m j hj hset
    upto := fun t' sub' h1 h3 j hj h2 => by rw [hs _ j hj]; exact sm.upto t' sub' h1 h3 j hj h2 }

theorem sim_succ {i : Inst} {σ : Nat → Nat → Int} {s : State} (hs : s.sub < MT i)
    (sm : Sim i σ s (pos i s))
    (hcur : ∀ j, j < i.J → σ (machineOf i s.sub) j = (s.time : Int) →
      s.sched (machineOf i s.sub) j = (s.time : Int)) : Sim i σ s (pos i s + 1) :=
  ⟨sm.agree, upto_succ hs sm.upto hcur⟩

/-- where an entry of `σ` sits relative to the clock: at a slot the sweep has passed (then the state has it), at the slot
the clock stands on, or at a later slot -/
theorem sim_cases (i : Inst) (h : WF i) (hsj : PermSurj i) {σ : Nat → Nat → Int} (ok : SigmaOK i σ)
    {s : State} (hs : s.sub < MT i) (sm : Sim i σ s (pos i s)) {m j : Nat} (hm : m < MT i) (hj : j < i.J)
    (hset : σ m j ≠ UNSET) :
    s.sched m j = σ m j ∨ (σ m j = (s.time : Int) ∧ m = machineOf i s.sub) ∨ SlotAfter i s.time s.sub (σ m j) m := by
  obtain ⟨sub1, hsub1, he1, _⟩ := machine_is_slot i h hsj hm
  have hnn := Int.toNat_of_nonneg (ok.nonneg m j hm hj hset)
  rcases Nat.lt_trichotomy ((σ m j).toNat * MT i + sub1) (pos i s) with hlt | heq | hgt
  · have := sm.upto _ sub1 hsub1 hlt j hj (by rw [he1, hnn])
    rw [he1, hnn] at this; exact Or.inl this
  · obtain ⟨e1, e2⟩ := idx_inj hsub1 hs heq
    exact Or.inr (Or.inl ⟨by rw [← hnn, e1], by rw [← e2, he1]⟩)
  · rw [← hnn]
    rcases slot_lt hsub1 hgt with hl | ⟨he, hl⟩
    · exact Or.inr (Or.inr (Or.inl (Int.ofNat_lt.mpr hl)))
    · exact Or.inr (Or.inr (Or.inr ⟨by rw [he], sub1, hsub1, hl, he1.symm⟩))

/-- if `σ` starts job `j` at the slot the clock stands on, the machine is idle and the job is ready -/
theorem sigma_op_ready (i : Inst) (h : WF i) (hi : PermInj i) (hsj : PermSurj i) (σ : Nat → Nat → Int)
    (ok : SigmaOK i σ) (y : State) (c : Core i y) (x : Exact i y y.sub) (sm : Sim i σ y (pos i y))
    (j : Nat) (hj : j < i.J) (hσ : σ (machineOf i y.sub) j = (y.time : Int)) :
    y.jloc j = y.sub / i.M ∧ y.jwait j = 0 ∧ y.mwait y.midx = 0 ∧ y.sched (machineOf i y.sub) j = UNSET := by
  have hm : machineOf i y.sub < MT i := machineOf_lt h c.sub_lt
  have hk : machineOf i y.sub / i.M = y.sub / i.M := machineOf_stage h y.sub
  have hσs : σ (machineOf i y.sub) j ≠ UNSET := by rw [hσ]; exact natCast_ne_unset _
  -- (i) not yet scheduled
  have hun : y.sched (machineOf i y.sub) j = UNSET := by
    apply Classical.byContradiction; intro hset
    obtain ⟨sub'', h1, _, h3⟩ := x.np _ j hj hset ((sm.agree _ j hj hset).trans hσ)
    exact Nat.lt_irrefl _ (machineOf_inj i h hi h3 ▸ h1)
  -- (ii) no operation of this stage yet
  have hle : y.jloc j ≤ y.sub / i.M := by
    apply Classical.byContradiction; intro hgt
    obtain ⟨m'', h1, h2⟩ := c.stage_has j (y.sub / i.M) hj (Nat.lt_of_not_le hgt)
    have hv := sm.agree m'' j hj h2
    rw [ok.uniq j m'' _ hj (c.set_stage m'' j hj h2).1 hm (hv ▸ h2) hσs (h1.trans hk.symm)] at h2
    exact h2 hun
  -- so what is scheduled of `j` lies in earlier stages and, being `σ`'s, is over by now
  have hprev : ∀ m0, y.sched m0 j ≠ UNSET → y.sched m0 j + (i.dur j m0 : Int) ≤ (y.time : Int) := by
    intro m0 hs0
    obtain ⟨hm0, hst0⟩ := c.set_stage m0 j hj hs0
    have hv := sm.agree m0 j hj hs0
    rw [hv, ← hσ]
    exact ok.order j m0 _ hj hm0 hm (hv ▸ hs0) hσs (hk.symm ▸ Nat.lt_of_lt_of_le hst0 hle)
  -- (iii) all earlier stages are scheduled
  have hge : y.sub / i.M ≤ y.jloc j := by
    apply Classical.byContradiction; intro hlt
    have hlt' : y.jloc j < y.sub / i.M := Nat.lt_of_not_le hlt
    obtain ⟨m1, hm1, hst1, hs1⟩ := ok.has j (y.jloc j) hj (Nat.lt_trans hlt' (stageOf_lt c.sub_lt))
    have hord := ok.order j m1 _ hj hm1 hm hs1 hσs (by rw [hst1, hk]; exact hlt')
    rw [hσ] at hord
    -- that operation of `σ` is over by now and belongs to an earlier stage: it sits at a slot the sweep has passed
    rcases sim_cases i h hsj ok c.sub_lt sm hm1 hj hs1 with hin | ⟨_, rfl⟩ | hl | ⟨_, sub', _, hl, rfl⟩
    · have := (c.set_stage m1 j hj (hin ▸ hs1)).2
      rw [hst1] at this
      exact Nat.lt_irrefl _ this
    · exact Nat.lt_irrefl _ (hk ▸ hst1 ▸ hlt')
    · exact absurd (Int.le_trans (le_add_natCast (Int.le_refl _) _) hord) (Int.not_le.mpr hl)
    · rw [machineOf_stage h] at hst1
      exact Nat.lt_irrefl _ (Nat.lt_of_lt_of_le (hst1 ▸ hlt') (Nat.div_le_div_right (Nat.le_of_lt hl)))
  have hloc : y.jloc j = y.sub / i.M := Nat.le_antisymm hle hge
  refine ⟨hloc, ?_, ?_, hun⟩
  · -- (iv) the previous operation has finished
    apply Nat.eq_zero_of_not_pos; intro hpos
    obtain ⟨h1, h2⟩ := running_job i c x.jx hj hpos
    obtain ⟨m0, hm0, hs0⟩ := c.stage_has j (y.jloc j - 1) hj (Nat.sub_lt h1 Nat.one_pos)
    exact absurd (hprev m0 hs0) (Int.not_le.mpr (h2 m0 (by rw [hm0]; exact Nat.sub_add_cancel h1) hs0))
  · -- (v) the machine is idle
    apply Nat.eq_zero_of_not_pos; intro hpos
    rw [c.midx_eq] at hpos
    obtain ⟨j'', hj'', hs'', he''⟩ := x.mx (machineOf i y.sub) hpos
    have hv := sm.agree _ j'' hj'' hs''
    have hjj : j'' ≠ j := by rintro rfl; exact hs'' hun
    have hst := (c.start_rng _ j'' hj'' hs'').2
    have hσ'' : σ (machineOf i y.sub) j'' ≠ UNSET := hv ▸ hs''
    have hnd := ok.nd _ j'' j hm hj'' hj hjj hσ'' hσs
    have hmach := ok.machine _ j'' j hm hj'' hj hjj hσ'' hσs
    rw [hσ, ← hv] at hmach hnd
    rcases hmach with hd | hd
    · rw [he''] at hd
      exact absurd hd (Int.not_le.mpr (Int.lt_add_of_pos_right _ (Int.natCast_pos.mpr hpos)))
    · exact hnd (Int.le_antisymm hst (Int.le_trans (le_add_natCast (Int.le_refl _) _) hd))

/-- **the schedule's job is offered**: at a decision state where `σ` starts job `j` on the current machine
now, the mask admits `j`, and after scheduling it the state still follows `σ` -/
theorem follow_job (i : Inst) (h : WF i) (hi : PermInj i) (hsj : PermSurj i) (σ : Nat → Nat → Int)
    (ok : SigmaOK i σ) (s : State) (l : Live i s) (x : Exact i s s.sub)
    (sm : Sim i σ s (pos i s)) (j : Nat) (hj : j < i.J) (hσ : σ (machineOf i s.sub) j = (s.time : Int)) :
    s.mask j = true ∧ Sim i σ (apply i s j) (pos i s + 1) := by
  obtain ⟨hloc, hjw, _, hun⟩ := sigma_op_ready i h hi hsj σ ok s l.core x sm j hj hσ
  have hmid := l.core.midx_eq
  have hm := machineOf_lt h l.core.sub_lt
  refine ⟨by rw [mask_job i s l.fresh hj, hjw, hloc]; simp [stageOf], ?_⟩
  -- entries that were set keep their value
  have hkeep : ∀ m j', s.sched m j' ≠ UNSET → (apply i s j).sched m j' = s.sched m j' := by
    intro m j' hs
    apply apply_sched_old
    rintro ⟨rfl, rfl⟩
    exact hs (hmid ▸ hun)
  refine sim_succ (s := apply i s j) l.core.sub_lt ⟨?_, ?_⟩ ?_
  · intro m j' hj' hset
    rcases apply_entry i s j hset with ⟨rfl, rfl, he⟩ | ⟨he, hset', _⟩
    · rw [he, hmid, hσ]
    · rw [he]; exact sm.agree m j' hj' hset'
  · intro t' sub' hsub' hlt j' hj' hval
    have hv := sm.upto t' sub' hsub' hlt j' hj' hval
    rw [hkeep _ j' (by rw [hv]; exact natCast_ne_unset _)]; exact hv
  · intro j' hj' hval
    change σ (machineOf i s.sub) j' = (s.time : Int) at hval
    have hjj : j' = j := Classical.byContradiction fun hne =>
      ok.nd _ j' j hm hj' hj hne (by rw [hval]; exact natCast_ne_unset _)
        (by rw [hσ]; exact natCast_ne_unset _) (hval.trans hσ.symm)
    rw [hjj]; exact hmid ▸ apply_sched_new i s j

/-- a job whose operation of the previous stage ends, according to `σ`, after the current time has not
completed that stage in the state either: the wait action is offered -/
theorem wait_of_skip (i : Inst) (σ : Nat → Nat → Int) (s : State) (l : Live i s) (hd : s.done = false)
    (sm : Sim i σ s (pos i s))
    (hskip : SkipM i σ (s.sub / i.M) s.time) : s.mask i.J = true := by
  have c := l.core
  obtain ⟨hk1, j', hj', hall⟩ := hskip
  rw [mask_wait_iff i s l.fresh hd]
  rcases Nat.lt_or_ge (s.jloc j') (s.sub / i.M) with hlt | hge
  · exact Or.inl ⟨j', hj', hlt⟩
  · right
    obtain ⟨m1, h1, h2⟩ := c.stage_has j' (s.sub / i.M - 1) hj' (Nat.lt_of_lt_of_le (Nat.sub_lt hk1 Nat.one_pos) hge)
    have hv := sm.agree m1 j' hj' h2
    have hend := hall m1 (c.set_stage m1 j' hj' h2).1 (by rw [h1]; exact Nat.sub_add_cancel hk1) (hv ▸ h2)
    rw [← hv] at hend
    have hb := c.job_busy m1 j' hj' h2
    refine ⟨j', hj', Nat.le_antisymm (Nat.le_of_not_lt fun hgt => ?_) hge, Nat.pos_of_ne_zero fun h0 =>
      absurd hb (Int.not_le.mpr (by rw [h0, Int.natCast_zero, Int.add_zero]; exact hend))⟩
    obtain ⟨m3, g1, g2⟩ := c.stage_has j' (s.sub / i.M) hj' hgt
    have hord := c.order j' m1 m3 hj' h2 g2 (by rw [h1, g1]; exact Nat.sub_lt hk1 Nat.one_pos)
    exact absurd (Int.le_trans hord (c.start_rng m3 j' hj' g2).2) (Int.not_le.mpr hend)

/-- **the wait action is offered** when `σ` starts nothing at the current slot — this is exactly what
expressibility of `σ` provides -/
theorem follow_wait (i : Inst) (h : WF i) (hsj : PermSurj i) (σ : Nat → Nat → Int)
    (ok : SigmaOK i σ) (s : State) (l : Live i s) (hd : s.done = false)
    (sm : Sim i σ s (pos i s))
    (hno : ∀ j, j < i.J → σ (machineOf i s.sub) j ≠ (s.time : Int)) :
    s.mask i.J = true ∧ Sim i σ (apply i s i.J) (pos i s + 1) := by
  have c := l.core
  have hm : machineOf i s.sub < MT i := machineOf_lt h c.sub_lt
  refine ⟨?_, sim_congr i σ (fun m j hj => apply_wait_sched i s m hj)
    (sim_succ c.sub_lt sm (fun j hj hval => absurd hval (hno j hj)))⟩
  -- the state is a decision state: the machine is idle and some job `j0` is ready
  obtain ⟨hmw, j0, hj0, hloc0, hjw0⟩ := (ready_iff i s).mp (l.rdy hd)
  rw [c.midx_eq] at hmw
  obtain ⟨m2, hm2, hst2, hs2⟩ := ok.has j0 (s.sub / i.M) hj0 (stageOf_lt c.sub_lt)
  refine wait_of_skip i σ s l hd sm
    (ok.skip c.sub_lt (fun j hj hs => ?_) ⟨j0, hj0, ?_, m2, hm2, hst2, hs2, ?_⟩)
  · -- `σ` leaves the machine idle now
    rintro (he | ⟨h1, h2⟩)
    · exact hno j hj he
    · rcases sim_cases i h hsj ok c.sub_lt sm hm hj hs with hset | ⟨he, _⟩ | hl | ⟨he, _⟩
      · have := c.mach_busy hd _ j hj (hset ▸ hs)
        rw [hset, hmw, Int.natCast_zero, Int.add_zero] at this
        exact absurd this (Int.not_le.mpr h2)
      · exact hno j hj he
      · exact absurd h1 (Int.not_le.mpr hl)
      · exact hno j hj he
  · -- `j0` has completed the previous stage, in the state and hence in `σ`
    rcases Nat.eq_zero_or_pos (s.sub / i.M) with hk0 | hk0
    · exact Or.inl hk0
    · obtain ⟨m', h1, h2⟩ := c.stage_has j0 (s.sub / i.M - 1) hj0 (hloc0 ▸ Nat.sub_lt hk0 Nat.one_pos)
      have hv := sm.agree m' j0 hj0 h2
      have hb := c.job_busy m' j0 hj0 h2
      rw [hjw0, hv, Int.natCast_zero, Int.add_zero] at hb
      exact Or.inr ⟨m', (c.set_stage m' j0 hj0 h2).1, by rw [h1]; exact Nat.sub_add_cancel hk0, hv ▸ h2, hb⟩
  · -- the stage-`k` operation of `j0` in `σ` cannot sit at or before the current slot
    rcases sim_cases i h hsj ok c.sub_lt sm hm2 hj0 hs2 with hin | ⟨he, rfl⟩ | hafter
    · have := (c.set_stage m2 j0 hj0 (hin ▸ hs2)).2
      rw [hst2, hloc0] at this
      exact absurd this (Nat.lt_irrefl _)
    · exact absurd he (hno j0 hj0)
    · exact hafter

/-- the environment never skips a slot at which `σ` starts a job -/
theorem sim_nonready (i : Inst) (h : WF i) (hi : PermInj i) (hsj : PermSurj i) (σ : Nat → Nat → Int)
    (ok : SigmaOK i σ) (y : State) (c : Core i y) (x : Exact i y y.sub) (hy : Sim i σ y (pos i y))
    (hr : ready i y = false) : Sim i σ y (pos i y + 1) := by
  refine sim_succ c.sub_lt hy fun j hj hval => ?_
  obtain ⟨g1, g2, g3, _⟩ := sigma_op_ready i h hi hsj σ ok y c x hy j hj hval
  rw [(ready_iff i y).mpr ⟨g3, j, hj, g1, g2⟩] at hr
  cases hr

/-- one step of "follow `σ`" from an unfinished decision state: an admitted action after which the state
still follows `σ` -/
theorem follow_step (i : Inst) (h : WF i) (hi : PermInj i) (hsj : PermSurj i) (σ : Nat → Nat → Int)
    (ok : SigmaOK i σ) (s : State) (hre : Reach envM i s) (hd : s.done = false)
    (sm : Sim i σ s (pos i s)) :
    ∃ a, a < i.J + 1 ∧ s.mask a = true ∧ Sim i σ (apply i s a) (pos i s + 1) ∧
      ((stepM i s a).done = false → Sim i σ (stepM i s a) (pos i (stepM i s a))) := by
  obtain ⟨l, e⟩ := exact_of_reach i h hre
  have x := e hd
  have hact : ∃ a, a < i.J + 1 ∧ s.mask a = true ∧ Sim i σ (apply i s a) (pos i s + 1) := by
    by_cases hex : ∃ j, j < i.J ∧ σ (machineOf i s.sub) j = (s.time : Int)
    · obtain ⟨j, hj, hσ⟩ := hex
      obtain ⟨g1, g2⟩ := follow_job i h hi hsj σ ok s l x sm j hj hσ
      exact ⟨j, Nat.lt_succ_of_lt hj, g1, g2⟩
    · obtain ⟨g1, g2⟩ := follow_wait i h hsj σ ok s l hd sm (fun j hj he => hex ⟨j, hj, he⟩)
      exact ⟨i.J, Nat.lt_succ_self _, g1, g2⟩
  obtain ⟨a, ha, hm, sm1⟩ := hact
  refine ⟨a, ha, hm, sm1, fun hd' => ?_⟩
  rw [stepM_done] at hd'
  obtain ⟨y, hy, _, y2⟩ := stepM_rule i h
    (fun x _ _ _ hx => pos_advance i x ▸ ⟨hx.agree, hx.upto⟩)
    (fun y c _ => sim_nonready i h hi hsj σ ok y c) l x hm hd' sm1
  rw [hy]; exact ⟨y2.agree, y2.upto⟩

end Rl4co.Ffsp
