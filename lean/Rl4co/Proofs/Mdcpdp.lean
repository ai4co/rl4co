/-
Helper lemmas and the state invariant of the MDCPDP model (`Rl4co.Mdcpdp`), for the row stepped on its own on well-formed,
hand-supplied instances (one capacity entry per depot), under either `current_depot` rule.

`stepF tok` is `step` for the rule the source has (`tok = false`, through `depotSel_asCoded`: `current_depot` moves only on a
return, so it never leaves depot 0) and the step of `envFixed` for the INTENDED rule (`tok = true`: updated on every visit of a
depot — what the one-line fix `torch.where(current_node < num_depot, current_node, current_depot)` gives).  The token is
extracted from the source, so the day a maintainer applies the fix `step` IS `stepF true` and the theorems of the `Fixed` files
apply to the real code.  What does not depend on the rule is proved once, for `stepF tok`.

Suffixes.  `T` (`F` in `stepF`, `envF`): parametrised by the rule `tok` (`WFT`, `InvT`, and `RelT` in
`Props/C03/MdcpdpSim.lean`); these carry the proofs.  `X` (namespace `Fixed`): the intended rule (`stepX`, `WFX`), the form the
theorems of the `Fixed` files are stated in; `InvX` is the part of `InvT tok` that does not depend on the rule.  No suffix:
the code as it is (`Inv` = `InvT false`, `env = envF false` by `env_eq`; `envFixed` is `envF true` by `rfl`, used silently).
The step lemmas take and return `InvPh`, `InvT` with the phase bit `b` of `Phase` named: after a step it is `backFlag i s a`.
-/
import Rl4co.Env.Mdcpdp

namespace Rl4co.Mdcpdp

/-- well-formed instance: the consistent configuration (`capacity` has one entry per depot, as many
depots as the generator parameters say, start_mode "order"), at least one depot, an even number of customers, and a
vehicle of depot 0 that can carry at least one order -/
structure WF (i : Inst) : Prop where
  kpos  : 1 ≤ i.K
  even  : i.N = i.K + 2 * i.h
  split : i.split0 = i.h + i.K
  kg    : i.KG = i.K
  cap0  : 1 ≤ i.cap 0
  start0 : i.start = 0

instance (i : Inst) : Decidable (WF i) :=
  decidable_of_iff (1 ≤ i.K ∧ i.N = i.K + 2 * i.h ∧ i.split0 = i.h + i.K ∧ i.KG = i.K ∧ 1 ≤ i.cap 0 ∧ i.start = 0)
    ⟨fun ⟨a, b, c, d, e, f⟩ => ⟨a, b, c, d, e, f⟩, fun ⟨a, b, c, d, e, f⟩ => ⟨a, b, c, d, e, f⟩⟩

theorem WF.depot_lt {i : Inst} (hwf : WF i) {d : Nat} (h : d < i.K) : d < i.N :=
  hwf.even ▸ Nat.lt_add_right _ h

@[simp] theorem capFlagOf_eq (i : Inst) (c : Int) (d : Nat) : capFlagOf i c d = decide (c ≥ i.cap d) := by
  simp [capFlagOf, Params.mdcpdpCapCmp, Cmp.eval]
@[simp] theorem carryFlagOf_eq (c : Int) : carryFlagOf c = decide (c > 0) := by
  simp [carryFlagOf, Params.mdcpdpCarryCmp, Cmp.eval]

theorem anyIn_eq_true {n : Nat} {f : Nat → Bool} : anyIn n f = true ↔ ∃ j, j < n ∧ f j = true := by
  simp [anyIn, List.any_eq_true, List.mem_range]

theorem anyIn_eq_false {n : Nat} {f : Nat → Bool} : anyIn n f = false ↔ ∀ j, j < n → f j = false := by
  simp [anyIn, List.mem_range]

theorem backFlag_eq (i : Inst) (s : State) (a : Nat) :
    backFlag i s a = (decide (a < i.K) && !(s.avail a)) := by
  cases h : s.avail a <;> simp [backFlag, Params.mdcpdpBackDepotCmp, Params.mdcpdpBackAvailCmp, Cmp.evalNat, h]
theorem cnt_zero_eq_not_any (n : Nat) (av : Nat → Bool) : decide (cnt n av = 0) = !(anyIn n av) := by
  cases h : anyIn n av with
  | true =>
    obtain ⟨j, hj, hjav⟩ := anyIn_eq_true.mp h
    have : 0 < cnt n av := cnt_pos.mpr ⟨j, hj, hjav⟩
    simp; omega
  | false => simp [cnt_eq_zero.mpr (anyIn_eq_false.mp h)]
@[simp] theorem lastDepotOf_eq (i : Inst) (av : Nat → Bool) : lastDepotOf i av = !(anyIn i.K av) := by
  simp only [lastDepotOf, Params.mdcpdpLastDepotCmp, Cmp.evalNat]; exact cnt_zero_eq_not_any _ _
@[simp] theorem doneOf_eq (i : Inst) (av : Nat → Bool) : doneOf i av = !(anyIn i.N av) := by
  simp only [doneOf, Params.mdcpdpDoneCmp, Cmp.evalNat]; exact cnt_zero_eq_not_any _ _
@[simp] theorem pairOff_eq (i : Inst) : i.pairOff = i.h := by
  simp [Inst.pairOff, Inst.h, Params.mdcpdpPairDiv, Params.mdcpdpPdDiv]
theorem h_eq (i : Inst) : i.h = (i.N - i.K) / 2 := by simp [Inst.h, Params.mdcpdpPdDiv]
@[simp] theorem pickTest_eq (i : Inst) (a : Nat) : pickTest i a = decide (i.K ≤ a ∧ a < i.pd) := by
  simp [pickTest, Params.mdcpdpPickLtCmp, Params.mdcpdpPickGeCmp, Cmp.evalNat, Bool.and_comm]
@[simp] theorem delivTest_eq (i : Inst) (a : Nat) : delivTest i a = decide (i.pd ≤ a) := by
  simp [delivTest, Params.mdcpdpDelivGeCmp, Cmp.evalNat]
@[simp] theorem depotLeg_eq (i : Inst) (cur a : Nat) : depotLeg i cur a = decide (a < i.K ∧ cur < i.K) := by
  simp [depotLeg, Params.mdcpdpLegToCmp, Params.mdcpdpLegFromCmp, Cmp.evalNat]
@[simp] theorem openZero_eq (i : Inst) (cur a : Nat) :
    openZero i cur a = (i.openMode && decide (a < i.K) && decide (i.K ≤ cur)) := by
  simp [openZero, Params.mdcpdpOpenToCmp, Params.mdcpdpOpenFromCmp, Cmp.evalNat]
/-- the bundled generator does not emit one capacity per depot (obligation on `Params.mdcpdpGenCapPerDepot`) -/
theorem genCapLen_eq (numDepot : Nat) : genCapLen numDepot = 1 := by simp [genCapLen, Params.mdcpdpGenCapPerDepot]

/-- the source updates `current_depot` only on a return (obligation on `Params.mdcpdpDepotOnVisit`) -/
@[simp] theorem depotSel_asCoded (i : Inst) (back : Bool) (a : Nat) :
    depotSel Params.mdcpdpDepotOnVisit i back a = back := by
  simp [depotSel, Params.mdcpdpDepotOnVisit]

/-- the intended rule: `current_depot` follows every depot visit -/
theorem depotSel_true (i : Inst) (back : Bool) (a : Nat) : depotSel true i back a = decide (a < i.K) := rfl

theorem pd_eq (i : Inst) : i.pd = i.K + i.h := Nat.add_comm _ _

theorem upd_false_same {av : Nat → Bool} {a : Nat} (h : av a = false) : upd av a false = av :=
  h ▸ upd_self av a

/-- what `_step` adds to `current_length` for the move `cur → a` -/
def leg (i : Inst) (cur a : Nat) : Int :=
  if openZero i cur a then 0 else if depotLeg i cur a then 0 else i.D cur a

theorem leg_customer (i : Inst) (cur : Nat) {a : Nat} (h : ¬ a < i.K) : leg i cur a = i.D cur a := by
  simp [leg, h]

theorem leg_depot (i : Inst) (cur : Nat) {a : Nat} (h : a < i.K) :
    leg i cur a = if i.openMode then 0 else if cur < i.K then 0 else i.D cur a := by
  by_cases hc : cur < i.K
  · have : ¬ i.K ≤ cur := by omega
    simp [leg, h, hc, this]
  · have : i.K ≤ cur := by omega
    cases ho : i.openMode <;> simp [leg, h, hc, this, ho]

theorem leg_depots (i : Inst) {cur a : Nat} (h : a < i.K) (hc : cur < i.K) : leg i cur a = 0 := by
  rw [leg_depot i cur h, if_pos hc, ite_self]

section step
variable (tok : Bool) (i : Inst) (s : State) (a : Nat)

theorem stepF_cur : (stepF tok i s a).cur = a := rfl
theorem stepF_avail : (stepF tok i s a).avail = upd s.avail a false := rfl
theorem stepF_td : (stepF tok i s a).toDeliver = upd s.toDeliver ((a + i.h) % i.N) true := by
  rw [← pairOff_eq]; rfl
theorem stepF_carry : (stepF tok i s a).carry =
    s.carry + (if i.K ≤ a ∧ a < i.K + i.h then 1 else 0) - (if i.K + i.h ≤ a then 1 else 0) := by
  show s.carry + (if pickTest i a then 1 else 0) - (if delivTest i a then 1 else 0) = _
  simp only [pickTest_eq, delivTest_eq, decide_eq_true_eq, pd_eq]
theorem stepF_depot :
    (stepF tok i s a).depot = if depotSel tok i (backFlag i s a) a then a else s.depot := rfl
theorem stepF_done : (stepF tok i s a).done = !(anyIn i.N (upd s.avail a false)) := doneOf_eq _ _
theorem stepF_len : (stepF tok i s a).len =
    upd s.len (stepF tok i s a).depot (s.len (stepF tok i s a).depot + leg i s.cur a) := rfl
theorem stepF_arrive : (stepF tok i s a).arrive =
    upd s.arrive a ((stepF tok i s a).len (stepF tok i s a).depot) := rfl
theorem stepF_mask : (stepF tok i s a).mask =
    maskOf i (backFlag i s a) (stepF tok i s a).avail (stepF tok i s a).toDeliver (stepF tok i s a).carry
      (stepF tok i s a).depot (stepF tok i s a).done := rfl

end step

theorem stepF_carry_depot (tok : Bool) {i : Inst} (s : State) {a : Nat} (h : a < i.K) :
    (stepF tok i s a).carry = s.carry := by
  rw [stepF_carry, if_neg (by omega), if_neg (by omega)]; omega
theorem stepF_carry_pickup (tok : Bool) {i : Inst} (s : State) {a : Nat} (h1 : i.K ≤ a) (h2 : a < i.K + i.h) :
    (stepF tok i s a).carry = s.carry + 1 := by
  rw [stepF_carry, if_pos ⟨h1, h2⟩, if_neg (by omega)]; omega
theorem stepF_carry_delivery (tok : Bool) {i : Inst} (s : State) {a : Nat} (h : i.K + i.h ≤ a) :
    (stepF tok i s a).carry = s.carry - 1 := by
  rw [stepF_carry, if_neg (by omega), if_pos h]; omega

theorem stepF_congr {tok tok' : Bool} (i : Inst) (s : State) (a : Nat)
    (h : (stepF tok i s a).depot = (stepF tok' i s a).depot) : stepF tok i s a = stepF tok' i s a := by
  have h' : (if depotSel tok i (backFlag i s a) a then a else s.depot) =
      (if depotSel tok' i (backFlag i s a) a then a else s.depot) := h
  simp only [stepF, h']

theorem step_eq (i : Inst) (s : State) (a : Nat) : step i s a = stepF false i s a :=
  stepF_congr (tok := Params.mdcpdpDepotOnVisit) i s a (by rw [stepF_depot, stepF_depot, depotSel_asCoded]; rfl)

/-- the environment under the `current_depot` rule `tok`: `env` for the rule the source has, `envFixed` for the intended one -/
def envF (tok : Bool) : Env Inst State where
  reset := reset
  nAct i := i.N
  mask _ s a := s.mask a
  step := stepF tok
  done _ s := s.done

theorem env_eq : env = envF false := by
  have : step = stepF false := by funext i s a; exact step_eq i s a
  simp only [env, envF, this]

section mask
variable (i : Inst) (b : Bool) (av td : Nat → Bool) (c : Int) (d : Nat) (dn : Bool) {j : Nat}

theorem maskOf_cur (hd : d < i.K) :
    maskOf i b av td c d dn d = ((!b && anyIn i.K av && !decide (c > 0)) || dn) := by
  simp only [maskOf, capFlagOf_eq, carryFlagOf_eq, lastDepotOf_eq, hd, if_true, Bool.not_not]

theorem maskOf_depot (hj : j < i.K) (hne : j ≠ d) :
    maskOf i b av td c d dn j = (av j && td j && b && anyIn i.K av && !decide (c > 0)) := by
  simp only [maskOf, capFlagOf_eq, carryFlagOf_eq, lastDepotOf_eq, hj, hne, if_true, if_false, Bool.not_not]

theorem maskOf_pickup (h1 : i.K ≤ j) (h2 : j < i.K + i.h) :
    maskOf i b av td c d dn j = (av j && td j && !decide (c ≥ i.cap d) && !b) := by
  have : ¬ j < i.K := by omega
  have h2 : j < i.pd := by rw [pd_eq]; exact h2
  simp only [maskOf, capFlagOf_eq, this, h2, if_true, if_false]

theorem maskOf_delivery (h : i.K + i.h ≤ j) : maskOf i b av td c d dn j = (av j && td j && !b) := by
  have h1 : ¬ j < i.K := by omega
  have h2 : ¬ j < i.pd := by rw [pd_eq]; omega
  simp only [maskOf, h1, h2, if_false]

end mask

/-- orders on board: picked up, not yet delivered -/
def onb (i : Inst) (av : Nat → Bool) : Nat :=
  cnt i.h (fun k => !av (i.K + k) && av (i.K + i.h + k))

theorem onb_eq_zero {i : Inst} {av : Nat → Bool} (h : ∀ k, k < i.h → av (i.K + i.h + k) = av (i.K + k)) :
    onb i av = 0 := by
  apply cnt_eq_zero.mpr
  intro k hk
  rw [h k hk]
  exact Bool.not_and_self _

theorem onb_visit_depot (i : Inst) (av : Nat → Bool) {a : Nat} (h : a < i.K) :
    onb i (upd av a false) = onb i av := by
  apply cnt_congr
  intro k _
  show (!upd av a false (i.K + k) && upd av a false (i.K + i.h + k)) = _
  rw [upd_other _ _ _ _ (by omega), upd_other _ _ _ _ (by omega)]

/-- visiting the pickup or the delivery node of order `k` changes the `k`-th summand of `onb` only -/
theorem onb_visit_order (i : Inst) (av : Nat → Bool) {a k : Nat} (hk : k < i.h) (ha : a = i.K + k ∨ a = i.K + i.h + k) :
    onb i (upd av a false) + (if (!av (i.K + k) && av (i.K + i.h + k)) = true then 1 else 0) =
      onb i av + (if (!upd av a false (i.K + k) && upd av a false (i.K + i.h + k)) = true then 1 else 0) := by
  unfold onb
  rw [← cnt_upd (p := fun k => !av (i.K + k) && av (i.K + i.h + k)) hk]
  congr 1
  apply cnt_congr
  intro k' _
  by_cases hkk : k' = k
  · rw [hkk, upd_same]
  · rw [upd_other _ _ _ _ hkk, upd_other _ _ _ _ (by omega), upd_other _ _ _ _ (by omega)]

theorem onb_visit_pickup (i : Inst) {av : Nat → Bool} {p : Nat} (h1 : i.K ≤ p) (h2 : p < i.K + i.h)
    (hav : av p = true) (hdel : av (p + i.h) = true) : onb i (upd av p false) = onb i av + 1 := by
  obtain ⟨k, rfl⟩ := Nat.exists_eq_add_of_le h1
  rw [Nat.add_right_comm] at hdel
  have := onb_visit_order i av (Nat.lt_of_add_lt_add_left h2) (Or.inl rfl)
  rwa [upd_same, upd_other _ _ _ _ (by omega), hav, hdel] at this

theorem onb_visit_delivery (i : Inst) {av : Nat → Bool} {a : Nat} (h1 : i.K + i.h ≤ a) (h2 : a < i.K + 2 * i.h)
    (hpk : av (a - i.h) = false) (hav : av a = true) : onb i (upd av a false) + 1 = onb i av := by
  obtain ⟨k, rfl⟩ := Nat.exists_eq_add_of_le h1
  rw [Nat.add_right_comm, Nat.add_sub_cancel] at hpk
  have := onb_visit_order i av (by omega : k < i.h) (Or.inr rfl)
  rwa [upd_same, hpk, hav, Bool.and_false] at this

namespace Fixed

def stepX (i : Inst) (s : State) (a : Nat) : State := stepF true i s a

structure WFX (i : Inst) : Prop where
  wf     : WF i
  capPos : ∀ d, d < i.K → 1 ≤ i.cap d

/-- what holds of every reachable state (solo step, well-formed instance): the derived bookkeeping (`to_deliver`,
`current_carry`, `done`, the mask) is a function of `available`, `current_depot` and the phase bit -/
structure InvX (i : Inst) (s : State) : Prop where
  depK     : s.depot < i.K
  tdLow    : ∀ j, j < i.K + i.h → s.toDeliver j = true
  tdDel    : ∀ p, i.K ≤ p → p < i.K + i.h → s.toDeliver (p + i.h) = !s.avail p
  delAfter : ∀ p, i.K ≤ p → p < i.K + i.h → s.avail p = true → s.avail (p + i.h) = true
  carryEq  : s.carry = (onb i s.avail : Int)
  carryCap : s.carry ≤ i.cap s.depot
  doneEq   : s.done = !(anyIn i.N s.avail)
  -- `∃ b, Phase i b s` written out (`InvX.exists_phase`)
  phase    : (s.mask = (fun j => decide (j = 0)) ∧ (∀ j, s.avail j = true)) ∨
             (∃ b, s.mask = maskOf i b s.avail s.toDeliver s.carry s.depot s.done ∧ s.avail s.depot = false ∧
                (b = true → s.carry = 0 ∧ (s.done = false → anyIn i.K s.avail = true)))

end Fixed
open Fixed

/-- what the development under the rule `tok` asks of an instance: `WF`, and under the intended rule (where every depot
becomes the current one) every vehicle can carry an order -/
structure WFT (tok : Bool) (i : Inst) : Prop where
  wf     : WF i
  capPos : tok = true → ∀ d, d < i.K → 1 ≤ i.cap d

theorem WF.toT {i : Inst} (h : WF i) : WFT false i := ⟨h, fun h => nomatch h⟩
theorem Fixed.WFX.toT {i : Inst} (h : WFX i) : WFT true i := ⟨h.wf, fun _ => h.capPos⟩

/-- the mask after at least one step is the one `_step` assembles; `b` = the last step was a return -/
structure Stepped (i : Inst) (b : Bool) (s : State) : Prop where
  mask : s.mask = maskOf i b s.avail s.toDeliver s.carry s.depot s.done
  zero : s.avail s.depot = false
  home : b = true → s.carry = 0 ∧ (s.done = false → anyIn i.K s.avail = true)

/-- where a reachable state stands; `b` = no vehicle is out: the reset state (only node 0 is offered), or a state after
a return -/
def Phase (i : Inst) (b : Bool) (s : State) : Prop :=
  (b = true ∧ s.mask = (fun j => decide (j = 0)) ∧ ∀ j, s.avail j = true) ∨ Stepped i b s

theorem Fixed.InvX.exists_phase {i : Inst} {s : State} (hi : InvX i s) : ∃ b, Phase i b s := by
  rcases hi.phase with ⟨h1, h2⟩ | ⟨b, h1, h2, h3⟩
  · exact ⟨true, Or.inl ⟨rfl, h1, h2⟩⟩
  · exact ⟨b, Or.inr ⟨h1, h2, h3⟩⟩

/-- the invariant of reachable states under the rule `tok`: `InvX`; `current_depot` starts at depot 0 and, as coded, never
leaves it.  Under the intended rule it is known to be 0 only before the first step (second disjunct of `dep0`) — which is
where it is needed: there the mask is not yet the one `_step` assembles and offers node 0 alone. -/
structure InvT (tok : Bool) (i : Inst) (s : State) : Prop where
  invX : InvX i s
  dep0 : tok = false ∨ (∀ j, s.avail j = true) → s.depot = 0

abbrev Inv (i : Inst) (s : State) : Prop := InvT false i s

structure InvPh (tok : Bool) (i : Inst) (b : Bool) (s : State) : Prop where
  inv   : InvT tok i s
  phase : Phase i b s

theorem InvT.exists_ph {tok : Bool} {i : Inst} {s : State} (hi : InvT tok i s) : ∃ b, InvPh tok i b s :=
  hi.invX.exists_phase.imp fun _ hp => ⟨hi, hp⟩

theorem invT_reset {tok : Bool} (i : Inst) (hwf : WF i) : InvT tok i (reset i) := by
  have hev := hwf.even
  have hk := hwf.kpos
  have hav : ∀ j, (reset i).avail j = true := fun _ => rfl
  refine ⟨⟨?_, ?_, ?_, fun _ _ _ _ => rfl, ?_, ?_, ?_, Or.inl ⟨rfl, hav⟩⟩, fun _ => hwf.start0⟩
  · show i.start < i.K; rw [hwf.start0]; exact hk
  · intro j hj
    show decide (j < i.split0) = true
    rw [hwf.split]; exact decide_eq_true (by omega)
  · intro p h1 h2
    show decide (p + i.h < i.split0) = !true
    rw [hwf.split]; exact decide_eq_false (by omega)
  · show (0 : Int) = (onb i (reset i).avail : Int)
    rw [onb_eq_zero (fun _ _ => rfl)]; rfl
  · show (0 : Int) ≤ i.cap i.start
    have := hwf.cap0; rw [hwf.start0]; omega
  · show false = !(anyIn i.N (reset i).avail)
    rw [anyIn_eq_true.mpr ⟨0, hwf.depot_lt hk, rfl⟩]; rfl

theorem invPh_reset {tok : Bool} (i : Inst) (hwf : WF i) : InvPh tok i true (reset i) :=
  ⟨invT_reset i hwf, Or.inl ⟨rfl, rfl, fun _ => rfl⟩⟩

theorem avail_of_done {i : Inst} {s : State} (hi : InvX i s) (hd : s.done = true) :
    ∀ j, j < i.N → s.avail j = false := by
  have := hi.doneEq
  cases h : anyIn i.N s.avail with
  | false => exact anyIn_eq_false.mp h
  | true => rw [hd, h] at this; cases this

theorem exists_avail_of_not_done {i : Inst} {s : State} (hi : InvX i s) (hd : s.done = false) :
    ∃ j, j < i.N ∧ s.avail j = true := by
  apply anyIn_eq_true.mp
  have := hi.doneEq
  cases h : anyIn i.N s.avail with
  | true => rfl
  | false => rw [hd, h] at this; cases this

theorem carry_nonneg {i : Inst} {s : State} (hi : InvX i s) : 0 ≤ s.carry := by
  rw [hi.carryEq]; exact Int.natCast_nonneg _

theorem td_delivery {i : Inst} {s : State} (hi : InvX i s) {a : Nat} (h1 : i.K + i.h ≤ a)
    (h2 : a < i.K + 2 * i.h) : s.toDeliver a = !s.avail (a - i.h) := by
  obtain ⟨p, rfl⟩ := Nat.exists_eq_add_of_le' (Nat.le_trans (Nat.le_add_left _ _) h1)
  rw [Nat.add_sub_cancel]
  exact hi.tdDel p (by omega) (by omega)

/-- The actions the mask offers in a state of `Phase i b s`, by kind (`offered_of_mask`). -/
inductive Offered (i : Inst) (b : Bool) (s : State) : Nat → Prop
  /-- a depot whose vehicle has not started, while no vehicle is out -/
  | start {a : Nat} (haK : a < i.K) (hav : s.avail a = true) (hb : b = true) (hc : s.carry = 0) : Offered i b s a
  /-- the way home of the empty vehicle while some depot is left — or waiting at the depot once everything is done -/
  | home (hav : s.avail s.depot = false) (hc : s.carry = 0)
      (hb : (b = false ∧ anyIn i.K s.avail = true) ∨ s.done = true) : Offered i b s s.depot
  /-- a pickup that fits the vehicle -/
  | pickup {a : Nat} (h1 : i.K ≤ a) (h2 : a < i.K + i.h) (hb : b = false) (hav : s.avail a = true)
      (hcap : s.carry < i.cap s.depot) : Offered i b s a
  /-- the delivery of an order on board -/
  | deliver {a : Nat} (h : i.K + i.h ≤ a) (hb : b = false) (hav : s.avail a = true)
      (hpk : s.avail (a - i.h) = false) : Offered i b s a

theorem offered_of_mask {i : Inst} {b : Bool} {s : State} (hwf : WF i) (hi : InvX i s) (hp : Phase i b s)
    {a : Nat} (ha : a < i.N) (hm : s.mask a = true) : Offered i b s a := by
  have hev := hwf.even
  have hk := hwf.kpos
  have hc0 := carry_nonneg hi
  rcases hp with ⟨hb, hmk, hav⟩ | hst
  · -- from the reset state only node 0 is offered
    rw [hmk] at hm
    have ha0 : a = 0 := of_decide_eq_true hm
    subst ha0
    refine .start hk (hav 0) hb ?_
    rw [hi.carryEq, onb_eq_zero (fun k _ => by rw [hav, hav])]; rfl
  rw [hst.mask] at hm
  by_cases haK : a < i.K
  · by_cases had : a = s.depot
    · subst had
      rw [maskOf_cur _ _ _ _ _ _ _ haK] at hm
      simp only [Bool.or_eq_true, Bool.and_eq_true, Bool.not_eq_true', decide_eq_false_iff_not] at hm
      rcases hm with ⟨⟨hb, hany⟩, hc⟩ | hd
      · exact .home hst.zero (by omega) (Or.inl ⟨hb, hany⟩)
      · -- finished: nothing is available, so nothing is on board
        have hall := avail_of_done hi hd
        refine .home hst.zero ?_ (Or.inr hd)
        rw [hi.carryEq, onb_eq_zero (fun k hk' => by rw [hall _ (by omega), hall _ (by omega)])]; rfl
    · rw [maskOf_depot _ _ _ _ _ _ _ haK had] at hm
      simp only [Bool.and_eq_true, Bool.not_eq_true', decide_eq_false_iff_not] at hm
      exact .start haK hm.1.1.1.1 hm.1.1.2 (by omega)
  · by_cases hp : a < i.K + i.h
    · rw [maskOf_pickup _ _ _ _ _ _ _ (Nat.le_of_not_lt haK) hp] at hm
      simp only [Bool.and_eq_true, Bool.not_eq_true', decide_eq_false_iff_not] at hm
      exact .pickup (Nat.le_of_not_lt haK) hp hm.2 hm.1.1.1 (by omega)
    · have hp := Nat.le_of_not_lt hp
      rw [maskOf_delivery _ _ _ _ _ _ _ hp] at hm
      simp only [Bool.and_eq_true, Bool.not_eq_true'] at hm
      refine .deliver hp hm.2 hm.1.1 ?_
      -- deliverable, so its pickup has been visited
      have := td_delivery hi hp (hev ▸ ha)
      rw [hm.1.2] at this
      cases h : s.avail (a - i.h) with
      | false => rfl
      | true => rw [h] at this; cases this

section offered
variable {tok : Bool} {i : Inst} {b : Bool} {s : State} {a : Nat}

theorem backFlag_of_avail (h : s.avail a = true) : backFlag i s a = false := by
  rw [backFlag_eq, h]; exact Bool.and_false _

theorem backFlag_of_visited (hK : a < i.K) (h : s.avail a = false) : backFlag i s a = true := by
  rw [backFlag_eq, h, decide_eq_true hK]; rfl

theorem Offered.of_back (h : Offered i b s a) (hb : backFlag i s a = true) :
    a = s.depot ∧ s.avail a = false ∧ s.carry = 0 ∧ (s.done = false → anyIn i.K s.avail = true) := by
  rw [backFlag_eq] at hb
  simp only [Bool.and_eq_true, decide_eq_true_eq, Bool.not_eq_true'] at hb
  cases h with
  | start _ hav => rw [hav] at hb; cases hb.2
  | home hav hc hb' =>
    refine ⟨rfl, hav, hc, fun hd => ?_⟩
    rcases hb' with h | h
    · exact h.2
    · rw [hd] at h; cases h
  | pickup h1 => omega
  | deliver h => omega

theorem Offered.customer (hi : InvX i s) (h : Offered i b s a) (hK : i.K ≤ a) : b = false ∧ s.avail a = true := by
  have := hi.depK
  cases h with
  | start haK => omega
  | home => omega
  | pickup _ _ hb hav => exact ⟨hb, hav⟩
  | deliver _ hb hav => exact ⟨hb, hav⟩

theorem Offered.carry_depot (h : Offered i b s a) (hK : a < i.K) : s.carry = 0 := by
  cases h with
  | start _ _ _ hc => exact hc
  | home _ hc => exact hc
  | pickup h1 => omega
  | deliver h => omega

theorem Offered.pickup_visited (hi : InvX i s) (h : Offered i b s a) (hd : i.K + i.h ≤ a) : s.avail (a - i.h) = false := by
  have := hi.depK
  cases h with
  | start haK => omega
  | home => omega
  | pickup _ h2 => omega
  | deliver _ _ _ hpk => exact hpk

theorem Offered.depot (h : Offered i b s a) :
    (stepF tok i s a).depot = if tok = true ∧ a < i.K then a else s.depot := by
  rw [stepF_depot]
  cases tok with
  | true => simp [depotSel_true]
  | false =>
    have e : ¬ (false = true ∧ a < i.K) := fun h => Bool.noConfusion h.1
    rw [if_neg e]
    show (if backFlag i s a = true then a else s.depot) = s.depot
    split
    · exact (h.of_back (by assumption)).1
    · rfl

theorem depotSel_lt (h : depotSel tok i (backFlag i s a) a = true) : a < i.K := by
  cases tok with
  | true => exact of_decide_eq_true h
  | false =>
    have h : backFlag i s a = true := h
    rw [backFlag_eq, Bool.and_eq_true] at h
    exact of_decide_eq_true h.1

end offered

/-- `to_deliver[(a + h) % N]` is the delivery entry of the pickup `p` only when `a` is `p` itself -/
theorem td_step_pickup {i : Inst} (hwf : WF i) {a p : Nat} (ha : a < i.N) (h2 : p < i.K + i.h) :
    (p + i.h = (a + i.h) % i.N) ↔ p = a := by
  have hev := hwf.even
  by_cases hlt : a + i.h < i.N
  · rw [Nat.mod_eq_of_lt hlt]; exact ⟨Nat.add_right_cancel, fun h => h ▸ rfl⟩
  · obtain ⟨r, hr⟩ := Nat.exists_eq_add_of_le (Nat.le_of_not_lt hlt)
    rw [hr, Nat.add_mod_left, Nat.mod_eq_of_lt (by omega)]
    omega

section preservation
variable {tok : Bool} {i : Inst} {b : Bool} {s : State} {a : Nat}

theorem InvPh.offered (hwf : WFT tok i) (hi : InvPh tok i b s) (ha : a < i.N) (hm : s.mask a = true) :
    Offered i b s a :=
  offered_of_mask hwf.wf hi.inv.invX hi.phase ha hm

theorem stepped_stepF (hwf : WFT tok i) (hi' : InvPh tok i b s) (ha : a < i.N)
    (hm : s.mask a = true) : Stepped i (backFlag i s a) (stepF tok i s a) := by
  have hk := hi'.offered hwf ha hm
  have hi := hi'.inv
  have hp := hi'.phase
  refine ⟨stepF_mask tok i s a, ?_, fun hb => ?_⟩
  · -- the current depot is unavailable afterwards: it is the node just visited, or it was unavailable before
    have hz : s.depot ≠ a → s.avail s.depot = false := by
      intro hne
      rcases hp with ⟨_, hmk, hav⟩ | hst
      · rw [hmk] at hm
        exact absurd ((hi.dep0 (Or.inr hav)).trans (of_decide_eq_true hm).symm) hne
      · exact hst.zero
    rw [stepF_avail, stepF_depot]
    split
    · exact upd_same _ _ _
    · rw [upd_apply]
      split
      · rfl
      · exact hz (by assumption)
  · obtain ⟨had, hav, hc, hany⟩ := hk.of_back hb
    subst had
    rw [stepF_carry_depot tok s hi.invX.depK, stepF_done, stepF_avail, upd_false_same hav, ← hi.invX.doneEq]
    exact ⟨hc, hany⟩

theorem invT_stepF (hwf : WFT tok i) (hi : InvT tok i s) (ha : a < i.N) (hm : s.mask a = true) :
    InvT tok i (stepF tok i s a) := by
  have hev := hwf.wf.even
  obtain ⟨b, hp⟩ := hi.exists_ph
  have hk := hp.offered hwf ha hm
  have hx := hi.invX
  have hst := stepped_stepF hwf hp ha hm
  have hdep := hk.depot (tok := tok)
  have hc0 := carry_nonneg hx
  have hce := hx.carryEq
  -- `current_carry`, the orders on board and the capacity of the current vehicle, per kind of visit
  have hcarry : (stepF tok i s a).carry = (onb i (upd s.avail a false) : Int) ∧
      (stepF tok i s a).carry ≤ i.cap (stepF tok i s a).depot := by
    rw [hdep]
    cases hk with
    | start haK hav hb hc =>
      rw [stepF_carry_depot tok s haK, onb_visit_depot i _ haK, ← hx.carryEq]
      refine ⟨rfl, ?_⟩
      split
      · have := hwf.capPos (by assumption : _ ∧ _).1 a haK; omega
      · exact hx.carryCap
    | home hav hc hb =>
      rw [stepF_carry_depot tok s hx.depK, onb_visit_depot i _ hx.depK, ← hx.carryEq, ite_self]
      exact ⟨rfl, hx.carryCap⟩
    | pickup h1 h2 hb hav hcap =>
      rw [stepF_carry_pickup tok s h1 h2, onb_visit_pickup i h1 h2 hav (hx.delAfter _ h1 h2 hav), hx.carryEq,
        if_neg (by omega)]
      exact ⟨by omega, by omega⟩
    | deliver h hb hav hpk =>
      have := onb_visit_delivery i h (hev ▸ ha) hpk hav
      rw [stepF_carry_delivery tok s h, hx.carryEq, if_neg (by omega)]
      exact ⟨by omega, by have := hx.carryCap; omega⟩
  refine ⟨⟨?_, ?_, ?_, ?_, hcarry.1, hcarry.2, stepF_done tok i s a, Or.inr ⟨_, hst.mask, hst.zero, hst.home⟩⟩, ?_⟩
  · rw [stepF_depot]
    split
    · exact depotSel_lt (by assumption)
    · exact hx.depK
  · intro j hj
    rw [stepF_td, upd_apply]
    split
    · rfl
    · exact hx.tdLow j hj
  · intro p h1 h2
    rw [stepF_td, stepF_avail, upd_apply, upd_apply]
    by_cases hpa : p = a
    · subst hpa
      rw [if_pos ((td_step_pickup hwf.wf ha h2).mpr rfl), if_pos rfl]; rfl
    · rw [if_neg (fun h => hpa ((td_step_pickup hwf.wf ha h2).mp h)), if_neg hpa]
      exact hx.tdDel p h1 h2
  · intro p h1 h2 hav
    rw [stepF_avail, upd_apply] at hav ⊢
    by_cases hpa : p = a
    · rw [if_pos hpa] at hav; cases hav
    · rw [if_neg hpa] at hav
      by_cases hda : p + i.h = a
      · -- the delivery of an unvisited pickup is not offered
        have := hk.pickup_visited hx (by omega)
        rw [← hda, Nat.add_sub_cancel, hav] at this
        cases this
      · rw [if_neg hda]; exact hx.delAfter p h1 h2 hav
  · rintro (htok | hall)
    · rw [hdep, if_neg (by rw [htok]; exact fun h => Bool.noConfusion h.1)]
      exact hi.dep0 (Or.inl htok)
    · have := hall a
      rw [stepF_avail, upd_same] at this
      cases this

theorem invPh_stepF (hwf : WFT tok i) (hi : InvPh tok i b s) (ha : a < i.N) (hm : s.mask a = true) :
    InvPh tok i (backFlag i s a) (stepF tok i s a) :=
  ⟨invT_stepF hwf hi.inv ha hm, Or.inr (stepped_stepF hwf hi ha hm)⟩

theorem done_stepF (hi : InvX i s) (hd : s.done = true) (a : Nat) : (stepF tok i s a).done = true := by
  have hall := avail_of_done hi hd
  have : anyIn i.N (upd s.avail a false) = false := by
    apply anyIn_eq_false.mpr
    intro j hj
    rw [upd_apply]
    split
    · rfl
    · exact hall j hj
  rw [stepF_done, this]; rfl

theorem invT_of_reach (hwf : WFT tok i) (h : Reach (envF tok) i s) : InvT tok i s :=
  Rl4co.inv_of_reach (e := envF tok) (Inv := InvT tok i) (invT_reset i hwf.wf)
    (fun _ _ hi ha hmask => invT_stepF hwf hi ha hmask) h

end preservation

@[simp] theorem Fixed.step_cur (i : Inst) (s : State) (a : Nat) : (stepX i s a).cur = a := rfl

theorem Fixed.invX_of_reach {i : Inst} (hwf : WFX i) {s : State} (h : Reach envFixed i s) : InvX i s :=
  (invT_of_reach hwf.toT h).invX

theorem inv_step {i : Inst} {s : State} (hwf : WF i) (hi : Inv i s) {a : Nat} (ha : a < i.N)
    (hm : s.mask a = true) : Inv i (step i s a) := by
  rw [step_eq]; exact invT_stepF hwf.toT hi ha hm

theorem inv_of_reach {i : Inst} (hwf : WF i) {s : State} (h : Reach env i s) : Inv i s :=
  invT_of_reach hwf.toT (env_eq ▸ h)

end Rl4co.Mdcpdp
