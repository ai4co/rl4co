/-
Lemmas about the MDCPDP Spec on its own (no environment state): the equations of `simStep` on its five accepting branches; every
problem with a depot whose vehicle can carry one order has a feasible solution (the vehicle of depot 0 serves the orders one
after the other); the longest per-depot length is at most the total.  And the generator-facing clause: the instance the real
`_reset`/`_step` build from generator parameters is well-formed iff the capacity tensor has one entry per depot — with the
bundled generator (`genCapLen`) only for a single depot, with the repaired generator always.
-/
import Rl4co.Spec.Mdcpdp
import Rl4co.Proofs.Mdcpdp
import Rl4co.Core.Lists

namespace Rl4co.Mdcpdp
open Rl4co.Spec.Mdcpdp

section branches
variable {p : Problem} (v : Variant) {σ : Sim} {a d : Nat}

theorem simStep_start (he : σ.err = 0) (hN : a < p.N) (hK : a < p.K) (hno : a ∉ σ.opened) (hv : σ.veh = none) :
    simStep p v σ a =
      { σ with opened := a :: σ.opened, veh := some a, pos := a, clock := if v.perVehicle then 0 else σ.clock } := by
  have hN' : ¬ a ≥ p.N := by omega
  cases hpv : v.perVehicle <;> simp [simStep, he, hN', hK, hno, hv, hpv]

theorem simStep_wait (he : σ.err = 0) (hN : a < p.N) (hK : a < p.K) (hop : a ∈ σ.opened) (hv : σ.veh = none)
    (hp : σ.pos = a) : simStep p v σ a = σ := by
  have hN' : ¬ a ≥ p.N := by omega
  simp [simStep, he, hN', hK, hop, hv, hp]

theorem simStep_return (he : σ.err = 0) (hN : a < p.N) (hK : a < p.K) (hop : a ∈ σ.opened) (hv : σ.veh = some d)
    (hon : σ.onboard = []) (hhome : v.home = true → a = d) :
    simStep p v σ a =
      { σ with veh := none, pos := a,
               clock := σ.clock + (if p.openMode then 0 else if σ.pos < p.K then 0 else p.D σ.pos a),
               lens := addLen σ.lens (if v.perVehicle then d else 0)
                 (if p.openMode then 0 else if σ.pos < p.K then 0 else p.D σ.pos a) } := by
  have hN' : ¬ a ≥ p.N := by omega
  cases hh : v.home with
  | false => simp [simStep, he, hN', hK, hop, hv, hon, hh]
  | true =>
    have := hhome hh
    subst this
    simp [simStep, he, hN', hK, hop, hv, hon, hh]

theorem simStep_pickup (he : σ.err = 0) (hK : p.K ≤ a) (hP : a < p.K + p.h) (hv : σ.veh = some d)
    (hns : a ∉ σ.served) (hc : (σ.onboard.length : Int) + 1 ≤ (if v.ownCap then p.cap d else p.cap 0)) :
    simStep p v σ a =
      { σ with served := a :: σ.served, pos := a, clock := σ.clock + p.D σ.pos a,
               lens := addLen σ.lens (if v.perVehicle then d else 0) (p.D σ.pos a), onboard := a :: σ.onboard } := by
  have hN' : ¬ a ≥ p.N := by unfold Problem.N; omega
  have hK' : ¬ a < p.K := by omega
  have hc' : ¬ ((σ.onboard.length : Int) + 1 > (if v.ownCap then p.cap d else p.cap 0)) := by omega
  simp [simStep, he, hN', hK', hv, hns, hP, hc']

theorem simStep_deliver (he : σ.err = 0) (hN : a < p.N) (hP : p.K + p.h ≤ a) (hv : σ.veh = some d)
    (hns : a ∉ σ.served) (hon : a - p.h ∈ σ.onboard) :
    simStep p v σ a =
      { σ with served := a :: σ.served, pos := a, clock := σ.clock + p.D σ.pos a,
               lens := addLen σ.lens (if v.perVehicle then d else 0) (p.D σ.pos a),
               onboard := σ.onboard.erase (a - p.h), late := σ.late + (σ.clock + p.D σ.pos a) } := by
  have hN' : ¬ a ≥ p.N := by omega
  have hK' : ¬ a < p.K := by omega
  have hP' : ¬ a < p.K + p.h := by omega
  simp [simStep, he, hN', hK', hv, hns, hP', hon]

end branches

theorem fail_err (σ : Sim) (e : Nat) (he : σ.err = 0) (hne : e ≠ 0) : (σ.fail e).err ≠ 0 := by
  simp [Sim.fail, he, hne]

/-- the end-of-list checks (nothing on board, every customer served) do not depend on the variant -/
theorem simEnd_err_zero_iff (p : Problem) (v : Variant) {σ : Sim} (he : σ.err = 0) :
    (simEnd p v σ).err = 0 ↔
      σ.onboard = [] ∧ (List.range (2 * p.h)).all (fun k => decide (p.K + k ∈ σ.served)) = true := by
  rw [simEnd, if_neg (not_not_intro he)]
  by_cases hon : σ.onboard = []
  · rw [if_neg (not_not_intro hon)]
    cases hs : (List.range (2 * p.h)).all (fun k => decide (p.K + k ∈ σ.served)) with
    | false => exact iff_of_false (fail_err σ 8 he (by decide)) (fun h => nomatch h.2)
    | true =>
      refine iff_of_true ?_ ⟨hon, rfl⟩
      cases σ.veh with
      | none => exact he
      | some d => simp only [Bool.not_true, Bool.false_eq_true, if_false]; split <;> exact he
  · rw [if_pos hon]
    exact iff_of_false (fail_err σ 8 he (by decide)) (fun h => hon h.1)

/-- an error, once raised, stays: the simulation no longer moves -/
theorem simStep_err (p : Problem) (v : Variant) {σ : Sim} (h : σ.err ≠ 0) (a : Nat) : simStep p v σ a = σ := by
  rw [simStep, if_pos h]

theorem simEnd_err (p : Problem) (v : Variant) {σ : Sim} (h : σ.err ≠ 0) : simEnd p v σ = σ := by
  rw [simEnd, if_pos h]

theorem fold_err_sticky (p : Problem) (v : Variant) (as : List Nat) : ∀ σ : Sim, σ.err ≠ 0 →
    as.foldl (simStep p v) σ = σ := by
  induction as with
  | nil => intro σ _; rfl
  | cons a as ih =>
    intro σ h
    rw [List.foldl_cons, simStep_err p v h]
    exact ih σ h

theorem feasible_iff_err (p : Problem) (as : List Nat) :
    Feasible p as ↔ (simEnd p {} (as.foldl (simStep p {}) {})).err = 0 := beq_iff_eq

/-- the orders `j, j+1, …, h−1` served one after the other: pickup, delivery, pickup, delivery, … -/
def serialFrom (p : Problem) : Nat → Nat → List Nat
  | _, 0 => []
  | j, n + 1 => (p.K + j) :: (p.K + p.h + j) :: serialFrom p (j + 1) n

/-- the vehicle of depot 0 serves all orders one after the other -/
def serial (p : Problem) : List Nat := 0 :: serialFrom p 0 p.h

/-- The simulation state while `serial p` is replayed and order `j` is next: vehicle 0 is out, empty, with orders `< j` done. -/
structure Serving (p : Problem) (j : Nat) (σ : Sim) : Prop where
  err     : σ.err = 0
  veh     : σ.veh = some 0
  onboard : σ.onboard = []
  served  : ∀ x, x ∈ σ.served ↔ ∃ k, k < j ∧ (x = p.K + k ∨ x = p.K + p.h + k)

theorem serving_pair (p : Problem) (hc : 1 ≤ p.cap 0) (j : Nat) (hj : j < p.h) (σ : Sim) (h : Serving p j σ) :
    Serving p (j + 1) (simStep p {} (simStep p {} σ (p.K + j)) (p.K + p.h + j)) := by
  have hns : ∀ x, x = p.K + j ∨ x = p.K + p.h + j → x ∉ σ.served := by
    intro x hx hm
    obtain ⟨k, hk, h1⟩ := (h.served x).mp hm
    omega
  have hsub : p.K + p.h + j - p.h = p.K + j := by omega
  have hN : p.K + p.h + j < p.N := by unfold Problem.N; omega
  have hcap : (σ.onboard.length : Int) + 1 ≤ p.cap 0 := by rw [h.onboard]; exact hc
  have hns' : p.K + p.h + j ∉ (p.K + j) :: σ.served := fun hm => by
    rcases List.mem_cons.mp hm with e | hm
    · omega
    · exact hns _ (Or.inr rfl) hm
  rw [simStep_pickup {} h.err (Nat.le_add_right _ _) (by omega) h.veh (hns _ (Or.inl rfl)) hcap,
    simStep_deliver (d := 0) {} ?_ hN (Nat.le_add_right _ _) ?_ ?_ ?_]
  · refine ⟨h.err, h.veh, ?_, fun x => ?_⟩
    · show ((p.K + j) :: σ.onboard).erase (p.K + p.h + j - p.h) = []
      rw [hsub, List.erase_cons_head, h.onboard]
    · show x ∈ (p.K + p.h + j) :: (p.K + j) :: σ.served ↔ _
      rw [List.mem_cons, List.mem_cons, h.served x, Nat.exists_lt_succ_right, or_rotate, or_left_comm]
  · exact h.err
  · exact h.veh
  · exact hns'
  · rw [hsub]; exact List.mem_cons_self

theorem serving_fold (p : Problem) (hc : 1 ≤ p.cap 0) (n : Nat) : ∀ (j : Nat) (σ : Sim), j + n = p.h → Serving p j σ →
    Serving p p.h ((serialFrom p j n).foldl (simStep p {}) σ) := by
  induction n with
  | zero => intro j σ hj h; have : j = p.h := by omega
            subst this; exact h
  | succ n ih =>
    intro j σ hj h
    simp only [serialFrom, List.foldl_cons]
    exact ih (j + 1) _ (by omega) (serving_pair p hc j (by omega) σ h)

/-- **Every problem with a depot whose vehicle can carry one order has a feasible solution.** -/
theorem feasible_exists (p : Problem) (hK : 1 ≤ p.K) (hc : 1 ≤ p.cap 0) : Feasible p (serial p) := by
  have h0 : Serving p 0 (simStep p {} {} 0) := by
    rw [simStep_start {} rfl (by unfold Problem.N; omega) hK List.not_mem_nil rfl]
    exact ⟨rfl, rfl, rfl, fun x => ⟨fun h => absurd h List.not_mem_nil, fun ⟨_, hk, _⟩ => absurd hk (Nat.not_lt_zero _)⟩⟩
  have h := serving_fold p hc p.h 0 _ (by omega) h0
  refine (feasible_iff_err p _).mpr ((simEnd_err_zero_iff p {} h.err).mpr ⟨h.onboard, ?_⟩)
  simp only [List.all_eq_true, List.mem_range, decide_eq_true_eq]
  intro k hk
  apply (h.served _).mpr
  by_cases hkh : k < p.h
  · exact ⟨k, hkh, Or.inl rfl⟩
  · exact ⟨k - p.h, by omega, Or.inr (by omega)⟩

theorem maxList1_le_sum (l : List Int) (h : ∀ x ∈ l, 0 ≤ x) : Spec.Mdcpdp.maxList1 l ≤ l.sum := by
  induction l with
  | nil => simp [Spec.Mdcpdp.maxList1]
  | cons x xs ih =>
    have hx := h x (by simp)
    have hxs := ih (fun y hy => h y (by simp [hy]))
    cases xs with
    | nil => simp [Spec.Mdcpdp.maxList1]
    | cons y ys =>
      have hs : 0 ≤ (y :: ys).sum :=
        List.map_id (y :: ys) ▸ sum_map_nonneg (f := id) fun z hz => h z (by simp [hz])
      simp only [Spec.Mdcpdp.maxList1, List.sum_cons] at hxs hs ⊢
      omega

theorem objMinmax_le_objMinsum (p : Problem) (v : Variant) (as : List Nat)
    (h : ∀ x ∈ perDepot p v as, 0 ≤ x) : objMinmax p v as ≤ objMinsum p v as :=
  maxList1_le_sum _ h

/-- the instance the real `_reset` / `_step` build from generator parameters (`n` customers, `G` depots) when the
capacity tensor has `w` entries per row -/
def genInst (n G w : Nat) (cap : Nat → Int) (D : Nat → Nat → Int) : Inst :=
  { N := n + G, K := w, split0 := n / 2 + G, KG := G, cap := cap, D := D, openMode := false, wNum := 0, wDen := 1 }

/-- **repaired clause**: one capacity entry per depot ⇒ well-formed -/
theorem wf_generated_repaired (n G : Nat) (cap : Nat → Int) (D : Nat → Nat → Int) (hn : n % 2 = 0) (hG : 1 ≤ G)
    (hc : 1 ≤ cap 0) : WF (genInst n G G cap D) := by
  refine ⟨hG, ?_, ?_, rfl, hc, rfl⟩
  · show n + G = G + 2 * ((n + G - G) / 2)
    rw [Nat.add_sub_cancel, Nat.mul_div_cancel' (Nat.dvd_of_mod_eq_zero hn), Nat.add_comm]
  · show n / 2 + G = (n + G - G) / 2 + G
    rw [Nat.add_sub_cancel]

/-- **as generated** (capacity width `genCapLen G`, extracted from the source): well-formed iff there is one depot -/
theorem wf_generated_iff (n G : Nat) (cap : Nat → Int) (D : Nat → Nat → Int) (hn : n % 2 = 0) (hG : 1 ≤ G)
    (hc : 1 ≤ cap 0) : WF (genInst n G (genCapLen G) cap D) ↔ G = 1 := by
  rw [genCapLen_eq]
  constructor
  · intro h; have : G = 1 := h.kg; exact this
  · intro h; subst h; exact wf_generated_repaired n 1 cap D hn (by omega) hc

example : serial ⟨2, 2, fun _ => 1, fun _ _ => 1, false, 0, 1⟩ = [0, 2, 4, 3, 5] := by decide

end Rl4co.Mdcpdp
