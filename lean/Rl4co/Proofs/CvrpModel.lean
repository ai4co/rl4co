/-
The CVRP model (`Rl4co/Env/Cvrp.lean`) in the form the proofs use: what an admitted action says about the
state, what a step does to the load, and `done` as "every node visited"; the extracted comparison tokens
`Params.cvrpMaskCapCmp`, `Params.cvrpDoneCmp` enter the C01–C06 proofs through these lemmas; `routing`: the model is a
depot-routing environment (`Proofs/VisitedRow`), which carries the visit bookkeeping of C01, C02, C04, C05.  No Mathlib.
-/
import Rl4co.Env.Cvrp
import Rl4co.Proofs.VisitedRow

namespace Rl4co.Cvrp

theorem locOk_iff (i : Inst) (s : State) (j : Nat) :
    locOk i s j = true ↔ s.vis j = false ∧ i.demand j + s.used ≤ i.cap := by
  simp only [locOk, Params.cvrpMaskCapCmp, Cmp.eval, Bool.and_eq_true, Bool.not_eq_true',
    decide_eq_false_iff_not, Int.not_lt]

theorem anyLoc_iff (i : Inst) (s : State) : anyLoc i s = true ↔ ∃ k, k < i.n ∧ locOk i s (k + 1) = true := by
  simp only [anyLoc, List.any_eq_true, List.mem_range]

theorem anyLoc_eq_false_iff (i : Inst) (s : State) :
    anyLoc i s = false ↔ ∀ j, 1 ≤ j → j ≤ i.n → locOk i s j = false :=
  any_succ_eq_false

theorem mask_zero (i : Inst) (s : State) : mask i s 0 = !(s.cur == 0 && anyLoc i s) := rfl

theorem mask_of_ne (i : Inst) (s : State) {a : Nat} (h0 : a ≠ 0) :
    mask i s a = true ↔ s.vis a = false ∧ i.demand a + s.used ≤ i.cap := by
  rw [mask, if_neg h0, locOk_iff]

theorem mask_zero_iff (i : Inst) (s : State) : mask i s 0 = true ↔ (s.cur = 0 → anyLoc i s = false) := by
  simp only [mask_zero, Bool.not_eq_true', Bool.and_eq_false_iff, beq_eq_false_iff_ne, ne_eq]
  exact Decidable.imp_iff_not_or.symm

/-- `_step` selects the demand at `clamp(a - 1, 0, n - 1)`: in range the clamp does nothing (`Gen.clamp_index` is the same
fact for the integer clamp of the regenerated row) -/
theorem clamp_eq {n a : Nat} (h1 : a ≠ 0) (h2 : a < n + 1) : min (a - 1) (n - 1) + 1 = a := by
  obtain ⟨k, rfl⟩ := Nat.exists_eq_succ_of_ne_zero h1
  rw [Nat.succ_sub_one, Nat.min_eq_left (Nat.le_sub_one_of_lt (Nat.lt_of_succ_lt_succ h2))]

theorem step_used_of_ne (i : Inst) (s : State) {a : Nat} (h0 : a ≠ 0) (ha : a < i.n + 1) :
    (step i s a).used = s.used + i.demand a := by
  simp only [step, if_pos h0, clamp_eq h0 ha]

theorem step_used_zero (i : Inst) (s : State) : (step i s 0).used = 0 := rfl

theorem done_iff (i : Inst) (s : State) : done i s = true ↔ ∀ j, j < i.n + 1 → s.vis j = true := by
  simp only [done, Params.cvrpDoneCmp, Cmp.evalNat, decide_eq_true_eq, cnt_eq_n]

theorem routing : Routing.DepotRouting env Inst.n State.vis where
  nAct _ := rfl
  step_vis _ _ _ := rfl
  mask_customer i s _ h0 hm := ((mask_of_ne i s h0).1 hm).1
  done_iff i s := by simp only [env]; exact done_iff i s
  depot_offered i s := depot_offered_of_any (b := s.cur == 0) rfl

end Rl4co.Cvrp
