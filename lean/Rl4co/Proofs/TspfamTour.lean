/-
Laws of `roll1` / `closedLen` (Core/Tour) with which the C03 reward proofs of TSP, ATSP and PDP rewrite the code's
`gather / roll(-1) / sum`, leg by leg and as a sum; `closedLen_reverse` is also the C15 sanity theorem of that name.
Core only, no Mathlib.
-/
import Rl4co.Core.Tour

namespace Rl4co.Tspfam

theorem closedLen_reverse (D : Nat → Nat → Int) (hs : ∀ a b, D a b = D b a) (xs : List Nat) :
    closedLen D xs.reverse = closedLen D xs := by
  match xs with
  | [] => rfl
  | x :: r =>
    have h1 : (x :: r).reverse = roll1 (x :: r.reverse) := by simp [roll1]
    rw [h1, closedLen_roll1]
    show pathLen D (x :: r.reverse ++ [x]) = pathLen D (x :: r ++ [x])
    have h2 : x :: r.reverse ++ [x] = (x :: r ++ [x]).reverse := by simp
    rw [h2, pathLen_reverse D hs]

theorem zipWith_of_symm (D : Nat → Nat → Int) (hs : ∀ a b, D a b = D b a) (xs ys : List Nat) :
    List.zipWith (fun nxt c => D nxt c) ys xs = List.zipWith (fun a b => D a b) xs ys := by
  rw [List.zipWith_comm]
  exact congrArg (fun f => List.zipWith f xs ys) (funext fun a => funext fun b => hs b a)

/-- `get_tour_length` measures every leg from the next node back to the current one; for symmetric distances
its sum is the closed tour length -/
theorem sum_zipWith_roll1 (D : Nat → Nat → Int) (hs : ∀ a b, D a b = D b a) (xs : List Nat) :
    (List.zipWith (fun nxt c => D nxt c) (roll1 xs) xs).sum = closedLen D xs := by
  rw [zipWith_of_symm D hs, ← rollLen_eq_closedLen, rollLen]

theorem getElem?_roll1 {α : Type} (xs : List α) {k : Nat} (h : k < xs.length) :
    (roll1 xs)[k]? = xs[(k + 1) % xs.length]? := by
  cases xs with
  | nil => cases h
  | cons x r =>
    rw [roll1, List.length_cons]
    rcases Nat.lt_succ_iff_lt_or_eq.mp h with hk | hk
    · rw [List.getElem?_append_left hk, Nat.mod_eq_of_lt (Nat.succ_lt_succ hk), List.getElem?_cons_succ]
    · rw [hk, Nat.mod_self, List.getElem?_append_right (Nat.le_refl _), Nat.sub_self]
      rfl

/-- the `gather / roll(-1)` idiom leg by leg: leg `k` goes FROM `xs[k]` TO `xs[(k+1) mod len]` -/
theorem zipWith_roll1_legs (D : Nat → Nat → Int) (xs : List Nat) :
    List.zipWith (fun a b => D a b) xs (roll1 xs) =
      (List.range xs.length).map (fun k => D (xs.getD k 0) (xs.getD ((k + 1) % xs.length) 0)) := by
  apply List.ext_getElem?
  intro k
  rw [List.getElem?_zipWith', List.getElem?_map]
  by_cases hk : k < xs.length
  · rw [List.getElem?_range hk, getElem?_roll1 xs hk, Option.map_some, List.getD_eq_getElem?_getD,
      List.getD_eq_getElem?_getD, List.getElem?_eq_getElem hk,
      List.getElem?_eq_getElem (Nat.mod_lt _ (Nat.zero_lt_of_lt hk))]
    rfl
  · rw [List.getElem?_eq_none (Nat.le_of_not_lt hk),
      List.getElem?_eq_none (l := List.range xs.length) (by rw [List.length_range]; exact Nat.le_of_not_lt hk)]
    rfl

end Rl4co.Tspfam
