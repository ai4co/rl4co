/-
What the OP and PCTSP / SPCTSP environments have in common, proved once: a visited row that every
step marks at the chosen node, a step counter, `done` = "the depot was chosen after at least one
step", and a mask that hides every customer already visited and all customers once the depot is
marked.  `IsTour` extends `Routing.VisitedRow` (`Proofs/VisitedRow`: range, no customer twice, the visited row after a
run); the remaining equations give `done` absorbing, the step bound `max (n+1) 2`, the padding step, and the converse of
C01 for a canonical list (customers, then the return; `[0, 0]` for none).  No Mathlib.
-/
import Rl4co.Proofs.OpShared
import Rl4co.Proofs.VisitedRow

namespace Rl4co.Prize
variable {I S : Type}

/-- `vis s` is the visited row of state `s`, `ctr s` its step counter, `n i` the number of customers. -/
structure IsTour (e : Env I S) (n : I → Nat) (vis : S → Nat → Bool) (ctr : S → Nat) : Prop
    extends Routing.VisitedRow e n vis where
  reset_vis : ∀ i j, vis (e.reset i) j = false
  reset_ctr : ∀ i, ctr (e.reset i) = 0
  reset_done : ∀ i, e.done i (e.reset i) = false
  step_ctr : ∀ i s a, ctr (e.step i s a) = ctr s + 1
  step_done : ∀ i s a, e.done i (e.step i s a) = true ↔ a = 0 ∧ 0 < ctr s
  mask_depot : ∀ i s a, a ≠ 0 → e.mask i s a = true → vis s 0 = false

/-- what holds of every reachable state: a finished state has marked the depot and taken at least
two steps; while the depot is unmarked every step has visited a new customer; a state that marked
the depot without finishing did so at its first step -/
structure TourInv (e : Env I S) (n : I → Nat) (vis : S → Nat → Bool) (ctr : S → Nat) (i : I) (s : S) :
    Prop where
  done_vis : e.done i s = true → vis s 0 = true
  done_ctr : e.done i s = true → 2 ≤ ctr s
  ctr_le   : vis s 0 = false → ctr s + Routing.unvisited (n i) (vis s) ≤ n i
  ctr_one  : vis s 0 = true → e.done i s = false → ctr s = 1

namespace IsTour
variable {e : Env I S} {n : I → Nat} {vis : S → Nat → Bool} {ctr : S → Nat} {i : I}

theorem step_vis_depot (T : IsTour e n vis ctr) (s : S) {a : Nat} (h0 : a ≠ 0) :
    vis (e.step i s a) 0 = vis s 0 := by
  rw [T.step_vis, upd_other _ _ _ _ (Ne.symm h0)]

theorem depot_of_vis0 (T : IsTour e n vis ctr) {s : S} (hv : vis s 0 = true) {a : Nat}
    (hm : e.mask i s a = true) : a = 0 :=
  Classical.byContradiction fun h0 => by
    rw [T.mask_depot i s a h0 hm] at hv; cases hv

theorem count_le_one_of_run (T : IsTour e n vis ctr) {s s' : S} {as : List Nat}
    (h : Run e i s as s') (j : Nat) (hj : 1 ≤ j) : as.count j ≤ 1 :=
  Nat.le_trans (Nat.le_add_right _ _) (T.unmarked_of_run h j (Nat.ne_of_gt hj))

theorem ctr_of_run (T : IsTour e n vis ctr) {s s' : S} {as : List Nat} (h : Run e i s as s') :
    ctr s' = ctr s + as.length := by
  induction h with
  | nil => rfl
  | cons _ _ _ ih => rw [ih, T.step_ctr, List.length_cons, Nat.add_assoc, Nat.add_comm 1]

theorem inv_step (T : IsTour e n vis ctr) {s : S} {a : Nat} (h : TourInv e n vis ctr i s)
    (ha : a < e.nAct i) (hm : e.mask i s a = true) : TourInv e n vis ctr i (e.step i s a) := by
  by_cases h0 : a = 0
  · subst h0
    have hv : vis (e.step i s 0) 0 = true := by rw [T.step_vis, upd_same]
    refine ⟨fun _ => hv, fun hd => ?_, fun hf => ?_, fun _ hd => ?_⟩
    · rw [T.step_ctr]
      exact Nat.succ_le_succ ((T.step_done i s 0).mp hd).2
    · rw [hv] at hf; cases hf
    · have : ¬ 0 < ctr s := fun hp => by
        rw [(T.step_done i s 0).mpr ⟨rfl, hp⟩] at hd; cases hd
      rw [T.step_ctr, Nat.eq_zero_of_not_pos this]
  · have hv0 := T.mask_depot i s a h0 hm
    have hd' : e.done i (e.step i s a) = false :=
      Bool.eq_false_iff.mpr (fun h => h0 ((T.step_done i s a).mp h).1)
    have hv' : vis (e.step i s a) 0 = false := by rw [T.step_vis_depot s h0]; exact hv0
    refine ⟨fun hd => ?_, fun hd => ?_, fun _ => ?_, fun hv => ?_⟩
    · rw [hd'] at hd; cases hd
    · rw [hd'] at hd; cases hd
    · rw [T.step_ctr, Nat.add_assoc, Nat.add_comm 1, T.unvisited_step_customer h0 ha hm]
      exact h.ctr_le hv0
    · rw [hv'] at hv; cases hv

theorem inv_of_reach (T : IsTour e n vis ctr) {s : S} (h : Reach e i s) : TourInv e n vis ctr i s := by
  refine Rl4co.inv_of_reach (Inv := TourInv e n vis ctr i) ⟨?_, ?_, ?_, ?_⟩
    (fun _ _ hi ha hm => T.inv_step hi ha hm) h
  · intro h; rw [T.reset_done] at h; cases h
  · intro h; rw [T.reset_done] at h; cases h
  · intro _; rw [T.reset_ctr, Nat.zero_add]; exact Routing.unvisited_le _ _
  · intro h; rw [T.reset_vis] at h; cases h

theorem pad (T : IsTour e n vis ctr) {s : S} (hr : Reach e i s) (hd : e.done i s = true) {a : Nat}
    (hm : e.mask i s a = true) :
    a = 0 ∧ e.done i (e.step i s a) = true ∧
      ∀ b, b ≠ 0 → e.mask i (e.step i s a) b = e.mask i s b := by
  have hinv := T.inv_of_reach hr
  have hv := hinv.done_vis hd
  have h0 := T.depot_of_vis0 hv hm
  refine ⟨h0, (T.step_done i s a).mpr ⟨h0, Nat.lt_of_lt_of_le Nat.zero_lt_two (hinv.done_ctr hd)⟩,
    fun b hb => ?_⟩
  have hv' : vis (e.step i s a) 0 = true := by rw [T.step_vis, h0, upd_same]
  rw [Bool.eq_false_iff.mpr (fun hm => hb (T.depot_of_vis0 hv hm)),
    Bool.eq_false_iff.mpr (fun hm => hb (T.depot_of_vis0 hv' hm))]

theorem steps_le (T : IsTour e n vis ctr) {as : List Nat} {s : S}
    (h : RunND e i (e.reset i) as s) : as.length ≤ max (n i + 1) 2 := by
  rcases h.snoc_inv with rfl | ⟨as0, a, s0, rfl, h0, hd0, -, -, -⟩
  · exact Nat.zero_le _
  · have hinv := T.inv_of_reach ⟨as0, h0.run⟩
    have hc := T.ctr_of_run h0.run
    rw [T.reset_ctr] at hc
    rw [List.length_append, List.length_singleton]
    -- the last state stepped from is unfinished, so its counter is bounded by the invariant
    cases hv : vis s0 0 with
    | false =>
      have := hinv.ctr_le hv
      exact Nat.le_trans (by omega) (Nat.le_max_left _ _)
    | true =>
      have := hinv.ctr_one hv hd0
      exact Nat.le_trans (by omega) (Nat.le_max_right _ _)

theorem two_le_length_of_done (T : IsTour e n vis ctr) {as : List Nat} {s : S}
    (h : Run e i (e.reset i) as s) (hd : e.done i s = true) : 2 ≤ as.length := by
  have := (T.inv_of_reach ⟨as, h⟩).done_ctr hd
  rw [T.ctr_of_run h, T.reset_ctr] at this
  omega

/-- The converse of C01 for a canonical list `as` (customers, then the return; `[0, 0]` for no customer), in range and
without a repeated customer as the specification states it: from reset the customers are admitted one after the other as
long as the environment's own admission condition `Q` (state, customers still to come) is maintained
(`VisitedRow.run_of_admissible`; the depot stays unmarked along a list without a depot visit), and the return finishes the
episode if the depot is offered after every run over the customers of `as` (`hdep`; for the empty tour these are `[]` and
`[0]`: the code does not count a depot step at `ctr = 0` as a return). -/
theorem run_of_canonical (T : IsTour e n vis ctr) (Q : S → List Nat → Prop)
    (hQ : ∀ s c t, vis s 0 = false → vis s c = false → c ≠ 0 → c ≤ n i → Q s (c :: t) →
      e.mask i s c = true ∧ Q (e.step i s c) t)
    {as : List Nat} (hc : as = [0, 0] ∨ ∃ cs, cs ≠ [] ∧ (∀ c ∈ cs, c ≠ 0) ∧ as = cs ++ [0])
    (hr : ∀ a ∈ as, a ≤ n i) (ho : ∀ j, 1 ≤ j → j ≤ n i → as.count j ≤ 1)
    (hq : ∀ cs, as = cs ++ [0] → Q (e.reset i) cs)
    (hdep : ∀ cs s, (∀ j, 1 ≤ j → (j ∈ as ↔ j ∈ cs)) → Run e i (e.reset i) cs s → e.mask i s 0 = true) :
    ∃ s, Run e i (e.reset i) as s ∧ e.done i s = true := by
  have ha : 0 < e.nAct i := T.nAct i ▸ Nat.succ_pos _
  rcases hc with rfl | ⟨cs, hne, hnz, rfl⟩
  · have h1 := hdep [] _ (fun j hj => by simp; omega) (Run.nil _)
    have h2 := hdep [0] _ (fun j _ => by simp) (Run.cons ha h1 (Run.nil _))
    refine ⟨_, Run.cons ha h1 (Run.cons ha h2 (Run.nil _)), (T.step_done i _ 0).mpr ⟨rfl, ?_⟩⟩
    rw [T.step_ctr]
    exact Nat.succ_pos _
  · have hstep : T.StepKeeps i fun s cs => vis s 0 = false ∧ (∀ c ∈ cs, c ≠ 0) ∧ Q s cs := by
      intro s c t hr hf ⟨hv0, hnz, hq⟩
      have hc0 := hnz c List.mem_cons_self
      obtain ⟨hm, hq'⟩ := hQ s c t hv0 (hf.head hc0) hc0 (hr c List.mem_cons_self) hq
      exact ⟨hm, (T.step_vis_depot s hc0).trans hv0, fun d hd => hnz d (List.mem_cons_of_mem _ hd), hq'⟩
    obtain ⟨s, h⟩ := T.run_of_admissible hstep cs (e.reset i) (fun c hc => hr c (List.mem_append_left _ hc))
      (fun j hj => by
        rw [T.reset_vis]
        exact Nat.le_trans ((List.sublist_append_left cs [0]).count_le j)
          (count_le_one_of_range hr ho j (Nat.pos_of_ne_zero hj)))
      ⟨T.reset_vis i 0, hnz, hq cs rfl⟩
    refine ⟨_, h.snoc ha (hdep cs s (fun j hj => by simp; omega) h), (T.step_done i s 0).mpr ⟨rfl, ?_⟩⟩
    rw [T.ctr_of_run h]
    exact Nat.lt_of_lt_of_le (List.length_pos_iff.mpr hne) (Nat.le_add_left _ _)

end IsTour
end Rl4co.Prize
