/-
`WarmupBaseline.eval` (`Warmup.eval`) branch by branch: which of the two baselines is evaluated and what is returned,
as one equation per value of `alpha`.  Unfolding only; no law of the scalar type is used.
-/
import Rl4co.Train.Baselines

namespace Rl4co.Train.Warmup
variable {K : Type} [Add K] [Sub K] [Mul K] [Div K] [Zero K] [One K] [NatCast K] [DecidableEq K]
variable {beta : K} {st : St K} {inner : Ten (Dual K) × Dual K} {R : Ten (Dual K)}

theorem eval_inner (h1 : st.alpha = 1) : eval beta st inner R = some (inner.1, inner.2, st) := by
  unfold eval branch
  rw [if_pos h1]

theorem eval_warm (h1 : st.alpha ≠ 1) (h0 : st.alpha = 0) :
    eval beta st inner R = some ((Ema.eval beta st.ema R).1, (Ema.eval beta st.ema R).2.1,
      { st with ema := some (Ema.eval beta st.ema R).2.2 }) := by
  unfold eval branch
  rw [if_neg h1, if_pos h0]

theorem eval_both (h1 : st.alpha ≠ 1) (h0 : st.alpha ≠ 0) :
    eval beta st inner R =
      (Ten.bop (fun x y => x + y) (inner.1.map (Dual.smul st.alpha))
          ((Ema.eval beta st.ema R).1.map (Dual.smul (1 - st.alpha)))).map fun v =>
        (v, Dual.smul st.alpha inner.2 + Dual.smul (1 - st.alpha) (Ema.eval beta st.ema R).2.1,
          { st with ema := some (Ema.eval beta st.ema R).2.2 }) := by
  unfold eval branch
  rw [if_neg h1, if_neg h0]
  dsimp only
  cases Ten.bop (fun x y => x + y) (inner.1.map (Dual.smul st.alpha))
    ((Ema.eval beta st.ema R).1.map (Dual.smul (1 - st.alpha))) <;> rfl

end Rl4co.Train.Warmup
