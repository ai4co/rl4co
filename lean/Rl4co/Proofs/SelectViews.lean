/-
Lemmas of `minList` / `sumRange` (`Env/Flp.lean`) and of `maxList` / `allSeqs` (`Spec/SelectOpt.lean`), then the instances
of the generic selection argument (`Rl4co.Sel.View`) for FLP, MCP and DPP/MDPP with the model-specific invariants (what
`chosen`, `distances`, `membership`, `weights` are in terms of the history of selections).  No Mathlib.
-/
import Rl4co.Proofs.Select
import Rl4co.Spec.Flp
import Rl4co.Spec.Mcp
import Rl4co.Spec.Dpp
import Rl4co.Spec.SelectOpt

namespace Rl4co

/-- `minList` of a non-empty list is a member and a lower bound -/
theorem minList_spec {l : List Int} (h : l ≠ []) : minList l ∈ l ∧ ∀ b ∈ l, minList l ≤ b := by
  cases l with
  | nil => exact absurd rfl h
  | cons x xs => exact List.min?_eq_some_iff.mp rfl

theorem minList_le {l : List Int} {x : Int} (h : x ∈ l) : minList l ≤ x :=
  (minList_spec (List.ne_nil_of_mem h)).2 x h

theorem minList_map_mem {α : Type} (f : α → Int) {l : List α} (h : l ≠ []) :
    ∃ c ∈ l, f c = minList (l.map f) :=
  List.mem_map.mp (minList_spec fun h0 => h (List.map_eq_nil_iff.mp h0)).1

theorem minList_map_anti {α : Type} (f : α → Int) {l₁ l₂ : List α} (h2 : l₂ ≠ [])
    (h : ∀ c ∈ l₂, c ∈ l₁) : minList (l₁.map f) ≤ minList (l₂.map f) := by
  obtain ⟨c, hc, hv⟩ := minList_map_mem f h2
  rw [← hv]; exact minList_le (List.mem_map.mpr ⟨c, h c hc, rfl⟩)

/-- also for two empty lists, whose `minList` is the same `0` -/
theorem minList_map_congr {α : Type} (f : α → Int) {l₁ l₂ : List α} (h : ∀ c, c ∈ l₁ ↔ c ∈ l₂) :
    minList (l₁.map f) = minList (l₂.map f) := by
  cases l₁ with
  | nil => rw [List.eq_nil_iff_forall_not_mem.mpr fun c hc => nomatch (h c).mpr hc]
  | cons a l =>
    exact Int.le_antisymm
      (minList_map_anti f (List.ne_nil_of_mem ((h a).mp List.mem_cons_self)) fun c hc => (h c).mpr hc)
      (minList_map_anti f (List.cons_ne_nil a l) fun c hc => (h c).mp hc)

theorem le_maxList {l : List Int} {x : Int} (h : x ∈ l) : x ≤ maxList l := by
  have := minList_le (l := l.map (fun x => -x)) (x := -x) (List.mem_map.mpr ⟨x, h, rfl⟩)
  unfold maxList; omega

theorem maxList_mem {l : List Int} (h : l ≠ []) : maxList l ∈ l := by
  obtain ⟨y, hy, hyv⟩ := minList_map_mem (fun x => -x) h
  unfold maxList
  rw [← hyv, Int.neg_neg]; exact hy

theorem maxList_map_spec {α : Type} {l : List α} {F : α → Prop} (hl : ∀ a, a ∈ l ↔ F a) (f : α → Int)
    (hex : ∃ a, F a) : (∃ a, F a ∧ maxList (l.map f) = f a) ∧ ∀ a, F a → f a ≤ maxList (l.map f) := by
  obtain ⟨a0, h0⟩ := hex
  have hne : l.map f ≠ [] := fun h => List.ne_nil_of_mem ((hl a0).mpr h0) (List.map_eq_nil_iff.mp h)
  obtain ⟨a, ha, hv⟩ := List.mem_map.mp (maxList_mem hne)
  exact ⟨⟨a, (hl a).mp ha, hv.symm⟩, fun b hb => le_maxList (List.mem_map.mpr ⟨b, (hl b).mpr hb, rfl⟩)⟩

theorem mem_allSeqs (n q : Nat) (as : List Nat) :
    as ∈ allSeqs n q ↔ as.length = q ∧ ∀ a ∈ as, a < n := by
  induction q generalizing as with
  | zero =>
    simp only [allSeqs, List.mem_singleton]
    constructor
    · intro h; subst h; simp
    · intro h; exact List.length_eq_zero_iff.mp h.1
  | succ q ih =>
    simp only [allSeqs, List.mem_flatMap, List.mem_range, List.mem_map]
    constructor
    · rintro ⟨a, ha, bs, hbs, rfl⟩
      obtain ⟨h1, h2⟩ := (ih bs).mp hbs
      refine ⟨by simp [h1], ?_⟩
      intro x hx
      rcases List.mem_cons.mp hx with h | h
      · subst h; exact ha
      · exact h2 x h
    · rintro ⟨h1, h2⟩
      cases as with
      | nil => simp at h1
      | cons a bs =>
        refine ⟨a, h2 a (by simp), bs, (ih bs).mpr ⟨by simpa using h1, fun x hx => h2 x (by simp [hx])⟩, rfl⟩

theorem sumRange_succ (n : Nat) (f : Nat → Int) : sumRange (n + 1) f = sumRange n f + f n := by
  unfold sumRange
  rw [List.range_succ, List.map_append, List.sum_append, List.map_singleton, List.sum_singleton]

theorem sumRange_le {n : Nat} {f g : Nat → Int} (h : ∀ j, j < n → f j ≤ g j) :
    sumRange n f ≤ sumRange n g :=
  sum_map_le fun j hj => h j (List.mem_range.mp hj)

theorem sumRange_congr {n : Nat} {f g : Nat → Int} (h : ∀ j, j < n → f j = g j) :
    sumRange n f = sumRange n g :=
  congrArg List.sum (List.map_congr_left fun j hj => h j (List.mem_range.mp hj))

theorem sumRange_zero (n : Nat) : sumRange n (fun _ => 0) = 0 :=
  sum_map_zero (List.range n)

theorem sumRange_nonneg {n : Nat} {f : Nat → Int} (h : ∀ j, j < n → 0 ≤ f j) : 0 ≤ sumRange n f :=
  sum_map_nonneg fun j hj => h j (List.mem_range.mp hj)

theorem sumRange_neg (n : Nat) (f : Nat → Int) : sumRange n (fun j => - f j) = - sumRange n f := by
  induction n with
  | zero => rfl
  | succ n ih => rw [sumRange_succ, sumRange_succ, ih, Int.neg_add]

namespace Flp

def view : Sel.View env where
  quota i := i.quota
  allowed _ _ := true
  am s j := !s.chosen j
  ctr s := s.i
  mask_eq _ _ _ := rfl
  reset_am _ _ := rfl
  reset_ctr _ := rfl
  reset_done _ := rfl
  step_am _ s a j := apply_ite (!·) (j = a) true (s.chosen j)
  step_ctr _ _ _ := rfl
  step_done i s a := by
    simp only [env, done, step, Params.flpDoneCmp, Params.flpDoneOffset, Cmp.eval]

theorem chosen_eq_history (i : Inst) {as : List Nat} {s : State} (h : Run env i (env.reset i) as s)
    (j : Nat) : s.chosen j = decide (j ∈ as) ∧ env.mask i s j = !decide (j ∈ as) :=
  have hm : env.mask i s j = !decide (j ∈ as) := Sel.mask_eq_history view h j
  ⟨Bool.not_inj hm, hm⟩

theorem feasible_iff_sel (i : Inst) (as : List Nat) : Spec.Flp.Feasible i as ↔ Sel.Feasible view i as :=
  ⟨fun h => ⟨h.len, h.nodup, fun a ha => ⟨h.range a ha, rfl⟩⟩,
    fun h => ⟨h.len, h.nodup, fun a ha => (h.ok a ha).1⟩⟩

theorem mem_chosenIdx {i : Inst} {s : State} {as : List Nat} (h : Run env i (env.reset i) as s)
    (c : Nat) : c ∈ chosenIdx i.n s.chosen ↔ c ∈ as := by
  simp only [chosenIdx, List.mem_filter, List.mem_range, (chosen_eq_history i h c).1, decide_eq_true_eq]
  exact ⟨fun hh => hh.2, fun hh => ⟨((Sel.inv_of_run view h).ok c hh).1, hh⟩⟩

/-- with the axes of the source (both `1`): the minimum over the chosen rows, column `j`, is the
minimum over the selection list -/
theorem minOver_eq_nearest {i : Inst} {s : State} {as : List Nat} (h : Run env i (env.reset i) as s)
    (j : Nat) : minOver 1 1 i s.chosen j = Spec.Flp.nearest i as j :=
  minList_map_congr (fun c => i.D c j) (mem_chosenIdx h)

/-- `_step` gathers rows of the distance matrix and reduces over the gathered facilities (extracted axes) … -/
theorem curMinDist_eq (i : Inst) (chosen : Nat → Bool) (j : Nat) : curMinDist i chosen j = minOver 1 1 i chosen j := by
  rw [curMinDist, Params.flpStepGatherDim, Params.flpStepMinDim]

/-- … and so does `_get_reward` -/
theorem rewardMinDist_eq (i : Inst) (chosen : Nat → Bool) (j : Nat) :
    rewardMinDist i chosen j = minOver 1 1 i chosen j := by
  rw [rewardMinDist, Params.flpRewardGatherDim, Params.flpRewardMinDim]

end Flp

namespace Mcp

def view : Sel.View env where
  quota i := i.quota
  allowed _ _ := true
  am s j := !s.chosen j
  ctr s := s.i
  mask_eq _ _ _ := rfl
  reset_am _ _ := rfl
  reset_ctr _ := rfl
  reset_done _ := rfl
  step_am _ s a j := apply_ite (!·) (j = a) true (s.chosen j)
  step_ctr _ _ _ := rfl
  step_done i s a := by
    simp only [env, done, step, Params.mcpDoneCmp, Params.mcpDoneOffset, Cmp.eval]

theorem chosen_eq_history (i : Inst) {as : List Nat} {s : State} (h : Run env i (env.reset i) as s)
    (j : Nat) : s.chosen j = decide (j ∈ as) ∧ env.mask i s j = !decide (j ∈ as) :=
  have hm : env.mask i s j = !decide (j ∈ as) := Sel.mask_eq_history view h j
  ⟨Bool.not_inj hm, hm⟩

theorem feasible_iff_sel (i : Inst) (as : List Nat) : Spec.Mcp.Feasible i as ↔ Sel.Feasible view i as :=
  ⟨fun h => ⟨h.len, h.nodup, fun a ha => ⟨h.range a ha, rfl⟩⟩,
    fun h => ⟨h.len, h.nodup, fun a ha => (h.ok a ha).1⟩⟩

theorem coveredBy_iff (off nSets maxSize : Nat) (mem : Nat → Nat → Nat) (chosen : Nat → Bool) (x : Nat)
    (hoff : 0 < off) :
    coveredBy off nSets maxSize mem chosen x = true ↔
      ∃ j, j < nSets ∧ chosen j = true ∧ ∃ k, k < maxSize ∧ mem j k = x + off := by
  simp only [coveredBy, List.any_eq_true, List.mem_range, beq_iff_eq]
  constructor
  · rintro ⟨j, hj, k, hk, h⟩
    cases hc : chosen j
    · rw [hc, if_neg Bool.false_ne_true] at h; exact absurd h (Nat.ne_of_lt (Nat.lt_add_left x hoff))
    · rw [hc, if_pos rfl] at h; exact ⟨j, hj, hc, k, hk, h⟩
  · rintro ⟨j, hj, hc, k, hk, h⟩
    exact ⟨j, hj, k, hk, by rw [hc, if_pos rfl]; exact h⟩

theorem member_iff (i : Inst) (j x : Nat) :
    Spec.Mcp.member i j x = true ↔ ∃ k, k < i.maxSize ∧ i.mem j k = x + 1 := by
  simp only [Spec.Mcp.member, List.any_eq_true, List.mem_range, beq_iff_eq]

theorem covered_append (i : Inst) (h : List Nat) (a x : Nat) :
    Spec.Mcp.covered i (h ++ [a]) x = (Spec.Mcp.covered i h x || Spec.Mcp.member i a x) := by
  simp [Spec.Mcp.covered, List.any_append]

structure Inv2 (i : Inst) (s : State) (h : List Nat) : Prop where
  mem : ∀ j k, s.mem j k = if s.chosen j then 0 else i.mem j k
  wts : ∀ x, s.weights x = Spec.Mcp.uncoveredWeight i h x

/-- one step covers exactly the members of the selected set: the rows of the sets chosen before are
already blank in the current table -/
theorem step_covered {i : Inst} {s : State} (hmem : ∀ j k, s.mem j k = if s.chosen j then 0 else i.mem j k)
    {a : Nat} (ha : a < i.nSets) (hnot : s.chosen a = false) (x : Nat) :
    coveredBy Params.mcpStepItemOffset i.nSets i.maxSize s.mem (upd s.chosen a true) x =
      Spec.Mcp.member i a x := by
  rw [Bool.eq_iff_iff, coveredBy_iff _ _ _ _ _ _ (by decide : 0 < Params.mcpStepItemOffset), member_iff]
  simp only [Params.mcpStepItemOffset]
  constructor
  · rintro ⟨j, _, hc, k, hk, hjk⟩
    rw [hmem j k] at hjk
    by_cases hj : j = a
    · subst hj; simp only [hnot] at hjk; exact ⟨k, hk, by simpa using hjk⟩
    · simp only [upd_apply, hj, if_false] at hc
      simp [hc] at hjk
  · rintro ⟨k, hk, hak⟩
    exact ⟨a, ha, by simp, k, hk, by rw [hmem a k, hnot]; simpa using hak⟩

theorem inv2_of_run {i : Inst} {s : State} {as : List Nat} (h : Run env i (env.reset i) as s) :
    Inv2 i s as := by
  refine Rl4co.inv_of_run (e := env) (i := i) (Inv := Inv2 i) ⟨fun _ _ => rfl, fun _ => rfl⟩ ?_ h
  intro s h a h2 ha hm
  have hnot : s.chosen a = false := Bool.not_eq_true' .. ▸ hm
  constructor
  · intro j k
    simp only [env, step, upd_apply, Params.mcpKeepRemainingRows, if_true]
    by_cases hj : j = a
    · simp [hj]
    · simp only [hj, if_false, h2.mem j k]
      cases s.chosen j <;> simp
  · intro x
    show (step i s a).weights x = _
    simp only [step, step_covered h2.mem ha hnot, h2.wts x, Spec.Mcp.uncoveredWeight, covered_append]
    cases Spec.Mcp.covered i h x <;> cases Spec.Mcp.member i a x <;> simp

theorem coveredBy_orig_eq {i : Inst} {s : State} {as : List Nat} (h : Run env i (env.reset i) as s)
    (x : Nat) : coveredBy Params.mcpRewardItemOffset i.nSets i.maxSize i.mem s.chosen x =
      Spec.Mcp.covered i as x := by
  have hok := (Sel.inv_of_run view h).ok
  rw [Bool.eq_iff_iff, coveredBy_iff _ _ _ _ _ _ (by decide : 0 < Params.mcpRewardItemOffset)]
  simp only [Spec.Mcp.covered, List.any_eq_true, member_iff, Params.mcpRewardItemOffset,
    (chosen_eq_history i h _).1, decide_eq_true_eq]
  exact ⟨fun ⟨j, _, hc, hk⟩ => ⟨j, hc, hk⟩, fun ⟨j, hj, hk⟩ => ⟨j, (hok j hj).1, hj, hk⟩⟩

end Mcp

namespace Dpp

def allowed0 (i : Inst) (j : Nat) : Bool := (reset i).am j

def view : Sel.View env where
  quota i := i.quota
  allowed := allowed0
  am s := s.am
  ctr s := s.i
  mask_eq _ _ _ := rfl
  reset_am _ _ := rfl
  reset_ctr _ := rfl
  reset_done _ := rfl
  step_am _ _ _ _ := rfl
  step_ctr _ _ _ := rfl
  step_done i s a := by
    simp only [env, done, step, Params.dppDoneCmp, Params.dppDoneOffset, Cmp.eval]

/-- the instance contract `DPPEnv` relies on (its reset does not re-mask the probing port; the
bundled generator clears it): an instance mask never offers a probing port.  Not needed for MDPP. -/
def ProbeMasked (i : Inst) : Prop := ∀ j, i.probe j = true → i.avail j = false

theorem allowed0_eq_spec (i : Inst) (h : i.multi = true ∨ ProbeMasked i) (j : Nat) :
    allowed0 i j = Spec.Dpp.allowed i j := by
  simp only [allowed0, reset, Params.mdppResetProbeNegated, if_true, Spec.Dpp.allowed]
  rcases h with h | h
  · simp [h]
  · by_cases hm : i.multi = true
    · simp [hm]
    · simp only [hm, Bool.false_eq_true, if_false]
      cases hp : i.probe j
      · simp
      · simp [h j hp]

theorem feasible_iff_sel (i : Inst) (h : i.multi = true ∨ ProbeMasked i) (as : List Nat) :
    Spec.Dpp.Feasible i as ↔ Sel.Feasible view i as :=
  ⟨fun hf => ⟨hf.len, hf.nodup, fun a ha => ⟨hf.range a ha, (allowed0_eq_spec i h a).trans (hf.ok a ha)⟩⟩,
    fun hf => ⟨hf.len, hf.nodup, fun a ha => (hf.ok a ha).1,
      fun a ha => (allowed0_eq_spec i h a).symm.trans (hf.ok a ha).2⟩⟩

end Dpp
end Rl4co
