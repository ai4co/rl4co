/-
Obligations tying the PCTSP / SPCTSP model to the tokens and expressions regenerated from the source
(`Generated/Params.lean`, probes in `harness/probes/prize.py`).  Every lemma here is `rfl` or a one-line
`simp` on the extracted value: a source edit that changes a token or the shape of an expression makes
the lemma — and with it every property module of the family, which imports this file — fail at
`lake build`.  No Mathlib.
-/
import Rl4co.Env.Pctsp

namespace Rl4co.Pctsp
open Rl4co.Prize

/-- `_reset`: the stochastic env collects the stochastic prize, the deterministic env the deterministic one -/
theorem realPrize_eq (i : Inst) : realPrize i = if i.stochastic then i.stoPrize else i.detPrize := by
  simp [realPrize, Params.pctspStoBranchReadsSto, Params.pctspDetBranchReadsDet]

/-- `_step` accumulates the REAL prize (not the expected prize shown to the policy) -/
theorem stepPrize_eq (i : Inst) : stepPrize i = realPrize i := by
  simp [stepPrize, Params.pctspStepGathersReal]

/-- the checker sums the REAL prize -/
theorem checkPrize_eq (i : Inst) : checkPrize i = realPrize i := by
  simp [checkPrize, Params.pctspCheckGathersReal]

/-- `PCTSPEnv._stochastic = False`: PCTSP collects the deterministic prize … -/
theorem pctsp_real_is_det (i : Inst) :
    realPrize { i with stochastic := Params.pctspClassStochastic } = i.detPrize := by
  simp [realPrize_eq, Params.pctspClassStochastic]

/-- … `SPCTSPEnv._stochastic = True`: SPCTSP collects the stochastic prize. -/
theorem spctsp_real_is_sto (i : Inst) :
    realPrize { i with stochastic := Params.spctspClassStochastic } = i.stoPrize := by
  simp [realPrize_eq, Params.spctspClassStochastic]

theorem step_tot_generated (i : Inst) (s : State) (a : Nat) :
    (step i s a).tot = Params.pctspStepPrizeExpr s.tot (padded (stepPrize i) a) := rfl

theorem step_penTot_generated (i : Inst) (s : State) (a : Nat) :
    (step i s a).penTot = Params.pctspStepPenaltyExpr s.penTot (padded i.pen a) := rfl

theorem step_i_generated (i : Inst) (s : State) (a : Nat) :
    (step i s a).i = Params.pctspStepCounterExpr s.i := rfl

theorem mask_customer_generated (i : Inst) (s : State) (a : Nat) (h : a ≠ 0) :
    mask i s a = !(Params.pctspMaskOrExpr (s.vis a) (s.vis 0)) := by
  simp [mask, h, Params.pctspMaskOrExpr]

theorem reward_generated (i : Inst) (as : List Nat) :
    reward i as = if rewardSpecial as then 0
      else Params.pctspRewardExpr (gatherSum i.pen as) (rollLen i.D (0 :: as)) (totalPenalty i) := rfl

theorem step_tot (i : Inst) (s : State) (a : Nat) :
    (step i s a).tot = s.tot + padded (realPrize i) a := by
  rw [step_tot_generated, stepPrize_eq]; rfl

theorem step_i (i : Inst) (s : State) (a : Nat) : (step i s a).i = s.i + 1 := by
  rw [step_i_generated]; rfl

end Rl4co.Pctsp
