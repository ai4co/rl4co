/-
C09, action builder of the k-opt branch (`TSPkoptEnv._random_action` for k_max > 2 and the identical loop
inside `NeuOptPolicy.forward`): the invariants of the sequential builder (`RunInv` while the move is open, `StopInv`
once it is closed and padded) give the emitted action a canonical shape, and an action of that shape is a well-formed
segment-reversal move (`wf_of_canonical`).  Core Lean only.
-/
import Rl4co.Proofs.ImproveCycle

namespace Rl4co.Improve.KoptGen
open Rl4co.Spec.Improve

/-- `visited_time_tag` of the action builder: position relative to the first selected node -/
def tagFn (n : Nat) (vt : Nat → Nat) (a0 : Nat) : Nat → Nat := fun j => (vt j + n - vt a0 % n) % n

/-- in `tag_pos`, `v` is a `visited_time` stamp and `w` the number of nodes from the depot to the end of the listing read
from `a0` (`w = n` when `a0` is the depot) -/
theorem shift_mod_cancel (n w i v : Nat) (hwn : w ≤ n) (hi : i < n) (hv : v % n = (i + w) % n) :
    (v + n - w % n) % n = i := by
  have hle : w % n ≤ n := Nat.le_trans (Nat.mod_le w n) hwn
  rw [Nat.add_sub_assoc hle, ← Nat.mod_add_mod, hv, Nat.mod_add_mod]
  rcases Nat.lt_or_ge w n with h | h
  · rw [Nat.mod_eq_of_lt h, Nat.add_assoc, Nat.add_sub_cancel' hwn, Nat.add_mod_right, Nat.mod_eq_of_lt hi]
  · have : w = n := Nat.le_antisymm hwn h
    rw [this, Nat.mod_self, Nat.sub_zero, Nat.add_mod_right, Nat.add_mod_right, Nat.mod_eq_of_lt hi]

theorem tag_pos (n : Nat) (r : Rec) (a0 : Nat) (X : List Nat)
    (hperm : (a0 :: X).Perm (List.range n)) (hcyc : CycleOf r (a0 :: X)) {z : Nat} (hz : z ∈ a0 :: X) :
    tagFn n (visitedTime n r) a0 z = (a0 :: X).idxOf z := by
  have hn : 0 < n := by rw [← length_of_perm_range hperm]; exact Nat.succ_pos _
  -- cut the listing at the depot: the tour read from the depot is the two parts swapped
  obtain ⟨U, V, hUV⟩ := List.append_of_mem ((mem_of_perm_range hperm 0).mpr hn)
  rw [hUV] at hperm hcyc hz ⊢
  have hlen := length_of_perm_range hperm
  have hlenUV : U.length + (0 :: V).length = n := by rw [← hlen, List.length_append]
  have hpos : ∀ y, y ∈ U ++ 0 :: V →
      visitedTime n r y % n = ((U ++ 0 :: V).idxOf y + (0 :: V).length) % n := by
    intro y hy
    rw [vt_mod n r (V ++ U) ((List.perm_append_comm (l₁ := 0 :: V)).trans hperm)
      ((cycleOf_rotate r U (0 :: V)).mp hcyc) ((mem_of_perm_range hperm y).mp hy), ← hlenUV]
    exact idxOf_rotate U (0 :: V) (nodup_of_perm_range hperm) hy
  have hpa := hpos a0 (by rw [← hUV]; exact List.mem_cons_self)
  rw [show (U ++ 0 :: V).idxOf a0 = 0 by rw [← hUV, List.idxOf_cons_self], Nat.zero_add] at hpa
  unfold tagFn
  rw [hpa]
  exact shift_mod_cancel n _ _ _ (by omega) (hlen ▸ List.idxOf_lt_length_of_mem hz) (hpos z hz)

theorem map_range_succ {α : Type} (f : Nat → α) (k : Nat) :
    (List.range (k + 1)).map f = (List.range k).map f ++ [f k] := by
  rw [List.range_succ, List.map_append]; rfl

theorem map_range_init {α : Type} (f : Nat → α) (k : Nat) (L : List α) (x : α)
    (h : (List.range (k + 1)).map f = L ++ [x]) : (List.range k).map f = L ∧ f k = x := by
  rw [map_range_succ] at h
  have := List.append_inj' h rfl
  exact ⟨this.1, List.singleton_inj.mp this.2⟩

theorem map_range_snoc {α : Type} (F f : Nat → α) (k : Nat) (L : List α) (v : α)
    (hpre : (List.range k).map f = L) (hF : ∀ t, t < k → F t = f t) (hv : F k = v) :
    (List.range (k + 1)).map F = L ++ [v] := by
  rw [map_range_succ, hv, ← hpre]
  exact congrArg (· ++ [v]) (List.map_congr_left fun t ht => hF t (List.mem_range.mp ht))

section fields
variable (n K : Nat) (r : Rec) (vt : Nat → Nat) (i : Nat) (g : GenState) (c : Nat)

theorem genStep_continue (hns : g.stopped = false) (hne : g.nextOfLast ≠ some c) :
    (genStep n K r vt (i + 1) g c).actionIndex = g.actionIndex ++ [c] ∧
    (genStep n K r vt (i + 1) g c).stopped = false ∧
    (genStep n K r vt (i + 1) g c).kLeft = upd g.kLeft (i + 1 + 1) (r c) ∧
    (genStep n K r vt (i + 1) g c).kRight = upd g.kRight i c ∧
    (genStep n K r vt (i + 1) g c).nextOfLast = some (r c) ∧
    (genStep n K r vt (i + 1) g c).tag = g.tag ∧
    ∀ z, (genStep n K r vt (i + 1) g c).mask z = false → g.tag c < g.tag z ∨ z = r c := by
  have hb : (g.nextOfLast == some c) = false := by simpa using hne
  simp [genStep, hns, hb]
  intro z hz
  by_cases hcond : r c = g.actionIndex.head?.getD c
  · rw [if_pos hcond] at hz
    by_cases hza : z = g.actionIndex.head?.getD c
    · exact Or.inr (hza.trans hcond.symm)
    · left
      simp [upd, hza] at hz
      exact hz
  · rw [if_neg hcond] at hz
    left
    simpa using hz

theorem genStep_close (hns : g.stopped = false) (he : g.nextOfLast = some c) :
    (genStep n K r vt (i + 1) g c).actionIndex = g.actionIndex ++ [c] ∧
    (genStep n K r vt (i + 1) g c).stopped = true ∧
    (genStep n K r vt (i + 1) g c).kLeft = upd (upd g.kLeft (i + 1 + 1) (r c)) (i + 1) (g.kLeft i) ∧
    (genStep n K r vt (i + 1) g c).kRight = upd (upd g.kRight i c) (i + 1) c := by
  have hb : (g.nextOfLast == some c) = true := by simp [he]
  have h1 : i ≠ i + 1 + 1 := by omega
  simp [genStep, hns, hb, upd, h1]

theorem genStep_forced (hs : g.stopped = true) :
    (genStep n K r vt (i + 1) g c).actionIndex = g.actionIndex ++ [g.actionIndex.headD 0] ∧
    (genStep n K r vt (i + 1) g c).stopped = true ∧
    (genStep n K r vt (i + 1) g c).kLeft =
      upd (upd (upd g.kLeft (i + 1) (g.actionIndex.headD 0)) (i + 1 + 1) (r (g.actionIndex.headD 0))) (i + 1)
        (g.kLeft i) ∧
    (genStep n K r vt (i + 1) g c).kRight = upd g.kRight (i + 1) (g.kRight i) := by
  have h1 : i ≠ i + 1 + 1 := by omega
  simp [genStep, hs, upd, h1]

/-- the first sub-step: the mask of the first node is only lifted when it is its own successor -/
theorem genStep_first (mask0 : Nat → Bool) :
    (genStep n K r vt 0 { mask := mask0 } c).actionIndex = [c] ∧
    (genStep n K r vt 0 { mask := mask0 } c).stopped = false ∧
    (genStep n K r vt 0 { mask := mask0 } c).nextOfLast = some (r c) ∧
    (genStep n K r vt 0 { mask := mask0 } c).kLeft = upd (upd (fun _ => 0) 0 c) 1 (r c) ∧
    (genStep n K r vt 0 { mask := mask0 } c).tag = tagFn n vt c ∧
    ((genStep n K r vt 0 { mask := mask0 } c).mask c = false → r c = c) := by
  simp only [genStep]
  refine ⟨by simp, by simp, by simp, by simp, rfl, fun h => ?_⟩
  refine Decidable.byContradiction fun hne => ?_
  simp [hne] at h

theorem genStep_admitted :
    (genStep n K r vt i g c).admitted =
      (g.admitted && ((decide (i > 0) && g.stopped) || !(g.mask c)) && decide (c < n)) := rfl

theorem genAction_open (hns : g.stopped = false) : genAction K g =
    (g.actionIndex, (List.range K).map g.kLeft, (List.range K).map (upd g.kRight (K - 1) (g.kLeft K))) := by
  simp only [genAction, hns, Bool.false_eq_true, if_false]

theorem genAction_stopped (hs : g.stopped = true) : genAction K g =
    (g.actionIndex, (List.range K).map g.kLeft, (List.range K).map g.kRight) := by
  simp only [genAction, hs, if_true]

end fields

section inv
variable (n K : Nat) (r : Rec) (a0 : Nat) (X : List Nat)

/-- after `i + 1` sampled nodes, move still open: the tour read from `a0` is `a0, S₁ … S_i, Y`; the selected
nodes are `a0` and the last nodes of the segments.  The columns of `k_action_left` / `k_action_right` filled so far are
kept as lists, `(List.range k).map g.kLeft`: a step that writes column `k` extends the list (`map_range_snoc`), reading
back the last column cuts it (`map_range_init`). -/
structure RunInv (i : Nat) (g : GenState) (segs : List (List Nat)) (Y : List Nat) : Prop where
  dec : X = segs.flatten ++ Y
  ne : ∀ S ∈ segs, S ≠ []
  idx : g.actionIndex = a0 :: segs.map (·.getLastD a0)
  ns : g.stopped = false
  nol : g.nextOfLast = some (closeNode a0 Y)
  kl : (List.range (i + 2)).map g.kLeft = a0 :: (segs.map (·.headD a0) ++ [closeNode a0 Y])
  kr : (List.range i).map g.kRight = segs.map (·.getLastD a0)
  msk : ∀ c, c < n → g.mask c = false → c ∈ Y ∨ c = closeNode a0 Y
  tag : g.tag = tagFn n (visitedTime n r) a0

/-- after `j + 1` sampled nodes, move closed and padded `pad` times since: the last link is repeated in the
columns `segs.length + 1 .. j` -/
structure StopInv (j : Nat) (g : GenState) (segs : List (List Nat)) (Y : List Nat) (pad : Nat) : Prop where
  dec : X = segs.flatten ++ Y
  ne : ∀ S ∈ segs, S ≠ []
  st : g.stopped = true
  idx : g.actionIndex = a0 :: (segs.map (·.getLastD a0) ++ closeNode a0 Y :: List.replicate pad a0)
  kl : (List.range (j + 1)).map g.kLeft = (a0 :: segs.map (·.headD a0)) ++
      List.replicate (pad + 1) ((a0 :: segs.map (·.headD a0)).getLastD a0)
  kr : (List.range (j + 1)).map g.kRight = (segs.map (·.getLastD a0) ++ [closeNode a0 Y]) ++
      List.replicate (pad + 1) (closeNode a0 Y)

variable {n K r a0 X}
variable (hperm : (a0 :: X).Perm (List.range n)) (hcyc : CycleOf r (a0 :: X))
include hperm hcyc

theorem run_step_continue {i : Nat} {g : GenState} {segs : List (List Nat)} {Y : List Nat}
    (h : RunInv n r a0 X i g segs Y) (c : Nat) (hc : c < n) (hm : g.mask c = false)
    (hne : c ≠ closeNode a0 Y) :
    ∃ S Y', RunInv n r a0 X (i + 1) (genStep n K r (visitedTime n r) (i + 1) g c) (segs ++ [S]) Y' := by
  have hnd := nodup_of_perm_range hperm
  have hcY : c ∈ Y := (h.msk c hc hm).resolve_right hne
  obtain ⟨Y1, Y', hY⟩ := List.append_of_mem hcY
  refine ⟨Y1 ++ [c], Y', ?_⟩
  have hnol : g.nextOfLast ≠ some c := by rw [h.nol]; intro e; exact hne (Option.some.inj e).symm
  obtain ⟨f1, f2, f3, f4, f5, f6, f7⟩ := genStep_continue n K r (visitedTime n r) i g c h.ns hnol
  have hXdec : X = (segs.flatten ++ Y1) ++ c :: Y' := by rw [h.dec, hY, List.append_assoc]
  have hX' : a0 :: X = (a0 :: (segs.flatten ++ Y1)) ++ c :: Y' := by rw [hXdec]; rfl
  have hrc : r c = closeNode a0 Y' := cycleOf_link r a0 X _ c Y' hcyc hX'
  have hhdY : closeNode a0 Y = (Y1 ++ [c]).headD a0 := by
    rw [hY]; cases Y1 <;> rfl
  constructor
  case dec =>
    rw [hXdec, List.flatten_append, List.flatten_singleton, List.append_assoc, List.append_assoc,
      List.append_assoc]; rfl
  case ne =>
    intro S hS
    rcases List.mem_append.mp hS with hS | hS
    · exact h.ne S hS
    · rw [List.mem_singleton.mp hS]; exact List.concat_ne_nil _ _
  case idx => rw [f1, h.idx, List.map_append, List.map_singleton, List.getLastD_concat]; rfl
  case ns => exact f2
  case nol => rw [f5, hrc]
  case kl =>
    rw [f3]
    refine (map_range_snoc _ g.kLeft (i + 2) _ _ h.kl (fun t ht => upd_other _ _ _ _ (Nat.ne_of_lt ht))
      (upd_same _ _ _)).trans ?_
    rw [hrc, List.map_append, List.map_singleton, hhdY]
    simp
  case kr =>
    rw [f4]
    refine (map_range_snoc _ g.kRight i _ _ h.kr (fun t ht => upd_other _ _ _ _ (Nat.ne_of_lt ht))
      (upd_same _ _ _)).trans ?_
    rw [List.map_append, List.map_singleton, List.getLastD_concat]
  case msk =>
    intro z hz hmz
    rcases f7 z hmz with htag | hzr
    · left
      have hzm : z ∈ a0 :: X := (mem_of_perm_range hperm z).mpr hz
      have hcm : c ∈ a0 :: X := (mem_of_perm_range hperm c).mpr hc
      rw [h.tag, tag_pos n r a0 X hperm hcyc hcm, tag_pos n r a0 X hperm hcyc hzm] at htag
      rw [hX'] at htag hzm hnd
      exact mem_right_of_idxOf_lt hnd hzm htag
    · exact Or.inr (hzr.trans hrc)
  case tag => rw [f6, h.tag]

omit hperm hcyc in
theorem run_step_close {i : Nat} {g : GenState} {segs : List (List Nat)} {Y : List Nat}
    (h : RunInv n r a0 X i g segs Y) (c : Nat) (hc : c = closeNode a0 Y) :
    StopInv a0 X (i + 1) (genStep n K r (visitedTime n r) (i + 1) g c) segs Y 0 := by
  obtain ⟨f1, f2, f3, f4⟩ := genStep_close n K r (visitedTime n r) i g c h.ns (by rw [h.nol, hc])
  have hkl := h.kl
  rw [← List.cons_append] at hkl
  obtain ⟨hkl1, _⟩ := map_range_init g.kLeft (i + 1) _ _ hkl
  -- `g.kLeft i` is the last entry of the columns `0..i`
  have hlast : g.kLeft i = (a0 :: segs.map (·.headD a0)).getLastD a0 := by
    rw [← hkl1, map_range_succ, List.getLastD_concat]
  constructor
  case dec => exact h.dec
  case ne => exact h.ne
  case st => exact f2
  case idx => rw [f1, h.idx, hc]; rfl
  case kl =>
    rw [f3]
    exact map_range_snoc _ g.kLeft (i + 1) _ _ hkl1
      (fun t ht => by rw [upd_other _ _ _ _ (by omega), upd_other _ _ _ _ (by omega)])
      ((upd_same _ _ _).trans hlast)
  case kr =>
    rw [f4]
    refine map_range_snoc _ (upd g.kRight i c) (i + 1) _ _ ?_
      (fun t ht => upd_other _ _ _ _ (Nat.ne_of_lt ht)) ((upd_same _ _ _).trans hc)
    exact map_range_snoc _ g.kRight i _ _ h.kr (fun t ht => upd_other _ _ _ _ (Nat.ne_of_lt ht))
      ((upd_same _ _ _).trans hc)

omit hperm hcyc in
theorem stop_step {j : Nat} {g : GenState} {segs : List (List Nat)} {Y : List Nat} {pad : Nat}
    (h : StopInv a0 X j g segs Y pad) (c : Nat) :
    StopInv a0 X (j + 1) (genStep n K r (visitedTime n r) (j + 1) g c) segs Y (pad + 1) := by
  obtain ⟨f1, f2, f3, f4⟩ := genStep_forced n K r (visitedTime n r) j g c h.st
  have ha0 : g.actionIndex.headD 0 = a0 := by rw [h.idx]; rfl
  -- the last column so far holds the repeated link
  have hkl := h.kl
  have hkr := h.kr
  rw [List.replicate_succ', ← List.append_assoc] at hkl hkr
  constructor
  case dec => exact h.dec
  case ne => exact h.ne
  case st => exact f2
  case idx => rw [f1, ha0, h.idx, List.replicate_succ']; simp
  case kl =>
    rw [f3, List.replicate_succ' (n := pad + 1), ← List.append_assoc]
    exact map_range_snoc _ g.kLeft (j + 1) _ _ h.kl
      (fun t ht => by
        rw [upd_other _ _ _ _ (Nat.ne_of_lt ht), upd_other _ _ _ _ (by omega), upd_other _ _ _ _ (Nat.ne_of_lt ht)])
      ((upd_same _ _ _).trans (map_range_init g.kLeft j _ _ hkl).2)
  case kr =>
    rw [f4, List.replicate_succ' (n := pad + 1), ← List.append_assoc]
    exact map_range_snoc _ g.kRight (j + 1) _ _ h.kr (fun t ht => upd_other _ _ _ _ (Nat.ne_of_lt ht))
      ((upd_same _ _ _).trans (map_range_init g.kRight j _ _ hkr).2)

omit hperm hcyc in
theorem admitted_before_genLoop : ∀ (cs : List Nat) (i : Nat) (g : GenState),
    (genLoop n K r (visitedTime n r) i g cs).admitted = true → g.admitted = true := by
  intro cs
  induction cs with
  | nil => intro i g h; exact h
  | cons c cs ih =>
    intro i g h
    have := ih (i + 1) _ h
    rw [genStep_admitted] at this
    simp only [Bool.and_eq_true] at this
    exact this.1.1

theorem base_step (mask0 : Nat → Bool) :
    RunInv n r a0 X 0 (genStep n K r (visitedTime n r) 0 { mask := mask0 } a0) [] X := by
  have hra0 := cycleOf_link r a0 X [] a0 X hcyc rfl
  obtain ⟨f1, f2, f3, f4, f5, f6⟩ := genStep_first n K r (visitedTime n r) a0 mask0
  constructor
  case dec => rfl
  case ne => intro S hS; exact absurd hS List.not_mem_nil
  case idx => exact f1
  case ns => exact f2
  case nol => rw [f3, hra0]
  case kl => rw [f4, ← hra0]; rfl
  case kr => rfl
  case msk =>
    intro z hz hmz
    by_cases hza : z = a0
    · subst hza
      exact Or.inr ((f6 hmz).symm.trans hra0)
    · exact Or.inl ((List.mem_cons.mp ((mem_of_perm_range hperm z).mpr hz)).resolve_left hza)
  case tag => exact f5

theorem loop_inv : ∀ (cs : List Nat) (i : Nat) (g : GenState) (segs : List (List Nat)) (Y : List Nat),
    (RunInv n r a0 X i g segs Y ∨ ∃ pad, StopInv a0 X i g segs Y pad) →
    (genLoop n K r (visitedTime n r) (i + 1) g cs).admitted = true →
    ∃ segs' Y',
      RunInv n r a0 X (i + cs.length) (genLoop n K r (visitedTime n r) (i + 1) g cs) segs' Y' ∨
      ∃ pad, StopInv a0 X (i + cs.length) (genLoop n K r (visitedTime n r) (i + 1) g cs) segs' Y' pad := by
  intro cs
  induction cs with
  | nil => intro i g segs Y h _; exact ⟨segs, Y, h⟩
  | cons c cs ih =>
    intro i g segs Y h hadm
    have hadm1 := admitted_before_genLoop (n := n) (K := K) (r := r) cs (i + 1 + 1) _ hadm
    rw [show i + (c :: cs).length = (i + 1) + cs.length by rw [List.length_cons]; omega]
    rcases h with hrun | ⟨pad, hstop⟩
    · rw [genStep_admitted, hrun.ns] at hadm1
      simp only [Bool.and_false, Bool.false_or, Bool.and_eq_true, Bool.not_eq_true',
        decide_eq_true_eq] at hadm1
      obtain ⟨⟨_, hmc⟩, hcn⟩ := hadm1
      by_cases hc : c = closeNode a0 Y
      · exact ih (i + 1) _ segs Y (Or.inr ⟨0, run_step_close (K := K) hrun c hc⟩) hadm
      · obtain ⟨S, Y', hnew⟩ := run_step_continue (K := K) hperm hcyc hrun c hcn hmc hc
        exact ih (i + 1) _ (segs ++ [S]) Y' (Or.inl hnew) hadm
    · exact ih (i + 1) _ segs Y (Or.inr ⟨pad + 1, stop_step (K := K) hstop c⟩) hadm

end inv

theorem last_pair_mem (t0 : Nat) (segs : List (List Nat)) (R : List Nat) (u : Nat) :
    ((u :: segs.map (·.headD t0)).getLastD u, closeNode t0 R) ∈ pairs t0 u segs R := by
  -- both columns have `segs.length + 1` entries: the pair is their last row
  rw [pairs_eq_zip, ← List.dropLast_concat_getLast (List.cons_ne_nil u (segs.map (·.headD t0))),
    List.zip_append (by simp), List.getLastD_concat]
  exact List.mem_append_right _ List.mem_cons_self

theorem map_r_sel (r : Rec) (a0 : Nat) (X : List Nat) (hcyc : CycleOf r (a0 :: X)) :
    ∀ (segs : List (List Nat)) (Pre : List Nat) (u : Nat) (Y : List Nat),
    (∀ S ∈ segs, S ≠ []) → a0 :: X = Pre ++ u :: (segs.flatten ++ Y) →
    (u :: segs.map (·.getLastD a0)).map r = segs.map (·.headD a0) ++ [closeNode a0 Y] := by
  intro segs
  induction segs with
  | nil =>
    intro Pre u Y _ hdec
    simp only [List.flatten_nil, List.nil_append] at hdec
    simp [cycleOf_link r a0 X Pre u Y hcyc hdec]
  | cons S segs ih =>
    intro Pre u Y hne hdec
    obtain ⟨hS, hne'⟩ := List.forall_mem_cons.mp hne
    obtain ⟨Sinit, l, rfl⟩ := (eq_nil_or_snoc S).resolve_left hS
    have hru := cycleOf_link r a0 X Pre u _ hcyc hdec
    have hhd : closeNode a0 (((Sinit ++ [l]) :: segs).flatten ++ Y) = (Sinit ++ [l]).headD a0 := by
      cases Sinit <;> rfl
    have hdec' : a0 :: X = (Pre ++ u :: Sinit) ++ l :: (segs.flatten ++ Y) := by
      rw [hdec]; simp
    have := ih (Pre ++ u :: Sinit) l Y hne' hdec'
    simp only [List.map_cons, List.getLastD_concat] at this ⊢
    rw [this, hru, hhd]
    simp

theorem flatten_perm_heads_tails (d : Nat) : ∀ (segs : List (List Nat)), (∀ S ∈ segs, S ≠ []) →
    segs.flatten.Perm (segs.map (·.headD d) ++ (segs.map List.tail).flatten) := by
  intro segs
  induction segs with
  | nil => intro _; simp
  | cons S segs ih =>
    intro hne
    obtain ⟨hS, hne'⟩ := List.forall_mem_cons.mp hne
    cases S with
    | nil => exact absurd rfl hS
    | cons h t =>
      have ih' := ih hne'
      simp only [List.flatten_cons, List.map_cons, List.headD_cons, List.tail_cons, List.cons_append]
      refine List.Perm.cons h ?_
      refine (List.Perm.append_left t ih').trans ?_
      rw [← List.append_assoc, ← List.append_assoc]
      exact List.Perm.append_right _ List.perm_append_comm

/-- the first node, the first nodes of the segments, their other nodes and the rest are pairwise disjoint -/
theorem nodup_heads_tails (t0 : Nat) (segs : List (List Nat)) (R : List Nat) (hne : ∀ S ∈ segs, S ≠ [])
    (hnd : (t0 :: (segs.flatten ++ R)).Nodup) :
    ((t0 :: segs.map (·.headD t0)) ++ ((segs.map List.tail).flatten ++ R)).Nodup := by
  have := (((flatten_perm_heads_tails t0 segs hne).append_right R).cons t0).nodup_iff.mp hnd
  rwa [List.append_assoc] at this

/-- an action in canonical form (links of the segments, padded by repeating the last link; selected
nodes = `a0`, the last nodes of the segments, and possibly copies of `a0` / the closing node) is a
well-formed move -/
theorem wf_of_canonical (n : Nat) (r : Rec) (a0 : Nat) (X : List Nat)
    (hperm : (a0 :: X).Perm (List.range n)) (hcyc : CycleOf r (a0 :: X))
    (segs : List (List Nat)) (Y : List Nat) (hdec : X = segs.flatten ++ Y)
    (hne : ∀ S ∈ segs, S ≠ []) (sel left right extra : List Nat) (p : Nat)
    (hleft : left = (a0 :: segs.map (·.headD a0)) ++
      List.replicate p ((a0 :: segs.map (·.headD a0)).getLastD a0))
    (hright : right = (segs.map (·.getLastD a0) ++ [closeNode a0 Y]) ++ List.replicate p (closeNode a0 Y))
    (hsel : sel = (a0 :: segs.map (·.getLastD a0)) ++ extra)
    (hextra : ∀ e ∈ extra, e = a0 ∨ e = closeNode a0 Y) :
    KoptMoveWF n r sel left right a0 segs Y := by
  subst hdec
  have hP := List.nodup_append.mp (nodup_heads_tails a0 segs Y hne (nodup_of_perm_range hperm))
  have hzip : left.zip right = pairs a0 a0 segs Y ++
      List.replicate p ((a0 :: segs.map (·.headD a0)).getLastD a0, closeNode a0 Y) := by
    rw [hleft, hright, List.zip_append (by simp), pairs_eq_zip, List.zip_replicate]
    simp
  have hmapr := map_r_sel r a0 _ hcyc segs [] a0 Y hne (by simp)
  refine ⟨hne, hperm, hcyc, by rw [hleft]; rfl, ?_, ?_, ?_, ?_⟩
  · intro q hq
    rw [hzip] at hq
    rcases List.mem_append.mp hq with h | h
    · exact h
    · rw [List.mem_replicate] at h
      rw [h.2]; exact last_pair_mem a0 segs Y a0
  · intro q hq
    rw [hzip]; exact List.mem_append_left _ hq
  · -- a successor of a selected node is `a0`, the first node of a segment, or a node of `Y`
    have hH : ∀ w ∈ segs.map (·.headD a0) ++ [closeNode a0 Y], w ∈ a0 :: segs.map (·.headD a0) ∨ w ∈ Y := by
      intro w hw
      rcases List.mem_append.mp hw with h | h
      · exact Or.inl (List.mem_cons_of_mem _ h)
      · rw [List.mem_singleton.mp h]; exact (closeNode_mem a0 Y).imp (fun e => List.mem_cons.mpr (Or.inl e)) id
    have hselr : ∀ w ∈ sel.map r, w ∈ a0 :: segs.map (·.headD a0) ∨ w ∈ Y := by
      intro w hw
      rw [hsel, List.map_append, hmapr] at hw
      rcases List.mem_append.mp hw with h | h
      · exact hH w h
      · obtain ⟨e, he, rfl⟩ := List.mem_map.mp h
        have hra0 := hH (r a0) (by rw [← hmapr]; exact List.mem_cons_self)
        rcases hextra e he with rfl | rfl
        · exact hra0
        · cases Y with
          | nil => exact hra0
          | cons y Y' =>
            rw [closeNode_cons, cycleOf_link r a0 _ (a0 :: segs.flatten) y Y' hcyc (by simp)]
            exact (closeNode_mem a0 Y').imp (fun e => List.mem_cons.mpr (Or.inl e)) (List.mem_cons_of_mem _)
    intro S hS
    constructor
    · rw [hsel, List.map_append, hmapr]
      exact List.mem_append_left _ (List.mem_append_left _ (List.mem_map.mpr ⟨S, hS, rfl⟩))
    · intro z hz hzr
      have hztails : z ∈ (segs.map List.tail).flatten :=
        List.mem_flatten.mpr ⟨S.tail, List.mem_map.mpr ⟨S, hS, rfl⟩, hz⟩
      rcases hselr z hzr with h | h
      · exact hP.2.2 z h z (List.mem_append_left _ hztails) rfl
      · exact (List.nodup_append.mp hP.2.1).2.2 z hztails z h rfl
  · intro v hv
    cases Y with
    | nil => exact nomatch hv
    | cons y Y' =>
      rw [List.mem_singleton.mp hv, hsel, List.map_append, hmapr]
      exact List.mem_append_left _ (List.mem_append_right _ List.mem_cons_self)

end Rl4co.Improve.KoptGen
