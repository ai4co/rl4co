/-
Helper lemmas shared by the OP and PCTSP property proofs (namespace `Prize`): sums over the customers, counting the
customers of a row, the sorted neighbour duplicate test, the customers of an action list and its canonical representative
`canon`.  No Mathlib.

Trap: do not import `Proofs/Sort` (hence `Core/Sort`) here, nor in a file that imports this one and writes `sortNat`.
`Prize.sortNat` (`Env/OpShared`) has the same body as `Rl4co.sortNat` (`Core/Sort`); `sortNat_pairwise` below and the one in
`Proofs/Sort` are both `pairwise_mergeSort_le` (Core/Lists) for that reason.  With both in scope the bare name `sortNat` inside
`namespace Rl4co.Op` under `open Rl4co.Prize` (`Op.checkRepaired`, `check_tests_iff` in `Props/C06/Op`) resolves to
`Rl4co.sortNat` — the enclosing namespace wins over `open` — without an error, and `adjOk_sort_iff` no longer applies.
-/
import Rl4co.Env.OpShared
import Rl4co.Core.Tour
import Rl4co.Core.Lists

namespace Rl4co.Prize

theorem sumTo_eq (n : Nat) (g : Nat → Int) : sumTo n g = ((List.range n).map g).sum := by
  induction n with
  | zero => rfl
  | succ n ih => rw [sumTo, ih, List.range_succ, List.map_append, List.sum_append, List.map_singleton, List.sum_singleton]

theorem sumTo_congr {n : Nat} {g h : Nat → Int} (H : ∀ k, k < n → g k = h k) :
    sumTo n g = sumTo n h := by
  rw [sumTo_eq, sumTo_eq, List.map_congr_left fun k hk => H k (List.mem_range.mp hk)]

theorem sumTo_add (n : Nat) (g h : Nat → Int) :
    sumTo n (fun k => g k + h k) = sumTo n g + sumTo n h := by
  induction n with
  | zero => rfl
  | succ n ih => simp only [sumTo, ih]; omega

theorem sumTo_zero (n : Nat) : sumTo n (fun _ => 0) = 0 :=
  (sumTo_eq n _).trans (sum_map_zero _)

theorem sumTo_le_sumTo {n : Nat} {g h : Nat → Int} (H : ∀ k, k < n → g k ≤ h k) :
    sumTo n g ≤ sumTo n h := by
  rw [sumTo_eq, sumTo_eq]
  exact sum_map_le fun k hk => H k (List.mem_range.mp hk)

theorem sumTo_mul (n : Nat) (c : Int) (g : Nat → Int) : sumTo n (fun k => c * g k) = c * sumTo n g := by
  rw [sumTo_eq, sumTo_eq, sum_map_mul]

theorem sumTo_upd {n a : Nat} (g : Nat → Int) (x : Int) (ha : a < n) :
    sumTo n (upd g a x) = sumTo n g - g a + x := by
  have := sum_map_range_update ha fun j hj => upd_other g a j x hj
  rw [upd_same, ← sumTo_eq, ← sumTo_eq] at this
  omega

/-- a sum over the customers that occur in a list depends on the set of customers only -/
theorem sumTo_mem_congr {as bs : List Nat} (h : ∀ j, 1 ≤ j → (j ∈ as ↔ j ∈ bs)) (n : Nat)
    (g g' : Nat → Int) :
    sumTo n (fun k => if k + 1 ∈ as then g k else g' k) =
      sumTo n (fun k => if k + 1 ∈ bs then g k else g' k) :=
  sumTo_congr (fun k _ =>
    ite_congr (propext (h (k + 1) (Nat.succ_pos k))) (fun _ => rfl) (fun _ => rfl))

theorem sumTo_mem_none {as : List Nat} (h : ∀ j, 1 ≤ j → j ∉ as) (n : Nat) (g : Nat → Int) :
    sumTo n (fun k => if k + 1 ∈ as then g k else 0) = 0 :=
  (sumTo_congr (fun k _ => if_neg (h (k + 1) (Nat.succ_pos k)))).trans (sumTo_zero n)

theorem sumTo_split (n : Nat) (f : Nat → Int) (p : Nat → Prop) [DecidablePred p] :
    sumTo n (fun k => f (k + 1)) =
      sumTo n (fun k => if p (k + 1) then f (k + 1) else 0) +
      sumTo n (fun k => if p (k + 1) then 0 else f (k + 1)) := by
  rw [← sumTo_add]
  apply sumTo_congr
  intro k _
  by_cases h : p (k + 1) <;> simp [h]

theorem sumTo_indicator (n : Nat) (p : Nat → Prop) [DecidablePred p] :
    sumTo n (fun k => if p k then 1 else 0) = cnt n (fun k => decide (p k)) := by
  induction n with
  | zero => rfl
  | succ n ih =>
    rw [sumTo, ih, cnt_succ]
    by_cases h : p n <;> simp [h]

theorem padded_zero (f : Nat → Int) : padded f 0 = 0 := rfl

theorem gatherSum_cons (f : Nat → Int) (a : Nat) (t : List Nat) :
    gatherSum f (a :: t) = padded f a + gatherSum f t := rfl

theorem gatherSum_append (f : Nat → Int) (as bs : List Nat) :
    gatherSum f (as ++ bs) = gatherSum f as + gatherSum f bs := by
  simp [gatherSum, List.sum_append]

theorem gatherSum_zero (f : Nat → Int) : gatherSum f [0] = 0 := by
  simp [gatherSum, padded]

theorem count_cons_le_one_iff (x : Nat) (t : List Nat) :
    (∀ j, 1 ≤ j → (x :: t).count j ≤ 1) ↔ (1 ≤ x → x ∉ t) ∧ ∀ j, 1 ≤ j → t.count j ≤ 1 := by
  constructor
  · intro h
    refine ⟨fun hx hm => ?_, fun j hj => Nat.le_trans (List.count_le_count_cons ..) (h j hj)⟩
    have := h x hx
    rw [List.count_cons_self] at this
    have := List.count_pos_iff.mpr hm
    omega
  · rintro ⟨h1, h2⟩ j hj
    rw [List.count_cons]
    split
    · rename_i hxj
      rw [← beq_iff_eq.mp hxj, List.count_eq_zero_of_not_mem (h1 (beq_iff_eq.mp hxj ▸ hj))]
      exact Nat.le_refl 1
    · exact h2 j hj

/-- Gathering a depot-padded row along an action list in which every customer occurs at most once
and every entry is in range sums the row over the set of customers that occur. -/
theorem gatherSum_eq_sumTo (n : Nat) (f : Nat → Int) (as : List Nat)
    (hr : ∀ a ∈ as, a ≤ n) (ho : ∀ j, 1 ≤ j → as.count j ≤ 1) :
    gatherSum f as = sumTo n (fun k => if k + 1 ∈ as then f (k + 1) else 0) := by
  induction as with
  | nil => exact (sumTo_zero n).symm
  | cons a t ih =>
    obtain ⟨hnot, ho'⟩ := (count_cons_le_one_iff a t).mp ho
    rw [gatherSum_cons, ih (fun b hb => hr b (List.mem_cons_of_mem _ hb)) ho']
    cases a with
    | zero =>
      rw [sumTo_mem_congr (as := 0 :: t) (bs := t) (fun j hj => by simp; omega), padded_zero]
      omega
    | succ b =>
      have hb : b + 1 ≤ n := hr _ List.mem_cons_self
      -- the indicator row of `b + 1 :: t` is that of `t` with entry `b` set
      have : (fun k => if k + 1 ∈ (b + 1) :: t then f (k + 1) else 0) =
          upd (fun k => if k + 1 ∈ t then f (k + 1) else 0) b (f (b + 1)) := by
        funext k
        by_cases hk : k = b
        · subst hk; simp
        · simp [hk]
      rw [this, sumTo_upd _ _ hb, if_neg (hnot (Nat.succ_pos b)), padded, if_neg (Nat.succ_ne_zero b)]
      omega

theorem gatherSum_one (as : List Nat) :
    gatherSum (fun _ => 1) as = (as.length : Int) - as.count 0 := by
  induction as with
  | nil => rfl
  | cons a t ih =>
    rw [gatherSum_cons, ih, List.length_cons]
    by_cases h0 : a = 0
    · subst h0
      rw [padded_zero, List.count_cons_self]
      omega
    · rw [padded, if_neg h0, List.count_cons_of_ne h0]
      omega

/-- customers of a row (`1..n`) marked `true` -/
def custCount (n : Nat) (v : Nat → Bool) : Nat := cnt n (fun k => v (k + 1))

theorem custCount_eq_n {n : Nat} {v : Nat → Bool} :
    custCount n v = n ↔ ∀ j, 1 ≤ j → j ≤ n → v j = true := by
  rw [custCount, cnt_eq_n]
  exact forall_lt_succ_iff (P := fun j => v j = true)

/-- without repeated customers, the non-depot entries of an action list are `n` iff every customer occurs -/
theorem nonDepot_eq_n_iff (n : Nat) (as : List Nat)
    (hr : ∀ a ∈ as, a ≤ n) (ho : ∀ j, 1 ≤ j → as.count j ≤ 1) :
    as.length - as.count 0 = n ↔ ∀ j, 1 ≤ j → j ≤ n → j ∈ as := by
  have h : (as.length : Int) - as.count 0 = custCount n (fun j => decide (j ∈ as)) :=
    (gatherSum_one as).symm.trans
      ((gatherSum_eq_sumTo n (fun _ => 1) as hr ho).trans (sumTo_indicator n (fun k => k + 1 ∈ as)))
  rw [Int.ofNat.inj ((Int.ofNat_sub List.count_le_length).trans h)]
  exact custCount_eq_n.trans (by simp only [decide_eq_true_eq])

theorem custCount_upd_depot (n : Nat) (v : Nat → Bool) (b : Bool) :
    custCount n (upd v 0 b) = custCount n v :=
  cnt_congr (fun k _ => upd_other v 0 (k + 1) b (Nat.succ_ne_zero k))

theorem adjOk_iff_of_sorted (s : List Nat) (hs : s.Pairwise (fun a b => a ≤ b)) :
    adjOk s = true ↔ ∀ j, 1 ≤ j → s.count j ≤ 1 := by
  induction s with
  | nil => exact ⟨fun _ j _ => Nat.zero_le _, fun _ => rfl⟩
  | cons x t ih =>
    obtain ⟨hx, ht⟩ := List.pairwise_cons.mp hs
    rw [count_cons_le_one_iff, ← ih ht]
    cases t with
    | nil => simp [adjOk]
    | cons y r =>
      have hxy := hx y List.mem_cons_self
      -- in a sorted list `x` recurs iff it equals its neighbour
      have hmem : x ∈ y :: r ↔ x = y := by
        refine ⟨fun hm => ?_, fun h => h ▸ List.mem_cons_self⟩
        rcases List.mem_cons.mp hm with h | h
        · exact h
        · have := (List.pairwise_cons.mp ht).1 x h
          omega
      simp only [adjOk, Bool.and_eq_true, Bool.or_eq_true, beq_iff_eq, decide_eq_true_eq, hmem]
      refine and_congr_left' ?_
      omega

theorem sortNat_pairwise (as : List Nat) : (sortNat as).Pairwise (fun a b => a ≤ b) := pairwise_mergeSort_le as

/-- The code's duplicate test passes iff every customer occurs at most once. -/
theorem adjOk_sort_iff (as : List Nat) :
    adjOk (sortNat as) = true ↔ ∀ j, 1 ≤ j → as.count j ≤ 1 := by
  rw [adjOk_iff_of_sorted _ (sortNat_pairwise as)]
  simp only [sortNat, (List.mergeSort_perm as _).count_eq]

def customers (as : List Nat) : List Nat := as.filter (fun a => a != 0)

theorem mem_customers {as : List Nat} {j : Nat} : j ∈ customers as ↔ j ∈ as ∧ j ≠ 0 := by
  simp [customers]

/-- Dropping the intermediate depot visits does not lengthen a tour. -/
theorem pathLen_customers_le (D : Nat → Nat → Int) (h00 : 0 ≤ D 0 0)
    (htri : ∀ a b, D a b ≤ D a 0 + D 0 b) (as : List Nat) :
    ∀ x, pathLen D (x :: customers as ++ [0]) ≤ pathLen D (x :: as ++ [0]) := by
  induction as with
  | nil => intro x; exact Int.le_refl _
  | cons a t ih =>
    intro x
    rw [pathLen_cons_snoc]
    by_cases ha : a = 0
    · subst ha
      show pathLen D (x :: customers t ++ [0]) ≤ _
      exact Int.le_trans (pathLen_via_depot D h00 htri x (customers t)) (Int.add_le_add_left (ih 0) _)
    · rw [customers, List.filter_cons_of_pos (by simpa using ha), pathLen_cons_snoc]
      exact Int.add_le_add_left (ih a) _

/-- canonical representative of an action list: its customers in order, then one return to the
depot; the empty tour is `[0, 0]` -/
def canon (as : List Nat) : List Nat := if customers as = [] then [0, 0] else customers as ++ [0]

theorem canon_cases (as : List Nat) :
    canon as = [0, 0] ∨ ∃ cs, cs ≠ [] ∧ (∀ c ∈ cs, c ≠ 0) ∧ canon as = cs ++ [0] := by
  unfold canon
  split
  · exact Or.inl rfl
  · rename_i h
    exact Or.inr ⟨customers as, h, fun c hc => (mem_customers.mp hc).2, rfl⟩

theorem count_canon (as : List Nat) (j : Nat) (hj : 1 ≤ j) : (canon as).count j = as.count j := by
  have hj0 : j ≠ 0 := Nat.ne_of_gt hj
  rw [← show (customers as).count j = as.count j from List.count_filter (by simpa using hj0)]
  have h0 : (0 == j) = false := by simpa using Ne.symm hj0
  unfold canon
  split
  · rename_i h
    simp [h, List.count_cons, h0]
  · simp [List.count_append, List.count_cons, h0]

theorem mem_canon {as : List Nat} {j : Nat} (hj : 1 ≤ j) : j ∈ canon as ↔ j ∈ as := by
  rw [← List.count_pos_iff, ← List.count_pos_iff, count_canon as j hj]

theorem canon_range {as : List Nat} {n : Nat} (hr : ∀ a ∈ as, a ≤ n) : ∀ a ∈ canon as, a ≤ n := by
  intro a ha
  cases a with
  | zero => exact Nat.zero_le n
  | succ b => exact hr _ ((mem_canon (Nat.succ_pos b)).mp ha)

theorem pathLen_canon_le (D : Nat → Nat → Int) (h00 : D 0 0 = 0)
    (htri : ∀ a b, D a b ≤ D a 0 + D 0 b) (as : List Nat) :
    pathLen D (0 :: canon as ++ [0]) ≤ pathLen D (0 :: as ++ [0]) := by
  have key := pathLen_customers_le D (Int.le_of_eq h00.symm) htri as 0
  unfold canon
  split
  · rename_i h
    rw [h, List.cons_append, List.nil_append, pathLen_pair, h00] at key
    show D 0 0 + (D 0 0 + (D 0 0 + 0)) ≤ _
    rw [h00]
    exact key
  · rw [pathLen_cons_snoc_snoc, h00, Int.add_zero]
    exact key

end Rl4co.Prize
