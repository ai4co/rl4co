/-
Routes of depot-based routing, on top of the `firstRoute` / `restRoutes` reading of `routes` (Core/Tour): normalisation and
the loads relation.
`normalize as` re-assembles an action list from its NON-EMPTY routes, each closed by a depot visit (helper for the
`opt_reachable` theorems).  It removes exactly the moves the masks prune (leading depot visits, staying at the depot, never
returning): the routes, the visit counts of customers and the total route length are unchanged.
`LoadsOk dem c u as`: the route in progress, which already carries `u`, and every later route of `as` stay within `c`, for
any demand function (CVRP: `i.demand`; MTVRP's checker: linehaul and backhaul demands); at `u = 0` it is the load clause of
the specification.  Core only, no Mathlib.
-/
import Rl4co.Core.Tour
import Rl4co.Core.Lists

namespace Rl4co

/-- `r₁ ++ [0] ++ r₂ ++ [0] ++ …` -/
def rebuild : List (List Nat) → List Nat
  | [] => []
  | r :: rs => r ++ 0 :: rebuild rs

def normalize (as : List Nat) : List Nat := rebuild ((routes as).filter (fun r => !r.isEmpty))

theorem routes_rebuild (rs : List (List Nat)) (h : ∀ r ∈ rs, 0 ∉ r) : routes (rebuild rs) = rs ++ [[]] := by
  induction rs with
  | nil => simp [rebuild, routes]
  | cons r rs ih =>
    simp only [rebuild]
    rw [routes_append_zero_free r (h r (by simp)), ih (fun r' hr' => h r' (by simp [hr']))]
    simp

theorem count_rebuild {j : Nat} (hj : j ≠ 0) {rs : List (List Nat)} (h : ∀ r ∈ rs, 0 ∉ r) :
    (rebuild rs).count j = (rs.map (List.count j)).sum := by
  rw [count_eq_sum_routes _ j hj, routes_rebuild rs h, List.map_append, List.sum_append]
  rfl

theorem mem_filter_nonempty_routes (as : List Nat) :
    ∀ r ∈ (routes as).filter (fun r => !r.isEmpty), r ≠ [] ∧ 0 ∉ r := by
  intro r hr
  obtain ⟨h1, h2⟩ := List.mem_filter.mp hr
  refine ⟨fun e => ?_, routes_zero_free as r h1⟩
  rw [e] at h2
  exact Bool.noConfusion h2

theorem routes_normalize (as : List Nat) :
    routes (normalize as) = (routes as).filter (fun r => !r.isEmpty) ++ [[]] :=
  routes_rebuild _ (fun r hr => routes_zero_free as r (List.mem_filter.mp hr).1)

theorem mem_routes_normalize {as r : List Nat} (h : r ∈ routes (normalize as)) : r ∈ routes as ∨ r = [] := by
  rw [routes_normalize] at h
  rcases List.mem_append.mp h with h | h
  · exact Or.inl (List.mem_filter.mp h).1
  · exact Or.inr (List.mem_singleton.mp h)

theorem sum_map_filter_nonempty {α : Type} [Add α] [Zero α] [Std.LawfulLeftIdentity (α := α) (· + ·) 0]
    (f : List Nat → α) (hf : f [] = 0) (rs : List (List Nat)) :
    ((rs.filter (fun r => !r.isEmpty)).map f).sum = (rs.map f).sum := by
  induction rs with
  | nil => rfl
  | cons r rs ih =>
    cases r with
    | nil => simp [hf, Std.LawfulLeftIdentity.left_id, ih]
    | cons a r => simp [ih]

theorem count_normalize (as : List Nat) (j : Nat) (hj : j ≠ 0) : (normalize as).count j = as.count j := by
  rw [normalize, count_rebuild hj fun r hr => (mem_filter_nonempty_routes as r hr).2,
    sum_map_filter_nonempty _ List.count_nil, ← count_eq_sum_routes as j hj]

theorem routesLen_normalize (D : Nat → Nat → Int) (as : List Nat) :
    routesLen D (normalize as) = routesLen D as := by
  simp only [routesLen, routes_normalize, List.map_append, List.sum_append, List.map_cons, List.map_nil,
    List.sum_cons, List.sum_nil]
  rw [sum_map_filter_nonempty (routeLen D) (routeLen_nil D)]
  simp [routeLen_nil]

theorem mem_rebuild (rs : List (List Nat)) (a : Nat) (h : a ∈ rebuild rs) : a = 0 ∨ ∃ r ∈ rs, a ∈ r := by
  induction rs with
  | nil => simp [rebuild] at h
  | cons r rs ih =>
    simp only [rebuild, List.mem_append, List.mem_cons] at h
    rcases h with h | h | h
    · exact Or.inr ⟨r, by simp, h⟩
    · exact Or.inl h
    · rcases ih h with h' | ⟨r', hr', ha⟩
      · exact Or.inl h'
      · exact Or.inr ⟨r', by simp [hr'], ha⟩

theorem mem_normalize (as : List Nat) (a : Nat) (h : a ∈ normalize as) : a = 0 ∨ a ∈ as := by
  rcases mem_rebuild _ a h with h' | ⟨r, hr, ha⟩
  · exact Or.inl h'
  · exact Or.inr (mem_of_mem_routes as r (List.mem_filter.mp hr).1 a ha)

theorem zero_mem_rebuild (rs : List (List Nat)) (hne : rs ≠ []) : 0 ∈ rebuild rs := by
  cases rs with
  | nil => exact absurd rfl hne
  | cons r rs => simp [rebuild]

/-- a visited customer leaves a non-empty route, so the normal form contains a depot visit -/
theorem zero_mem_normalize {as : List Nat} {j : Nat} (hj : j ≠ 0) (h : j ∈ as) : 0 ∈ normalize as := by
  obtain ⟨r, hr, hm⟩ := exists_route_of_mem hj h
  refine zero_mem_rebuild _ (List.ne_nil_of_mem (List.mem_filter.mpr ⟨hr, ?_⟩))
  cases r with
  | nil => cases hm
  | cons => rfl

/-- a resource counted in `Nat` (stops per route: demand `fun _ => 1`) enters through its cast to `Int` -/
def LoadsOk (dem : Nat → Int) (c u : Int) (as : List Nat) : Prop :=
  ((firstRoute as).map dem).sum + u ≤ c ∧ ∀ r ∈ restRoutes as, (r.map dem).sum ≤ c

section
variable {dem : Nat → Int} {c u u' : Int} {a : Nat} {as : List Nat}

theorem loadsOk_zero : LoadsOk dem c 0 as ↔ ∀ r ∈ routes as, (r.map dem).sum ≤ c := by
  rw [LoadsOk, Int.add_zero, forall_mem_routes]

theorem loadsOk_nil : LoadsOk dem c u [] ↔ u ≤ c := by
  rw [LoadsOk, firstRoute, List.map_nil, List.sum_nil, Int.zero_add]
  exact and_iff_left (fun _ h => nomatch h)

theorem loadsOk_zero_cons : LoadsOk dem c u (0 :: as) ↔ u ≤ c ∧ LoadsOk dem c 0 as := by
  rw [loadsOk_zero, LoadsOk, firstRoute_zero_cons, restRoutes_zero_cons, List.map_nil, List.sum_nil, Int.zero_add]

theorem loadsOk_cons (h0 : a ≠ 0) : LoadsOk dem c u (a :: as) ↔ LoadsOk dem c (u + dem a) as := by
  rw [LoadsOk, LoadsOk, firstRoute_cons h0, restRoutes_cons h0, List.map_cons, List.sum_cons, Int.add_comm (dem a),
    Int.add_assoc, Int.add_comm (dem a)]

theorem LoadsOk.mono (h : LoadsOk dem c u as) (hu : u' ≤ u) : LoadsOk dem c u' as :=
  ⟨Int.le_trans (Int.add_le_add_left hu _) h.1, h.2⟩

theorem LoadsOk.le (hd : ∀ x ∈ as, 0 ≤ dem x) (h : LoadsOk dem c u as) : u ≤ c :=
  Int.le_trans (Int.le_add_of_nonneg_left (sum_map_nonneg fun x hx =>
    hd x (mem_of_mem_routes as _ (routes_eq as ▸ List.mem_cons_self) x hx))) h.1
end

end Rl4co
