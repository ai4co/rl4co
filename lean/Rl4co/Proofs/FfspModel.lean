/-
The FFSP model (`Rl4co/Env/Ffsp.lean`) before any invariant: well-formedness `WF`, the index arithmetic of
`IndexTables` and of the clock position `pos = time_idx · M·S + sub_time_idx`, the equations of the pieces of `_step`,
the loop rule and the termination of `_move_to_next_machine`.
`FfspParams` is imported for its obligation on the extracted operators alone: no proof refers to it, a broken tie
stops every proof that imports this file from building.  No Mathlib.
-/
import Rl4co.Env.Ffsp
import Rl4co.Proofs.FfspParams
import Rl4co.Core.Lists
namespace Rl4co.Ffsp

structure WF (i : Inst) : Prop where
  S_pos : 0 < i.S
  M_pos : 0 < i.M
  J_pos : 0 < i.J
  perm_lt : ∀ p, p < i.M → i.perm p < i.M
  /-- durations stay below the magnitude of the schedule's "not scheduled" sentinel (extracted) -/
  dur_lt : ∀ j m, j < i.J → m < MT i → (i.dur j m : Int) < -UNSET

/-- **Obligation on the extracted sentinel**: every duration up to 10⁵ is below its magnitude -/
theorem small_lt_unset {d : Int} (h : d ≤ 100000) : d < -UNSET := by
  have : -UNSET = 999999 := by decide
  omega

theorem MT_pos {i : Inst} (h : WF i) : 0 < MT i := Nat.mul_pos h.M_pos h.S_pos
theorem stageOf_lt {i : Inst} {sub : Nat} (hs : sub < MT i) : stageOf i sub < i.S :=
  Nat.div_lt_of_lt_mul hs

theorem machineOf_stage {i : Inst} (h : WF i) (sub : Nat) : machineOf i sub / i.M = sub / i.M := by
  unfold machineOf
  rw [flat_index, idx_div (h.perm_lt (sub % i.M) (Nat.mod_lt _ h.M_pos))]

theorem stage_slot_lt {i : Inst} {p k : Nat} (hp : p < i.M) (hk : k < i.S) : p + i.M * k < MT i := by
  rw [Nat.add_comm, Nat.mul_comm i.M k, MT, Nat.mul_comm i.M i.S]
  exact idx_lt hk hp

theorem machineOf_lt {i : Inst} (h : WF i) {sub : Nat} (hs : sub < MT i) : machineOf i sub < MT i :=
  stage_slot_lt (h.perm_lt _ (Nat.mod_lt _ h.M_pos)) (stageOf_lt hs)

theorem slot_lt_of {n t sub t' sub' : Nat} (h1 : sub < n) (h : t < t' ∨ (t = t' ∧ sub < sub')) :
    t * n + sub < t' * n + sub' := by
  rcases h with hlt | ⟨rfl, hlt⟩
  · exact Nat.lt_of_lt_of_le (idx_lt hlt h1) (Nat.le_add_right _ _)
  · exact Nat.add_lt_add_left hlt _

theorem slot_lt {n t sub t' sub' : Nat} (h2 : sub' < n) (h : t * n + sub < t' * n + sub') :
    t < t' ∨ (t = t' ∧ sub < sub') := by
  rcases Nat.lt_trichotomy t t' with hlt | heq | hgt
  · exact Or.inl hlt
  · subst heq; exact Or.inr ⟨rfl, Nat.lt_of_add_lt_add_left h⟩
  · exact absurd (Nat.lt_trans h (slot_lt_of (sub' := sub) h2 (Or.inl hgt))) (Nat.lt_irrefl _)

/-- the machine permutation is injective (true of every `IndexTables` row, `tables_perm_inj`) -/
def PermInj (i : Inst) : Prop := ∀ p q, p < i.M → q < i.M → i.perm p = i.perm q → p = q

theorem machineOf_inj (i : Inst) (h : WF i) (hi : PermInj i) {a b : Nat}
    (he : machineOf i a = machineOf i b) : a = b := by
  have hM := Nat.mod_lt a h.M_pos
  have hM' := Nat.mod_lt b h.M_pos
  obtain ⟨h1, h2⟩ := divmod_unique (h.perm_lt _ hM) (h.perm_lt _ hM') he
  exact eq_of_div_mod h2 (hi _ _ hM hM' h1)

/-- the machine permutation is onto (true of every `IndexTables` row, `tables_perm_surj`) -/
def PermSurj (i : Inst) : Prop := ∀ y, y < i.M → ∃ p, p < i.M ∧ i.perm p = y

theorem machine_is_slot (i : Inst) (h : WF i) (hs : PermSurj i) {m : Nat} (hm : m < MT i) :
    ∃ sub, sub < MT i ∧ machineOf i sub = m ∧ sub / i.M = m / i.M := by
  obtain ⟨p, hp, he⟩ := hs (m % i.M) (Nat.mod_lt _ h.M_pos)
  have e1 : (p + i.M * (m / i.M)) / i.M = m / i.M := by rw [flat_index, idx_div hp]
  have e2 : (p + i.M * (m / i.M)) % i.M = p := by rw [flat_index, idx_mod hp]
  refine ⟨p + i.M * (m / i.M), stage_slot_lt hp (stageOf_lt hm), ?_, e1⟩
  unfold machineOf
  rw [e1, e2, he]; exact Nat.mod_add_div m i.M

def PermBij (i : Inst) : Prop := PermInj i ∧ PermSurj i

theorem jobDur_job (i : Inst) {a : Nat} (ha : a < i.J) (m : Nat) : jobDur i a m = i.dur a m := if_pos ha
theorem jobDur_wait (i : Inst) (m : Nat) : jobDur i i.J m = 0 := if_neg (Nat.lt_irrefl _)

/-- **Obligation on the extracted source key**: `_step` books on `td["machine_idx"]`. -/
theorem bookMachine_eq (s : State) : bookMachine s = s.midx := rfl

theorem apply_sched (i : Inst) (s : State) (a m j : Nat) :
    (apply i s a).sched m j = if m = s.midx ∧ j = a then (s.time : Int) else s.sched m j := by
  simp only [apply, upd, bookMachine_eq]
  by_cases hm : m = s.midx
  · by_cases hj : j = a
    · simp [hm, hj]
    · simp [hm, hj]
  · simp [hm]

theorem apply_sched_new (i : Inst) (s : State) (a : Nat) : (apply i s a).sched s.midx a = (s.time : Int) := by
  rw [apply_sched, if_pos ⟨rfl, rfl⟩]

theorem apply_sched_old (i : Inst) (s : State) {a m j : Nat} (h : ¬ (m = s.midx ∧ j = a)) :
    (apply i s a).sched m j = s.sched m j := by
  rw [apply_sched, if_neg h]

theorem apply_wait_sched (i : Inst) (s : State) (m : Nat) {j : Nat} (hj : j < i.J) :
    (apply i s i.J).sched m j = s.sched m j :=
  apply_sched_old i s (fun hh => Nat.ne_of_lt hj hh.2)

theorem apply_time (i : Inst) (s : State) (a : Nat) : (apply i s a).time = s.time := rfl
theorem apply_sub (i : Inst) (s : State) (a : Nat) : (apply i s a).sub = s.sub := rfl
theorem apply_midx (i : Inst) (s : State) (a : Nat) : (apply i s a).midx = s.midx := rfl
theorem apply_jloc (i : Inst) (s : State) (a : Nat) : (apply i s a).jloc = upd s.jloc a (s.jloc a + 1) := rfl
theorem apply_mwait (i : Inst) (s : State) (a : Nat) :
    (apply i s a).mwait = upd s.mwait s.midx (jobDur i a s.midx) := rfl
theorem apply_jwait (i : Inst) (s : State) (a : Nat) :
    (apply i s a).jwait = upd s.jwait a (jobDur i a s.midx) := rfl
theorem apply_done (i : Inst) (s : State) (a : Nat) :
    (apply i s a).done = allAtEnd i (upd s.jloc a (s.jloc a + 1)) := rfl

theorem apply_jloc_same (i : Inst) (s : State) (a : Nat) : (apply i s a).jloc a = s.jloc a + 1 :=
  upd_same _ _ _

theorem apply_jloc_other (i : Inst) (s : State) {a j : Nat} (h : j ≠ a) : (apply i s a).jloc j = s.jloc j :=
  upd_other _ _ _ _ h

theorem apply_jwait_same (i : Inst) (s : State) (a : Nat) : (apply i s a).jwait a = jobDur i a s.midx :=
  upd_same _ _ _

theorem apply_jwait_other (i : Inst) (s : State) {a j : Nat} (h : j ≠ a) : (apply i s a).jwait j = s.jwait j :=
  upd_other _ _ _ _ h

theorem apply_mwait_same (i : Inst) (s : State) (a : Nat) : (apply i s a).mwait s.midx = jobDur i a s.midx :=
  upd_same _ _ _

theorem apply_mwait_other (i : Inst) (s : State) (a : Nat) {m : Nat} (h : m ≠ s.midx) :
    (apply i s a).mwait m = s.mwait m :=
  upd_other _ _ _ _ h

theorem apply_entry (i : Inst) (s : State) (a : Nat) {m j : Nat}
    (hs : (apply i s a).sched m j ≠ UNSET) :
    (m = s.midx ∧ j = a ∧ (apply i s a).sched m j = (s.time : Int)) ∨
    ((apply i s a).sched m j = s.sched m j ∧ s.sched m j ≠ UNSET ∧ ¬ (m = s.midx ∧ j = a)) := by
  by_cases hc : m = s.midx ∧ j = a
  · exact Or.inl ⟨hc.1, hc.2, by rw [hc.1, hc.2, apply_sched_new]⟩
  · rw [apply_sched_old i s hc] at hs ⊢
    exact Or.inr ⟨rfl, hs, hc⟩

theorem natCast_ne_unset (t : Nat) : (t : Int) ≠ UNSET :=
  fun hh => absurd (hh ▸ Int.natCast_nonneg t) (Int.not_le.mpr (by decide : UNSET < 0))

theorem le_add_natCast {x t : Int} (h : x ≤ t) (n : Nat) : x ≤ t + (n : Int) :=
  Int.le_trans h (Int.le_add_of_nonneg_right (Int.natCast_nonneg n))

theorem lt_add_natCast {x t : Int} (h : x < t) (n : Nat) : x < t + (n : Int) :=
  Int.lt_of_lt_of_le h (Int.le_add_of_nonneg_right (Int.natCast_nonneg n))

theorem busy_shift {x : Int} {t q : Nat} (h : x ≤ (t : Int) + (q : Int)) (w : Nat) :
    x ≤ ((t + w : Nat) : Int) + ((q - w : Nat) : Int) := by
  omega

def wrap (i : Inst) (s : State) : Nat := if s.sub + 1 = MT i then 1 else 0

theorem wrap_cases (i : Inst) (s : State) :
    (s.sub + 1 = MT i ∧ wrap i s = 1) ∨ (s.sub + 1 ≠ MT i ∧ wrap i s = 0) := by
  unfold wrap
  by_cases hw : s.sub + 1 = MT i
  · exact Or.inl ⟨hw, if_pos hw⟩
  · exact Or.inr ⟨hw, if_neg hw⟩

theorem advance_time (i : Inst) (s : State) : (advance i s).time = s.time + wrap i s := by
  show (if (s.sub + 1 == MT i) = true then s.time + 1 else s.time) = _
  rcases wrap_cases i s with ⟨hw, e⟩ | ⟨hw, e⟩ <;> simp [hw, e]

theorem advance_sub (i : Inst) (s : State) :
    (advance i s).sub = if s.sub + 1 = MT i then 0 else s.sub + 1 := by
  show (if (s.sub + 1 == MT i) = true then 0 else s.sub + 1) = _
  simp

theorem advance_mwait (i : Inst) (s : State) (m : Nat) : (advance i s).mwait m = s.mwait m - wrap i s := by
  show (if (s.sub + 1 == MT i) = true then fun m => s.mwait m - 1 else s.mwait) m = _
  rcases wrap_cases i s with ⟨hw, e⟩ | ⟨hw, e⟩ <;> simp [hw, e]

theorem advance_jwait (i : Inst) (s : State) (j : Nat) : (advance i s).jwait j = s.jwait j - wrap i s := by
  show (if (s.sub + 1 == MT i) = true then fun j => s.jwait j - 1 else s.jwait) j = _
  rcases wrap_cases i s with ⟨hw, e⟩ | ⟨hw, e⟩ <;> simp [hw, e]

theorem advance_sub_add (i : Inst) (s : State) : (advance i s).sub + MT i * wrap i s = s.sub + 1 := by
  rw [advance_sub]
  rcases wrap_cases i s with ⟨hw, e⟩ | ⟨hw, e⟩
  · rw [if_pos hw, e, hw, Nat.mul_one, Nat.zero_add]
  · rw [if_neg hw, e, Nat.mul_zero, Nat.add_zero]

theorem advance_sub_lt {i : Inst} {s : State} (hs : s.sub < MT i) : (advance i s).sub < MT i := by
  rw [advance_sub]
  split
  · exact Nat.zero_lt_of_lt hs
  · omega

/-- clock position `time_idx · (M·S) + sub_time_idx` -/
def pos (i : Inst) (s : State) : Nat := s.time * MT i + s.sub

theorem pos_reset (i : Inst) : pos i (reset i) = 0 := by
  show 0 * MT i + 0 = 0
  rw [Nat.zero_mul]

theorem pos_advance (i : Inst) (s : State) : pos i (advance i s) = pos i s + 1 := by
  unfold pos
  rw [advance_time, Nat.add_mul, Nat.add_assoc, Nat.add_comm (wrap i s * MT i), Nat.mul_comm (wrap i s),
    advance_sub_add, Nat.add_assoc]

/-- `R` holds at every slot `(t, sub)` whose clock position (`pos`) is below `n` -/
def Upto (i : Inst) (n : Nat) (R : Nat → Nat → Prop) : Prop :=
  ∀ t sub, sub < MT i → t * MT i + sub < n → R t sub

theorem upto_reset (i : Inst) (R : Nat → Nat → Prop) : Upto i (pos i (reset i)) R :=
  fun _ _ _ hlt => absurd (pos_reset i ▸ hlt) (Nat.not_lt_zero _)

theorem upto_succ {i : Inst} {s : State} {R : Nat → Nat → Prop} (hs : s.sub < MT i)
    (hp : Upto i (pos i s) R) (g : R s.time s.sub) : Upto i (pos i s + 1) R := by
  intro t sub hsub hlt
  rcases Nat.lt_succ_iff_lt_or_eq.mp hlt with hlt | heq
  · exact hp t sub hsub hlt
  · obtain ⟨e1, e2⟩ := idx_inj hsub hs heq
    rw [e1, e2]; exact g

theorem moveLoop_succ_ready {i : Inst} {s : State} (f : Nat) (hr : ready i (advance i s) = true) :
    moveLoop i (f + 1) s = advance i s := by
  show (if ready i (advance i s) = true then _ else _) = _
  rw [if_pos hr]

theorem moveLoop_succ_not_ready {i : Inst} {s : State} (f : Nat) (hr : ready i (advance i s) = false) :
    moveLoop i (f + 1) s = moveLoop i f (advance i s) := by
  show (if ready i (advance i s) = true then _ else _) = _
  rw [if_neg (by rw [hr]; exact Bool.false_ne_true)]

/-- **Loop rule for `_move_to_next_machine`**; two predicates because the body `advance` runs before the test -/
theorem moveLoop_induct (i : Inst) {Before After : State → Prop}
    (hadv : ∀ x, Before x → After (advance i x)) (hnr : ∀ y, After y → ready i y = false → Before y) :
    ∀ (f : Nat) (x : State), Before x → After (moveLoop i (f + 1) x) := by
  intro f
  induction f with
  | zero =>
    intro x hx
    cases hr : ready i (advance i x)
    · rw [moveLoop_succ_not_ready 0 hr]; exact hadv x hx
    · rw [moveLoop_succ_ready 0 hr]; exact hadv x hx
  | succ f ih =>
    intro x hx
    cases hr : ready i (advance i x)
    · rw [moveLoop_succ_not_ready _ hr]; exact ih _ (hnr _ (hadv x hx) hr)
    · rw [moveLoop_succ_ready _ hr]; exact hadv x hx

theorem moveNext_preserves (i : Inst) {P : State → Prop} (hadv : ∀ x, P x → P (advance i x))
    (s : State) (hs : P s) : P (moveNext i s) := by
  unfold moveNext
  split
  · exact hs
  · cases moveFuel i s with
    | zero => exact hs
    | succ f => exact moveLoop_induct i hadv (fun _ hy _ => hy) f s hs

theorem moveNext_of_done {i : Inst} {s : State} (hd : s.done = true) : moveNext i s = s := by
  unfold moveNext; rw [if_pos hd]

theorem moveNext_eq_moveLoop {i : Inst} {s : State} (hd : s.done = false) :
    moveNext i s = moveLoop i (moveFuel i s) s := by
  unfold moveNext; rw [hd, if_neg Bool.false_ne_true]

theorem moveNext_of_not_done {i : Inst} (h : WF i) {s : State} (hd : s.done = false) :
    ∃ f, moveNext i s = moveLoop i (f + 1) s := by
  have hf : 0 < moveFuel i s := Nat.mul_pos (Nat.succ_pos _) (MT_pos h)
  exact ⟨moveFuel i s - 1, by rw [moveNext_eq_moveLoop hd, Nat.sub_add_cancel hf]⟩

theorem moveNext_frame (i : Inst) (s : State) :
    (moveNext i s).done = s.done ∧ (moveNext i s).jloc = s.jloc ∧ (moveNext i s).sched = s.sched :=
  moveNext_preserves i (P := fun x => x.done = s.done ∧ x.jloc = s.jloc ∧ x.sched = s.sched)
    (fun _ hx => hx) s ⟨rfl, rfl, rfl⟩

theorem finish_true (i : Inst) (s : State) : finish i s true = { s with reward := some (rewardVal i s) } := rfl

theorem finish_false (i : Inst) (s : State) : finish i s false = updateMask i (moveNext i s) := rfl

theorem stepG_done (i : Inst) (s : State) (a : Nat) (g : Bool) : (stepG i s a g).done = (apply i s a).done := by
  cases g
  · exact (moveNext_frame i _).1
  · rfl

theorem stepM_done (i : Inst) (s : State) (a : Nat) : (stepM i s a).done = (apply i s a).done :=
  stepG_done i s a false

theorem stepG_sched (i : Inst) (s : State) (a : Nat) (g : Bool) : (stepG i s a g).sched = (apply i s a).sched := by
  cases g
  · exact (moveNext_frame i _).2.2
  · rfl

theorem stepG_jloc (i : Inst) (s : State) (a : Nat) (g : Bool) : (stepG i s a g).jloc = (apply i s a).jloc := by
  cases g
  · exact (moveNext_frame i _).2.1
  · rfl

/-- while the row itself is unfinished after its step, the solo step *is* the step next to running
batch-mates (so every mask the row acts on, the clock and the schedule coincide) -/
theorem step_eq_stepM (i : Inst) (s : State) (a : Nat) (hd : (apply i s a).done = false) :
    step i s a = stepM i s a := by simp [step, stepM, hd]

theorem step_of_apply_done (i : Inst) (s : State) (a : Nat) (hd : (apply i s a).done = true) :
    step i s a = stepG i s a true := by rw [step, hd]

def iter (i : Inst) : Nat → State → State
  | 0, s => s
  | n + 1, s => advance i (iter i n s)

theorem iter_succ' (i : Inst) (n : Nat) (s : State) : iter i (n + 1) s = iter i n (advance i s) := by
  induction n with
  | zero => rfl
  | succ n ih => show advance i (iter i (n + 1) s) = advance i (iter i n (advance i s)); rw [ih]

theorem moveLoop_ready (i : Inst) : ∀ (f : Nat) (s : State) (n : Nat), n < f →
    ready i (iter i (n + 1) s) = true → ready i (moveLoop i f s) = true := by
  intro f
  induction f with
  | zero => intro s n h; exact absurd h (Nat.not_lt_zero _)
  | succ f ih =>
    intro s n h hr
    cases hs : ready i (advance i s)
    · rw [moveLoop_succ_not_ready f hs]
      rw [iter_succ'] at hr
      cases n with
      | zero => exact absurd (hs.symm.trans hr) Bool.false_ne_true
      | succ n => exact ih (advance i s) n (Nat.lt_of_succ_lt_succ h) hr
    · rw [moveLoop_succ_ready f hs]; exact hs

theorem moveLoop_is_iter (i : Inst) (f : Nat) (s : State) :
    ∃ n, 1 ≤ n ∧ moveLoop i (f + 1) s = iter i n s :=
  moveLoop_induct i (Before := fun x => ∃ n, x = iter i n s) (After := fun y => ∃ n, 1 ≤ n ∧ y = iter i n s)
    (fun _ ⟨n, e⟩ => ⟨n + 1, Nat.succ_pos n, e ▸ rfl⟩) (fun _ ⟨n, _, e⟩ _ => ⟨n, e⟩) f s ⟨0, rfl⟩

theorem iter_jloc (i : Inst) (n : Nat) (s : State) : (iter i n s).jloc = s.jloc := by
  induction n with
  | zero => rfl
  | succ n ih => exact ih

/-- closed form of `n` iterations, with the number `c` of clock wraps as a ghost counter -/
theorem iter_closed (i : Inst) (s : State) (hs : s.sub < MT i) : ∀ n, ∃ c,
    (iter i n s).sub + MT i * c = s.sub + n ∧ (iter i n s).sub < MT i ∧
    (∀ m, (iter i n s).mwait m = s.mwait m - c) ∧ (∀ j, (iter i n s).jwait j = s.jwait j - c) := by
  intro n
  induction n with
  | zero => exact ⟨0, rfl, hs, fun _ => rfl, fun _ => rfl⟩
  | succ n ih =>
    obtain ⟨c, h1, h2, h4, h5⟩ := ih
    refine ⟨c + wrap i (iter i n s), ?_, advance_sub_lt h2, ?_, ?_⟩
    · have := advance_sub_add i (iter i n s)
      show (advance i (iter i n s)).sub + _ = _
      rw [Nat.mul_add]; omega
    · intro m
      show (advance i (iter i n s)).mwait m = _
      rw [advance_mwait, h4, Nat.sub_sub]
    · intro j
      show (advance i (iter i n s)).jwait j = _
      rw [advance_jwait, h5, Nat.sub_sub]

theorem le_maxL {l : List Nat} {x : Nat} (h : x ∈ l) : x ≤ maxL l := by
  induction l with
  | nil => cases h
  | cons y ys ih =>
    rcases List.mem_cons.mp h with h | h
    · subst h; exact Nat.le_max_left _ _
    · exact Nat.le_trans (ih h) (Nat.le_max_right _ _)

theorem mwait_le_maxWait (i : Inst) (s : State) {m : Nat} (hm : m < MT i) : s.mwait m ≤ maxWait i s :=
  Nat.le_trans (le_maxL (List.mem_map.mpr ⟨m, List.mem_range.mpr hm, rfl⟩)) (Nat.le_max_left _ _)

theorem jwait_le_maxWait (i : Inst) (s : State) {j : Nat} (hj : j < i.J) : s.jwait j ≤ maxWait i s :=
  Nat.le_trans (le_maxL (List.mem_map.mpr ⟨j, List.mem_range.mpr hj, rfl⟩)) (Nat.le_max_right _ _)

theorem ready_iff (i : Inst) (s : State) : ready i s = true ↔
    s.mwait s.midx = 0 ∧ ∃ j, j < i.J ∧ s.jloc j = stageOf i s.sub ∧ s.jwait j = 0 := by
  simp only [ready, jobReady, Bool.and_eq_true, beq_iff_eq, List.any_eq_true, List.mem_range]

/-- `updateMask` rewrites `stage`, `smidx` and `mask` only -/
theorem updateMask_frame (i : Inst) (s : State) :
    (updateMask i s).time = s.time ∧ (updateMask i s).sub = s.sub ∧ (updateMask i s).midx = s.midx ∧
    (updateMask i s).sched = s.sched ∧ (updateMask i s).mwait = s.mwait ∧ (updateMask i s).jloc = s.jloc ∧
    (updateMask i s).jwait = s.jwait ∧ (updateMask i s).done = s.done ∧ (updateMask i s).reward = s.reward :=
  ⟨rfl, rfl, rfl, rfl, rfl, rfl, rfl, rfl, rfl⟩

theorem ready_updateMask (i : Inst) (s : State) : ready i (updateMask i s) = ready i s := rfl

/-- **Termination of `_move_to_next_machine`.**  From any state whose clock is in range and in which
some job has not passed all stages, the loop with fuel `(maxWait + 2) · M·S` ends in a *ready* state:
the fuel is never exhausted (`maxWait + 1` wraps of the clock drain every wait counter, one more sweep reaches
the first machine of the job's stage). -/
theorem moveLoop_fuel_enough (i : Inst) (h : WF i) (s : State) (hs : s.sub < MT i)
    (hj : ∃ j, j < i.J ∧ s.jloc j < i.S) : ready i (moveLoop i (moveFuel i s) s) = true := by
  obtain ⟨j0, hj0, hk⟩ := hj
  have hkM : s.jloc j0 * i.M < MT i := by
    rw [MT, Nat.mul_comm i.M]; exact Nat.mul_lt_mul_of_pos_right hk h.M_pos
  -- the iterate `n` at which the sweep stands on the first machine of `j0`'s stage after `maxWait + 1` wraps
  have hA : MT i ≤ MT i * (maxWait i s + 1) := Nat.le_mul_of_pos_right _ (Nat.succ_pos _)
  have hF : moveFuel i s = MT i * (maxWait i s + 1) + MT i := by
    rw [moveFuel, Nat.mul_comm]; rfl
  obtain ⟨n, hn⟩ := Nat.exists_eq_add_of_le
    (Nat.le_trans (Nat.succ_le_of_lt hs) (Nat.le_trans hA (Nat.le_add_left _ (s.jloc j0 * i.M))))
  rw [Nat.succ_add_eq_add_succ] at hn
  apply moveLoop_ready i _ s n
  · rw [hF, Nat.add_comm _ (MT i)]
    exact Nat.le_trans (Nat.le_add_left _ s.sub) (hn ▸ Nat.add_le_add_right (Nat.le_of_lt hkM) _)
  obtain ⟨c, h1, h2, h4, h5⟩ := iter_closed i s hs (n + 1)
  obtain ⟨hsub, hc⟩ := divmod_unique h2 hkM (h1.trans hn.symm)
  have hmid : (iter i (n + 1) s).midx < MT i := machineOf_lt h h2
  rw [ready_iff]
  refine ⟨?_, j0, hj0, ?_, ?_⟩
  · rw [h4, hc]
    exact Nat.sub_eq_zero_of_le (Nat.le_succ_of_le (mwait_le_maxWait i s hmid))
  · rw [iter_jloc, hsub]
    exact (Nat.mul_div_cancel _ h.M_pos).symm
  · rw [h5, hc]
    exact Nat.sub_eq_zero_of_le (Nat.le_succ_of_le (jwait_le_maxWait i s hj0))

theorem allAtEnd_true (i : Inst) (f : Nat → Nat) : allAtEnd i f = true ↔ ∀ j, j < i.J → f j = i.S := by
  simp [allAtEnd]

theorem allAtEnd_congr (i : Inst) {f g : Nat → Nat} (h : ∀ j, j < i.J → f j = g j) :
    allAtEnd i f = allAtEnd i g := by
  apply Bool.eq_iff_iff.mpr
  rw [allAtEnd_true, allAtEnd_true]
  exact ⟨fun hh j hj => by rw [← h j hj]; exact hh j hj, fun hh j hj => by rw [h j hj]; exact hh j hj⟩

/-- the stored mask is the one `_update_step_state` computes from the current state -/
def Fresh (i : Inst) (s : State) : Prop := ∀ a, s.mask a = (updateMask i s).mask a

theorem mask_job (i : Inst) (s : State) (f : Fresh i s) {a : Nat} (ha : a < i.J) :
    s.mask a = (s.jloc a == stageOf i s.sub && s.jwait a == 0) := by
  rw [f a]; simp [updateMask, ha]

theorem mask_wait (i : Inst) (s : State) (f : Fresh i s) (hd : s.done = true) : s.mask i.J = true := by
  rw [f i.J]; simp [updateMask, hd]

theorem mask_out (i : Inst) (s : State) (f : Fresh i s) {a : Nat} (ha : i.J < a) : s.mask a = false := by
  rw [f a]
  have h1 : ¬ a < i.J := Nat.lt_asymm ha
  have h2 : ¬ a = i.J := Nat.ne_of_gt ha
  simp [updateMask, h1, h2]

theorem mask_wait_iff (i : Inst) (s : State) (f : Fresh i s) (hd : s.done = false) :
    s.mask i.J = true ↔ (∃ j, j < i.J ∧ s.jloc j < stageOf i s.sub) ∨
      (∃ j, j < i.J ∧ s.jloc j = stageOf i s.sub ∧ 0 < s.jwait j) := by
  rw [f i.J]
  simp only [updateMask, Nat.lt_irrefl, if_false, if_true, hd, Bool.or_false, Bool.or_eq_true,
    List.any_eq_true, List.mem_range, decide_eq_true_eq, Bool.and_eq_true, beq_iff_eq, gt_iff_lt]

/-- **Obligation on the extracted slice bound**: the makespan ignores the dummy (wait) column. -/
theorem rewardCols_eq (i : Inst) : rewardCols i = i.J := rfl

theorem maxI_mem : ∀ {l : List Int}, l ≠ [] → maxI l ∈ l
  | [], h => absurd rfl h
  | [x], _ => by simp [maxI]
  | x :: y :: xs, _ => by
    have ih := maxI_mem (l := y :: xs) (by simp)
    simp only [maxI]
    by_cases hle : x ≤ maxI (y :: xs)
    · rw [Int.max_eq_right hle]; exact List.mem_cons_of_mem _ ih
    · rw [Int.max_eq_left (by omega)]; exact List.mem_cons_self

theorem le_maxI : ∀ {l : List Int} {x : Int}, x ∈ l → x ≤ maxI l
  | [], _, h => by cases h
  | [y], x, h => by simp at h; subst h; simp [maxI]
  | y :: z :: zs, x, h => by
    simp only [maxI]
    rcases List.mem_cons.mp h with h | h
    · subst h; exact Int.le_max_left _ _
    · exact Int.le_trans (le_maxI h) (Int.le_max_right _ _)

theorem endMax_eq (i : Inst) (s : State) : endMax i s =
    maxI ((List.range (MT i)).map (fun m =>
      maxI ((List.range i.J).map (fun j => s.sched m j + (i.dur j m : Int))))) := by
  unfold endMax
  rw [rewardCols_eq]
  congr 1
  apply List.map_congr_left
  intro m _
  congr 1
  apply List.map_congr_left
  intro j hj
  simp [jobDur, List.mem_range.mp hj]

theorem maxI_matrix (f : Nat → Nat → Int) {M J : Nat} (hM : 0 < M) (hJ : 0 < J) :
    (∃ m j, m < M ∧ j < J ∧ maxI ((List.range M).map fun m => maxI ((List.range J).map (f m))) = f m j) ∧
    ∀ m j, m < M → j < J → f m j ≤ maxI ((List.range M).map fun m => maxI ((List.range J).map (f m))) := by
  have hne : ∀ {α : Type} (g : Nat → α) {n : Nat}, 0 < n → (List.range n).map g ≠ [] :=
    fun g n hn h => absurd (congrArg List.length h) (by simp [Nat.ne_of_gt hn])
  constructor
  · obtain ⟨m, hm, he⟩ := List.mem_map.mp (maxI_mem (hne (fun m => maxI ((List.range J).map (f m))) hM))
    obtain ⟨j, hj, he2⟩ := List.mem_map.mp (maxI_mem (hne (f m) hJ))
    exact ⟨m, j, List.mem_range.mp hm, List.mem_range.mp hj, by rw [← he, ← he2]⟩
  · intro m j hm hj
    exact Int.le_trans (le_maxI (List.mem_map.mpr ⟨j, List.mem_range.mpr hj, rfl⟩))
      (le_maxI (List.mem_map.mpr ⟨m, List.mem_range.mpr hm, rfl⟩))

end Rl4co.Ffsp
