/-
Helper lemmas for the general k-opt branch of `TSPkoptEnv._local_operator` (C09): the relinking walk
along a list whose consecutive triples are "locally right", one reversed segment, the untouched rest,
their assembly over any number of segments, the sequential scatter.  Core Lean only.
-/
import Rl4co.Proofs.ImproveCycle

namespace Rl4co.Improve.KoptK
open Rl4co.Spec.Improve

def AllTriples (P : Nat → Nat → Nat → Prop) : List Nat → Prop
  | x :: y :: z :: t => P x y z ∧ AllTriples P (y :: z :: t)
  | _ => True

/-- what one iteration of the relinking walk writes into `rec[next_cur]` when it comes from `cur`
and `next_cur` still holds its scattered value `rec0 next_cur` -/
def fixVal (prd : Rec) (rn : List Nat) (rec0 : Rec) (cur nextCur : Nat) : Nat :=
  if (cur != prd nextCur) && !(rn.contains nextCur) then prd nextCur else rec0 nextCur

abbrev OK (prd : Rec) (rn : List Nat) (rec0 : Rec) : Nat → Nat → Nat → Prop :=
  fun x y w => fixVal prd rn rec0 x y = w

/-- the relinking walk along a duplicate-free list whose consecutive triples `(u, v, w)` all satisfy
"coming from `u`, the loop stores `w` at `v`": afterwards the list is a chain, and nothing but its
inner nodes was written. -/
theorem koptLoop_chain (prd : Rec) (rn : List Nat) (rec0 : Rec) :
    ∀ (Q : List Nat) (u v : Nat) (rc : Rec),
    (u :: v :: Q).Nodup → rc u = v → (∀ z ∈ v :: Q, rc z = rec0 z) →
    AllTriples (OK prd rn rec0) (u :: v :: Q) →
    Linked (koptLoop prd rn Q.length u rc) (u :: v :: Q) ∧
    (∀ z, z ∉ (v :: Q).dropLast → koptLoop prd rn Q.length u rc z = rc z) := by
  intro Q
  induction Q with
  | nil =>
    intro u v rc _ huv _ _
    exact ⟨⟨huv, trivial⟩, fun z _ => rfl⟩
  | cons w Q ih =>
    intro u v rc hnd huv hrc htri
    have hnd' := List.nodup_cons.mp hnd
    have hfix : fixVal prd rn rec0 u v = w := htri.1
    have hstep : koptLoop prd rn (w :: Q).length u rc =
        koptLoop prd rn Q.length v (upd rc v w) := by
      simp only [List.length_cons, koptLoop, huv]
      congr 1
      rw [← hfix]
      simp only [fixVal, hrc v (by simp)]
    rw [hstep]
    have hv_notin : v ∉ w :: Q := (List.nodup_cons.mp hnd'.2).1
    obtain ⟨ih1, ih2⟩ := ih v w (upd rc v w) hnd'.2 (upd_same _ _ _)
      (fun z hz => (upd_other _ _ _ _ fun e : z = v => hv_notin (e ▸ hz)).trans (hrc z (List.mem_cons_of_mem _ hz)))
      htri.2
    have hu_notin : u ∉ v :: w :: Q := hnd'.1
    constructor
    · refine ⟨?_, ih1⟩
      rw [ih2 u fun hm => hu_notin (List.mem_cons_of_mem _ (List.dropLast_subset _ hm)),
        upd_other _ _ _ _ fun e : u = v => hu_notin (e ▸ List.mem_cons_self), huv]
    · intro z hz
      rw [List.dropLast_cons_cons, List.mem_cons, not_or] at hz
      rw [ih2 z hz.2, upd_other _ _ _ _ hz.1]

theorem fixVal_of_mem (prd : Rec) (rn : List Nat) (rec0 : Rec) (u v : Nat) (h : v ∈ rn) :
    fixVal prd rn rec0 u v = rec0 v := by
  simp [fixVal, h]

theorem fixVal_of_eq (prd : Rec) (rn : List Nat) (rec0 : Rec) (u v : Nat) (h : u = prd v) :
    fixVal prd rn rec0 u v = rec0 v := by
  simp [fixVal, h]

theorem fixVal_rev (prd : Rec) (rn : List Nat) (rec0 : Rec) (u v : Nat) (h1 : u ≠ prd v) (h2 : v ∉ rn) :
    fixVal prd rn rec0 u v = prd v := by
  simp [fixVal, h1, h2]

/-- one reversed segment `T = rev S` entered from `u` and followed by `C`: every inner node gets its OLD
predecessor, the last one (the old head of the segment, a "right node") keeps its scattered successor, the
head of `C`. -/
theorem segOK (prd : Rec) (rn : List Nat) (rec0 : Rec) :
    ∀ (T : List Nat) (u h : Nat) (C : List Nat), T.getLast? = some h → Linked prd T → (u :: T).Nodup →
    (∀ z ∈ T.dropLast, z ∉ rn) → h ∈ rn → (∀ q, C.head? = some q → rec0 h = q) →
    AllTriples (OK prd rn rec0) (h :: C) → AllTriples (OK prd rn rec0) (u :: T ++ C) := by
  intro T
  induction T with
  | nil => intro u h C hlast; exact nomatch hlast
  | cons x T ih =>
    intro u h C hlast hl hnd hdl hh hq hC
    cases T with
    | nil =>
      obtain rfl := Option.some.inj hlast
      cases C with
      | nil => trivial
      | cons q C' => exact ⟨(fixVal_of_mem _ _ _ _ _ hh).trans (hq q rfl), hC⟩
    | cons y T' =>
      rw [linked_cons_cons] at hl
      have hnd' := List.nodup_cons.mp hnd
      have hux : u ≠ y := fun e => hnd'.1 (e ▸ List.mem_cons_of_mem _ List.mem_cons_self)
      have hxrn : x ∉ rn := hdl x List.mem_cons_self
      refine ⟨?_, ih x h C (List.getLast?_cons_cons ▸ hlast) hl.2 hnd'.2
        (fun z hz => hdl z (List.mem_cons_of_mem _ hz)) hh hq hC⟩
      show fixVal prd rn rec0 u x = y
      rw [fixVal_rev _ _ _ _ _ (by rw [hl.1]; exact hux) hxrn, hl.1]

/-- the untouched rest `R`, entered from `u`: the walk arrives at a node either from its old predecessor or at a right node
(the hypothesis on `R.take 1` for the first node, the chain itself afterwards), so the reversal test fails and the old successor stays -/
theorem restOK (prd : Rec) (rn : List Nat) (rec0 r : Rec) :
    ∀ (R : List Nat) (u : Nat), Linked r R →
    (∀ x ∈ R, prd (r x) = x) → (∀ x ∈ R, rec0 x = r x) →
    (∀ v ∈ R.take 1, u = prd v ∨ v ∈ rn) →
    AllTriples (OK prd rn rec0) (u :: R) := by
  intro R
  induction R with
  | nil => intro u _ _ _ _; trivial
  | cons v R ih =>
    intro u hl hp hr hu
    cases R with
    | nil => trivial
    | cons w R' =>
      rw [linked_cons_cons] at hl
      refine ⟨?_, ?_⟩
      · show fixVal prd rn rec0 u v = w
        have h0 := hr v List.mem_cons_self
        rcases hu v List.mem_cons_self with h | h
        · rw [fixVal_of_eq _ _ _ _ _ h, h0, hl.1]
        · rw [fixVal_of_mem _ _ _ _ _ h, h0, hl.1]
      · apply ih v hl.2
        · intro x hx; exact hp x (List.mem_cons_of_mem _ hx)
        · intro x hx; exact hr x (List.mem_cons_of_mem _ hx)
        · intro v' hv'
          rw [List.mem_singleton.mp hv', ← hl.1]
          exact Or.inl (hp v List.mem_cons_self).symm

theorem linked_prd_reverse (r prd : Rec) : ∀ (S : List Nat), Linked r S →
    (∀ x ∈ S, prd (r x) = x) → Linked prd S.reverse := by
  intro S
  induction S with
  | nil => intro _ _; trivial
  | cons a S ih =>
    intro hl hp
    rw [List.reverse_cons]
    refine linked_concat _ _ a (ih (linked_suffix r [a] S hl) fun x hx => hp x (List.mem_cons_of_mem _ hx))
      fun l hl' => ?_
    rw [List.getLast?_reverse] at hl'
    cases S with
    | nil => exact nomatch hl'
    | cons b S' =>
      obtain rfl := Option.some.inj hl'
      exact hl.1 ▸ hp a List.mem_cons_self

/-- the scattered links `rec_next[left] = right`, read along the segments: `u` (first `t0`, then the first node of the
previous segment) points to the LAST node of the segment `S` that `rev` puts behind it in the new tour; the first node of
the last segment points to whatever followed it (the head of `R ++ [t0]`).  Same object as the list `Spec.Improve.pairs`
(`links_of_pairs`). -/
def Links (rec0 : Rec) (t0 : Nat) : Nat → List (List Nat) → List Nat → Prop
  | u, [], R => rec0 u = (R ++ [t0]).headD t0
  | u, S :: segs, R => S.getLast? = some (rec0 u) ∧ Links rec0 t0 (S.headD t0) segs R

/-- the new order `u, rev S₁, …, rev S_k, R` is what the walk from `u` follows: the scattered link of `u` leads to its first
node (to `t0` when it is empty), and every triple is right -/
theorem chainOK (prd : Rec) (rn : List Nat) (rec0 r : Rec) (t0 : Nat) :
    ∀ (segs : List (List Nat)) (R : List Nat) (u : Nat),
    (∀ S ∈ segs, S ≠ []) →
    (u :: (segs.flatten ++ R)).Nodup →
    Linked r (segs.flatten ++ R ++ [t0]) →
    (∀ x ∈ segs.flatten ++ R, prd (r x) = x) →
    Links rec0 t0 u segs R →
    (∀ x ∈ R, rec0 x = r x) →
    (∀ S ∈ segs, S.headD t0 ∈ rn ∧ ∀ z ∈ S.tail, z ∉ rn) →
    (∀ v ∈ R.take 1, v ∈ rn) →
    (newTail segs R ++ [t0]).head? = some (rec0 u) ∧ AllTriples (OK prd rn rec0) (u :: newTail segs R) := by
  intro segs
  induction segs with
  | nil =>
    intro R u _ _ hl hp hlk hr _ hrn
    simp only [newTail, List.map_nil, List.flatten_nil, List.nil_append] at *
    refine ⟨?_, restOK prd rn rec0 r R u (linked_prefix r R [t0] hl) hp hr fun v hv => Or.inr (hrn v hv)⟩
    rw [show rec0 u = (R ++ [t0]).headD t0 from hlk]
    cases R <;> rfl
  | cons S segs ih =>
    intro R u hne hnd hl hp hlk hr hsel hrn
    obtain ⟨hS, hne'⟩ := List.forall_mem_cons.mp hne
    obtain ⟨h, Stl, rfl⟩ := List.exists_cons_of_ne_nil hS
    obtain ⟨⟨hsel1, hsel2⟩, hsel'⟩ := List.forall_mem_cons.mp hsel
    obtain ⟨hlk1, hlk2⟩ := hlk
    rw [List.flatten_cons, List.append_assoc] at hnd hp
    rw [List.flatten_cons, List.append_assoc (h :: Stl), List.append_assoc (h :: Stl)] at hl
    -- the remaining segments, entered from `h`
    have hnd_h : (h :: (segs.flatten ++ R)).Nodup :=
      (List.Sublist.cons_cons h (List.sublist_append_right Stl _)).nodup (List.nodup_cons.mp hnd).2
    obtain ⟨hfirst, ihr⟩ := ih R h hne' hnd_h (linked_suffix r (h :: Stl) _ hl)
      (fun x hx => hp x (List.mem_append_right _ hx)) hlk2 hr hsel' hrn
    -- the segment itself, read backwards
    have hT : Linked prd (h :: Stl).reverse := linked_prd_reverse r prd (h :: Stl) (linked_prefix r (h :: Stl) _ hl)
      (fun x hx => hp x (List.mem_append_left _ hx))
    have hndT : (u :: (h :: Stl).reverse).Nodup :=
      ((List.reverse_perm _).cons u).nodup_iff.mpr
        ((List.Sublist.cons_cons u (List.sublist_append_left (h :: Stl) _)).nodup hnd)
    have hrev : (h :: Stl).reverse = Stl.reverse ++ [h] := List.reverse_cons
    have hdl : ∀ z ∈ ((h :: Stl).reverse).dropLast, z ∉ rn := by
      intro z hz
      rw [hrev, List.dropLast_concat] at hz
      exact hsel2 z (List.mem_reverse.mp hz)
    have hnt : newTail ((h :: Stl) :: segs) R = (h :: Stl).reverse ++ newTail segs R := by
      rw [newTail, newTail, List.map_cons, List.flatten_cons, List.append_assoc]
    rw [hnt]
    refine ⟨by rw [List.append_assoc, List.head?_append, List.head?_reverse, hlk1]; rfl, ?_⟩
    refine segOK prd rn rec0 ((h :: Stl).reverse) u h (newTail segs R) (by rw [hrev, List.getLast?_concat])
      hT hndT hdl hsel1 (fun q hq => ?_) ihr
    rw [List.head?_append, hq] at hfirst
    exact (Option.some.inj hfirst).symm

theorem getLast?_append_cons (A : List Nat) (h : Nat) (B : List Nat) :
    (A ++ h :: B).getLast? = (h :: B).getLast? := by
  rw [List.getLast?_append]
  cases hB : (h :: B).getLast? with
  | none => simp at hB
  | some x => rfl

/-- the last node of the new order points back to `t0` already after the scatter -/
theorem closing (rec0 r : Rec) (t0 : Nat) : ∀ (segs : List (List Nat)) (R : List Nat) (u : Nat),
    (∀ S ∈ segs, S ≠ []) → Links rec0 t0 u segs R → (∀ x ∈ R, rec0 x = r x) →
    Linked r (R ++ [t0]) →
    ∀ l, (u :: newTail segs R).getLast? = some l → rec0 l = t0 := by
  intro segs
  induction segs with
  | nil =>
    intro R u _ hlk hr hl l hlast
    simp only [newTail, List.map_nil, List.flatten_nil, List.nil_append] at hlast
    rcases eq_nil_or_snoc R with rfl | ⟨R', x, rfl⟩
    · cases hlast
      exact hlk
    · rw [← List.cons_append, List.getLast?_concat] at hlast
      cases hlast
      rw [List.append_assoc, List.singleton_append, linked_append_mid] at hl
      exact (hr l (by simp)).trans hl.2.1
  | cons S segs ih =>
    intro R u hne hlk hr hl l hlast
    obtain ⟨hS, hne'⟩ := List.forall_mem_cons.mp hne
    obtain ⟨h, Stl, rfl⟩ := List.exists_cons_of_ne_nil hS
    have hnt : u :: newTail ((h :: Stl) :: segs) R = (u :: Stl.reverse) ++ h :: newTail segs R := by
      simp [newTail]
    rw [hnt, getLast?_append_cons] at hlast
    exact ih R h hne' hlk.2 hr hl l hlast

theorem flatten_reverse_perm : ∀ (segs : List (List Nat)),
    ((segs.map List.reverse).flatten).Perm segs.flatten := by
  intro segs
  induction segs with
  | nil => simp
  | cons S segs ih =>
    simp only [List.map_cons, List.flatten_cons]
    exact List.Perm.append (List.reverse_perm S) ih

/-- **The relinking walk is correct on every well-formed move.**  Old tour (read from `t0`):
`t0, S₁, S₂, …, S_k, R`; scattered links as described by `Links`; the "right nodes" contain the first
node of every segment and of `R`, and no other node of a segment.  Then after the `n − 2` iterations the
array is the successor function of the tour `t0, rev S₁, rev S₂, …, rev S_k, R`. -/
theorem relink_cycle (n : Nat) (r : Rec) (t0 : Nat) (segs : List (List Nat)) (R rn : List Nat)
    (rec0 : Rec)
    (hne : ∀ S ∈ segs, S ≠ [])
    (hperm : (t0 :: (segs.flatten ++ R)).Perm (List.range n))
    (hcyc : CycleOf r (t0 :: (segs.flatten ++ R)))
    (hlk : Links rec0 t0 t0 segs R)
    (hrec0 : ∀ x ∈ R, rec0 x = r x)
    (hsel : ∀ S ∈ segs, S.headD t0 ∈ rn ∧ ∀ z ∈ S.tail, z ∉ rn)
    (hrn : ∀ v ∈ R.take 1, v ∈ rn) :
    (t0 :: newTail segs R).Perm (List.range n) ∧
    CycleOf (koptLoop (argsort n r) rn (n - 2) t0 rec0) (t0 :: newTail segs R) := by
  have hnd := nodup_of_perm_range hperm
  have hpermN : (t0 :: newTail segs R).Perm (List.range n) :=
    (((flatten_reverse_perm segs).append_right R).cons t0).trans hperm
  refine ⟨hpermN, ?_⟩
  have hndN := nodup_of_perm_range hpermN
  have hlenN := length_of_perm_range hpermN
  have hl : Linked r (segs.flatten ++ R ++ [t0]) :=
    linked_suffix r [t0] _ ((cycleOf_cons r t0 _).mp hcyc)
  have hp : ∀ x ∈ segs.flatten ++ R, argsort n r (r x) = x := fun x hx =>
    argsort_of_cycle n r _ hperm hcyc x (r x) ((mem_of_perm_range hperm x).mp (List.mem_cons_of_mem _ hx)) rfl
  obtain ⟨hfirst, htri⟩ := chainOK (argsort n r) rn rec0 r t0 segs R t0 hne hnd hl hp hlk hrec0 hsel hrn
  have hclose := closing rec0 r t0 segs R t0 hne hlk hrec0
    (linked_suffix r segs.flatten (R ++ [t0]) (by rwa [List.append_assoc] at hl))
  rw [cycleOf_cons]
  cases hN : newTail segs R with
  | nil =>
    rw [hN] at hlenN hfirst
    rw [← hlenN]
    exact ⟨(Option.some.inj hfirst).symm, trivial⟩
  | cons v Q =>
    rw [hN] at hlenN hfirst htri hndN hclose
    have hQ : Q.length = n - 2 := by rw [← hlenN]; rfl
    rw [← hQ]
    obtain ⟨h1, h2⟩ := koptLoop_chain (argsort n r) rn rec0 Q t0 v rec0 hndN (Option.some.inj hfirst).symm
      (fun z _ => rfl) htri
    -- the last node was not written by the walk and points back to `t0` since the scatter
    refine linked_concat _ (t0 :: v :: Q) t0 h1 fun l hlast => ?_
    rw [h2 l (getLast_notMem_dropLast (List.nodup_cons.mp hndN).2 (by rwa [List.getLast?_cons_cons] at hlast))]
    exact hclose l hlast

theorem links_of_pairs (rec0 : Rec) (t0 : Nat) : ∀ (segs : List (List Nat)) (R : List Nat) (u : Nat),
    (∀ S ∈ segs, S ≠ []) → (∀ p ∈ pairs t0 u segs R, rec0 p.1 = p.2) → Links rec0 t0 u segs R := by
  intro segs
  induction segs with
  | nil => intro R u _ h; simpa [pairs, Links] using h
  | cons S segs ih =>
    intro R u hne h
    obtain ⟨hS, hne'⟩ := List.forall_mem_cons.mp hne
    refine ⟨?_, ih R _ hne' (fun p hp => h p (by unfold pairs; exact List.mem_cons_of_mem _ hp))⟩
    have h1 := h (u, S.getLastD t0) (by simp [pairs])
    simp only at h1
    rw [h1]
    cases S with
    | nil => exact absurd rfl hS
    | cons a S' => simp [List.getLastD, List.getLast?_eq_some_getLast]

theorem pairs_fst (t0 : Nat) (segs : List (List Nat)) (R : List Nat) (u : Nat) :
    (pairs t0 u segs R).map Prod.fst = u :: segs.map (·.headD t0) := by
  rw [pairs_eq_zip]
  exact List.map_fst_zip (by simp)

theorem scatterL_spec : ∀ (left right : List Nat) (rc : Rec),
    (∀ p ∈ left.zip right, ∀ q ∈ left.zip right, p.1 = q.1 → p.2 = q.2) →
    (∀ p ∈ left.zip right, scatterL rc left right p.1 = p.2) ∧
    (∀ z, z ∉ (left.zip right).map Prod.fst → scatterL rc left right z = rc z) := by
  intro left
  induction left with
  | nil => intro right rc _; simp [scatterL]
  | cons l ls ih =>
    intro right rc hf
    cases right with
    | nil => simp [scatterL]
    | cons v rs =>
      simp only [scatterL, List.zip_cons_cons]
      obtain ⟨ih1, ih2⟩ := ih rs (upd rc l v) (fun p hp q hq => hf p (by simp [hp]) q (by simp [hq]))
      constructor
      · intro p hp
        rcases List.mem_cons.mp hp with hpe | hp
        · subst hpe
          show scatterL (upd rc l v) ls rs l = v
          by_cases hm : l ∈ (ls.zip rs).map Prod.fst
          · obtain ⟨q, hq, hql⟩ := List.mem_map.mp hm
            have h1 := hf (l, v) (by simp) q (by simp [hq]) hql.symm
            have h2 := ih1 q hq
            rw [hql] at h2
            rw [h2]; exact h1.symm
          · rw [ih2 l hm]; simp [upd]
        · exact ih1 p hp
      · intro z hz
        simp only [List.map_cons, List.mem_cons, not_or] at hz
        rw [ih2 z hz.2]; simp [upd, hz.1]

end Rl4co.Improve.KoptK
