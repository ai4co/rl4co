/-
Independent definition of a feasible mTSP solution and of its two objectives, written from the
problem statement (not from the environment code).  A solution is the list of visited nodes
(0 = a visit of the depot); tours are the maximal depot-free segments, empty segments (an agent that
is not employed, padding visits of the depot) are not tours.  No Mathlib.
-/
import Rl4co.Core.Tour
import Rl4co.Env.Mtsp
namespace Rl4co.Spec.Mtsp
open Rl4co.Mtsp (Inst)

/-- the non-empty tours of a solution -/
def tours (as : List Nat) : List (List Nat) := (routes as).filter (fun r => !r.isEmpty)

/-- Feasible: all nodes in range, every customer exactly once, at most `m` (non-empty) tours. -/
structure Feasible (i : Inst) (as : List Nat) : Prop where
  range  : ∀ a ∈ as, a ≤ i.n
  once   : ∀ j, 1 ≤ j → j ≤ i.n → as.count j = 1
  agents : (tours as).length ≤ i.m

/-- executable version used as the run-time oracle -/
def feasible (i : Inst) (as : List Nat) : Bool :=
  as.all (fun a => decide (a ≤ i.n)) &&
  (List.range i.n).all (fun k => as.count (k + 1) == 1) &&
  decide ((tours as).length ≤ i.m)

theorem feasible_iff (i : Inst) (as : List Nat) : feasible i as = true ↔ Feasible i as := by
  simp only [feasible, Bool.and_eq_true, List.all_eq_true, decide_eq_true_eq, List.mem_range,
    beq_iff_eq]
  exact ⟨fun ⟨⟨h1, h2⟩, h3⟩ => ⟨h1, (forall_lt_succ_iff (P := fun j => as.count j = 1)).mp h2, h3⟩,
    fun ⟨h1, h2, h3⟩ => ⟨⟨h1, (forall_lt_succ_iff (P := fun j => as.count j = 1)).mpr h2⟩, h3⟩⟩

/-- maximum of a list of lengths (0 for the empty list; lengths are non-negative) -/
def maxList : List Int → Int
  | [] => 0
  | x :: xs => max x (maxList xs)

theorem maxList_nonneg (xs : List Int) : 0 ≤ maxList xs := by
  cases xs with
  | nil => exact Int.le_refl 0
  | cons x xs => exact Int.le_trans (maxList_nonneg xs) (Int.le_max_right _ _)

/-- `minmax` objective: the longest tour, each driven depot → customers → depot. -/
def objMinmax (i : Inst) (as : List Nat) : Int := maxList ((routes as).map (routeLen i.D))

/-- `sum` objective: total length of all tours. -/
def objSum (i : Inst) (as : List Nat) : Int := routesLen i.D as

end Rl4co.Spec.Mtsp
