/-
Independent definition of a feasible prize-collecting TSP solution and of its objective, written
from the problem statement (not from the environment code).  A solution is the list of visited nodes;
the vehicle starts at the depot, drives through the listed nodes in order and returns to the depot.
Every customer may be visited at most once; the prize actually collected (the *real* prize: the
stochastic one for SPCTSP) must reach the requirement unless every customer is visited.  The
objective (to be minimised) is the tour length plus the penalties of the customers not visited.
No Mathlib.
-/
import Rl4co.Core.Tour
import Rl4co.Env.Pctsp
namespace Rl4co.Spec.Pctsp
open Rl4co.Pctsp (Inst realPrize)
open Rl4co.Prize

/-- prize collected: real prize of the customers that occur in the solution -/
def collected (i : Inst) (as : List Nat) : Int :=
  sumTo i.n (fun k => if k + 1 ∈ as then realPrize i (k + 1) else 0)

/-- every customer occurs -/
def AllVisited (i : Inst) (as : List Nat) : Prop := ∀ j, 1 ≤ j → j ≤ i.n → j ∈ as

/-- Feasible: nodes in range, every customer at most once, enough prize or everybody visited. -/
structure Feasible (i : Inst) (as : List Nat) : Prop where
  range : ∀ a ∈ as, a ≤ i.n
  once  : ∀ j, 1 ≤ j → j ≤ i.n → as.count j ≤ 1
  prize : i.req ≤ collected i as ∨ AllVisited i as

/-- Feasible up to a prize tolerance (what a checker with a rounding tolerance may accept). -/
structure FeasibleWithin (tol : Int) (i : Inst) (as : List Nat) : Prop where
  range : ∀ a ∈ as, a ≤ i.n
  once  : ∀ j, 1 ≤ j → j ≤ i.n → as.count j ≤ 1
  prize : i.req - tol ≤ collected i as ∨ AllVisited i as

/-- executable version used as the run-time oracle -/
def feasible (i : Inst) (as : List Nat) : Bool :=
  as.all (fun a => decide (a ≤ i.n)) &&
  (List.range i.n).all (fun k => decide (as.count (k + 1) ≤ 1)) &&
  (decide (i.req ≤ collected i as) || (List.range i.n).all (fun k => decide (k + 1 ∈ as)))

theorem feasible_iff (i : Inst) (as : List Nat) : feasible i as = true ↔ Feasible i as := by
  simp only [feasible, Bool.and_eq_true, Bool.or_eq_true, List.all_eq_true, decide_eq_true_eq,
    List.mem_range]
  exact ⟨fun ⟨⟨h1, h2⟩, h3⟩ => ⟨h1, (forall_lt_succ_iff (P := fun j => as.count j ≤ 1)).mp h2,
      h3.imp_right (forall_lt_succ_iff (P := fun j => j ∈ as)).mp⟩,
    fun ⟨h1, h2, h3⟩ => ⟨⟨h1, forall_lt_succ_iff.mpr h2⟩, h3.imp_right forall_lt_succ_iff.mpr⟩⟩

/-- Objective (to be minimised): tour length + penalties of the customers that do not occur. -/
def objective (i : Inst) (as : List Nat) : Int :=
  pathLen i.D (0 :: as ++ [0]) + sumTo i.n (fun k => if k + 1 ∈ as then 0 else i.pen (k + 1))

/-- slack of the prize constraint (reported to the harness to classify boundary cases) -/
def slack (i : Inst) (as : List Nat) : Int := collected i as - i.req

end Rl4co.Spec.Pctsp
