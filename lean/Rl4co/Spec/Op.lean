/-
Independent definition of a feasible orienteering solution and of its objective, written from the
problem statement (not from the environment code).  A solution is the list of visited nodes; the
vehicle starts at the depot, drives through the listed nodes in order and returns to the depot.
Every customer may be visited at most once, not all need to be visited; the total length must not
exceed the budget `L` (equality allowed).  The objective is the prize of the visited customers.
No Mathlib.
-/
import Rl4co.Core.Tour
import Rl4co.Env.Op
namespace Rl4co.Spec.Op
open Rl4co.Op (Inst)
open Rl4co.Prize

/-- length of the tour depot → listed nodes → depot -/
def tourLen (i : Inst) (as : List Nat) : Int := pathLen i.D (0 :: as ++ [0])

/-- Feasible: nodes in range, every customer at most once, tour length within the budget. -/
structure Feasible (i : Inst) (as : List Nat) : Prop where
  range  : ∀ a ∈ as, a ≤ i.n
  once   : ∀ j, 1 ≤ j → j ≤ i.n → as.count j ≤ 1
  length : tourLen i as ≤ i.L

/-- Feasible up to a length tolerance (what a checker with a rounding tolerance may accept). -/
structure FeasibleWithin (tol : Int) (i : Inst) (as : List Nat) : Prop where
  range  : ∀ a ∈ as, a ≤ i.n
  once   : ∀ j, 1 ≤ j → j ≤ i.n → as.count j ≤ 1
  length : tourLen i as ≤ i.L + tol

/-- executable version used as the run-time oracle -/
def feasible (i : Inst) (as : List Nat) : Bool :=
  as.all (fun a => decide (a ≤ i.n)) &&
  (List.range i.n).all (fun k => decide (as.count (k + 1) ≤ 1)) &&
  decide (tourLen i as ≤ i.L)

theorem feasible_iff (i : Inst) (as : List Nat) : feasible i as = true ↔ Feasible i as := by
  simp only [feasible, Bool.and_eq_true, List.all_eq_true, decide_eq_true_eq, List.mem_range]
  exact ⟨fun ⟨⟨h1, h2⟩, h3⟩ => ⟨h1, (forall_lt_succ_iff (P := fun j => as.count j ≤ 1)).mp h2, h3⟩,
    fun ⟨h1, h2, h3⟩ => ⟨⟨h1, forall_lt_succ_iff.mpr h2⟩, h3⟩⟩

/-- Objective (to be maximised): total prize of the customers that occur in the solution. -/
def objective (i : Inst) (as : List Nat) : Int :=
  sumTo i.n (fun k => if k + 1 ∈ as then i.prize (k + 1) else 0)

/-- slack of the length constraint (reported to the harness to classify boundary cases) -/
def slack (i : Inst) (as : List Nat) : Int := i.L - tourLen i as

end Rl4co.Spec.Op
