/-
Independent definition of a feasible skill-VRP solution and of its objective.  A solution is the list
of visited nodes (0 = depot visit); the routes are the maximal depot-free segments, in order; route
number k (0-based, empty routes count: a technician sent out and straight back) is driven by
technician k.  Feasible: every customer exactly once; every non-empty route k has a technician
(k < T) whose level covers the required skill of each of its customers.  Objective: Σ_k cost_k ·
(closed length of route k).  No Mathlib.
-/
import Rl4co.Env.Svrp
namespace Rl4co.Spec.Svrp
open Rl4co.Svrp (Inst)

/-- route `r` may be driven by technician `k` -/
def routeOk (i : Inst) (k : Nat) (r : List Nat) : Bool :=
  r.isEmpty || (decide (k < i.T) && r.all (fun j => decide (i.skills j ≤ i.techs k)))

/-- routes `rs` are driven by technicians `k, k+1, …` -/
def routesOk (i : Inst) : Nat → List (List Nat) → Bool
  | _, [] => true
  | k, r :: rs => routeOk i k r && routesOk i (k + 1) rs

structure Feasible (i : Inst) (as : List Nat) : Prop where
  range : ∀ a ∈ as, a ≤ i.n
  once  : ∀ j, 1 ≤ j → j ≤ i.n → as.count j = 1
  skill : routesOk i 0 (routes as) = true

def feasible (i : Inst) (as : List Nat) : Bool :=
  as.all (fun a => decide (a ≤ i.n)) &&
  (List.range i.n).all (fun k => as.count (k + 1) == 1) &&
  routesOk i 0 (routes as)

theorem feasible_iff (i : Inst) (as : List Nat) : feasible i as = true ↔ Feasible i as := by
  rw [feasible, Bool.and_eq_true, Bool.and_eq_true, all_succ_eq_true (p := fun j => as.count j == 1)]
  simp only [List.all_eq_true, decide_eq_true_eq, beq_iff_eq]
  exact ⟨fun ⟨⟨h1, h2⟩, h3⟩ => ⟨h1, h2, h3⟩, fun ⟨h1, h2, h3⟩ => ⟨⟨h1, h2⟩, h3⟩⟩

/-- feasible when the last (open) route is disregarded: what a test of the depot-closed segments can see -/
def feasibleClosed (i : Inst) (as : List Nat) : Bool :=
  as.all (fun a => decide (a ≤ i.n)) &&
  (List.range i.n).all (fun k => as.count (k + 1) == 1) &&
  routesOk i 0 (routes as).dropLast

/-- executable form of the documented pruning (cf. `Rl4co.Svrp.Canonical`): technician `k` is sent home
without a customer (`atDepot` and the next action is the depot) only if he can serve none of the
customers still to come -/
def canonFromB (i : Inst) : Nat → Bool → List Nat → Bool
  | _, _, [] => true
  | k, atDepot, a :: as =>
    (!(a == 0 && atDepot) || as.all (fun j => j == 0 || !decide (i.skills j ≤ i.techs k))) &&
    canonFromB i (if a = 0 then k + 1 else k) (a == 0) as

def canonical (i : Inst) (as : List Nat) : Bool := canonFromB i 0 true as && as.contains 0

/-- cost-weighted length of routes driven by technicians `k, k+1, …` -/
def weighted (i : Inst) : Nat → List (List Nat) → Int
  | _, [] => 0
  | k, r :: rs => i.costs k * routeLen i.D r + weighted i (k + 1) rs

/-- Objective: every route's closed length times the cost factor of its technician. -/
def objective (i : Inst) (as : List Nat) : Int := weighted i 0 (routes as)

end Rl4co.Spec.Svrp
