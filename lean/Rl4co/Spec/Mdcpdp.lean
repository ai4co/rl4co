/-
Independent definition of the multi-depot capacitated pickup-and-delivery problem, written from the
problem statement in the class / generator docstrings (not from `_step`):

* `K` depots `0..K-1`, each with ONE vehicle that can carry at most `cap d` orders at a time;
  `h` orders, order `p` (`K ≤ p < K+h`) is picked up at node `p` and delivered at node `p + h`;
* a solution is the list of visited nodes.  The first visit of a depot starts that depot's vehicle,
  a later visit of a depot ends the running tour (the vehicle returns); a vehicle that is still out
  when the list ends returns to its own depot;
* feasible: every customer exactly once, an order is delivered after it was picked up by the SAME
  vehicle, a vehicle never carries more than its capacity, a vehicle returns (empty) to its OWN depot,
  customers are only served by a running vehicle;
* objective: per-depot tour length (own depot → customers → own depot, the way back not charged in
  open mode): longest (`minmax`) or summed (`minsum`); `lateness`: weighted sum of the summed length
  and of the arrival times at the delivery nodes, each measured from the start of its vehicle.

Part 1 (`Core…`) is the declarative part the theorems are about; part 2 (`sim`) is the executable
route-level oracle.  `Variant` switches off single clauses — the default is the problem as stated; the
other values exist only so that the harness can name WHICH clause a real episode violates.
No Mathlib.
-/
namespace Rl4co.Spec.Mdcpdp

structure Problem where
  K : Nat                    -- depots / vehicles
  h : Nat                    -- orders
  cap : Nat → Int            -- capacity of the vehicle of depot d
  D : Nat → Nat → Int
  openMode : Bool
  wNum : Int
  wDen : Int

def Problem.N (p : Problem) : Nat := p.K + 2 * p.h
def Problem.isDepot (p : Problem) (a : Nat) : Bool := decide (a < p.K)
def Problem.isPickup (p : Problem) (a : Nat) : Bool := decide (p.K ≤ a ∧ a < p.K + p.h)
def Problem.isDelivery (p : Problem) (a : Nat) : Bool := decide (p.K + p.h ≤ a ∧ a < p.N)

/-! ### Part 1: declarative core (single-visit, precedence, load, empty at depots) -/

/-- number of orders on board after the visits `as` (pickups minus deliveries) -/
def carryOf (p : Problem) (as : List Nat) : Int :=
  ((as.filter p.isPickup).length : Int) - ((as.filter p.isDelivery).length : Int)

/-- Core feasibility w.r.t. a load limit `c` (one common limit — the clause that depends on WHICH
vehicle drives is in part 2). -/
structure CoreFeasible (p : Problem) (c : Int) (as : List Nat) : Prop where
  /-- only nodes of the instance are visited -/
  range : ∀ a ∈ as, a < p.N
  /-- every customer is visited exactly once -/
  once  : ∀ j, p.K ≤ j → j < p.N → as.count j = 1
  /-- a delivery is preceded by its pickup -/
  prec  : ∀ k a, as[k]? = some a → p.isDelivery a = true → (a - p.h) ∈ as.take k
  /-- after every prefix the number of orders on board is within `[0, c]` -/
  load  : ∀ k, 0 ≤ carryOf p (as.take k) ∧ carryOf p (as.take k) ≤ c
  /-- whenever a depot is visited nothing is on board (so an order is delivered by the vehicle that
  picked it up) -/
  empty : ∀ k d, as[k]? = some d → d < p.K → carryOf p (as.take k) = 0

/-- Open-route total length, declaratively: every move that ends at a customer is driven by the running
vehicle (from its depot or from the previous customer) and is charged; moves that end at a depot (the
way back, the change to the next depot) are not charged in open mode.  `prev` is the node visited before. -/
def openLength (p : Problem) : Nat → List Nat → Int
  | _, [] => 0
  | prev, a :: as => (if a < p.K then 0 else p.D prev a) + openLength p a as

/-! ### Part 2: route-level simulation (executable oracle) -/

structure Variant where
  home       : Bool := true   -- a returning vehicle must return to its own depot
  ownCap     : Bool := true   -- a vehicle is limited by the capacity of its own depot (false: depot 0's)
  perVehicle : Bool := true   -- lengths / clocks are kept per vehicle (false: one shared slot and clock, returns as listed)
  chargeLast : Bool := true   -- the vehicle still out at the end is charged its way home (closed mode)

structure Sim where
  opened  : List Nat := []
  veh     : Option Nat := none
  onboard : List Nat := []
  served  : List Nat := []
  pos     : Nat := 0
  clock   : Int := 0
  lens    : Nat → Int := fun _ => 0
  late    : Int := 0
  err     : Nat := 0     -- 0 ok | 1 range | 2 customer without vehicle / start while out | 3 visited twice
                         -- 4 capacity | 5 delivery before pickup (or by another vehicle) | 6 returns loaded | 7 returns to a foreign depot | 8 incomplete

def Sim.fail (s : Sim) (e : Nat) : Sim := if s.err = 0 then { s with err := e } else s

def addLen (lens : Nat → Int) (d : Nat) (x : Int) : Nat → Int := fun j => if j = d then lens j + x else lens j

def simStep (p : Problem) (v : Variant) (s : Sim) (a : Nat) : Sim :=
  if s.err ≠ 0 then s
  else if a ≥ p.N then s.fail 1
  else if a < p.K then
    if a ∉ s.opened then
      -- the vehicle of depot `a` starts
      match s.veh with
      | some _ => s.fail 2
      | none =>
        if v.perVehicle then { s with opened := a :: s.opened, veh := some a, pos := a, clock := 0 }
        else { s with opened := a :: s.opened, veh := some a, pos := a }
    else
      -- the running vehicle returns
      match s.veh with
      | none => if a = s.pos then s else s.fail 2   -- waiting at the depot it stands at
      | some d =>
        if s.onboard ≠ [] then s.fail 6
        else if v.home && a ≠ d then s.fail 7
        else
          -- the way home; a vehicle that never left its depot (empty tour) drives nothing
          let leg := if p.openMode then 0 else if s.pos < p.K then 0 else p.D s.pos a
          let slot := if v.perVehicle then d else 0
          { s with veh := none, pos := a, clock := s.clock + leg, lens := addLen s.lens slot leg }
  else
    match s.veh with
    | none => s.fail 2
    | some d =>
      if a ∈ s.served then s.fail 3
      else
        let leg := p.D s.pos a
        let slot := if v.perVehicle then d else 0
        let s' := { s with served := a :: s.served, pos := a, clock := s.clock + leg,
                           lens := addLen s.lens slot leg }
        if a < p.K + p.h then
          let c := if v.ownCap then p.cap d else p.cap 0
          if (s.onboard.length : Int) + 1 > c then s.fail 4
          else { s' with onboard := a :: s.onboard }
        else
          if (a - p.h) ∉ s.onboard then s.fail 5
          else { s' with onboard := s.onboard.erase (a - p.h), late := s.late + (s.clock + leg) }

def simEnd (p : Problem) (v : Variant) (s : Sim) : Sim :=
  if s.err ≠ 0 then s
  else if s.onboard ≠ [] then s.fail 8
  else if !((List.range (2 * p.h)).all (fun k => (p.K + k) ∈ s.served)) then s.fail 8
  else match s.veh with
    | none => s
    | some d =>
      if v.chargeLast && !p.openMode then
        let leg := p.D s.pos d
        let slot := if v.perVehicle then d else 0
        { s with lens := addLen s.lens slot leg }
      else s

def sim (p : Problem) (v : Variant) (as : List Nat) : Sim := simEnd p v (as.foldl (simStep p v) {})

/-- executable feasibility (0 = feasible, otherwise the violated clause) -/
def verdict (p : Problem) (v : Variant) (as : List Nat) : Nat := (sim p v as).err
def feasible (p : Problem) (as : List Nat) : Bool := verdict p {} as == 0
/-- The problem as stated. -/
def Feasible (p : Problem) (as : List Nat) : Prop := feasible p as = true

def maxList1 : List Int → Int
  | [] => 0
  | [x] => x
  | x :: xs => max x (maxList1 xs)

def perDepot (p : Problem) (v : Variant) (as : List Nat) : List Int :=
  (List.range p.K).map (sim p v as).lens
def objMinsum (p : Problem) (v : Variant) (as : List Nat) : Int := (perDepot p v as).sum
def objMinmax (p : Problem) (v : Variant) (as : List Nat) : Int := maxList1 (perDepot p v as)
/-- scaled by `wDen` -/
def objLateness (p : Problem) (v : Variant) (as : List Nat) : Int :=
  objMinsum p v as * (p.wDen - p.wNum) + (sim p v as).late * p.wNum

/-- objective by mode index (0 minmax, 1 minsum, 2 lateness) -/
def objOf (mode : Nat) (p : Problem) (v : Variant) (as : List Nat) : Int :=
  if mode = 0 then objMinmax p v as else if mode = 1 then objMinsum p v as else objLateness p v as

end Rl4co.Spec.Mdcpdp
