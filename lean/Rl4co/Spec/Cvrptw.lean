/-
Independent definition of a feasible CVRPTW solution, written from the problem statement: a CVRP
solution (customers exactly once, route loads within capacity) in which every route, driven from the
depot at time 0, starts the service of each customer no later than the end of the customer's window
(waiting until the window opens when early: `t ← max(t + d, e) + s`) and is back at the depot no
later than the end of the depot's window.  The objective is CVRP's (total route length).  No Mathlib.
-/
import Rl4co.Spec.Cvrp
import Rl4co.Env.Cvrptw
namespace Rl4co.Spec.Cvrptw
open Rl4co.Cvrptw (Inst)

/-- clock along (the rest of) one route: currently at `cur` with clock `t`, still to serve `r`, then
return to the depot. -/
def routeOk (i : Inst) : Int → Nat → List Nat → Bool
  | t, cur, [] => decide (t + i.base.D cur 0 ≤ i.twE 0)
  | t, cur, j :: r =>
    decide (t + i.base.D cur j ≤ i.twE j) &&
      routeOk i (max (t + i.base.D cur j) (i.twS j) + i.dur j) j r

theorem routeOk_nil_iff (i : Inst) (t : Int) (cur : Nat) :
    routeOk i t cur [] = true ↔ t + i.base.D cur 0 ≤ i.twE 0 := decide_eq_true_iff

theorem routeOk_cons_iff (i : Inst) (t : Int) (cur j : Nat) (r : List Nat) :
    routeOk i t cur (j :: r) = true ↔
      t + i.base.D cur j ≤ i.twE j ∧ routeOk i (max (t + i.base.D cur j) (i.twS j) + i.dur j) j r = true := by
  rw [routeOk, Bool.and_eq_true, decide_eq_true_iff]

structure Feasible (i : Inst) (as : List Nat) : Prop where
  base : Spec.Cvrp.Feasible i.base as
  tw   : ∀ r ∈ routes as, routeOk i 0 0 r = true

/-- executable version used as the run-time oracle -/
def feasible (i : Inst) (as : List Nat) : Bool :=
  Spec.Cvrp.feasible i.base as && (routes as).all (fun r => routeOk i 0 0 r)

theorem feasible_iff (i : Inst) (as : List Nat) : feasible i as = true ↔ Feasible i as := by
  simp only [feasible, Bool.and_eq_true, List.all_eq_true, Spec.Cvrp.feasible_iff]
  exact ⟨fun ⟨h1, h2⟩ => ⟨h1, h2⟩, fun ⟨h1, h2⟩ => ⟨h1, h2⟩⟩

def objective (i : Inst) (as : List Nat) : Int := Spec.Cvrp.objective i.base as

/-- feasible up to the load tolerance of the checker (time windows exact) -/
structure FeasibleWithin (tol : Int) (i : Inst) (as : List Nat) : Prop where
  range : ∀ a ∈ as, a ≤ i.base.n
  once  : ∀ j, 1 ≤ j → j ≤ i.base.n → as.count j = 1
  load  : ∀ r ∈ routes as, Spec.Cvrp.routeLoad i.base r ≤ i.base.cap + tol
  tw    : ∀ r ∈ routes as, routeOk i 0 0 r = true

/-- executable: feasible when the capacity is relaxed by `tol` (used to classify near-boundary cases) -/
def feasibleWithin (tol : Int) (i : Inst) (as : List Nat) : Bool :=
  Spec.Cvrp.feasible { i.base with cap := i.base.cap + tol } as && (routes as).all (fun r => routeOk i 0 0 r)

end Rl4co.Spec.Cvrptw
