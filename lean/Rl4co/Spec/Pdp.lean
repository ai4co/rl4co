/-
Independent definition of a feasible PDP solution: `h` pickup/delivery pairs, pickup `p ∈ 1..h`,
its delivery `p + h`; the vehicle starts and ends at the depot 0, visits every pickup and delivery
exactly once and every pickup before its delivery.  A solution is the sequence of customers
(without the depot); with `force_start_at_depot` the action list additionally starts with the depot.
No Mathlib.
-/
import Rl4co.Core.Basic
import Rl4co.Core.Tour
namespace Rl4co.Spec.Pdp

structure Feasible (h : Nat) (as : List Nat) : Prop where
  range : ∀ a ∈ as, 1 ≤ a ∧ a ≤ 2 * h
  once  : ∀ j, 1 ≤ j → j ≤ 2 * h → as.count j = 1
  prec  : ∀ p, 1 ≤ p → p ≤ h → as.idxOf p < as.idxOf (p + h)

def feasible (h : Nat) (as : List Nat) : Bool :=
  as.all (fun a => decide (1 ≤ a ∧ a ≤ 2 * h)) &&
  (List.range (2 * h)).all (fun k => as.count (k + 1) == 1) &&
  (List.range h).all (fun k => decide (as.idxOf (k + 1) < as.idxOf (k + 1 + h)))

theorem feasible_iff (h : Nat) (as : List Nat) : feasible h as = true ↔ Feasible h as := by
  simp only [feasible, Bool.and_eq_true, List.all_eq_true, decide_eq_true_eq, List.mem_range,
    beq_iff_eq]
  exact ⟨fun ⟨⟨h1, h2⟩, h3⟩ => ⟨h1, (forall_lt_succ_iff (P := fun j => as.count j = 1)).mp h2,
      (forall_lt_succ_iff (P := fun p => as.idxOf p < as.idxOf (p + h))).mp h3⟩,
    fun ⟨h1, h2, h3⟩ => ⟨⟨h1, (forall_lt_succ_iff (P := fun j => as.count j = 1)).mpr h2⟩,
      (forall_lt_succ_iff (P := fun p => as.idxOf p < as.idxOf (p + h))).mpr h3⟩⟩

/-- action list under `force_start_at_depot`: the depot, then a feasible customer sequence -/
def FeasibleF (h : Nat) (as : List Nat) : Prop := ∃ cs, as = 0 :: cs ∧ Feasible h cs

def feasibleF (h : Nat) (as : List Nat) : Bool :=
  match as with
  | [] => false
  | a :: cs => a == 0 && feasible h cs

theorem feasibleF_iff (h : Nat) (as : List Nat) : feasibleF h as = true ↔ FeasibleF h as := by
  cases as with
  | nil => simp [feasibleF, FeasibleF]
  | cons a cs =>
    simp only [feasibleF, FeasibleF, Bool.and_eq_true, beq_iff_eq, feasible_iff, List.cons.injEq]
    constructor
    · rintro ⟨h1, h2⟩; exact ⟨cs, ⟨h1, rfl⟩, h2⟩
    · rintro ⟨cs', ⟨h1, h2⟩, h3⟩; subst h2; exact ⟨h1, h3⟩

/-- a closed depot tour written with one explicit depot visit, at the start or at the end
(`0 → cs → 0` is the same closed walk either way) -/
def FeasibleTour (h : Nat) (as : List Nat) : Prop :=
  ∃ cs, (as = 0 :: cs ∨ as = cs ++ [0]) ∧ Feasible h cs

def feasibleTour (h : Nat) (as : List Nat) : Bool :=
  feasibleF h as || (decide (as ≠ []) && as.getLast? == some 0 && feasible h as.dropLast)

theorem feasibleTour_iff (h : Nat) (as : List Nat) : feasibleTour h as = true ↔ FeasibleTour h as := by
  simp only [feasibleTour, FeasibleTour, Bool.or_eq_true, Bool.and_eq_true, decide_eq_true_eq,
    feasibleF_iff, feasible_iff, beq_iff_eq]
  constructor
  · rintro (⟨cs, rfl, hf⟩ | ⟨⟨_, hl⟩, hf⟩)
    · exact ⟨cs, Or.inl rfl, hf⟩
    · obtain ⟨ys, rfl⟩ := List.getLast?_eq_some_iff.mp hl
      rw [List.dropLast_concat] at hf
      exact ⟨ys, Or.inr rfl, hf⟩
  · rintro ⟨cs, (rfl | rfl), hf⟩
    · exact Or.inl ⟨cs, rfl, hf⟩
    · refine Or.inr ⟨⟨by simp, by simp⟩, ?_⟩
      rw [List.dropLast_concat]; exact hf

/-- Objective: closed walk depot → customers in order → depot.  The filter drops the leading depot of a forced-start list
`0 :: cs` (which costs `D 0 0 = 0`); a depot visit BETWEEN customers is dropped too although driving it is not free, so the
reward theorems of C03 ask for `0 ∉ cs`. -/
def objective (D : Nat → Nat → Int) (as : List Nat) : Int :=
  closedLen D (0 :: as.filter (fun a => a != 0))

end Rl4co.Spec.Pdp
