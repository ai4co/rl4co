/-
Independent definition of a feasible split-delivery (SDVRP) solution.  A solution of the library is a
list of visited nodes (0 = depot visit); customers may be visited several times.  It is FEASIBLE iff
there EXIST amounts handed over at the visits — non-negative, nothing at the depot — such that the
amounts handed over between two consecutive depot visits (one vehicle load) sum to at most the
capacity and every customer receives exactly its demand in total.  The library fixes the amounts
greedily ("deliver as much as possible"); `greedy` replays that rule and is used as the executable
witness generator (`feasible_of_greedy`: a successful greedy replay is a valid witness).  No Mathlib.
-/
import Rl4co.Env.Sdvrp
namespace Rl4co.Spec.Sdvrp
open Rl4co.Sdvrp (Inst)

/-- total amount handed to customer `j` -/
def deliveredTo (j : Nat) : List (Nat × Int) → Int
  | [] => 0
  | (a, q) :: r => (if a = j then q else 0) + deliveredTo j r

/-- amounts per vehicle load: split at depot visits (same splitting as `routes`) -/
def loads : List (Nat × Int) → List (List Int)
  | [] => [[]]
  | (a, q) :: r =>
    if a = 0 then [] :: loads r
    else match loads r with
      | [] => [[q]]
      | x :: xs => (q :: x) :: xs

structure ValidSplit (i : Inst) (zs : List (Nat × Int)) : Prop where
  range  : ∀ z ∈ zs, z.1 ≤ i.n
  nonneg : ∀ z ∈ zs, 0 ≤ z.2
  depot  : ∀ z ∈ zs, z.1 = 0 → z.2 = 0
  load   : ∀ l ∈ loads zs, l.sum ≤ i.cap
  served : ∀ j, 1 ≤ j → j ≤ i.n → deliveredTo j zs = i.demand j

/-- **the specification**: some assignment of amounts to the visits is a valid split -/
def Feasible (i : Inst) (as : List Nat) : Prop :=
  ∃ qs : List Int, qs.length = as.length ∧ ValidSplit i (as.zip qs)

/-- executable check of an explicitly given split -/
def validSplit (i : Inst) (zs : List (Nat × Int)) : Bool :=
  zs.all (fun z => decide (z.1 ≤ i.n) && decide (0 ≤ z.2) && (z.1 != 0 || z.2 == 0)) &&
  (loads zs).all (fun l => decide (l.sum ≤ i.cap)) &&
  (List.range i.n).all (fun k => deliveredTo (k + 1) zs == i.demand (k + 1))

theorem validSplit_iff (i : Inst) (zs : List (Nat × Int)) : validSplit i zs = true ↔ ValidSplit i zs := by
  rw [validSplit, Bool.and_eq_true, Bool.and_eq_true, all_succ_eq_true (p := fun j => deliveredTo j zs == i.demand j)]
  simp only [List.all_eq_true, Bool.and_eq_true, decide_eq_true_eq, beq_iff_eq, Bool.or_eq_true, bne_iff_ne, ne_eq]
  constructor
  · rintro ⟨⟨h1, h2⟩, h3⟩
    exact ⟨fun z hz => (h1 z hz).1.1, fun z hz => (h1 z hz).1.2,
      fun z hz h0 => (h1 z hz).2.resolve_left (fun h => h h0), h2, h3⟩
  · rintro ⟨h1, h2, h3, h4, h5⟩
    exact ⟨⟨fun z hz => ⟨⟨h1 z hz, h2 z hz⟩, Decidable.or_iff_not_imp_left.mpr (fun h0 => h3 z hz (Decidable.not_not.mp h0))⟩,
      h4⟩, h5⟩

/-- the library's rule: at every customer visit hand over as much as possible -/
def greedy (i : Inst) : (Nat → Int) → Int → List Nat → List Int
  | _, _, [] => []
  | rem, used, a :: as =>
    if a = 0 then 0 :: greedy i rem 0 as
    else
      let q := min (rem a) (i.cap - used)
      q :: greedy i (upd rem a (rem a - q)) (used + q) as

theorem greedy_length (i : Inst) (as : List Nat) : ∀ rem used, (greedy i rem used as).length = as.length := by
  induction as with
  | nil => intro _ _; rfl
  | cons a as ih =>
    intro rem used
    rw [greedy]
    split <;> exact congrArg Nat.succ (ih _ _)

/-- the greedy split of an action list -/
def greedySplit (i : Inst) (as : List Nat) : List (Nat × Int) := as.zip (greedy i i.demand 0 as)

/-- executable oracle: the greedy replay is a valid split -/
def greedyFeasible (i : Inst) (as : List Nat) : Bool := validSplit i (greedySplit i as)

/-- a successful greedy replay is a witness of feasibility -/
theorem feasible_of_greedy (i : Inst) (as : List Nat) (h : greedyFeasible i as = true) : Feasible i as :=
  ⟨greedy i i.demand 0 as, greedy_length i as _ _, (validSplit_iff i _).1 h⟩

/-- executable oracle for an explicitly supplied witness -/
theorem feasible_of_witness (i : Inst) (as : List Nat) (qs : List Int) (hl : qs.length = as.length)
    (h : validSplit i (as.zip qs) = true) : Feasible i as :=
  ⟨qs, hl, (validSplit_iff i _).1 h⟩

/-- no two consecutive depot visits -/
def noDoubleDepot : List Nat → Bool
  | [] => true
  | [_] => true
  | a :: b :: r => !(a == 0 && b == 0) && noDoubleDepot (b :: r)

/-- the documented pruning: the tour does not start with a depot visit, never stays at the depot twice
in a row, and every customer visit hands over a positive amount (under the greedy rule) -/
def canonical (i : Inst) (as : List Nat) : Bool :=
  (as.head? != some 0) && noDoubleDepot as &&
  (greedySplit i as).all (fun z => z.1 == 0 || decide (0 < z.2))

/-- Objective: total length of all routes, each driven depot → customers → depot. -/
def objective (i : Inst) (as : List Nat) : Int := routesLen i.D as

end Rl4co.Spec.Sdvrp
