/-
Independent definition of a *valid schedule* of a (flexible) job-shop instance and of its makespan,
written from the problem statement (not from the environment code), plus the schedule classes used
by C05 (semi-active list schedules, non-delay schedules) and a brute-force optimum for tiny
instances.  Only the data fields of `Fjsp.Inst` are used (`J M N startOp endOp proc`; `pad` is NOT
used: which operations are real is decided by the job ranges).  No Mathlib.
-/
import Rl4co.Env.Fjsp
namespace Rl4co.Spec.Fjsp
open Rl4co.Fjsp (Inst anyUpTo allUpTo anyUpTo_iff allUpTo_iff)

/-- A schedule: start and completion time of every operation and the machine(s) it was put on. -/
structure Sched where
  start  : Nat → Int
  finish : Nat → Int
  assign : Nat → Nat → Bool     -- machine, operation

/-- operation `o` belongs to job `j` -/
def opOf (i : Inst) (j o : Nat) : Bool := decide (i.startOp j ≤ o) && decide (o ≤ i.endOp j)

/-- `o` is an operation of some job (not padding) -/
def isReal (i : Inst) (o : Nat) : Bool := anyUpTo i.J (fun j => opOf i j o)

/-- Valid schedule with makespan `mk`:
* `once`     every real operation is on exactly one machine, that machine is eligible
             (`proc > 0`), the operation runs for exactly its processing time there, from a time ≥ 0;
* `order`    consecutive operations of a job run in order without overlapping;
* `machine`  two different real operations on the same machine do not overlap;
* `mkUpper`/`mkAttained`  `mk` is the latest completion time of a real operation. -/
structure ValidSchedule (i : Inst) (σ : Sched) (mk : Int) : Prop where
  once : ∀ o, o < i.N → isReal i o = true →
    Rl4co.cnt i.M (fun m => σ.assign m o) = 1 ∧ 0 ≤ σ.start o ∧
    ∀ m, m < i.M → σ.assign m o = true → 0 < i.proc m o ∧ σ.finish o = σ.start o + i.proc m o
  order : ∀ j, j < i.J → ∀ o, o < i.N → i.startOp j ≤ o → o < i.endOp j →
    σ.finish o ≤ σ.start (o + 1)
  machine : ∀ m, m < i.M → ∀ o1, o1 < i.N → ∀ o2, o2 < i.N → isReal i o1 = true → isReal i o2 = true →
    o1 ≠ o2 → σ.assign m o1 = true → σ.assign m o2 = true →
    σ.finish o1 ≤ σ.start o2 ∨ σ.finish o2 ≤ σ.start o1
  mkUpper : ∀ o, o < i.N → isReal i o = true → σ.finish o ≤ mk
  mkAttained : ∃ o, o < i.N ∧ isReal i o = true ∧ σ.finish o = mk

/-- executable clauses (the run-time oracle) -/
def onceB (i : Inst) (σ : Sched) : Bool :=
  allUpTo i.N (fun o => !isReal i o ||
    (decide (Rl4co.cnt i.M (fun m => σ.assign m o) = 1) && decide (0 ≤ σ.start o) &&
     allUpTo i.M (fun m => !σ.assign m o ||
       (decide (0 < i.proc m o) && decide (σ.finish o = σ.start o + i.proc m o)))))

def orderB (i : Inst) (σ : Sched) : Bool :=
  allUpTo i.J (fun j => allUpTo i.N (fun o =>
    !(decide (i.startOp j ≤ o) && decide (o < i.endOp j)) || decide (σ.finish o ≤ σ.start (o + 1))))

def machineB (i : Inst) (σ : Sched) : Bool :=
  allUpTo i.M (fun m => allUpTo i.N (fun o1 => allUpTo i.N (fun o2 =>
    !(isReal i o1 && isReal i o2 && decide (o1 ≠ o2) && σ.assign m o1 && σ.assign m o2) ||
    (decide (σ.finish o1 ≤ σ.start o2) || decide (σ.finish o2 ≤ σ.start o1)))))

def mkB (i : Inst) (σ : Sched) (mk : Int) : Bool :=
  allUpTo i.N (fun o => !isReal i o || decide (σ.finish o ≤ mk)) &&
  anyUpTo i.N (fun o => isReal i o && decide (σ.finish o = mk))

def valid (i : Inst) (σ : Sched) (mk : Int) : Bool :=
  onceB i σ && orderB i σ && machineB i σ && mkB i σ mk

theorem not_or_eq_true_iff {a b : Bool} : (!a || b) = true ↔ (a = true → b = true) := by
  cases a <;> simp

theorem valid_iff (i : Inst) (σ : Sched) (mk : Int) : valid i σ mk = true ↔ ValidSchedule i σ mk := by
  simp only [valid, onceB, orderB, machineB, mkB, Bool.and_eq_true, allUpTo_iff, anyUpTo_iff, not_or_eq_true_iff,
    decide_eq_true_eq, and_imp, and_assoc]
  simp only [Bool.or_eq_true, decide_eq_true_eq]
  exact ⟨fun ⟨h1, h2, h3, h4, h5⟩ => ⟨h1, h2, h3, h4, h5⟩, fun ⟨h1, h2, h3, h4, h5⟩ => ⟨h1, h2, h3, h4, h5⟩⟩

/-! ### what validity says about a single operation -/

/-- the machine `σ` runs a real operation on, with the facts validity gives about it -/
theorem ValidSchedule.machine_of {i : Inst} {σ : Sched} {mk : Int} (hv : ValidSchedule i σ mk) {o : Nat}
    (ho : o < i.N) (hr : isReal i o = true) :
    ∃ m, m < i.M ∧ σ.assign m o = true ∧ (∀ m', m' < i.M → σ.assign m' o = true → m' = m) ∧
      0 < i.proc m o ∧ σ.finish o = σ.start o + i.proc m o ∧ 0 ≤ σ.start o := by
  obtain ⟨hc, h0, hall⟩ := hv.once o ho hr
  obtain ⟨m, hm, ha⟩ := Rl4co.cnt_pos.mp (hc ▸ Nat.one_pos)
  obtain ⟨hp, hf⟩ := hall m hm ha
  exact ⟨m, hm, ha, fun m' hm' ha' => cnt_one_unique hc hm' hm ha' ha, hp, hf, h0⟩

theorem ValidSchedule.start_lt_finish {i : Inst} {σ : Sched} {mk : Int} (hv : ValidSchedule i σ mk) {o : Nat}
    (ho : o < i.N) (hr : isReal i o = true) : σ.start o < σ.finish o := by
  obtain ⟨m, _, _, _, hp, hf, _⟩ := hv.machine_of ho hr
  omega

theorem ValidSchedule.mk_unique {i : Inst} {σ : Sched} {mk mk' : Int} (h : ValidSchedule i σ mk)
    (h' : ValidSchedule i σ mk') : mk = mk' := by
  obtain ⟨o, ho, hr, he⟩ := h.mkAttained
  obtain ⟨o', ho', hr', he'⟩ := h'.mkAttained
  have := h.mkUpper o' ho' hr'
  have := h'.mkUpper o ho hr
  omega

/-- which clause fails first (for witnesses): 0 = valid, 1 once, 2 order, 3 machine, 4 makespan -/
def failing (i : Inst) (σ : Sched) (mk : Int) : Nat :=
  if !onceB i σ then 1 else if !orderB i σ then 2 else if !machineB i σ then 3
  else if !mkB i σ mk then 4 else 0

/-- latest completion time of a real operation (0 if there is none) -/
def makespan (i : Inst) (σ : Sched) : Int :=
  match Rl4co.Fjsp.maxOver i.N (isReal i) σ.finish with
  | some x => x
  | none => 0

/-! ### Schedule classes for C05 (list-based, executable; tiny instances) -/

/-- number of operations of job `j` -/
def nOps (i : Inst) (j : Nat) : Nat := i.endOp j + 1 - i.startOp j

/-- State of a chronological *list scheduling* pass: per job the number of operations already placed
and the time its last one finishes, per machine the time it becomes free, and the schedule so far
as `(op, machine, start, finish)` records. -/
structure LS where
  placed   : List Nat
  jobReady : List Int
  maReady  : List Int
  recs     : List (Nat × Nat × Int × Int)

def LS.init (i : Inst) : LS :=
  { placed := List.replicate i.J 0, jobReady := List.replicate i.J 0,
    maReady := List.replicate i.M 0, recs := [] }

/-- place the next operation of job `j` on machine `m` as early as job and machine allow
(appending at the end of the machine's sequence: a *semi-active* placement) -/
def LS.place (i : Inst) (st : LS) (j m : Nat) : LS :=
  let k := st.placed.getD j 0
  let o := i.startOp j + k
  let s := max (st.jobReady.getD j 0) (st.maReady.getD m 0)
  let f := s + i.proc m o
  { placed := st.placed.set j (k + 1), jobReady := st.jobReady.set j f,
    maReady := st.maReady.set m f, recs := (o, m, s, f) :: st.recs }

/-- all complete semi-active list schedules (every interleaving of the jobs' operation sequences
and every eligible machine choice), as record lists; `fuel` = total number of operations -/
def allSemiActive (i : Inst) : Nat → LS → List (List (Nat × Nat × Int × Int))
  | 0, st => [st.recs]
  | f + 1, st =>
    let opts := (List.range i.J).flatMap (fun j =>
      if st.placed.getD j 0 < nOps i j then
        (List.range i.M).filterMap (fun m =>
          if i.proc m (i.startOp j + st.placed.getD j 0) > 0 then some (j, m) else none)
      else [])
    if opts.isEmpty then [st.recs]
    else opts.flatMap (fun jm => allSemiActive i f (LS.place i st jm.1 jm.2))

def totalOps (i : Inst) : Nat := ((List.range i.J).map (nOps i)).sum

def recsMakespan (recs : List (Nat × Nat × Int × Int)) : Int :=
  recs.foldl (fun acc r => max acc r.2.2.2) 0

/-- Non-delay: at no time `t` is a machine `m` idle while some operation that is eligible on `m` and
whose job predecessor has finished by `t` starts later than `t`.  It suffices to test `t = 0` and the
completion times. -/
def nonDelay (i : Inst) (recs : List (Nat × Nat × Int × Int)) : Bool :=
  let times : List Int := 0 :: recs.map (fun r => r.2.2.2)
  times.all (fun t =>
    (List.range i.M).all (fun m =>
      let busy := recs.any (fun r => r.2.1 == m && decide (r.2.2.1 ≤ t) && decide (t < r.2.2.2))
      busy || recs.all (fun r =>
        let o := r.1
        let predDone := (List.range i.J).any (fun j => i.startOp j == o) ||
          recs.any (fun q => q.1 + 1 == o && decide (q.2.2.2 ≤ t))
        !(decide (r.2.2.1 > t) && predDone && decide (i.proc m o > 0)))))

/-- canonical form of a record list (sorted by operation id) for set comparison -/
def insertRec (x : Nat × Nat × Int × Int) : List (Nat × Nat × Int × Int) → List (Nat × Nat × Int × Int)
  | [] => [x]
  | y :: ys => if x.1 ≤ y.1 then x :: y :: ys else y :: insertRec x ys
def sortRecs : List (Nat × Nat × Int × Int) → List (Nat × Nat × Int × Int)
  | [] => []
  | x :: xs => insertRec x (sortRecs xs)

/-- brute-force optimum: minimal makespan over all semi-active list schedules (an optimal schedule
can always be left-shifted into a semi-active one, so this is the optimum over all valid schedules) -/
def optMakespan (i : Inst) : Option Int :=
  ((allSemiActive i (totalOps i) (LS.init i)).map recsMakespan).foldl
    (fun acc x => match acc with | none => some x | some y => some (min x y)) none

/-- minimal makespan over the non-delay schedules only -/
def optNonDelay (i : Inst) : Option Int :=
  (((allSemiActive i (totalOps i) (LS.init i)).filter (nonDelay i)).map recsMakespan).foldl
    (fun acc x => match acc with | none => some x | some y => some (min x y)) none

end Rl4co.Spec.Fjsp
