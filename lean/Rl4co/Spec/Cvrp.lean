/-
Independent definition of a feasible CVRP solution and of its objective, written from the problem
statement (not from the environment code).  A solution is the list of visited nodes (0 = depot
visit); routes are the maximal depot-free segments.  No Mathlib.
-/
import Rl4co.Env.Cvrp
namespace Rl4co.Spec.Cvrp
open Rl4co.Cvrp (Inst)

def routeLoad (i : Inst) (r : List Nat) : Int := (r.map i.demand).sum

theorem routeLoad_nil (i : Inst) : routeLoad i [] = 0 := rfl
theorem routeLoad_cons (i : Inst) (a : Nat) (r : List Nat) : routeLoad i (a :: r) = i.demand a + routeLoad i r := rfl

/-- Feasible: all nodes in range, every customer exactly once, every route within capacity. -/
structure Feasible (i : Inst) (as : List Nat) : Prop where
  range : ∀ a ∈ as, a ≤ i.n
  once  : ∀ j, 1 ≤ j → j ≤ i.n → as.count j = 1
  load  : ∀ r ∈ routes as, routeLoad i r ≤ i.cap

/-- executable version used as the run-time oracle -/
def feasible (i : Inst) (as : List Nat) : Bool :=
  as.all (fun a => decide (a ≤ i.n)) &&
  (List.range i.n).all (fun k => as.count (k + 1) == 1) &&
  (routes as).all (fun r => decide (routeLoad i r ≤ i.cap))

theorem feasible_iff (i : Inst) (as : List Nat) : feasible i as = true ↔ Feasible i as := by
  rw [feasible, Bool.and_eq_true, Bool.and_eq_true, all_succ_eq_true (p := fun j => as.count j == 1)]
  simp only [List.all_eq_true, decide_eq_true_eq, beq_iff_eq]
  exact ⟨fun ⟨⟨h1, h2⟩, h3⟩ => ⟨h1, h2, h3⟩, fun ⟨h1, h2, h3⟩ => ⟨⟨h1, h2⟩, h3⟩⟩

/-- executable: feasible when every route load may exceed the capacity by at most `tol`
(the rounding tolerance the property grants the checker) -/
def feasibleWithin (tol : Int) (i : Inst) (as : List Nat) : Bool :=
  as.all (fun a => decide (a ≤ i.n)) &&
  (List.range i.n).all (fun k => as.count (k + 1) == 1) &&
  (routes as).all (fun r => decide (routeLoad i r ≤ i.cap + tol))

/-- Objective: total length of all routes, each driven depot → customers → depot. -/
def objective (i : Inst) (as : List Nat) : Int := routesLen i.D as

end Rl4co.Spec.Cvrp
