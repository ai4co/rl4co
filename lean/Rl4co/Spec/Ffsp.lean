/-
Independent definition of a valid flexible-flow-shop schedule and of its makespan, written from the
problem statement (not from the environment code).  A schedule is a list of operations
`(job, machine, start)`; machine `m` belongs to stage `m / M`; processing `job` on `machine` takes
`dur job machine` time units.  No Mathlib.
-/
import Rl4co.Env.Ffsp
namespace Rl4co.Spec.Ffsp
open Rl4co.Ffsp (Inst MT)

structure Op where
  job     : Nat
  machine : Nat
  start   : Int
  deriving DecidableEq, Repr

def Op.stage (i : Inst) (o : Op) : Nat := o.machine / i.M
def Op.fin (i : Inst) (o : Op) : Int := o.start + (i.dur o.job o.machine : Int)

/-- number of operations of job `j` processed in stage `k` -/
def opsAt (i : Inst) (ops : List Op) (j k : Nat) : Nat :=
  (ops.filter (fun o => o.job == j && o.stage i == k)).length

/-- Valid schedule:
* every operation concerns a real job, a real machine and starts at a time ≥ 0;
* every job passes every stage exactly once (on a machine of that stage, for its duration there —
  the interval of `o` is `[o.start, o.start + dur o.job o.machine)`);
* the stages of a job run in order without overlapping;
* no machine processes two operations at the same time. -/
structure Valid (i : Inst) (ops : List Op) : Prop where
  range   : ∀ o ∈ ops, o.job < i.J ∧ o.machine < MT i ∧ 0 ≤ o.start
  once    : ∀ j, j < i.J → ∀ k, k < i.S → opsAt i ops j k = 1
  order   : ∀ o ∈ ops, ∀ o' ∈ ops, o.job = o'.job → o.stage i < o'.stage i → o.fin i ≤ o'.start
  machine : ∀ o ∈ ops, ∀ o' ∈ ops, o ≠ o' → o.machine = o'.machine →
              o.fin i ≤ o'.start ∨ o'.fin i ≤ o.start

/-- executable version used as the run-time oracle -/
def valid (i : Inst) (ops : List Op) : Bool :=
  ops.all (fun o => decide (o.job < i.J) && decide (o.machine < MT i) && decide (0 ≤ o.start)) &&
  (List.range i.J).all (fun j => (List.range i.S).all (fun k => opsAt i ops j k == 1)) &&
  ops.all (fun o => ops.all (fun o' =>
    !(decide (o.job = o'.job) && decide (o.stage i < o'.stage i)) || decide (o.fin i ≤ o'.start))) &&
  ops.all (fun o => ops.all (fun o' =>
    !(decide (o ≠ o') && decide (o.machine = o'.machine)) ||
      (decide (o.fin i ≤ o'.start) || decide (o'.fin i ≤ o.start))))

theorem valid_iff (i : Inst) (ops : List Op) : valid i ops = true ↔ Valid i ops := by
  simp only [valid, Bool.and_eq_true, List.all_eq_true, decide_eq_true_eq, List.mem_range,
    beq_iff_eq, Bool.or_eq_true, Bool.not_eq_true', Bool.and_eq_false_iff, decide_eq_false_iff_not]
  constructor
  · rintro ⟨⟨⟨h1, h2⟩, h3⟩, h4⟩
    refine ⟨fun o ho => ⟨(h1 o ho).1.1, (h1 o ho).1.2, (h1 o ho).2⟩, fun j hj k hk => h2 j hj k hk, ?_, ?_⟩
    · intro o ho o' ho' hj hs
      rcases h3 o ho o' ho' with h | h
      · rcases h with h | h
        · exact absurd hj h
        · exact absurd hs h
      · exact h
    · intro o ho o' ho' hne hm
      rcases h4 o ho o' ho' with h | h
      · rcases h with h | h
        · exact absurd hne h
        · exact absurd hm h
      · exact h
  · rintro ⟨h1, h2, h3, h4⟩
    refine ⟨⟨⟨fun o ho => ⟨⟨(h1 o ho).1, (h1 o ho).2.1⟩, (h1 o ho).2.2⟩, h2⟩, ?_⟩, ?_⟩
    · intro o ho o' ho'
      by_cases hj : o.job = o'.job
      · by_cases hs : o.stage i < o'.stage i
        · exact Or.inr (h3 o ho o' ho' hj hs)
        · exact Or.inl (Or.inr hs)
      · exact Or.inl (Or.inl hj)
    · intro o ho o' ho'
      by_cases hne : o ≠ o'
      · by_cases hm : o.machine = o'.machine
        · exact Or.inr (h4 o ho o' ho' hne hm)
        · exact Or.inl (Or.inr hm)
      · exact Or.inl (Or.inl hne)

/-- `v` is the makespan of a (non-empty) schedule: the latest completion time -/
def IsMakespan (i : Inst) (ops : List Op) (v : Int) : Prop :=
  (∃ o ∈ ops, o.fin i = v) ∧ ∀ o ∈ ops, o.fin i ≤ v

/-- executable makespan (0 for the empty schedule) -/
def makespan (i : Inst) : List Op → Int
  | [] => 0
  | [o] => o.fin i
  | o :: o' :: os => max (o.fin i) (makespan i (o' :: os))

theorem makespan_is (i : Inst) (ops : List Op) (h : ops ≠ []) : IsMakespan i ops (makespan i ops) := by
  induction ops with
  | nil => exact absurd rfl h
  | cons o os ih =>
    cases os with
    | nil =>
      exact ⟨⟨o, List.mem_singleton.mpr rfl, rfl⟩, fun o' ho' => by
        rw [List.mem_singleton.mp ho']; exact Int.le_refl _⟩
    | cons o' os =>
      obtain ⟨⟨w, hw, hwv⟩, hall⟩ := ih (List.cons_ne_nil _ _)
      show IsMakespan i _ (max (o.fin i) (makespan i (o' :: os)))
      constructor
      · rcases Int.le_total (o.fin i) (makespan i (o' :: os)) with hle | hle
        · exact ⟨w, List.mem_cons_of_mem _ hw, by rw [Int.max_eq_right hle]; exact hwv⟩
        · exact ⟨o, List.mem_cons_self, (Int.max_eq_left hle).symm⟩
      · intro x hx
        rcases List.mem_cons.mp hx with hx | hx
        · rw [hx]; exact Int.le_max_left _ _
        · exact Int.le_trans (hall x hx) (Int.le_max_right _ _)

theorem isMakespan_unique (i : Inst) (ops : List Op) (v w : Int)
    (hv : IsMakespan i ops v) (hw : IsMakespan i ops w) : v = w := by
  obtain ⟨⟨o, ho, hov⟩, hv2⟩ := hv
  obtain ⟨⟨o', ho', hov'⟩, hw2⟩ := hw
  exact Int.le_antisymm (hov ▸ hw2 o ho) (hov' ▸ hv2 o' ho')

end Rl4co.Spec.Ffsp

namespace Rl4co.Spec.Ffsp
open Rl4co.Ffsp (Inst MT UNSET)

/-- Reading of the environment's `schedule[m][j]` matrix (real jobs only) as a list of operations:
one operation per entry that differs from the "not scheduled" sentinel. -/
def ofMatrix (i : Inst) (sched : Nat → Nat → Int) : List Op :=
  (List.range (MT i)).flatMap (fun m =>
    ((List.range i.J).filter (fun j => sched m j != UNSET)).map (fun j => ⟨j, m, sched m j⟩))

end Rl4co.Spec.Ffsp

/-!
### The class of schedules the environment's decision rule can express

The environment sweeps, at every time `t`, over all machines stage by stage (within a stage in the
order given by `perm`).  At an idle machine for which some job is available it must start one of the
available jobs, unless (stage ≥ 1 and) some job has not yet completed the previous stage at time `t`;
only then it may leave the machine idle.  `expressible` states this declaratively about a schedule.
(Validated against exhaustive exploration of the real environment by the C05 unit; not every valid
schedule is expressible, and the optimum need not be.)
-/
namespace Rl4co.Spec.Ffsp
open Rl4co.Ffsp (Inst MT UNSET)

open Rl4co.Ffsp (machineOf)

/-- latest start time of the schedule -/
def horizon (ops : List Op) : Nat := (ops.map (fun o => o.start.toNat)).foldl max 0

/-- the operation `o` sits at a slot after `(t, sub)` of the sweep (time-major, then sweep index) -/
def SitsAfter (i : Inst) (t sub : Nat) (o : Op) : Prop :=
  (t : Int) < o.start ∨ (o.start = (t : Int) ∧ ∃ sub', sub' < MT i ∧ sub < sub' ∧ o.machine = machineOf i sub')

/-- no operation of machine `m` starts at or covers time `t` -/
def Idle (i : Inst) (ops : List Op) (m t : Nat) : Prop :=
  ∀ o, o ∈ ops → o.machine = m → ¬ (o.start = (t : Int) ∨ (o.start ≤ (t : Int) ∧ (t : Int) < o.fin i))

/-- when the sweep stands at slot `(t, sub)` (a machine of stage `sub / M`), job `j` has completed the
previous stage and has not yet started its operation of this stage -/
def Avail (i : Inst) (ops : List Op) (j t sub : Nat) : Prop :=
  (sub / i.M = 0 ∨ ∃ o, o ∈ ops ∧ o.job = j ∧ o.stage i + 1 = sub / i.M ∧ o.fin i ≤ (t : Int)) ∧
  (∃ o, o ∈ ops ∧ o.job = j ∧ o.stage i = sub / i.M ∧ SitsAfter i t sub o)

/-- leaving a stage-`k` machine idle at `t` is permitted: some job has not completed stage `k-1` by `t` -/
def SkipOK (i : Inst) (ops : List Op) (k t : Nat) : Prop :=
  1 ≤ k ∧ ∃ j, j < i.J ∧ ∀ o, o ∈ ops → o.job = j → o.stage i + 1 = k → (t : Int) < o.fin i

/-- **Expressible schedules**: whenever the sweep stands at an idle machine for which a job is available,
leaving it idle must have been permitted. -/
def Expressible (i : Inst) (ops : List Op) : Prop :=
  (∀ t, t ≤ horizon ops → ∀ sub, sub < MT i → Idle i ops (machineOf i sub) t →
    (∃ j, j < i.J ∧ Avail i ops j t sub) → SkipOK i ops (sub / i.M) t) ∧
  -- a machine is visited once per time unit (implied by validity when all durations are positive)
  (∀ o, o ∈ ops → ∀ o', o' ∈ ops → o ≠ o' → o.machine = o'.machine → o.start ≠ o'.start)

instance (i : Inst) (t sub : Nat) (o : Op) : Decidable (SitsAfter i t sub o) := by
  unfold SitsAfter; exact inferInstance
instance (i : Inst) (ops : List Op) (m t : Nat) : Decidable (Idle i ops m t) := by
  unfold Idle; exact inferInstance
instance (i : Inst) (ops : List Op) (j t sub : Nat) : Decidable (Avail i ops j t sub) := by
  unfold Avail; exact inferInstance
instance (i : Inst) (ops : List Op) (k t : Nat) : Decidable (SkipOK i ops k t) := by
  unfold SkipOK; exact inferInstance
instance (i : Inst) (ops : List Op) : Decidable (Expressible i ops) := by
  unfold Expressible; exact inferInstance

/-- job `j` has completed the stage before that of machine `m` by `t` and starts its operation of
`m`'s stage only later -/
def Waiting (i : Inst) (ops : List Op) (j m t : Nat) : Prop :=
  (m / i.M = 0 ∨ ∃ o, o ∈ ops ∧ o.job = j ∧ o.stage i + 1 = m / i.M ∧ o.fin i ≤ (t : Int)) ∧
  (∃ o, o ∈ ops ∧ o.job = j ∧ o.stage i = m / i.M ∧ (t : Int) < o.start)

instance (i : Inst) (ops : List Op) (j m t : Nat) : Decidable (Waiting i ops j m t) := by
  unfold Waiting; exact inferInstance

/-- **Non-delay schedules**: no machine stands idle at a time `t` at which a job that has completed the
previous stage is still waiting for its operation of the machine's stage (classical definition, no
reference to the sweep). -/
def NonDelay (i : Inst) (ops : List Op) : Prop :=
  ∀ t, t ≤ horizon ops → ∀ m, m < MT i → Idle i ops m t → ¬ ∃ j, j < i.J ∧ Waiting i ops j m t

/-- **Permutation schedules**: the jobs pass every stage in the same order. -/
def PermutationSchedule (i : Inst) (ops : List Op) : Prop :=
  ∀ o, o ∈ ops → ∀ o', o' ∈ ops → ∀ p, p ∈ ops → ∀ p', p' ∈ ops →
    o.job = p.job → o'.job = p'.job → o.stage i = o'.stage i → p.stage i = p'.stage i →
    o.start < o'.start → p.start ≤ p'.start

/-- non-delay *with the sweep's tie rule*: whenever the sweep stands at an idle machine, no job is
available there (in particular a job starting at the same time must start on the first idle machine of
the sweep) -/
def StrictNonDelay (i : Inst) (ops : List Op) : Prop :=
  ∀ t, t ≤ horizon ops → ∀ sub, sub < MT i → Idle i ops (machineOf i sub) t →
    ¬ ∃ j, j < i.J ∧ Avail i ops j t sub

instance (i : Inst) (ops : List Op) : Decidable (NonDelay i ops) := by
  unfold NonDelay; exact inferInstance
instance (i : Inst) (ops : List Op) : Decidable (PermutationSchedule i ops) := by
  unfold PermutationSchedule; exact inferInstance
instance (i : Inst) (ops : List Op) : Decidable (StrictNonDelay i ops) := by
  unfold StrictNonDelay; exact inferInstance

/-- executable version used as the run-time oracle (it *is* the decision of the definition) -/
def expressible (i : Inst) (ops : List Op) : Bool := decide (Expressible i ops)

theorem expressible_iff (i : Inst) (ops : List Op) : expressible i ops = true ↔ Expressible i ops := by
  simp [expressible]

/-- all assignments of a machine of the right stage and a start time `0..H` to every (job, stage) -/
def candidates (i : Inst) (H : Nat) : List (List Op) :=
  let slots := (List.range i.J).flatMap (fun j => (List.range i.S).map (fun k => (j, k)))
  slots.foldr (fun (jk : Nat × Nat) acc =>
    (List.range i.M).flatMap (fun p => (List.range (H + 1)).flatMap (fun (t : Nat) =>
      acc.map (fun ops => (⟨jk.1, jk.2 * i.M + p, Int.ofNat t⟩ : Op) :: ops)))) [[]]

/-- the matrix form the environment uses (`MT × J`, sentinel for "no operation") -/
def toMatrix (i : Inst) (ops : List Op) : List Int :=
  (List.range (MT i)).flatMap (fun m => (List.range i.J).map (fun j =>
    match ops.find? (fun o => o.job == j && o.machine == m) with
    | some o => o.start
    | none => UNSET))

end Rl4co.Spec.Ffsp
