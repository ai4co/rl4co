/-
Independent definition of the single-machine total weighted tardiness problem: a schedule is an
order of the jobs `1..n`, each exactly once (the dummy node 0 is not a job); job `a` completes at the
sum of the processing times of the jobs up to and including it; the objective is
Σ_a w_a · max(0, C_a − d_a).  No Mathlib.
-/
import Rl4co.Core.Basic

namespace Rl4co.Spec.Smtwtp

structure Feasible (n : Nat) (as : List Nat) : Prop where
  range : ∀ a ∈ as, 1 ≤ a ∧ a ≤ n
  once  : ∀ j, 1 ≤ j → j ≤ n → as.count j = 1

def feasible (n : Nat) (as : List Nat) : Bool :=
  as.all (fun a => decide (1 ≤ a ∧ a ≤ n)) && (List.range n).all (fun k => as.count (k + 1) == 1)

theorem feasible_iff (n : Nat) (as : List Nat) : feasible n as = true ↔ Feasible n as := by
  simp only [feasible, Bool.and_eq_true, List.all_eq_true, decide_eq_true_eq, List.mem_range,
    beq_iff_eq]
  exact ⟨fun ⟨h1, h2⟩ => ⟨h1, (forall_lt_succ_iff (P := fun j => as.count j = 1)).mp h2⟩,
    fun ⟨h1, h2⟩ => ⟨h1, (forall_lt_succ_iff (P := fun j => as.count j = 1)).mpr h2⟩⟩

/-- weighted tardiness of the jobs `as` processed back to back from time `t` on -/
def wtFrom (p d w : Nat → Int) (t : Int) : List Nat → Int
  | [] => 0
  | a :: as => w a * max 0 (t + p a - d a) + wtFrom p d w (t + p a) as

def objective (p d w : Nat → Int) (as : List Nat) : Int := wtFrom p d w 0 as

end Rl4co.Spec.Smtwtp
