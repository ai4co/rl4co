/-
Independent definition of a feasible solution of the multi-task VRP (capacity C, open routes O,
backhauls B, duration limit L, time windows TW — any combination) and of its objective, written from
the problem statement (docstring of `MTVRPEnv`, Vidal et al. / PyVRP conventions), not from the
environment code.  A solution is the list of visited nodes (0 = depot visit); routes are the maximal
depot-free segments.  An absent feature is an infinite bound (`none`).  No Mathlib.

Per non-empty route `r` (driven depot → r → depot, or depot → r when routes are open):
* linehaul (delivery) load  Σ dL ≤ Q and backhaul (pickup) load  Σ dB ≤ Q;
* no linehaul customer after a backhaul customer;
* travelled length ≤ L, the return leg not counted when open;
* the vehicle leaves the depot at time 0, travels with times `T`, waits until `e_j` if early, must START
  service at `j` no later than `l_j` (equality allowed), serves for `s_j`; when routes are closed it
  must be back at the depot no later than `l_0`.
-/
import Rl4co.Core.Tour
import Rl4co.Env.Mtvrp
namespace Rl4co.Spec.Mtvrp
open Rl4co.Mtvrp (Inst cmpInf)

/-- `x ≤ bound` (`c = .le`, the problem statement) or `x < bound` (`c = .lt`, "with slack": only reported by
the driver so that the harness can tell boundary solutions apart), the bound possibly infinite -/
abbrev within (c : Cmp) (x : Int) (b : Option Int) : Bool := cmpInf c x b

/-- clock simulation along the rest `r` of a route, standing at `cur` with service finished at `t` -/
def timeOk (c : Cmp) (i : Inst) : Nat → Int → List Nat → Bool
  | cur, t, [] => i.openR || within c (t + i.T cur 0) (i.late 0)
  | cur, t, a :: r =>
    within c (t + i.T cur a) (i.late a)
    && timeOk c i a (max (t + i.T cur a) (i.early a) + i.service a) r

/-- travelled length of a route: depot → r (→ depot unless open) -/
def routeDist (i : Inst) (r : List Nat) : Int :=
  pathLen i.D (0 :: r ++ (if i.openR then [] else [0]))

/-- "no linehaul customer after a backhaul customer" -/
def Ordered (i : Inst) (r : List Nat) : Prop :=
  r.Pairwise (fun a b => ¬ (0 < i.dB a ∧ 0 < i.dL b))

instance (i : Inst) (r : List Nat) : Decidable (Ordered i r) := by unfold Ordered; infer_instance

structure RouteOk (c : Cmp) (i : Inst) (r : List Nat) : Prop where
  loadL : (r.map i.dL).sum ≤ i.cap
  loadB : (r.map i.dB).sum ≤ i.cap
  order : Ordered i r
  dist  : within .le (routeDist i r) i.limit = true
  time  : timeOk c i 0 0 r = true

/-- Feasible (deadline comparison `c`): all nodes in range, every customer exactly once, every
non-empty route satisfies the route constraints. -/
structure FeasibleC (c : Cmp) (i : Inst) (as : List Nat) : Prop where
  range : ∀ a ∈ as, a ≤ i.n
  once  : ∀ j, 1 ≤ j → j ≤ i.n → as.count j = 1
  route : ∀ r ∈ routes as, r ≠ [] → RouteOk c i r

/-- **The** feasibility notion of the problem statement: deadlines may be met with equality. -/
abbrev Feasible (i : Inst) (as : List Nat) : Prop := FeasibleC .le i as

/-- feasibility passes along a route-wise implication to an instance with the same number of customers -/
theorem FeasibleC.imp_route {c c' : Cmp} {i i' : Inst} {as : List Nat} (hn : i'.n = i.n)
    (hr : ∀ r ∈ routes as, RouteOk c i r → RouteOk c' i' r) (h : FeasibleC c i as) : FeasibleC c' i' as :=
  ⟨hn ▸ h.range, hn ▸ h.once, fun r hm hne => hr r hm (h.route r hm hne)⟩

/-! executable versions (run-time oracle), with the per-constraint verdicts the harness uses to
classify a disagreement between the checker and the definition -/

def onceB (i : Inst) (as : List Nat) : Bool :=
  as.all (fun a => decide (a ≤ i.n)) && (List.range i.n).all (fun k => as.count (k + 1) == 1)
def loadB (i : Inst) (as : List Nat) : Bool :=
  (routes as).all (fun r => decide ((r.map i.dL).sum ≤ i.cap) && decide ((r.map i.dB).sum ≤ i.cap))
def orderB (i : Inst) (as : List Nat) : Bool := (routes as).all (fun r => decide (Ordered i r))
def distB (i : Inst) (as : List Nat) : Bool :=
  (routes as).all (fun r => r.isEmpty || within .le (routeDist i r) i.limit)
def timeB (c : Cmp) (i : Inst) (as : List Nat) : Bool :=
  (routes as).all (fun r => r.isEmpty || timeOk c i 0 0 r)

def routeOkB (c : Cmp) (i : Inst) (r : List Nat) : Bool :=
  decide ((r.map i.dL).sum ≤ i.cap) && decide ((r.map i.dB).sum ≤ i.cap) && decide (Ordered i r)
  && within .le (routeDist i r) i.limit && timeOk c i 0 0 r

theorem routeOkB_iff (c : Cmp) (i : Inst) (r : List Nat) : routeOkB c i r = true ↔ RouteOk c i r := by
  simp only [routeOkB, Bool.and_eq_true, decide_eq_true_eq]
  constructor
  · rintro ⟨⟨⟨⟨h1, h2⟩, h3⟩, h4⟩, h5⟩; exact ⟨h1, h2, h3, h4, h5⟩
  · rintro ⟨h1, h2, h3, h4, h5⟩; exact ⟨⟨⟨⟨h1, h2⟩, h3⟩, h4⟩, h5⟩

def feasibleC (c : Cmp) (i : Inst) (as : List Nat) : Bool :=
  onceB i as && (routes as).all (fun r => r.isEmpty || routeOkB c i r)

def feasible (i : Inst) (as : List Nat) : Bool := feasibleC .le i as

theorem onceB_iff (i : Inst) (as : List Nat) :
    onceB i as = true ↔ (∀ a ∈ as, a ≤ i.n) ∧ ∀ j, 1 ≤ j → j ≤ i.n → as.count j = 1 := by
  rw [onceB, Bool.and_eq_true, all_succ_eq_true (p := fun j => as.count j == 1)]
  simp only [List.all_eq_true, decide_eq_true_eq, beq_iff_eq]

theorem all_nonempty_iff {p : List Nat → Bool} {P : List Nat → Prop} (h : ∀ r, p r = true ↔ P r)
    (rs : List (List Nat)) : rs.all (fun r => r.isEmpty || p r) = true ↔ ∀ r ∈ rs, r ≠ [] → P r := by
  simp only [List.all_eq_true, Bool.or_eq_true, List.isEmpty_iff, h]
  exact forall_congr' fun r => forall_congr' fun _ => Decidable.or_iff_not_imp_left

theorem feasibleC_iff (c : Cmp) (i : Inst) (as : List Nat) :
    feasibleC c i as = true ↔ FeasibleC c i as := by
  rw [feasibleC, Bool.and_eq_true, onceB_iff, all_nonempty_iff (routeOkB_iff c i)]
  exact ⟨fun ⟨⟨h1, h2⟩, h3⟩ => ⟨h1, h2, h3⟩, fun ⟨h1, h2, h3⟩ => ⟨⟨h1, h2⟩, h3⟩⟩

theorem feasible_iff (i : Inst) (as : List Nat) : feasible i as = true ↔ Feasible i as :=
  feasibleC_iff .le i as

/-! ### the set of solutions the shipped checker accepts, described independently of its code

`check_solution_validity` differs from `Feasible` in exactly three documented ways (C06 findings): it never looks at
the linehaul/backhaul order; it applies the depot deadline to every leg INTO the depot, also for open routes; and it
only replays the legs listed in the action list, so the way back of the trailing route (the one not followed by a
depot visit) is tested neither against the distance limit nor against the depot deadline.  `Accepted` is `Feasible`
with precisely these three changes; `Rl4co.Mtvrp.check_iff` proves that it IS the accepted set. -/

/-- a route followed by a depot visit in the action list -/
structure ClosedOk (i : Inst) (r : List Nat) : Prop where
  loadL : (r.map i.dL).sum ≤ i.cap
  loadB : (r.map i.dB).sum ≤ i.cap
  dist  : within .le (routeDist i r) i.limit = true
  time  : timeOk .le { i with openR := false } 0 0 r = true

/-- the trailing route (not followed by a depot visit): its way back is not looked at -/
structure TrailOk (i : Inst) (r : List Nat) : Prop where
  loadL : (r.map i.dL).sum ≤ i.cap
  loadB : (r.map i.dB).sum ≤ i.cap
  dist  : within .le (pathLen i.D (0 :: r)) i.limit = true
  time  : timeOk .le { i with openR := true } 0 0 r = true

structure Accepted (i : Inst) (as : List Nat) : Prop where
  range  : ∀ a ∈ as, a ≤ i.n
  once   : ∀ j, 1 ≤ j → j ≤ i.n → as.count j = 1
  closed : ∀ r ∈ (routes as).dropLast, r ≠ [] → ClosedOk i r
  trail  : ∀ r, (routes as).getLast? = some r → r ≠ [] → TrailOk i r

/-! executable version of `Accepted` (run-time oracle: the real checker's verdict must equal it) -/

def closedOkB (i : Inst) (r : List Nat) : Bool :=
  decide ((r.map i.dL).sum ≤ i.cap) && decide ((r.map i.dB).sum ≤ i.cap)
  && within .le (routeDist i r) i.limit && timeOk .le { i with openR := false } 0 0 r
def trailOkB (i : Inst) (r : List Nat) : Bool :=
  decide ((r.map i.dL).sum ≤ i.cap) && decide ((r.map i.dB).sum ≤ i.cap)
  && within .le (pathLen i.D (0 :: r)) i.limit && timeOk .le { i with openR := true } 0 0 r

def acceptedB (i : Inst) (as : List Nat) : Bool :=
  onceB i as && (routes as).dropLast.all (fun r => r.isEmpty || closedOkB i r)
  && (match (routes as).getLast? with
      | some r => r.isEmpty || trailOkB i r
      | none => true)

theorem closedOkB_iff (i : Inst) (r : List Nat) : closedOkB i r = true ↔ ClosedOk i r := by
  simp only [closedOkB, Bool.and_eq_true, decide_eq_true_eq]
  exact ⟨fun ⟨⟨⟨a, b⟩, c⟩, d⟩ => ⟨a, b, c, d⟩, fun ⟨a, b, c, d⟩ => ⟨⟨⟨a, b⟩, c⟩, d⟩⟩

theorem trailOkB_iff (i : Inst) (r : List Nat) : trailOkB i r = true ↔ TrailOk i r := by
  simp only [trailOkB, Bool.and_eq_true, decide_eq_true_eq]
  exact ⟨fun ⟨⟨⟨a, b⟩, c⟩, d⟩ => ⟨a, b, c, d⟩, fun ⟨a, b, c, d⟩ => ⟨⟨⟨a, b⟩, c⟩, d⟩⟩

theorem acceptedB_iff (i : Inst) (as : List Nat) : acceptedB i as = true ↔ Accepted i as := by
  have hlast : (match (routes as).getLast? with
      | some r => r.isEmpty || trailOkB i r
      | none => true) = true ↔ ∀ r, (routes as).getLast? = some r → r ≠ [] → TrailOk i r := by
    cases (routes as).getLast? with
    | none => exact ⟨fun _ _ h => (nomatch h), fun _ => rfl⟩
    | some r0 =>
      show (r0.isEmpty || trailOkB i r0) = true ↔ _
      rw [Bool.or_eq_true, List.isEmpty_iff, trailOkB_iff, Decidable.or_iff_not_imp_left]
      exact ⟨fun h r e => Option.some.inj e ▸ h, fun h => h r0 rfl⟩
  rw [acceptedB, Bool.and_eq_true, Bool.and_eq_true, onceB_iff, all_nonempty_iff (closedOkB_iff i), hlast]
  exact ⟨fun ⟨⟨⟨h1, h2⟩, h3⟩, h4⟩ => ⟨h1, h2, h3, h4⟩, fun ⟨h1, h2, h3, h4⟩ => ⟨⟨⟨h1, h2⟩, h3⟩, h4⟩⟩

/-- cost of one route: depot → customers (→ depot unless routes are open); empty routes cost nothing -/
def routeCost (i : Inst) (r : List Nat) : Int := if r = [] then 0 else routeDist i r

/-- Objective: total travelled length; the legs back to the depot are not charged for open routes. -/
def objective (i : Inst) (as : List Nat) : Int := ((routes as).map (routeCost i)).sum

end Rl4co.Spec.Mtvrp
