/-
Dual numbers and small shaped tensors: the executable semantics the training-loss models are written in.
No Mathlib (the driver links against this file).

* `Dual K = (v, d)`: a value together with its first-order directional derivative along one fixed
  direction in parameter space.  `detach (v, d) = (v, 0)`.  Sums, products, quotients by constants follow
  the usual rules, so a loss written over `Dual K` yields *value and θ·grad* at once.  That PyTorch
  autograd implements exactly these rules is part of the trusted base (DESIGN §5); everything downstream
  (which quantities are detached, which mean is taken over which axis, which shapes broadcast) is modelled.
* `sumTo n f = f 0 + … + f (n-1)`.
* `Ten α`: a tensor of rank ≤ 2 given by its shape and an index function, with PyTorch's right-aligned
  broadcasting (`bop`).  Shapes are data: a `[B]` against `[B,1]` operand pair broadcasts to `[B,B]` here
  exactly as it does in torch, so such a mix-up shows up in the value and in the reported shape.

Everything is generic in the scalar type `K` through the core notation classes only; the driver
instantiates `K := Rat`, the theorems (in `Props/`) an arbitrary (linearly ordered) field.
-/
namespace Rl4co.Train

/-- `f 0 + … + f (n-1)` -/
def sumTo {α : Type} [Add α] [Zero α] : Nat → (Nat → α) → α
  | 0, _ => 0
  | n + 1, f => sumTo n f + f n

structure Dual (K : Type) where
  v : K
  d : K
deriving Repr

namespace Dual
variable {K : Type}

/-- a quantity that carries no gradient (data, a Python number, the result of a `no_grad` block) -/
def const [Zero K] (x : K) : Dual K := ⟨x, 0⟩
/-- `tensor.detach()` -/
def detach [Zero K] (x : Dual K) : Dual K := ⟨x.v, 0⟩

instance [Zero K] : Zero (Dual K) := ⟨⟨0, 0⟩⟩
instance [Add K] : Add (Dual K) := ⟨fun a b => ⟨a.v + b.v, a.d + b.d⟩⟩
instance [Sub K] : Sub (Dual K) := ⟨fun a b => ⟨a.v - b.v, a.d - b.d⟩⟩
instance [Neg K] : Neg (Dual K) := ⟨fun a => ⟨-a.v, -a.d⟩⟩
instance [Add K] [Mul K] : Mul (Dual K) := ⟨fun a b => ⟨a.v * b.v, a.v * b.d + a.d * b.v⟩⟩

/-- multiplication by a gradient-free scalar `c * x` -/
def smul [Mul K] (c : K) (a : Dual K) : Dual K := ⟨c * a.v, c * a.d⟩
/-- division by a gradient-free scalar `x / c` -/
def divc [Div K] (a : Dual K) (c : K) : Dual K := ⟨a.v / c, a.d / c⟩
/-- `exp` (or any smooth function `w` with `w' = w`): value `w v`, derivative `w v * d` -/
def expw [Mul K] (w : K → K) (a : Dual K) : Dual K := ⟨w a.v, w a.v * a.d⟩

theorem ext : ∀ {a b : Dual K}, a.v = b.v → a.d = b.d → a = b
  | ⟨_, _⟩, ⟨_, _⟩, rfl, rfl => rfl

@[simp] theorem zero_v [Zero K] : (0 : Dual K).v = 0 := rfl
@[simp] theorem zero_d [Zero K] : (0 : Dual K).d = 0 := rfl
@[simp] theorem add_v [Add K] (a b : Dual K) : (a + b).v = a.v + b.v := rfl
@[simp] theorem add_d [Add K] (a b : Dual K) : (a + b).d = a.d + b.d := rfl
@[simp] theorem sub_v [Sub K] (a b : Dual K) : (a - b).v = a.v - b.v := rfl
@[simp] theorem sub_d [Sub K] (a b : Dual K) : (a - b).d = a.d - b.d := rfl
@[simp] theorem neg_v [Neg K] (a : Dual K) : (-a).v = -a.v := rfl
@[simp] theorem neg_d [Neg K] (a : Dual K) : (-a).d = -a.d := rfl
@[simp] theorem mul_v [Add K] [Mul K] (a b : Dual K) : (a * b).v = a.v * b.v := rfl
@[simp] theorem mul_d [Add K] [Mul K] (a b : Dual K) : (a * b).d = a.v * b.d + a.d * b.v := rfl
@[simp] theorem const_v [Zero K] (x : K) : (const x).v = x := rfl
@[simp] theorem const_d [Zero K] (x : K) : (const x).d = 0 := rfl
@[simp] theorem detach_v [Zero K] (a : Dual K) : (detach a).v = a.v := rfl
@[simp] theorem detach_d [Zero K] (a : Dual K) : (detach a).d = 0 := rfl
@[simp] theorem smul_v [Mul K] (c : K) (a : Dual K) : (smul c a).v = c * a.v := rfl
@[simp] theorem smul_d [Mul K] (c : K) (a : Dual K) : (smul c a).d = c * a.d := rfl
@[simp] theorem divc_v [Div K] (a : Dual K) (c : K) : (divc a c).v = a.v / c := rfl
@[simp] theorem divc_d [Div K] (a : Dual K) (c : K) : (divc a c).d = a.d / c := rfl
@[simp] theorem expw_v [Mul K] (w : K → K) (a : Dual K) : (expw w a).v = w a.v := rfl
@[simp] theorem expw_d [Mul K] (w : K → K) (a : Dual K) : (expw w a).d = w a.v * a.d := rfl

end Dual

@[simp] theorem sumTo_zero {α : Type} [Add α] [Zero α] (f : Nat → α) : sumTo 0 f = 0 := rfl
theorem sumTo_succ {α : Type} [Add α] [Zero α] (n : Nat) (f : Nat → α) :
    sumTo (n + 1) f = sumTo n f + f n := rfl

theorem sumTo_v {K : Type} [Add K] [Zero K] (n : Nat) (f : Nat → Dual K) :
    (sumTo n f).v = sumTo n (fun i => (f i).v) := by
  induction n with
  | zero => rfl
  | succ n ih => simp [sumTo_succ, ih]

theorem sumTo_d {K : Type} [Add K] [Zero K] (n : Nat) (f : Nat → Dual K) :
    (sumTo n f).d = sumTo n (fun i => (f i).d) := by
  induction n with
  | zero => rfl
  | succ n ih => simp [sumTo_succ, ih]

theorem sumTo_congr {α : Type} [Add α] [Zero α] (n : Nat) (f g : Nat → α)
    (h : ∀ i, i < n → f i = g i) : sumTo n f = sumTo n g := by
  induction n with
  | zero => rfl
  | succ n ih =>
    rw [sumTo_succ, sumTo_succ, ih (fun i hi => h i (Nat.lt_succ_of_lt hi)), h n (Nat.lt_succ_self n)]

/-! ### Shaped tensors of rank ≤ 2 -/

inductive Shape where
  | s                    -- 0-dim (also a Python number)
  | v (n : Nat)          -- `[n]`
  | m (n k : Nat)        -- `[n, k]`
deriving DecidableEq, Repr

namespace Shape
def rows : Shape → Nat
  | s => 1 | v _ => 1 | m n _ => n
def cols : Shape → Nat
  | s => 1 | v n => n | m _ k => k
def rank : Shape → Nat
  | s => 0 | v _ => 1 | m _ _ => 2
def numel (sh : Shape) : Nat := sh.rows * sh.cols
def ofRank : Nat → Nat → Nat → Shape
  | 0, _, _ => s
  | 1, _, k => v k
  | _, n, k => m n k
def toStr : Shape → String
  | s => "[]" | v n => s!"[{n}]" | m n k => s!"[{n},{k}]"
end Shape

/-- broadcasting of one dimension: equal, or one of them is 1 -/
def bdim (a b : Nat) : Option Nat :=
  if a = b then some a else if a = 1 then some b else if b = 1 then some a else none

/-- PyTorch broadcasting of two shapes (right-aligned; a `[n]` vector is a `1×n` row) -/
def bshape (a b : Shape) : Option Shape :=
  match bdim a.rows b.rows, bdim a.cols b.cols with
  | some r, some c => some (Shape.ofRank (max a.rank b.rank) r c)
  | _, _ => none

/-- A tensor: shape and index function `(row, col) ↦ entry` (a vector is indexed by `col`). -/
structure Ten (α : Type) where
  sh : Shape
  f : Nat → Nat → α

namespace Ten
variable {α β γ : Type}

def scalar (x : α) : Ten α := ⟨Shape.s, fun _ _ => x⟩
def vec (n : Nat) (g : Nat → α) : Ten α := ⟨Shape.v n, fun _ j => g j⟩
def mat (n k : Nat) (g : Nat → Nat → α) : Ten α := ⟨Shape.m n k, g⟩

/-- entry with broadcasting: a dimension of size 1 is read at index 0 (and an in-range index of a
full dimension at itself) -/
def get (t : Ten α) (i j : Nat) : α := t.f (i % t.sh.rows) (j % t.sh.cols)

def map (g : α → β) (t : Ten α) : Ten β := ⟨t.sh, fun i j => g (t.f i j)⟩

/-- elementwise binary operation with broadcasting; `none` = shapes not broadcastable (torch raises) -/
def bop (g : α → β → γ) (a : Ten α) (b : Ten β) : Option (Ten γ) :=
  match bshape a.sh b.sh with
  | some sh => some ⟨sh, fun i j => g (a.get i j) (b.get i j)⟩
  | none => none

/-- `x.view(-1, 1)` / `x.reshape(-1, 1)` (row-major flattening into one column) -/
def viewCol (t : Ten α) : Ten α :=
  ⟨Shape.m t.sh.numel 1, fun i _ => t.f (i / t.sh.cols) (i % t.sh.cols)⟩

/-- `x.squeeze(-1)`: drops the last dimension when it has size 1 -/
def squeezeLast (t : Ten α) : Ten α :=
  match t.sh with
  | Shape.m n 1 => ⟨Shape.v n, fun _ j => t.f j 0⟩
  | Shape.v 1 => ⟨Shape.s, fun _ _ => t.f 0 0⟩
  | _ => t

section sums
variable [Add α] [Zero α]

/-- `x.sum()` over all entries -/
def sumAll (t : Ten α) : α := sumTo t.sh.rows (fun i => sumTo t.sh.cols (fun j => t.f i j))

/-- `x.sum(dim=-1)` -/
def sumLast (t : Ten α) : Ten α :=
  match t.sh with
  | Shape.m n k => ⟨Shape.v n, fun _ i => sumTo k (fun j => t.f i j)⟩
  | Shape.v n => ⟨Shape.s, fun _ _ => sumTo n (fun j => t.f 0 j)⟩
  | Shape.s => t
end sums

def toList (t : Ten α) : List α :=
  (List.range t.sh.rows).flatMap (fun i => (List.range t.sh.cols).map (fun j => t.f i j))

end Ten

namespace Ten
variable {K : Type} [Add K] [Zero K] [Div K] [NatCast K]

/-- `x.mean()` over all entries -/
def meanAll (t : Ten (Dual K)) : Dual K := Dual.divc (sumAll t) (t.sh.numel : K)

/-- `x.mean(dim=1, keepdims=True)` of a `[n,k]` tensor → `[n,1]`; of a vector `[n]` (dim = -1) → `[1]` -/
def meanLastKeep (t : Ten (Dual K)) : Ten (Dual K) :=
  match t.sh with
  | Shape.m n k => ⟨Shape.m n 1, fun i _ => Dual.divc (sumTo k (fun j => t.f i j)) (k : K)⟩
  | Shape.v n => ⟨Shape.v 1, fun _ _ => Dual.divc (sumTo n (fun j => t.f 0 j)) (n : K)⟩
  | Shape.s => t

end Ten

end Rl4co.Train
