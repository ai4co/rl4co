/-
The training models "as coded": the same functions as `Welford.lean`, `Baselines.lean`, `Loss.lean`, but with every
decision-critical token of the Python source (operand order, sign, operator, comparison, tuple order, which quantity is
detached …) taken from `Rl4co.Generated.Params`, which `harness/extract.py` regenerates from the AST of the current
sources on every run (`harness/probes/train.py`).  The driver executes THESE definitions, so the model follows a
one-token source edit; the proof obligations `…C_eq` in `Props/C16/TrainCoded.lean` and `Props/C20/TrainCoded.lean`
state that, for the extracted tokens, they coincide with the reference-form definitions the theorems are about — and
stop compiling when a token changes.  Tag 0 / `true` is the shape at the pinned commit; of the comparisons, `.lt`
(`trainWarmupCmp`, `trainRolloutPCmp`) and `.gt` (`trainRolloutBetterCmp`, `trainSymGuardPs`, `trainSymGuardSs`).  No Mathlib.
-/
import Rl4co.Generated.Params
import Rl4co.Train.Loss
import Rl4co.Train.RolloutBl
import Rl4co.Train.NStep
namespace Rl4co.Train
open Rl4co

variable {K : Type} [Add K] [Sub K] [Mul K] [Div K] [Neg K] [Zero K] [One K] [NatCast K]

/-! ### RewardScaler -/
namespace Welford

/-- `RewardScaler.update` as coded; `lead` is `len(batch)` of the tensor as it is passed in (its first dimension),
`batch` its entries in row-major order. -/
def updateC (lead : Nat) (st : St K) (batch : List K) : St K :=
  let count := st.count + (if Params.trainWelfordCountFlat then batch.length else lead)
  let delta := batch.map (fun x => x - st.mean)
  let mean := match Params.trainWelfordMeanTag with
    | 1 => st.mean + List.sum delta / (batch.length : K)
    | _ => st.mean + List.sum (delta.map (fun d => d / (count : K)))
  let delta2 := batch.map (fun x => x - (if Params.trainWelfordDelta2Tag = 0 then mean else st.mean))
  let prod := match Params.trainWelfordM2Tag with
    | 1 => List.zipWith (fun a b => a * b) delta delta
    | 2 => List.zipWith (fun a b => a * b) delta2 delta2
    | _ => List.zipWith (fun a b => a * b) delta delta2
  ⟨count, mean, st.M2 + List.sum prod⟩

/-- the quantity under the square root, as coded: `M2 / (count - 1)` -/
def varianceC (st : St K) : K :=
  st.M2 / (if Params.trainVarDenomTag = 0 then (st.count : K) - 1 else (st.count : K))

def factorC (sq : K → K) (eps : K) (st : St K) : K := sq (varianceC st) + eps

/-- `RewardScaler.__call__` as coded -/
def callC (sq : K → K) (eps : K) (mode : Mode K) (lead : Nat) (st : St K) (scores : List K) : St K × List K :=
  match mode with
  | Mode.off => (st, scores)
  | Mode.divInt c => (st, scores.map (fun x => x / c))
  | Mode.norm =>
    let st' := updateC lead st scores
    (st', scores.map (fun x => (if Params.trainNormTag = 0 then x - st'.mean else x) / factorC sq eps st'))
  | Mode.scale =>
    let st' := updateC lead st scores
    (st', scores.map (fun x => x / factorC sq eps st'))

end Welford

/-! ### baselines -/

/-- `SharedBaseline.eval` as coded (`keepdims` taken from the source) -/
def sharedEvalC (reward : Ten (Dual K)) : Ten (Dual K) × Dual K :=
  if Params.trainSharedKeepdims then sharedEval reward
  else ((Ten.meanLastKeep reward).squeezeLast, 0)

namespace Ema
variable [DecidableEq K]

/-- is this the first evaluation? (`if self.v is None` — or, tag 1, `if not self.v`) -/
def freshC (v : Option K) : Bool :=
  match v with
  | none => true
  | some x => if Params.trainEmaInitTag = 0 then false else decide (x = 0)

/-- the recurrence as coded -/
def combC (beta v m : K) : K :=
  match Params.trainEmaTag with
  | 1 => (1 - beta) * v + beta * m
  | 2 => v + (1 - beta) * m
  | 3 => beta * v + m
  | _ => beta * v + (1 - beta) * m

def stepC (beta : K) (v : Option K) (m : K) : K :=
  if freshC v then m else combC beta (v.getD 0) m

/-- `ExponentialBaseline.eval` on dual numbers, as coded -/
def evalC (beta : K) (v : Option K) (reward : Ten (Dual K)) : Ten (Dual K) × Dual K × K :=
  let m := Ten.meanAll reward
  let v' : Dual K :=
    if freshC v then m
    else
      let v0 := Dual.const (v.getD 0)
      match Params.trainEmaTag with
      | 1 => Dual.smul (1 - beta) v0 + Dual.smul beta m
      | 2 => v0 + Dual.smul (1 - beta) m
      | 3 => Dual.smul beta v0 + m
      | _ => Dual.smul beta v0 + Dual.smul (1 - beta) m
  (Ten.scalar (Dual.detach v'), 0, v'.v)
end Ema

namespace Critic
/-- `CriticBaseline.eval` as coded: squeeze, which of value / target is detached -/
def evalC (out : Ten (Dual K)) (c : Ten (Dual K)) : Option (Ten (Dual K) × Dual K) :=
  let v := if Params.trainCriticSqueeze then Ten.squeezeLast out else out
  let target := if Params.trainCriticTag = 2 then c else c.map Dual.detach
  (mse v target).map (fun l => (if Params.trainCriticTag = 1 then v else v.map Dual.detach, l))
end Critic

namespace Warmup
variable [DecidableEq K]

/-- `WarmupBaseline.__init__(baseline, n_epochs, warmup_exp_beta)` as coded: the horizon that is stored and the decay the
warm-up moving average really gets (`defaultBeta` = `ExponentialBaseline`'s own default, used if the argument is dropped) -/
def configC (nArg : Nat) (betaArg defaultBeta : K) : Nat × K :=
  (if Params.trainWarmupNStored then nArg else 1,
   if Params.trainWarmupBetaArg && Params.trainEmaBetaStored then betaArg else defaultBeta)

/-- `WarmupBaseline.epoch_callback` as coded: comparison operator and the weight expression from the source -/
def epochCallbackC (st : St K) (epoch : Nat) : St K :=
  if Params.trainWarmupCmp.evalNat epoch st.nEpochs then
    { st with alpha := match Params.trainWarmupAlphaTag with
        | 1 => (((epoch + 1) / st.nEpochs : Nat) : K)
        | 2 => (epoch : K) / (st.nEpochs : K)
        | _ => ((epoch + 1 : Nat) : K) / (st.nEpochs : K) }
  else st

/-- `WarmupBaseline.eval` as coded -/
def evalC (beta : K) (st : St K) (inner : Ten (Dual K) × Dual K) (reward : Ten (Dual K)) :
    Option (Ten (Dual K) × Dual K × St K) :=
  match branch st with
  | Branch.inner => some (inner.1, inner.2, st)
  | Branch.warm =>
    let (v, l, e) := Ema.evalC beta st.ema reward
    some (v, l, { st with ema := some e })
  | Branch.both =>
    let (vwb, lwb, e) := Ema.evalC beta st.ema reward
    let a := st.alpha
    let (wa, wb) := if Params.trainWarmupMixTag = 0 then (a, 1 - a) else (1 - a, a)
    match Ten.bop (fun x y => x + y) (inner.1.map (Dual.smul wa)) (vwb.map (Dual.smul wb)) with
    | some v =>
      let lb := if Params.trainWarmupLossMixTag = 0 then Dual.smul a inner.2 else inner.2
      some (v, lb + Dual.smul (1 - a) lwb, { st with ema := some e })
    | none => none
end Warmup

/-! ### REINFORCE -/

/-- `REINFORCE.calculate_loss` as coded -/
def calcLossC (sc : ScaleOp K) (reward blVal ll : Ten (Dual K)) (blLoss : Dual K) : Option (LossOut K) :=
  let advf : Dual K → Dual K → Dual K := match Params.trainAdvTag with
    | 1 => fun r b => b - r
    | 2 => fun r b => r + b
    | _ => fun r b => r - b
  match Ten.bop advf reward blVal with
  | none => none
  | some adv0 =>
    let adv := adv0.map sc.apply
    match Ten.bop (fun a l => a * l) adv ll with
    | none => none
    | some prod =>
      let rl : Dual K := match Params.trainLossTag with
        | 1 => Ten.meanAll prod
        | 2 => - Ten.sumAll prod
        | _ => - Ten.meanAll prod
      let loss : Dual K := match Params.trainTotalTag with
        | 1 => rl - blLoss
        | 2 => rl
        | _ => rl + blLoss
      some ⟨loss, rl, adv⟩

/-! ### PPO -/
section ppo
variable [LT K] [DecidableLT K]

def maxD (a b : Dual K) : Dual K :=
  if b.v < a.v then a else if a.v < b.v then b else ⟨a.v, (a.d + b.d) / ((2 : Nat) : K)⟩

/-- `torch.clamp(ratio, …)` as coded (two-sided, or only one bound) -/
def clampC (lo hi : K) (x : Dual K) : Dual K :=
  match Params.trainPpoClampTag with
  | 1 => if hi < x.v then Dual.const hi else if x.v < hi then x else Dual.const x.v
  | 2 => if x.v < lo then Dual.const lo else if lo < x.v then x else Dual.const x.v
  | _ => clampD lo hi x

/-- the value-loss element as coded: Huber (0) or squared error (1) -/
def valueElemC (z : Dual K) : Dual K :=
  match Params.trainPpoValueTag with
  | 1 => z * z
  | _ => huberD z

/-- the loss block of `PPO.shared_step` as coded -/
def ppoLossC (cfg : PpoCfg K) (w : K → K) (ll : Ten (Dual K)) (oldLogp reward : Ten K)
    (valuePred entropy : Ten (Dual K)) : Option (PpoOut K) :=
  let prev : Ten K := reward.viewCol
  match Ten.bop (fun a b => a - Dual.const b) (Ten.sumLast ll) oldLogp with
  | none => none
  | some diff =>
    let ratio := (diff.map (Dual.expw w)).viewCol
    let advf : K → K → K := match Params.trainPpoAdvTag with
      | 2 => fun r v => v - r
      | _ => fun r v => r - v
    match Ten.bop advf prev (valuePred.map (fun x => x.v)) with
    | none => none
    | some adv0 =>
      let adv : Ten K := adv0.map (ppoNormFn cfg.normalize adv0)
      let clamped := ratio.map (clampC cfg.clipLo cfg.clipHi)
      let mn : Option (Ten (Dual K)) := match Params.trainPpoSurrTag with
        | 1 => match Ten.bop minD ratio clamped with
               | some m => Ten.bop (fun r a => Dual.smul a r) m adv
               | none => none
        | 2 => match Ten.bop (fun r a => Dual.smul a r) ratio adv, Ten.bop (fun r a => Dual.smul a r) clamped adv with
               | some t1, some t2 => Ten.bop maxD t1 t2
               | _, _ => none
        | _ => match Ten.bop (fun r a => Dual.smul a r) ratio adv, Ten.bop (fun r a => Dual.smul a r) clamped adv with
               | some t1, some t2 => Ten.bop minD t1 t2
               | _, _ => none
      match mn, Ten.bop (fun v r => valueElemC (v - Dual.const r)) valuePred prev with
      | some mn, some hub =>
        let surrogate : Dual K := if Params.trainPpoSurrTag = 3 then Ten.meanAll mn else - Ten.meanAll mn
        let valueLoss := Ten.meanAll hub
        let ent := Ten.meanAll entropy
        let base := surrogate + Dual.smul cfg.vfLambda valueLoss
        some ⟨if Params.trainPpoEntropyMinus then base - Dual.smul cfg.entLambda ent else base + Dual.smul cfg.entLambda ent,
              surrogate, valueLoss, ent, ratio, adv⟩
      | _, _ => none
end ppo

/-! ### regrouping -/

/-- POMO's regrouping for general factors, as coded: `unbatchify(x, (n_aug, n_start))` gives `[B, n_aug, n_start]`
(fields `ns := n_aug`, `na := n_start` of the rank-3 record are just "dim 1" and "dim 2"). -/
def pomoRegroup3C {α : Type} (nAug nStart n : Nat) (x : Nat → α) : Ten3 α :=
  if Params.trainPomoTupleAugStart then ⟨n / nStart / nAug, nAug, nStart, unbatch2 nAug nStart n x⟩
  else ⟨n / nAug / nStart, nStart, nAug, unbatch2 nStart nAug n x⟩

/-- SymNCO's regrouping as coded: `unbatchify(x, (n_start, n_aug))` -/
def symncoRegroupC {α : Type} (nStart nAug n : Nat) (x : Nat → α) : Ten3 α :=
  if Params.trainSymncoTupleStartAug then symncoRegroup nStart nAug n x
  else
    let s := if nStart = 0 then 1 else nStart
    let a := if nAug = 0 then 1 else nAug
    ⟨n / s / a, a, s, unbatch2 a s n x⟩

/-- one symmetricity term as coded: `advantage = reward - reward.mean(dim, keepdim=True)`, `loss = -advantage * ll`,
`return loss.mean()`; `tag = 100·adv + 10·sign + reduction` (0 = the shape at the pinned commit) -/
def symTermC (tag : Nat) (dim1 : Bool) (R L : Ten3 (Dual K)) : Dual K :=
  let base : Dual K := if dim1 then lossDim1 R L else lossDimLast R L
  match tag with
  | 0 => base
  | 10 => -base                                                     -- the minus sign dropped
  | 200 => -base                                                    -- mean − reward
  | 1 => Dual.smul ((R.nb * R.ns * R.na : Nat) : K) base           -- `.sum()` instead of `.mean()`
  | _ => base

/-- the training branch of `SymNCO.shared_step` as coded: regrouping tuple, default axes of the two loss functions,
their three statements, the guards `n_start > 1` / `n_aug > 1`, and the total -/
def symncoLossC (nStart nAug n : Nat) (alpha beta : K) (reward ll : Nat → Dual K) (inv : Dual K) : SymOut K :=
  let R := symncoRegroupC nStart nAug n reward
  let L := symncoRegroupC nStart nAug n ll
  let ps : Dual K := if Params.trainSymGuardPs.evalNat nStart 1
    then symTermC Params.trainSymPsBodyTag (decide (Params.trainSymPsDim = 1)) R L else 0
  let ss : Dual K := if Params.trainSymGuardSs.evalNat nAug 1
    then symTermC Params.trainSymSsBodyTag (!Params.trainSymSsDimLast) R L else 0
  let total : Dual K := match Params.trainSymTotalTag with
    | 1 => ps + Dual.smul beta ss - Dual.smul alpha inv
    | 2 => ps + Dual.smul beta ss
    | _ => ps + Dual.smul beta ss + Dual.smul alpha inv
  ⟨total, ps, ss⟩

/-- `invariance_loss`: the two rows of the projected embeddings `[A·B, …]` whose cosine similarity is the `(b, i)` term:
`rearrange(proj, "(b a) ... -> b a ...")` reads row `b·A + i` as "(instance b, augmentation i)" -/
def invRowsC (A B b i : Nat) : Nat × Nat :=
  if Params.trainSymInvBatchOuter then (b * A + 0, b * A + i) else (0 * B + b, i * B + b)

/-! ### A2C optimizer configuration -/
namespace A2C
/-- `A2C.configure_optimizers`: the parameter groups `(is it the policy?, learning rate)` in order -/
def groupsC (actorLr : K) (criticLr : Option K) : List (Bool × K) :=
  let c := match criticLr with
    | some c => c
    | none => if Params.trainA2cCriticKwDefault then actorLr else 0
  if Params.trainA2cGroups then [(true, actorLr), (false, c)] else [(true, c), (false, actorLr)]
end A2C

/-! ### n-step PPO (improvement models) -/
namespace NStep

/-- the rollout memory as coded (is the state cloned when it is stored?) -/
def rolloutMemC {S : Type} (states : List S) (final : S) : List S :=
  rolloutMem Params.trainNstepMemoryClone states final

/-- the return recursion as coded -/
def returnsRevC (gamma : K) : K → List K → List K
  | _, [] => []
  | R, r :: rs =>
    let R' := match Params.trainNstepReturnTag with
      | 1 => R + gamma * r
      | 2 => R + r
      | _ => R * gamma + r
    R' :: returnsRevC gamma R' rs

def returnsC (gamma V : K) (rewards : List K) : List K := (returnsRevC gamma V rewards.reverse).reverse
end NStep

/-! ### greedy-rollout baseline -/
namespace RolloutBl
variable {Inst : Type} [LT K] [DecidableLT K] [DecidableEq K]

/-- a comparison operator of the source on scalars -/
def cmpK (c : Cmp) (x y : K) : Bool :=
  match c with
  | .lt => decide (x < y) | .gt => decide (y < x) | .le => !decide (y < x) | .ge => !decide (x < y)
  | .eq => decide (x = y) | .ne => !decide (x = y)

/-- the decision of `epoch_callback` as coded; `pval2` is the TWO-sided p-value `ttest_rel` returns -/
def acceptsC (pval2 : List K → List K → K) (alpha : K) (st : St Inst K) (candVals : List K) : Bool :=
  let p := pval2 candVals st.blVals
  let pOne := if Params.trainRolloutPHalf then p / ((2 : Nat) : K) else p
  cmpK Params.trainRolloutBetterCmp (lmean candVals - st.mean) 0 && cmpK Params.trainRolloutPCmp pOne alpha

/-- `epoch_callback` as coded (which policy is rolled out as the candidate included) -/
def epochCallbackC (pval2 : List K → List K → K) (alpha : K) (bs : Nat) (st : St Inst K)
    (cand : List Inst → List K) (fresh : List Inst) : St Inst K :=
  let candVals := Ops.rollout (if Params.trainRolloutCandidatePolicy then cand else st.policy) bs st.dataset
  if acceptsC pval2 alpha st candVals then updatePolicy bs cand fresh else st
end RolloutBl

end Rl4co.Train
