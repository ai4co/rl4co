/-
C07 (FFSP clause): every mask-confined episode of `FFSPEnv` ends with a valid schedule — every job
passes every stage exactly once on a machine of that stage, for its duration there; the stages of a
job run in order without overlapping; no machine runs two jobs at once (`Spec.Ffsp.Valid`, read off
the environment's `schedule` matrix by `Spec.Ffsp.ofMatrix`).  Stated for the instance stepped alone
(`env`, batch of one) and for a row of any batch (`envM`-reachable state = the row while some
batch-mate runs, followed by a step with an arbitrary value `g` of the batch-global `done.all()`).
The "reported makespan = latest completion" clause is `Props/C03/Ffsp.lean`.
-/
import Rl4co.Props.C02.Ffsp
namespace Rl4co.Ffsp
open Rl4co.Spec.Ffsp

/-- **C07 (FFSP), instance stepped alone.**  A finished mask-confined episode carries a valid schedule. -/
theorem schedule_valid (i : Inst) (h : WF i) {as : List Nat} {s : State}
    (hr : RunND env i (env.reset i) as s) (hd : s.done = true) : Valid i (ofMatrix i s.sched) :=
  core_valid i s (solo_inv i h (live_reset i h) hr).1 hd

/-- **C07 (FFSP), row of a batch.**  Whatever the batch-mates do (`g` is the code's `done.all()` at
this step), a row that is finished after an admitted step carries a valid schedule. -/
theorem schedule_valid_row (i : Inst) (h : WF i) {s : State} (hr : Reach envM i s) (a : Nat)
    (hm : s.mask a = true) (g : Bool) (hd : (stepG i s a g).done = true) :
    Valid i (ofMatrix i (stepG i s a g).sched) :=
  core_valid i _ (core_stepG i h s (live_of_reach i h hr) a hm g) hd

/-- every action is recorded: `job_location[j]` counts how often `j` was chosen -/
theorem jloc_eq_count (i : Inst) {as : List Nat} {s : State} (hr : Run env i (env.reset i) as s) :
    ∀ j, s.jloc j = as.count j := by
  refine inv_of_run (e := env) (Inv := fun s h => ∀ j, s.jloc j = h.count j) (fun _ => rfl) ?_ hr
  intro s hist a ih _ _ j
  have hj : (env.step i s a).jloc = upd s.jloc a (s.jloc a + 1) := stepG_jloc i s a _
  rw [hj, upd_apply, List.count_append]
  by_cases hja : j = a
  · subst hja; simp [ih j]
  · have : ¬ (a = j) := fun hh => hja hh.symm
    simp [hja, this, ih j]

/-- **C07 (FFSP): each job is scheduled exactly once per stage** — in a finished solo episode job `j`
was chosen exactly `S` times (all other actions are waits). -/
theorem job_steps (i : Inst) (h : WF i) {as : List Nat} {s : State}
    (hr : RunND env i (env.reset i) as s) (hd : s.done = true) : ∀ j, j < i.J → as.count j = i.S := by
  intro j hj
  rw [← jloc_eq_count i hr.run j]
  exact jloc_of_done (solo_inv i h (live_reset i h) hr).1 hd j hj

/-- **a valid schedule exists for every well-formed instance** (that of a finished episode, which exists by the
step bound): `Spec.Ffsp.Valid` is never vacuous -/
theorem valid_schedule_exists (i : Inst) (h : WF i) : ∃ ops, Valid i ops := by
  obtain ⟨as, s, hr, hd⟩ := exists_finished_episode i h
  exact ⟨_, schedule_valid i h hr hd⟩

/-- Non-vacuity: 2 stages × 1 machine, 2 jobs; the episode `[0, 1, 0, 1]`
is mask-confined, finishes, and its schedule is valid (its reward −4 = −makespan: `Props/C03/Ffsp.lean`). -/
def ex : Inst := ⟨2, 1, 2, fun j m => if m = 0 then 1 + j else 2 - j, fun p => p, false⟩
example : WF ex := ⟨by decide, by decide, by decide, by intro p hp; exact hp, by
  intro j m hj _
  have : j < 2 := hj
  apply small_lt_unset; simp only [ex]; split <;> omega⟩

example : RunND env ex (env.reset ex) [0, 1, 0, 1] (exec env ex (env.reset ex) [0, 1, 0, 1]) :=
  .of_admittedND (by decide)
example : (exec env ex (env.reset ex) [0, 1, 0, 1]).done = true := by decide
example : valid ex (ofMatrix ex (exec env ex (env.reset ex) [0, 1, 0, 1]).sched) = true := by decide

end Rl4co.Ffsp
