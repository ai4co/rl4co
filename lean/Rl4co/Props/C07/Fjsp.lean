/-
C07 for FJSP / JSSP: every finished mask-confined episode — any instance satisfying `WF`, any
admitted action list including waits, `mask_no_ops` on or off, FJSP or JSSP action space, any
amount of padding — leaves `start_times / finish_times / ma_assignment` that form a VALID SCHEDULE
in the sense of the independent `Spec.Fjsp.ValidSchedule`, whose makespan is minus the reward.
-/
import Rl4co.Props.C03.Fjsp
import Rl4co.Proofs.FjspStep

namespace Rl4co.Fjsp
open Rl4co.Spec.Fjsp (isReal opOf Sched ValidSchedule)

theorem valid_of_inv_done {i : Inst} (hwf : WF i) {s : State} (hinv : Inv i s) (hd : s.done = true) :
    ValidSchedule i (schedOf s) (Spec.Fjsp.makespan i (schedOf s)) := by
  have hall := all_sched_of_done hinv hd
  have hms := makespan_spec hwf (schedOf s)
  refine ⟨?_, ?_, ?_, hms.1, hms.2⟩
  · intro o _ hr
    obtain ⟨j, hj, h1, h2⟩ := job_of_real hr
    obtain ⟨m, hm, ha, hu, hp, hf, hs0, _⟩ := hinv.asg o (hall j hj o h1 h2)
    refine ⟨cnt_eq_one hm ha (fun k _ hk => hu k hk), hs0, fun m' _ hm' => ?_⟩
    have := hu m' hm'; subst this
    exact ⟨hp, hf⟩
  · intro j hj o _ h1 h2
    exact hinv.order j hj o h1 h2 (hall j hj (o + 1) (by omega) (by omega))
  · intro m _ o1 _ o2 _ _ _ hne h1 h2
    exact hinv.mach m o1 o2 hne h1 h2

/-- **C07 (FJSP and JSSP, `mask_no_ops` on and off).**  Every finished mask-confined episode yields
a valid schedule: every real operation exactly once, on an eligible machine, for exactly its
processing time there; operations of a job in order without overlap; no two operations overlap on
a machine; and minus the reward is the latest completion time. -/
theorem schedule_valid (i : Inst) (hwf : WF i) (as : List Nat) (s : State)
    (hrun : Run env i (env.reset i) as s) (hd : env.done i s = true) :
    ValidSchedule i (schedOf s) (- reward i s) := by
  have hinv := (inv2_of_reach hwf ⟨as, hrun⟩).1
  rw [reward_eq_makespan i hwf s, Int.neg_neg]
  exact valid_of_inv_done hwf hinv hd

/-- the executable oracle agrees (what the harness evaluates on the real tensors) -/
theorem schedule_valid_bool (i : Inst) (hwf : WF i) (as : List Nat) (s : State)
    (hrun : Run env i (env.reset i) as s) (hd : env.done i s = true) :
    Spec.Fjsp.valid i (schedOf s) (- reward i s) = true :=
  (Spec.Fjsp.valid_iff _ _ _).mpr (schedule_valid i hwf as s hrun hd)

theorem reachable_inv (i : Inst) (hwf : WF i) (s : State) (h : Reach env i s) : Inv i s :=
  (inv2_of_reach hwf h).1

theorem time_monotone (i : Inst) (hwf : WF i) (s : State) (h : Reach env i s) (a : Nat)
    (ha : a < env.nAct i) (hm : env.mask i s a = true) : s.time ≤ (env.step i s a).time := by
  obtain ⟨hinv, _⟩ := inv2_of_reach hwf h
  have htr : ∀ (s1 : State) (t' : Int), nextTime i.M s1.busy s1.time = some t' → s.time ≤ s1.time →
      s.time ≤ (transit i s1).time := fun s1 t' ht' hle => by
    rw [transit_time ht']; exact Int.le_trans hle (Int.le_of_lt (nextTime_some ht').1)
  show s.time ≤ (step i s a).time
  rw [step_eq_pre]
  refine autoTransit_preserves hwf (P := fun s' => s.time ≤ s'.time) (fun s2 t' _ _ ht' hle => htr s2 t' ht' hle)
    (inv_pre hwf hinv ha hm) ?_
  cases hd : s.done with
  | true => rw [pre_of_done hd]; exact Int.le_refl _
  | false =>
    rcases pre_cases hwf hinv hd ha hm with ⟨_, _, t', ht', he⟩ | ⟨j, m, _, _, he⟩
    · rw [he]; exact htr s t' ht' (Int.le_refl _)
    · rw [he]; exact Int.le_refl _

/-- non-vacuity: the finished run of `exFjsp` (`Proofs/Fjsp.lean`; the run is the `example` of `Props/C02/Fjsp.lean`)
and its schedule -/
example :
    let s := exec env exFjsp (env.reset exFjsp) [1, 4, 0, 1, 4, 0]
    s.done = true ∧ reward exFjsp s = -6 ∧ Spec.Fjsp.valid exFjsp (schedOf s) 6 = true ∧
    (List.range 4).map s.start = [0, 3, 0, 3] := by decide +kernel

end Rl4co.Fjsp

namespace Rl4co.Jssp
open Rl4co.Fjsp

/-- **C07 (JSSP)**: the same statement for the JSSP action space (`jssp = true`: action = job, the
machine is the unique eligible one). -/
theorem schedule_valid (i : Inst) (_ : i.jssp = true) (hwf : WF i) (as : List Nat) (s : State)
    (hrun : Run env i (env.reset i) as s) (hd : env.done i s = true) :
    Spec.Fjsp.ValidSchedule i (schedOf s) (- reward i s) := Fjsp.schedule_valid i hwf as s hrun hd

end Rl4co.Jssp
