/-
C07 for FJSP / JSSP — the `INIT_FINISH = 9999` filler (extracted: `Params.fjspInitFinish`) and
what depends on the clock staying below it.

* `filler_of_reach` (`Proofs/FjspStep.lean`): unscheduled operations carry `finish_times = INIT_FINISH`, `start_times = 0`
* the release guard: `_transit_to_next_time` tests `job_in_process & (finish[next_op] <= time)`.
  `releaseNG` is the variant WITHOUT the `job_in_process &` guard (relying on the filler being "in the
  future"): `release_guard_redundant_below_sentinel` — while `time < INIT_FINISH` both agree on every
  reachable state; `release_guard_needed_beyond_sentinel` — beyond it they differ (an unscheduled
  operation is skipped).  So the guard is exactly what makes C07 hold for all horizons.
* `op_is_ready` (feature `td["is_ready"]`, modelled as `Fjsp.isReady`, compared with the real tensor at
  every step): `isReady_iff_below_sentinel` — while `time < INIT_FINISH` it says "unscheduled and the
  job predecessor has completed"; `isReady_wrong_beyond_sentinel` — beyond it, it reports an operation
  ready whose predecessor is not even scheduled (the real code does the same; observation, not a C07 clause).
-/
import Rl4co.Proofs.FjspStep

namespace Rl4co.Fjsp
open Rl4co.Spec.Fjsp (isReal opOf)

/-- `_transit_to_next_time`'s release half WITHOUT the `job_in_process &` guard -/
def releaseNG (i : Inst) (s : State) : State :=
  let opFin : Nat → Bool := fun j => decide (s.finish (s.nextOp j) ≤ s.time)
  let jobFin : Nat → Bool := fun j => opFin j && (s.nextOp j == i.endOp j)
  let jobDone' : Nat → Bool := fun j => s.jobDone j || jobFin j
  { s with
    nextOp := fun j => if opFin j && !jobFin j then s.nextOp j + 1 else s.nextOp j
    inProc := fun j => if opFin j then false else s.inProc j
    jobDone := jobDone'
    done := allUpTo i.J jobDone' }

/-- the two release tests agree on job `j` of a reachable state while the clock is below the filler
(`time'` is the clock the test is evaluated at, e.g. the next event time) -/
theorem release_test_agree {i : Inst} (hwf : WF i) {s : State} (hr : Reach env i s) {j : Nat} (hj : j < i.J)
    (hnd : s.jobDone j = false) (t' : Int) (hlt : t' < initFinish) :
    (s.inProc j && decide (s.finish (s.nextOp j) ≤ t')) = decide (s.finish (s.nextOp j) ≤ t') := by
  have hinv := (inv2_of_reach hwf hr).1
  cases hip : s.inProc j with
  | true => simp
  | false =>
    have := (filler_of_reach hwf s hr _ ((hinv.unsched_next_iff hj).mpr ⟨hip, hnd⟩)).1
    simp [this]; omega

/-- **below the sentinel the guard is redundant** … -/
theorem release_guard_redundant_below_sentinel {i : Inst} (hwf : WF i) {s : State} (hr : Reach env i s)
    (hlt : s.time < initFinish) : ∀ j, j < i.J →
      (release i s).nextOp j = (releaseNG i s).nextOp j ∧ (release i s).inProc j = (releaseNG i s).inProc j ∧
      (release i s).jobDone j = (releaseNG i s).jobDone j := by
  intro j hj
  have hinv := (inv2_of_reach hwf hr).1
  cases hjd : s.jobDone j with
  | false =>
    have h := release_test_agree hwf hr hj hjd s.time hlt
    simp only [release_eq, releaseNG, h, hjd]
    cases hc : decide (s.finish (s.nextOp j) ≤ s.time) with
    | true =>
      rw [hc] at h
      simp
    | false => simp
  | true =>
    -- a finished job: its last operation is scheduled and complete, `next_op` stays at the last operation
    obtain ⟨hno, hip⟩ := hinv.jdone j hj hjd
    have hb : (s.nextOp j == i.endOp j) = true := by simp [hno]
    simp [release_eq, releaseNG, hjd, hip, hb]
    intro h; exact ⟨h, hno⟩

/-- two jobs on one machine: job 0 = one operation of 10000 time units, job 1 = two short operations -/
def exBig : Inst :=
  { J := 2, M := 1, N := 3, startOp := fun j => j, endOp := fun j => if j = 0 then 0 else 2,
    proc := fun _ o => if o = 0 then 10000 else 5, pad := fun _ => false, maskNoOps := true, jssp := false }

/-- … **beyond it the guard is needed**: one operation of 10000 time units, then a wait: the unguarded
test "releases" the other job's unscheduled first operation (filler 9999 ≤ 10000) and skips it. -/
theorem release_guard_needed_beyond_sentinel :
    let s := advance exBig (makeStep exBig (reset exBig) 0)
    s.time = 10000 ∧ (release exBig s).nextOp 1 = 1 ∧ (releaseNG exBig s).nextOp 1 = 2 ∧ s.sched 1 = false := by
  decide +kernel

/-- **`is_ready` below the sentinel**: exactly the unscheduled operations whose job predecessor (if any)
is scheduled and has completed. -/
theorem isReady_iff_below_sentinel {i : Inst} (hwf : WF i) {s : State} (hr : Reach env i s)
    (hlt : s.time < initFinish) {j o : Nat} (hj : j < i.J) (h1 : i.startOp j ≤ o) (h2 : o ≤ i.endOp j) :
    isReady i s o = true ↔
      (s.sched o = false ∧ (o = i.startOp j ∨ (s.sched (o - 1) = true ∧ s.finish (o - 1) ≤ s.time))) := by
  have hinv := (inv2_of_reach hwf hr).1
  -- `ma_assignment[:, o].sum().bool()` is the scheduled flag
  have hasg : anyUpTo i.M (fun m => s.assign m o) = s.sched o := by
    cases hs : s.sched o with
    | false => exact anyUpTo_eq_false.mpr (fun m _ => hinv.unasg o hs m)
    | true =>
      obtain ⟨m, hm, ha, _⟩ := hinv.asg o hs
      exact anyUpTo_iff.mpr ⟨m, hm, ha⟩
  -- which operations have a predecessor
  have hpred : anyUpTo i.J (fun j' => decide (i.startOp j' < o) && decide (o ≤ i.endOp j')) = decide (i.startOp j < o) := by
    rw [Bool.eq_iff_iff, anyUpTo_iff, decide_eq_true_eq]
    constructor
    · rintro ⟨j', hj', h⟩
      simp only [Bool.and_eq_true, decide_eq_true_eq] at h
      rw [job_unique hwf hj hj' h1 h2 (Nat.le_of_lt h.1) h.2]; exact h.1
    · intro h; exact ⟨j, hj, by simp [h, h2]⟩
  simp only [isReady, predFinish, hpred, hasg, Bool.and_eq_true, decide_eq_true_eq, Bool.not_eq_true']
  by_cases hfirst : o = i.startOp j
  · subst hfirst
    simp [hinv.time0]
  · have hlt' : i.startOp j < o := by omega
    simp only [hlt', if_true, hfirst, false_or]
    constructor
    · rintro ⟨hf, hs⟩
      refine ⟨hs, ?_, hf⟩
      cases hsp : s.sched (o - 1) with
      | true => rfl
      | false =>
        have := (filler_of_reach hwf s hr _ hsp).1
        omega
    · rintro ⟨hs, _, hf⟩
      exact ⟨hf, hs⟩

/-- **`is_ready` beyond the sentinel is wrong**: after one operation of 10000 time units the second
operation of the other job is reported ready although the first one has not been scheduled
(the real `op_is_ready` returns the same tensor `[False, True, True]`). -/
theorem isReady_wrong_beyond_sentinel :
    let s := step exBig (reset exBig) 1
    s.time = 10000 ∧ isReady exBig s 2 = true ∧ s.sched 1 = false ∧
    (List.range 3).map (isReady exBig s) = [false, true, true] := by
  decide +kernel

end Rl4co.Fjsp
