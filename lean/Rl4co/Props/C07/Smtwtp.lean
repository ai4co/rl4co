/-
C07, SMTWTP clause: every mask-confined episode that the environment declares finished schedules
every job `1..n` exactly once and nothing else; the dummy start node 0 is never offered by the mask
of any reachable state and never occurs in any mask-confined action sequence (finished or not).
-/
import Rl4co.Proofs.TspfamSmtwtp

namespace Rl4co.Smtwtp
open Rl4co.Tspfam

/-- **C07 (SMTWTP)**: the dummy start node is unavailable from reset on … -/
theorem dummy_never_offered (i : Inst) {s : State} (h : Reach env i s) : env.mask i s 0 = false := by
  obtain ⟨as, hr⟩ := h
  exact ((availEnv.visits_of_run hr trivial).after 0).trans (Bool.false_and _)

/-- … and never scheduled, in any mask-confined action sequence -/
theorem dummy_never_scheduled (i : Inst) {as : List Nat} {s : State}
    (h : Run env i (env.reset i) as s) : 0 ∉ as := by
  intro hm
  cases (availEnv.visits_of_run h trivial).avail 0 hm

/-- **C07 (SMTWTP)**: a finished episode is a permutation of `[1, …, n]` … -/
theorem perm_range_of_run (i : Inst) {as : List Nat} {s : State}
    (h : Run env i (env.reset i) as s) (hd : env.done i s = true) : as.Perm (List.range' 1 i.n) :=
  initial_eq i ▸ availEnv.perm_of_done_run h hd

/-- … that is, a schedule of all jobs. -/
theorem perm_of_run (i : Inst) {as : List Nat} {s : State}
    (h : Run env i (env.reset i) as s) (hd : env.done i s = true) : Spec.Smtwtp.Feasible i.n as :=
  (Spec.Smtwtp.feasible_iff_perm i.n as).mpr (perm_range_of_run i h hd)

/-- Non-vacuity: three jobs scheduled in the order 2, 3, 1. -/
example : ∃ s, Run env ⟨3, fun _ => 1, fun _ => 1, fun _ => 1⟩ (env.reset ⟨3, fun _ => 1, fun _ => 1, fun _ => 1⟩) [2, 3, 1] s ∧
    env.done ⟨3, fun _ => 1, fun _ => 1, fun _ => 1⟩ s = true :=
  ⟨_, .of_admitted (by decide), by decide⟩

end Rl4co.Smtwtp
