/-
C03 for SMTWTP: the reward computed by gather / `cumsum` / clamp / multiply / sum is minus the total
weighted tardiness Σ_a w_a · max(0, C_a − d_a) of the executed job order (C_a = completion time of
job `a` when the jobs are processed back to back from time 0), for EVERY action list and all data.
Below it, sanity of the Spec; `feasible_range'` is the witness C05 minimises from.
-/
import Rl4co.Proofs.TspfamAvail
import Rl4co.Proofs.TspfamParams
import Rl4co.Spec.Smtwtp
import Rl4co.Core.Lists

namespace Rl4co.Smtwtp

/-- generalised over the accumulated time `t` -/
theorem pipeline_eq (i : Inst) (t : Int) (as : List Nat) :
    (List.zipWith (fun w x => w * x) (as.map i.w)
      ((List.zipWith (fun c d => c - d) (cumsum t (as.map i.p)) (as.map i.d)).map
        (fun x => if x < 0 then 0 else x))).sum = Spec.Smtwtp.wtFrom i.p i.d i.w t as := by
  -- `t[t < 0] = 0` is `max(0, t)`
  have hclamp : ∀ x : Int, (if x < 0 then 0 else x) = max 0 x := fun x => by
    split
    · next h => exact (Int.max_eq_left (Int.le_of_lt h)).symm
    · next h => exact (Int.max_eq_right (Int.not_lt.mp h)).symm
  induction as generalizing t with
  | nil => rfl
  | cons a as ih =>
    rw [List.map_cons, List.map_cons, List.map_cons, cumsum, List.zipWith_cons_cons, List.map_cons,
      List.zipWith_cons_cons, List.sum_cons, ih, Spec.Smtwtp.wtFrom, hclamp]

theorem reward_eq_objective (i : Inst) (as : List Nat) :
    reward i as = - Spec.Smtwtp.objective i.p i.d i.w as := by
  simp only [reward, weightedTardiness_eq, Spec.Smtwtp.objective]
  rw [pipeline_eq]

/-- jobs (p,d,w): 1:(2,2,1) 2:(3,4,2) 3:(1,9,3); order 2,1,3: C = 3,5,6; only job 1 is late, by 3. -/
example : reward ⟨3, fun j => [0, 2, 3, 1].getD j 0, fun j => [0, 2, 4, 9].getD j 0, fun j => [0, 1, 2, 3].getD j 0⟩
    [2, 1, 3] = -3 := by decide

end Rl4co.Smtwtp

namespace Rl4co.Spec.Smtwtp

theorem wtFrom_nonneg (p d w : Nat → Int) (hw : ∀ a, 0 ≤ w a) (t : Int) (as : List Nat) :
    0 ≤ wtFrom p d w t as := by
  induction as generalizing t with
  | nil => simp [wtFrom]
  | cons a as ih =>
    rw [wtFrom]
    exact Int.add_nonneg (Int.mul_nonneg (hw a) (Int.le_max_left 0 _)) (ih _)

theorem objective_nonneg (p d w : Nat → Int) (hw : ∀ a, 0 ≤ w a) (as : List Nat) : 0 ≤ objective p d w as :=
  wtFrom_nonneg p d w hw 0 as

theorem wtFrom_zero_of_on_time (p d w : Nat → Int) (hp : ∀ a, 0 ≤ p a) (t : Int) (as : List Nat)
    (hd : ∀ a ∈ as, t + (as.map p).sum ≤ d a) : wtFrom p d w t as = 0 := by
  induction as generalizing t with
  | nil => rfl
  | cons a as ih =>
    have hsum := sum_map_nonneg (f := p) (l := as) fun a _ => hp a
    have ha := hd a List.mem_cons_self
    rw [List.map_cons, List.sum_cons] at ha
    rw [wtFrom, Int.max_eq_left (by omega), Int.mul_zero, Int.zero_add]
    refine ih _ (fun b hb => ?_)
    have := hd b (List.mem_cons_of_mem _ hb)
    rw [List.map_cons, List.sum_cons] at this
    omega

theorem objective_single (p d w : Nat → Int) (a : Nat) : objective p d w [a] = w a * max 0 (p a - d a) := by
  simp [objective, wtFrom]

theorem feasible_range' (n : Nat) : Feasible n (List.range' 1 n) := by
  obtain ⟨h1, h2⟩ := (once_iff_perm n _).mpr (List.Perm.refl _)
  exact ⟨h1, h2⟩

end Rl4co.Spec.Smtwtp
