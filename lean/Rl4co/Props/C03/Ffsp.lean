/-
C03 (FFSP): the reward written by `FFSPEnv._step` once the batch is finished equals minus the makespan
(latest completion time) of the row's schedule, recomputed by the independent `Spec.Ffsp.makespan`.
The code takes the maximum over the whole `schedule + duration` matrix including the entries that
still hold the sentinel −999999; `WF.dur_lt` (durations below the sentinel) is what makes those
entries harmless.
-/
import Rl4co.Props.C07.Ffsp
namespace Rl4co.Ffsp
open Rl4co.Spec.Ffsp

theorem rewardVal_eq_makespan (i : Inst) (h : WF i) (s : State) (c : Core i s) (hd : s.done = true) :
    rewardVal i s = - makespan i (ofMatrix i s.sched) ∧
    IsMakespan i (ofMatrix i s.sched) (makespan i (ofMatrix i s.sched)) := by
  have hmk := core_makespan i h s c hd
  have hne : ofMatrix i s.sched ≠ [] := by
    obtain ⟨⟨o, ho, _⟩, _⟩ := hmk
    intro hnil; rw [hnil] at ho; cases ho
  have hm2 := makespan_is i _ hne
  exact ⟨by rw [rewardVal, isMakespan_unique i _ _ _ hmk hm2], hm2⟩

/-- **C03 (FFSP).**  The reward of a finished solo episode is written, and equals minus the makespan of
the episode's schedule (the latest completion time over all operations). -/
theorem reward_eq_makespan (i : Inst) (h : WF i) {as : List Nat} {s : State}
    (hr : RunND env i (env.reset i) as s) (hd : s.done = true) :
    s.reward = some (- makespan i (ofMatrix i s.sched)) ∧
    IsMakespan i (ofMatrix i s.sched) (makespan i (ofMatrix i s.sched)) := by
  obtain ⟨h1, h2⟩ := rewardVal_eq_makespan i h s (solo_inv i h (live_reset i h) hr).1 hd
  exact ⟨by rw [solo_reward i rfl hr hd, h1], h2⟩

/-- **C03 (FFSP), row of a batch.**  At the step where `done.all()` becomes true the reward written for
a row is minus the makespan of its schedule, however long the row has been idling. -/
theorem reward_eq_makespan_row (i : Inst) (h : WF i) {s : State} (hr : Reach envM i s) (a : Nat)
    (hm : s.mask a = true) (hd : (apply i s a).done = true) :
    (stepG i s a true).reward = some (- makespan i (ofMatrix i (stepG i s a true).sched)) :=
  congrArg some (rewardVal_eq_makespan i h _ (core_stepG i h s (live_of_reach i h hr) a hm true)
    ((stepG_done i s a true).trans hd)).1

/-- Non-vacuity (instance `ex` of `Props/C07/Ffsp.lean`): reward −4 = −makespan. -/
example : (exec env ex (env.reset ex) [0, 1, 0, 1]).reward = some (-4) := by decide
example : makespan ex (ofMatrix ex (exec env ex (env.reset ex) [0, 1, 0, 1]).sched) = 4 := by decide

/-- The statement without the duration bound `WF.dur_lt` … -/
def reward_eq_makespan_any_duration_statement : Prop :=
  ∀ (i : Inst), 0 < i.S → 0 < i.M → 0 < i.J → (∀ p, p < i.M → i.perm p < i.M) →
    ∀ (as : List Nat) (s : State), RunND env i (env.reset i) as s → s.done = true →
      s.reward = some (- makespan i (ofMatrix i s.sched))

/-- 1 stage, 2 machines, 1 job: duration 1 on machine 0 (where it is scheduled), 2 000 000 on machine 1 -/
def big : Inst := ⟨1, 2, 1, fun _ m => if m = 0 then 1 else 2000000, fun p => p, true⟩

/-- … is false (known finding `ffsp-reward-sentinel-C03`): the reward is computed as the maximum of
`schedule + duration` over *all* matrix entries, and an entry that still holds the sentinel −999999 wins
as soon as its duration exceeds 999999 + makespan.  Here the makespan is 1 and the reward −1000001. -/
theorem reward_needs_duration_bound : ¬ reward_eq_makespan_any_duration_statement := by
  intro hst
  have hr : RunND env big (env.reset big) [0] (exec env big (env.reset big) [0]) :=
    .of_admittedND (by decide)
  have := hst big (by decide) (by decide) (by decide) (fun p hp => hp) [0] _ hr (by decide)
  revert this
  decide

/-- one job, fast machine 0 (duration 1), machine 1 of duration `d` never used -/
def bigD (d : Nat) : Inst := ⟨1, 2, 1, fun _ m => if m = 0 then 1 else d, fun p => p, true⟩

/-- **The exact threshold**: an unused entry beats the true makespan `v` as soon as its duration exceeds
`−sentinel + v`.  With makespan 1: duration 1 000 000 is still harmless (one beyond what `WF.dur_lt`
admits), duration 1 000 001 already yields reward −2. -/
theorem reward_sentinel_threshold :
    (exec env (bigD 1000000) (reset (bigD 1000000)) [0]).reward = some (-1) ∧
    (exec env (bigD 1000001) (reset (bigD 1000001)) [0]).reward = some (-2) ∧
    makespan (bigD 1000001) (ofMatrix (bigD 1000001) (exec env (bigD 1000001) (reset (bigD 1000001)) [0]).sched) = 1 := by
  decide

end Rl4co.Ffsp
