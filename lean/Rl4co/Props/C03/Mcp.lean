/-
C03 for MCP: the reward (scatter of the chosen sets' item ids over `orig_membership`, `> 0`, times
`orig_weights`, summed) is the total weight of the items covered by the executed selection,
recomputed from the instance and the action list alone — for every mask-confined run.
-/
import Rl4co.Proofs.SelectViews

namespace Rl4co.Mcp

theorem reward_eq_objective (i : Inst) {as : List Nat} {s : State}
    (h : Run env i (env.reset i) as s) : reward i s = Spec.Mcp.objective i as := by
  unfold reward Spec.Mcp.objective
  apply sumRange_congr
  intro x _
  rw [coveredBy_orig_eq h x]
  cases Spec.Mcp.covered i as x <;> simp

/-- Non-vacuity / sanity: sets `{1,2}`, `{3}`, `{2,4}`, weights `5,6,7,8`; choosing sets 0 and 2
covers items 1, 2, 4 → 19 (item 2 counted once). -/
example : reward ⟨3, 4, 2, 2, fun j k => ([[1, 2], [3, 0], [2, 4]].getD j []).getD k 0, fun x => x + 5⟩
    (exec env ⟨3, 4, 2, 2, fun j k => ([[1, 2], [3, 0], [2, 4]].getD j []).getD k 0, fun x => x + 5⟩
      (env.reset ⟨3, 4, 2, 2, fun j k => ([[1, 2], [3, 0], [2, 4]].getD j []).getD k 0, fun x => x + 5⟩)
      [0, 2]) = 19 := by
  decide

end Rl4co.Mcp
