/-
C03 for OP: the reward `_get_reward` reports for a finished mask-confined episode is the prize of the
set of customers the episode visited (`Spec.Op.objective`, computed from the instance and the action
list alone) — whatever amount of depot padding follows the return.  The single-column special case of
`_get_reward` (a batch whose action tensor has one column; it asserts the column is all depot and
returns 0) is covered as well: it never applies to a finished episode (a finished episode has at
least two steps), and where it applies without raising it returns the same value as the general
formula.
-/
import Rl4co.Props.C01.Op

namespace Rl4co.Op
open Rl4co.Spec.Op Rl4co.Prize

/-- the single-column test is `length = 1` (extracted operator `==` and constant `1`) -/
theorem rewardSpecial_eq (as : List Nat) : rewardSpecial as = decide (as.length = 1) := by
  simp [rewardSpecial, Params.opRewardSpecialCmp, Params.opRewardSpecialWidth, Cmp.evalNat]

theorem reward_eq (i : Inst) (as : List Nat) :
    reward i as = if as.length = 1 then 0 else gatherSum i.prize as := by
  simp [reward, rewardSpecial_eq]

theorem reward_eq_objective_of_once (i : Inst) (as : List Nat)
    (hr : ∀ a ∈ as, a ≤ i.n) (ho : ∀ j, 1 ≤ j → as.count j ≤ 1) (hl : as.length ≠ 1) :
    reward i as = objective i as := by
  rw [reward_eq]
  simp only [hl, if_false, objective]
  exact gatherSum_eq_sumTo i.n i.prize as hr ho

/-- the single-column special case, when its assertion passes, agrees with the general formula -/
theorem reward_single_column (i : Inst) (as : List Nat) (hl : as.length = 1)
    (hassert : rewardAssert as = true) : reward i as = objective i as := by
  obtain ⟨a, rfl⟩ := List.length_eq_one_iff.mp hl
  have h0 : a = 0 := by simpa [rewardAssert, rewardSpecial_eq] using hassert
  subst h0
  rw [reward_eq, if_pos hl]
  exact (sumTo_mem_none (fun j hj => by simp; omega) i.n _).symm

/-- **C03 (OP).**  Reward of a finished mask-confined episode = collected prize. -/
theorem reward_eq_objective (i : Inst) {as : List Nat} {s : State}
    (h : Run env i (env.reset i) as s) (hd : env.done i s = true) :
    reward i as = objective i as := by
  have := isTour.two_le_length_of_done h hd
  exact reward_eq_objective_of_once i as (isTour.range_of_run h) (isTour.count_le_one_of_run h) (by omega)

/-- Non-vacuity / sanity: customers 2 and 1 visited, then the return and two padding steps. -/
example : reward { exInst with prize := fun j => (j : Int) + 4 } [2, 1, 0, 0, 0] = 5 + 6 := by decide
example : objective { exInst with prize := fun j => (j : Int) + 4 } [2, 1, 0, 0, 0] = 5 + 6 := by decide

end Rl4co.Op
