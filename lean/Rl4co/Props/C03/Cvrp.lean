/-
C03 for CVRP: the reward computed by the gather / roll / sum idiom over `[depot] ++ actions` is
minus the sum of the closed lengths of the routes (depot → customers → depot), for EVERY action
list (with or without trailing depot padding, with or without a final return), provided the depot
has distance 0 to itself.
-/
import Rl4co.Spec.Cvrp

namespace Rl4co

namespace Cvrp

theorem reward_eq_objective (i : Inst) (h00 : i.D 0 0 = 0) (as : List Nat) :
    reward i as = - Spec.Cvrp.objective i as := by
  rw [reward, Spec.Cvrp.objective, rollLen_depot_eq_routesLen i.D h00]

theorem reward_append_zero (i : Inst) (h00 : i.D 0 0 = 0) (as : List Nat) :
    reward i (as ++ [0]) = reward i as := by
  rw [reward_eq_objective i h00, reward_eq_objective i h00, Spec.Cvrp.objective, Spec.Cvrp.objective,
    routesLen_append_zero]

example : reward ⟨3, 8, fun _ => 1, fun a b => if a = b then 0 else (a + b : Int)⟩ [1, 2, 0, 3] = -(1 + 3 + 2 + 3 + 3) := by
  decide

end Cvrp
end Rl4co
