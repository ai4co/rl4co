/-
Spec-level sanity and the reset-time distance matrix for the selection family (C03 / C08).
`Flp.distOf` models `get_distance_matrix`, which fills the instance field `orig_distances`; its properties
make the reward / bookkeeping theorems hold verbatim for instances given by coordinates.  The other facts pin
the `Spec` objectives down independently of the models.  `batch_row_outcome` (FLP, MCP; C04) reads the outcome of a
batched loop row by row.
-/
import Mathlib.Data.Nat.Sqrt
import Rl4co.Props.C03.Flp
import Rl4co.Props.C03.Mcp
import Rl4co.Props.C08.Flp
import Rl4co.Props.C04.SelectBatch

namespace Rl4co

namespace Flp

theorem distOf_self (x y : Nat → Int) (a : Nat) : distOf x y a a = 0 := by
  simp [distOf, Params.flpDistNormP]

theorem distOf_symm (x y : Nat → Int) (a b : Nat) : distOf x y a b = distOf x y b a := by
  have h1 : (x a - x b).natAbs = (x b - x a).natAbs := by rw [← Int.neg_sub, Int.natAbs_neg]
  have h2 : (y a - y b).natAbs = (y b - y a).natAbs := by rw [← Int.neg_sub, Int.natAbs_neg]
  simp only [distOf, h1, h2]

theorem distOf_nonneg (x y : Nat → Int) (a b : Nat) : 0 ≤ distOf x y a b := by
  simp only [distOf]; split <;> exact Int.natCast_nonneg _

theorem distOf_translate (x y : Nat → Int) (cx cy : Int) (a b : Nat) :
    distOf (fun j => x j + cx) (fun j => y j + cy) a b = distOf x y a b := by
  simp only [distOf, Int.add_sub_add_right]

theorem distOf_sq (x y : Nat → Int) (a b m : Nat)
    (h : (x a - x b).natAbs * (x a - x b).natAbs + (y a - y b).natAbs * (y a - y b).natAbs = m * m) :
    distOf x y a b = m := by
  simp only [distOf, Params.flpDistNormP, if_true, h, Nat.sqrt_eq]

/-- **C03 for instances given by coordinates**: reward = −Σ_j min over the chosen `c` of the Euclidean
(grid) distance between `c` and `j`. -/
theorem geom_reward (n : Nat) (quota : Int) (x y : Nat → Int) (d0 : Nat → Int) {as : List Nat} {s : State}
    (h : Run env (geomInst n quota x y d0) (env.reset (geomInst n quota x y d0)) as s) (hne : as ≠ []) :
    reward (geomInst n quota x y d0) s =
      - sumRange n (fun j => minList (as.map (fun c => distOf x y c j))) :=
  reward_eq_objective _ h hne

/-- **C08 bookkeeping for instances given by coordinates**; in particular a chosen facility is at
distance 0 from itself. -/
theorem geom_distances (n : Nat) (quota : Int) (x y : Nat → Int) (d0 : Nat → Int) {as : List Nat} {s : State}
    (h : Run env (geomInst n quota x y d0) (env.reset (geomInst n quota x y d0)) as s) (hne : as ≠ []) (j : Nat) :
    s.dist j = minList (as.map (fun c => distOf x y c j)) ∧ (j ∈ as → s.dist j = 0) := by
  have h1 : s.dist j = minList (as.map (fun c => distOf x y c j)) := distances_eq _ h hne j
  refine ⟨h1, fun hj => ?_⟩
  rw [h1]
  apply Int.le_antisymm
  · rw [← distOf_self x y j]; exact minList_le (List.mem_map.mpr ⟨j, hj, rfl⟩)
  · obtain ⟨c, _, hc⟩ := minList_map_mem (fun c => distOf x y c j) hne
    rw [← hc]; exact distOf_nonneg x y c j

theorem objective_translate (n : Nat) (quota : Int) (x y : Nat → Int) (d0 : Nat → Int) (cx cy : Int) (as : List Nat) :
    Spec.Flp.objective (geomInst n quota (fun j => x j + cx) (fun j => y j + cy) d0) as =
    Spec.Flp.objective (geomInst n quota x y d0) as := by
  have hD : distOf (fun j => x j + cx) (fun j => y j + cy) = distOf x y := by
    funext a b; exact distOf_translate x y cx cy a b
  rw [geomInst, hD]; rfl

/-- 3-4-5: points (0,0), (3,4), (0,12) → distances 5, 12 and √(9+64) truncated; diagonal 0 -/
example : distOf (fun j => [0, 3, 0].getD j 0) (fun j => [0, 4, 12].getD j 0) 0 1 = 5 ∧
    distOf (fun j => [0, 3, 0].getD j 0) (fun j => [0, 4, 12].getD j 0) 0 2 = 12 ∧
    distOf (fun j => [0, 3, 0].getD j 0) (fun j => [0, 4, 12].getD j 0) 1 1 = 0 := by
  refine ⟨distOf_sq _ _ 0 1 5 (by decide), distOf_sq _ _ 0 2 12 (by decide), distOf_self _ _ 1⟩

theorem objective_mono (i : Inst) (as : List Nat) (hne : as ≠ []) (a : Nat) :
    Spec.Flp.objective i (as ++ [a]) ≤ Spec.Flp.objective i as :=
  sumRange_le fun j _ => minList_map_anti (fun c => i.D c j) hne fun _ hc => List.mem_append_left _ hc

theorem objective_nonneg (i : Inst) (hD : ∀ c j, 0 ≤ i.D c j) (as : List Nat) (hne : as ≠ []) :
    0 ≤ Spec.Flp.objective i as := by
  apply sumRange_nonneg
  intro j _
  obtain ⟨c, _, hc⟩ := minList_map_mem (fun c => i.D c j) hne
  rw [Spec.Flp.nearest, ← hc]; exact hD c j

theorem objective_all_zero (i : Inst) (hD : ∀ c j, 0 ≤ i.D c j) (hdiag : ∀ c, i.D c c = 0) (hn : 0 < i.n) :
    Spec.Flp.objective i (List.range i.n) = 0 := by
  have hne : List.range i.n ≠ [] := fun h => Nat.ne_of_gt hn (List.range_eq_nil.mp h)
  apply Int.le_antisymm _ (objective_nonneg i hD _ hne)
  rw [← sumRange_zero i.n]
  apply sumRange_le
  intro j hj
  rw [← hdiag j]
  exact minList_le (List.mem_map.mpr ⟨j, List.mem_range.mpr hj, rfl⟩)

/-- **what a padded row ends with (∀ batch, ∀ row)**: whatever the quotas, after the loop row `r` has
selected `T` = number of loop steps pairwise distinct locations and its reward is minus the objective of
ALL of them; by `objective_mono` that is at least the reward of its own first `quota` selections. -/
theorem batch_row_outcome {B : Nat} {inst : Nat → Inst} (hwf : ∀ r, r < B → WF (inst r))
    {steps : List (Nat → Nat)} {b' : Bat Inst State} (h : Bat.Loop env (Bat.reset env B inst) steps b')
    (r : Nat) (hr : r < B) :
    (Bat.rowActs steps r).length = steps.length ∧ (Bat.rowActs steps r).Nodup ∧
    reward (inst r) (b'.st r) = - Spec.Flp.objective (inst r) (Bat.rowActs steps r) := by
  obtain ⟨_, hrun⟩ := h.rows.2 r hr
  exact ⟨Bat.rowActs_length steps r, (Sel.inv_of_run view hrun).nodup, reward_eq_neg_objective (inst r) hrun⟩

end Flp

namespace Mcp

theorem objective_mono (i : Inst) (hw : ∀ x, 0 ≤ i.w x) (as : List Nat) (a : Nat) :
    Spec.Mcp.objective i as ≤ Spec.Mcp.objective i (as ++ [a]) := by
  unfold Spec.Mcp.objective
  apply sumRange_le
  intro x _
  cases hc : Spec.Mcp.covered i as x
  · simp only [Bool.false_eq_true, if_false]; split
    · exact hw x
    · exact Int.le_refl 0
  · rw [covered_append, hc]; exact Int.le_refl _

theorem objective_le_total (i : Inst) (hw : ∀ x, 0 ≤ i.w x) (as : List Nat) :
    Spec.Mcp.objective i as ≤ sumRange i.nItems i.w := by
  unfold Spec.Mcp.objective
  apply sumRange_le
  intro x _
  split
  · exact Int.le_refl _
  · exact hw x

theorem objective_nil (i : Inst) : Spec.Mcp.objective i [] = 0 :=
  sumRange_zero i.nItems

theorem objective_perm (i : Inst) {as bs : List Nat} (h : ∀ c, c ∈ as ↔ c ∈ bs) :
    Spec.Mcp.objective i as = Spec.Mcp.objective i bs := by
  unfold Spec.Mcp.objective
  apply sumRange_congr
  intro x _
  have : Spec.Mcp.covered i as x = Spec.Mcp.covered i bs x := by
    rw [Bool.eq_iff_iff]
    simp only [Spec.Mcp.covered, List.any_eq_true]
    constructor
    · rintro ⟨j, hj, hm⟩; exact ⟨j, (h j).mp hj, hm⟩
    · rintro ⟨j, hj, hm⟩; exact ⟨j, (h j).mpr hj, hm⟩
  rw [this]

theorem batch_row_outcome {B : Nat} {inst : Nat → Inst}
    {steps : List (Nat → Nat)} {b' : Bat Inst State} (h : Bat.Loop env (Bat.reset env B inst) steps b')
    (r : Nat) (hr : r < B) :
    (Bat.rowActs steps r).length = steps.length ∧ (Bat.rowActs steps r).Nodup ∧
    reward (inst r) (b'.st r) = Spec.Mcp.objective (inst r) (Bat.rowActs steps r) := by
  obtain ⟨_, hrun⟩ := h.rows.2 r hr
  exact ⟨Bat.rowActs_length steps r, (Sel.inv_of_run view hrun).nodup, reward_eq_objective (inst r) hrun⟩

end Mcp

namespace Dpp

/-- **Spec-level**, independent of the environment model: the exact condition under which a feasible placement exists. -/
theorem feasible_exists_iff (i : Inst) (hq : 0 ≤ i.quota) :
    (∃ as, Spec.Dpp.Feasible i as) ↔ i.quota ≤ cnt i.n (Spec.Dpp.allowed i) := by
  constructor
  · rintro ⟨as, hf⟩
    rw [← hf.len]
    exact Int.ofNat_le.mpr (hf.nodup.length_le_of_subset fun a ha =>
      List.mem_filter.mpr ⟨List.mem_range.mpr (hf.range a ha), hf.ok a ha⟩)
  · intro h
    obtain ⟨as, h1, h2, h3⟩ := exists_selection (q := i.quota.toNat) (Int.toNat_le.mpr h)
    exact ⟨as, ⟨by rw [h1]; exact Int.toNat_of_nonneg hq, h2, fun a ha => (h3 a ha).1, fun a ha => (h3 a ha).2⟩⟩

end Dpp
end Rl4co
