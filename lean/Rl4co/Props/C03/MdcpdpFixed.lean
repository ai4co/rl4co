/-
MDCPDP with the INTENDED `current_depot` rule (`Fixed.stepX`, see `Rl4co/Proofs/Mdcpdp.lean`): refinement
of the Spec simulation and the FULL theorems it gives, as the instance `tok = true` of `Rl4co/Props/C03/MdcpdpSim.lean`.
`v1` is the Spec as stated except for the charge of the last way home (close mode; the second, independent defect).
Under the intended rule C01 holds in full for any number of depots and any per-depot capacities, and C03 in full in open
mode; in close mode the only remaining deviation is the last way home.
-/
import Rl4co.Props.C03.MdcpdpSim

namespace Rl4co.Mdcpdp.Fixed
open Rl4co.Mdcpdp Rl4co.Spec.Mdcpdp

structure RelX (i : Inst) (b : Bool) (s : State) (σ : Sim) : Prop where
  mask    : s.mask = maskOf i b s.avail s.toDeliver s.carry s.depot s.done
  err     : σ.err = 0
  opened  : ∀ d, d < i.K → (d ∈ σ.opened ↔ s.avail d = false)
  veh     : (b = true → σ.veh = none) ∧ (b = false → σ.veh = some s.depot)
  onboard : ∀ x, x ∈ σ.onboard ↔ (i.K ≤ x ∧ x < i.K + i.h ∧ s.avail x = false ∧ s.avail (x + i.h) = true)
  nodup   : σ.onboard.Nodup
  carry   : (σ.onboard.length : Int) = s.carry
  served  : ∀ x, x ∈ σ.served ↔ (i.K ≤ x ∧ x < i.N ∧ s.avail x = false)
  pos     : σ.pos = s.cur
  homePos : b = true → s.cur = s.depot
  lens    : ∀ d, σ.lens d = s.len d
  fresh   : ∀ d, d < i.K → s.avail d = true → s.len d = 0
  clock   : b = false → σ.clock = s.len s.depot
  late    : σ.late = lateSum i s
  arrive  : ∀ x, i.K ≤ x → s.avail x = true → s.arrive x = 0
  zero    : s.avail s.depot = false

theorem _root_.Rl4co.Mdcpdp.RelT.toRelX {i : Inst} {b : Bool} {s : State} {σ : Sim} (hst : Stepped i b s)
    (hr : RelT true i b s σ) : RelX i b s σ where
  mask := hst.mask
  err := hr.err
  opened := hr.seen.opened
  veh := ⟨hr.vehNone, fun h => by obtain ⟨d, hd, hdd⟩ := hr.vehSome h; rw [hd, hdd rfl]⟩
  onboard := hr.seen.onboard
  nodup := hr.seen.nodup
  carry := hr.carry
  served := hr.seen.served
  pos := hr.pos
  homePos := hr.inv.homePos
  lens := hr.clocks.lens
  fresh := hr.inv.fresh
  clock := fun _ => hr.clocks.clock
  late := hr.late
  arrive := hr.inv.arrive
  zero := hst.zero

theorem RelX.seen {i : Inst} {b : Bool} {s : State} {σ : Sim} (hr : RelX i b s σ) :
    Seen i s.avail σ.opened σ.served σ.onboard :=
  ⟨hr.opened, hr.served, hr.onboard, hr.nodup⟩

theorem sim_refines (i : Inst) (hwf : WFX i) {as : List Nat} {s : State}
    (h : Run envFixed i (envFixed.reset i) as s) :
    InvX i s ∧ (as ≠ [] → ∃ b, RelX i b s (simOf i v1 as)) := by
  obtain ⟨b, hr, hst⟩ := sim_refinesT hwf.toT h
  exact ⟨hr.invX, fun hne => ⟨b, hr.toRelX (hst hne)⟩⟩

/-- **C01 in full for the intended `current_depot` rule**: any number of depots, any per-depot capacities — every
finished mask-confined episode satisfies the problem statement (own depot, own capacity, pairing, single visits). -/
theorem feasible_of_run (i : Inst) (hwf : WFX i) {as : List Nat} {s : State}
    (h : Run envFixed i (envFixed.reset i) as s) (hd : envFixed.done i s = true) :
    Feasible (problemOf i) as :=
  feasible_of_run_intended hwf.toT h hd

/-- all three rewards are minus the `v1` objectives (open or close mode) -/
theorem reward_eq_obj_v1 (m : Mode) (i : Inst) (hwf : WFX i) {as : List Nat} {s : State}
    (h : Run envFixed i (envFixed.reset i) as s) (hd : envFixed.done i s = true) :
    reward m i s = - objOf (modeIdx m) (problemOf i) v1 as :=
  reward_eq_objT m hwf.toT h hd

/-- **C03 in full for the intended `current_depot` rule, open mode**: minmax, minsum and lateness rewards are
minus the objectives of the problem as stated, for any number of depots. -/
theorem reward_eq_objective_open (m : Mode) (i : Inst) (hwf : WFX i) (hopen : i.openMode = true)
    {as : List Nat} {s : State} (h : Run envFixed i (envFixed.reset i) as s)
    (hd : envFixed.done i s = true) :
    reward m i s = - objOf (modeIdx m) (problemOf i) {} as :=
  reward_eq_objective_open_intended m hwf.toT hopen h hd

/-- The instance and the kind of episode that refute C01 for the code as it is (`cexCap`: depot capacities 2 and 1;
the vehicle of depot 1 picks up both orders) — with the intended rule the second pickup is not offered, and the
episode in which the vehicle of depot 1 returns HOME is a finished run. -/
theorem fixes_counterexample :
    admitted envFixed cexCap (envFixed.reset cexCap) [0, 0, 1, 2, 3, 4, 5] = false ∧
    (∃ s, Run envFixed cexHome (envFixed.reset cexHome) [0, 0, 1, 3, 4, 1, 2] s ∧ envFixed.done cexHome s = true) :=
  ⟨by decide, _, .of_admitted (by decide), by decide⟩

/-- Non-vacuity: `cexMM` (2 depots, open mode) is well-formed for the fixed variant and `[0,2,4,0,1,3,5]` is a finished
run whose minmax reward is −2 (the code as it is reports −4). -/
example : WFX cexMM := ⟨by decide, fun _ _ => by simp [cexMM]⟩
example : reward .minmax cexMM (exec envFixed cexMM (envFixed.reset cexMM) [0, 2, 4, 0, 1, 3, 5]) = -2 ∧
    reward .minmax cexMM (exec env cexMM (env.reset cexMM) [0, 2, 4, 0, 1, 3, 5]) = -4 := by decide

end Rl4co.Mdcpdp.Fixed
