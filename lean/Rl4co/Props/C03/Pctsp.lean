/-
C03 for PCTSP / SPCTSP: the reward `_get_reward` reports for a finished mask-confined episode is
minus (length of the tour depot → actions → depot + penalties of the customers that were not visited),
i.e. `− Spec.Pctsp.objective`, computed from the instance and the action list alone — for
deterministic and stochastic prizes alike (the reward does not read the prize at all; the `stochastic`
flag is part of the instance the theorem quantifies over).  The single-column special case of
`_get_reward` returns 0, which is NOT the objective of `[0]` when penalties are positive; it never
applies to a finished episode, because a finished episode has at least two steps.
-/
import Rl4co.Props.C01.Pctsp

namespace Rl4co.Pctsp
open Rl4co.Spec.Pctsp Rl4co.Prize

/-- the single-column test is `length = 1` (extracted operator `==` and constant `1`) -/
theorem rewardSpecial_eq (as : List Nat) : rewardSpecial as = decide (as.length = 1) := by
  simp [rewardSpecial, Params.pctspRewardSpecialCmp, Params.pctspRewardSpecialWidth, Cmp.evalNat]

/-- `penalty[..., 1:].sum(-1)` is the sum of all customers' penalties (extracted slice bounds `1:`) -/
theorem totalPenalty_eq (i : Inst) : totalPenalty i = sumTo i.n (fun k => i.pen (k + 1)) := by
  simp only [totalPenalty, Params.pctspPenaltySlice, Nat.add_sub_cancel, Nat.sub_zero]
  apply sumTo_congr
  intro k _
  simp [padded]

theorem reward_eq (i : Inst) (as : List Nat) :
    reward i as = if as.length = 1 then 0
      else gatherSum i.pen as - (pathLen i.D (0 :: as ++ [0]) + sumTo i.n (fun k => i.pen (k + 1))) := by
  simp [reward, rewardSpecial_eq, totalPenalty_eq, rollLen_depot_cons]

theorem reward_eq_objective_of_once (i : Inst) (as : List Nat)
    (hr : ∀ a ∈ as, a ≤ i.n) (ho : ∀ j, 1 ≤ j → as.count j ≤ 1) (hl : as.length ≠ 1) :
    reward i as = - objective i as := by
  rw [reward_eq, if_neg hl, gatherSum_eq_sumTo i.n i.pen as hr ho, sumTo_split i.n i.pen (fun j => j ∈ as)]
  show _ = -(pathLen i.D (0 :: as ++ [0]) + _)
  omega

/-- **C03 (PCTSP / SPCTSP).**  Reward of a finished mask-confined episode = −(length + penalties of
the unvisited customers). -/
theorem reward_eq_objective (i : Inst) {as : List Nat} {s : State}
    (h : Run env i (env.reset i) as s) (hd : env.done i s = true) :
    reward i as = - objective i as := by
  have := isTour.two_le_length_of_done h hd
  exact reward_eq_objective_of_once i as (isTour.range_of_run h) (isTour.count_le_one_of_run h) (by omega)

/-- Non-vacuity / sanity: customers 1 and 2 visited (legs 10+10+10), customer 3 (penalty 3) skipped,
one padding step; and the single-column value 0 differs from the objective of `[0]`. -/
example : reward exInst [1, 2, 0, 0] = -(30 + 3) := by decide
example : objective exInst [1, 2, 0, 0] = 30 + 3 := by decide
example : reward exInst [0] = 0 ∧ objective exInst [0] = 6 := by decide

end Rl4co.Pctsp
