/-
C03 for FJSP / JSSP: the reward (`-finish_times.masked_fill(pad_mask, -inf).max(1)`) is minus the
makespan of the recorded schedule, i.e. minus the latest completion time over the operations of the
jobs (Spec: decided by the job ranges, not by `pad_mask`), in every state of every well-formed
instance; together with C07 (`Props/C07/Fjsp.lean`: the recorded schedule of a finished episode is a
valid schedule of the instance, built by the executed actions) this is "reward = −makespan of the
executed solution".
`Spec.Fjsp.makespan` is written with the model's own `maxOver`, so `reward_eq_makespan` only exchanges the
keep-predicate (`pad_mask` against the job ranges, by `WF.padIff`); what does not depend on `maxOver` is
`makespan_spec` / `neg_reward_is_latest_completion`: minus the reward bounds every completion time of an
operation of a job and is one of them.
-/
import Rl4co.Proofs.Fjsp

namespace Rl4co.Fjsp
open Rl4co.Spec.Fjsp (isReal opOf Sched ValidSchedule)

/-- **C03 (FJSP/JSSP)**: `_get_reward` (maximum of `finish_times` over the non-padded columns) is minus
the Spec makespan (maximum over the operations of the jobs), in every state. -/
theorem reward_eq_makespan (i : Inst) (hwf : WF i) (s : State) :
    reward i s = - Spec.Fjsp.makespan i (schedOf s) := by
  rw [reward_eq]
  unfold Spec.Fjsp.makespan schedOf
  have : maxOver i.N (fun o => !i.pad o) s.finish = maxOver i.N (isReal i) s.finish := by
    apply maxOver_congr
    intro o ho
    rw [Bool.eq_iff_iff, Bool.not_eq_true']; exact hwf.padIff o ho
  rw [this]
  cases maxOver i.N (isReal i) s.finish <;> simp

theorem makespan_spec {i : Inst} (hwf : WF i) (σ : Sched) :
    (∀ o, o < i.N → isReal i o = true → σ.finish o ≤ Spec.Fjsp.makespan i σ) ∧
    ∃ o, o < i.N ∧ isReal i o = true ∧ σ.finish o = Spec.Fjsp.makespan i σ := by
  unfold Spec.Fjsp.makespan
  have h := maxOver_spec i.N (isReal i) σ.finish
  cases hm : maxOver i.N (isReal i) σ.finish with
  | none =>
    -- a well-formed instance has a real operation, so the maximum exists
    rw [hm] at h
    have hr := hwf.rng 0 hwf.jpos
    have := h (i.startOp 0) (Nat.lt_of_le_of_lt hr.1 hr.2)
    rw [real_of_job hwf.jpos (Nat.le_refl _) hr.1] at this; cases this
  | some x => rw [hm] at h; exact h

/-- the Spec makespan reads the job ranges only: the width of the padded tensor is irrelevant -/
theorem makespan_width {i i' : Inst} (hwf : WF i) (hwf' : WF i') (hreal : isReal i' = isReal i) (σ : Sched) :
    Spec.Fjsp.makespan i' σ = Spec.Fjsp.makespan i σ := by
  unfold Spec.Fjsp.makespan
  rw [hreal, maxOver_width (fun o h => hwf'.real_lt (hreal ▸ h)) (fun o h => hwf.real_lt h)]

/-- **C03, spelled out**: minus the reward bounds every real operation's completion time and is
attained by one of them. -/
theorem neg_reward_is_latest_completion (i : Inst) (hwf : WF i) (s : State) :
    (∀ o, o < i.N → isReal i o = true → s.finish o ≤ - reward i s) ∧
    ∃ o, o < i.N ∧ isReal i o = true ∧ s.finish o = - reward i s := by
  rw [reward_eq_makespan i hwf s, Int.neg_neg]
  exact makespan_spec hwf (schedOf s)

/-- non-vacuity / sanity on the concrete instance `exFjsp` (padded column 4 holds `INIT_FINISH`) -/
example :
    let s := exec env exFjsp (env.reset exFjsp) [1, 4, 0, 1, 4, 0]
    reward exFjsp s = -6 ∧ Spec.Fjsp.makespan exFjsp (schedOf s) = 6 ∧ s.finish 4 = 9999 := by decide +kernel

end Rl4co.Fjsp

namespace Rl4co.Jssp
open Rl4co.Fjsp

theorem reward_eq_makespan (i : Inst) (_ : i.jssp = true) (hwf : WF i) (s : State) :
    reward i s = - Spec.Fjsp.makespan i (schedOf s) := Fjsp.reward_eq_makespan i hwf s

end Rl4co.Jssp
