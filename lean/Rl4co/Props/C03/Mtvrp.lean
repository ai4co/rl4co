/-
C03 for the multi-task VRP environment: reported reward = − true objective, open and closed routes in one
statement, for every action list.
-/
import Rl4co.Proofs.MtvrpParams
import Rl4co.Spec.Mtvrp

namespace Rl4co.Mtvrp
open Rl4co.Spec.Mtvrp

/-- legs into customers are charged in full, the closing leg into the depot unless routes are open -/
theorem pathLen_charged (i : Inst) : ∀ (x : Nat) (xs : List Nat), 0 ∉ xs →
    pathLen (charged i) (x :: (xs ++ [0])) = pathLen i.D (x :: (xs ++ if i.openR then [] else [0]))
  | x, [], _ => by rw [charged_def]; cases i.openR <;> rfl
  | x, y :: ys, h => by
    have hy : y ≠ 0 := fun e => h (e ▸ List.mem_cons_self)
    rw [List.cons_append, List.cons_append, pathLen_cons_cons, pathLen_cons_cons,
      pathLen_charged i y ys fun e => h (List.mem_cons_of_mem _ e)]
    simp only [charged_def, hy, false_and, if_false]

theorem routeLen_charged (i : Inst) (r : List Nat) (h : 0 ∉ r) : routeLen (charged i) r = routeCost i r := by
  unfold routeLen routeCost
  split
  · rfl
  · exact pathLen_charged i 0 r h

/-- **C03 (MTVRP).** The reward of `_get_reward` (gather / roll / masked sum over `[depot] ++ actions`) is
minus the total length of the routes, each driven depot → customers → depot when routes are closed and
depot → customers when they are open (legs into the depot are not charged) — for EVERY action list (with
or without a final return, with any amount of trailing depot padding).  For closed routes the depot must
have distance 0 to itself. -/
theorem reward_eq_objective (i : Inst) (h00 : i.openR = true ∨ i.D 0 0 = 0) (as : List Nat) :
    reward i as = - objective i as := by
  have hc : charged i 0 0 = 0 := by
    rcases h00 with h | h
    · simp [charged_def, h]
    · simp only [charged_def]; split <;> simp [h]
  rw [reward_def, objective, rollLen_depot_eq_routesLen (charged i) hc, routesLen]
  congr 2
  apply List.map_congr_left
  intro r hr
  exact routeLen_charged i r (routes_zero_free as r hr)

/-- a trailing depot visit adds an empty route, which costs nothing -/
theorem objective_snoc_zero (i : Inst) (as : List Nat) : objective i (as ++ [0]) = objective i as := by
  simp [objective, routes_append_zero, routeCost]

/-- Non-vacuity / sanity: two routes `[1,2]` and `[3]`, closed and open, on an asymmetric matrix. -/
def exD : Inst :=
  { n := 3, cap := 8, dL := fun _ => 1, dB := fun _ => 0, openR := false, limit := none, early := fun _ => 0,
    late := fun _ => none, service := fun _ => 0, D := fun a b => if a = b then 0 else (a + 2 * b : Int),
    T := fun a b => if a = b then 0 else (a + 2 * b : Int) }
example : reward exD [1, 2, 0, 3] = -((0 + 2) + (1 + 4) + (2 + 0) + (0 + 6) + (3 + 0)) := by decide
example : reward { exD with openR := true } [1, 2, 0, 3] = -((0 + 2) + (1 + 4) + (0 + 6)) := by decide
example : objective { exD with openR := true } [1, 2, 0, 3, 0, 0] = (0 + 2) + (1 + 4) + (0 + 6) := by decide

end Rl4co.Mtvrp
