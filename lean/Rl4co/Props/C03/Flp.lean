/-
C03 for FLP: the reward (computed from `td["chosen"]` by gathering the chosen rows of the distance
matrix, taking the column-wise minimum and summing) is minus the summed nearest-facility distance
recomputed from the instance and the executed action list alone — for every non-empty mask-confined
run (complete or not, padded or not).
-/
import Rl4co.Proofs.SelectViews

namespace Rl4co.Flp

/-- In the model the equation holds at the reset state too, where both sides are a sum of `minList [] = 0`
(`_get_reward` of the code would raise there). -/
theorem reward_eq_neg_objective (i : Inst) {as : List Nat} {s : State} (h : Run env i (env.reset i) as s) :
    reward i s = - Spec.Flp.objective i as :=
  congrArg (- ·) (sumRange_congr fun j _ => (rewardMinDist_eq i s.chosen j).trans (minOver_eq_nearest h j))

theorem reward_eq_objective (i : Inst) {as : List Nat} {s : State}
    (h : Run env i (env.reset i) as s) (hne : as ≠ []) :
    reward i s = - Spec.Flp.objective i as :=
  reward_eq_neg_objective i h

theorem objective_perm (i : Inst) {as bs : List Nat} (hne : as ≠ []) (h : ∀ c, c ∈ as ↔ c ∈ bs) :
    Spec.Flp.objective i as = Spec.Flp.objective i bs :=
  sumRange_congr fun j _ => minList_map_congr (fun c => i.D c j) h

/-- Non-vacuity / sanity: asymmetric matrix, rows 0 and 2 chosen: column minima 0, 1, 0 → −1;
with the transposed matrix the value would be −3. -/
example : reward ⟨3, 2, fun a b => if a = b then 0 else if a < b then 1 else 3, fun _ => 9⟩
    (exec env ⟨3, 2, fun a b => if a = b then 0 else if a < b then 1 else 3, fun _ => 9⟩
      (env.reset ⟨3, 2, fun a b => if a = b then 0 else if a < b then 1 else 3, fun _ => 9⟩) [2, 0]) = -1 := by
  decide

end Rl4co.Flp
