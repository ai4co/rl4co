/-
C03 for TSP: the reward computed by the gather / `roll(-1)` / norm / sum idiom is minus the length
of the closed tour through the visited nodes in order, for EVERY action list, provided distances are
symmetric (the code measures |x_next − x_cur|; Euclidean distance is symmetric).

The statement covers one-node tours too (`as = [a]`: reward `-D a a`); the harness probes n = 1 inside batches.
Below it, sanity of the Spec; `feasible_range` is the witness C05 minimises from.
-/
import Rl4co.Proofs.TspfamTsp
import Rl4co.Proofs.TspfamTour

namespace Rl4co.Tsp

/-- **C03 (TSP)**: the reward is minus the closed-tour length, for every action list. -/
theorem reward_eq_objective (i : Inst) (hs : ∀ a b, i.D a b = i.D b a) (as : List Nat) :
    reward i as = - Spec.Tsp.objective i.D as := by
  rw [reward_eq, Tspfam.sum_zipWith_roll1 i.D hs, Spec.Tsp.objective]

/-- Sanity on a concrete symmetric matrix: tour 2 → 0 → 1 → 2. -/
example : reward ⟨3, fun a b => if a = b then 0 else (a + b : Int)⟩ [2, 0, 1] = -(2 + 1 + 3) := by
  decide

/-- a one-node tour has length `D 0 0` (= 0 for a distance) -/
example : reward ⟨1, fun _ _ => 0⟩ [0] = 0 := by decide

end Rl4co.Tsp

namespace Rl4co.Spec.Tsp
open Rl4co.Tspfam

theorem feasible_range (n : Nat) : Feasible n (List.range n) :=
  (feasible_iff_perm n _).mpr (List.Perm.refl _)

theorem feasible_roll1 {n : Nat} {as : List Nat} (h : Feasible n as) : Feasible n (roll1 as) := by
  rw [feasible_iff_perm] at h ⊢
  refine List.Perm.trans ?_ h
  cases as with
  | nil => exact List.Perm.refl _
  | cons x r => exact List.perm_append_comm

theorem feasible_reverse {n : Nat} {as : List Nat} (h : Feasible n as) : Feasible n as.reverse := by
  rw [feasible_iff_perm] at h ⊢
  exact (List.reverse_perm as).trans h

/-- any cost matrix, also asymmetric -/
theorem objective_roll1 (D : Nat → Nat → Int) (as : List Nat) : objective D (roll1 as) = objective D as :=
  closedLen_roll1 D as

theorem objective_reverse (D : Nat → Nat → Int) (hs : ∀ a b, D a b = D b a) (as : List Nat) :
    objective D as.reverse = objective D as :=
  closedLen_reverse D hs as

end Rl4co.Spec.Tsp

namespace Rl4co.Tsp
open Rl4co.Tspfam

theorem reward_roll1 (i : Inst) (hs : ∀ a b, i.D a b = i.D b a) (as : List Nat) :
    reward i (roll1 as) = reward i as := by
  rw [reward_eq_objective i hs, reward_eq_objective i hs, Spec.Tsp.objective_roll1]

theorem reward_reverse (i : Inst) (hs : ∀ a b, i.D a b = i.D b a) (as : List Nat) :
    reward i as.reverse = reward i as := by
  rw [reward_eq_objective i hs, reward_eq_objective i hs, Spec.Tsp.objective_reverse i.D hs]

end Rl4co.Tsp
