/-
C03 for MDCPDP (row stepped on its own, well-formed hand-supplied instance).

In open mode the `minsum` reward is minus the total open-route length of
the executed solution, for EVERY mask-confined run (finished or not, padded or not).

The general statement "reward = −objective of the problem as stated" is false of the code for every
reward mode: `minmax` (all lengths are accumulated in slot 0 because `current_depot` never changes),
`minsum` in close mode (the last vehicle's way back is never charged), `lateness` (the arrival clock
is not restarted for the next vehicle).
-/
import Rl4co.Props.C01.Mdcpdp
import Rl4co.Core.Lists

namespace Rl4co.Mdcpdp
open Rl4co.Spec.Mdcpdp

/-- the mode index of `Spec.Mdcpdp.objOf` -/
def modeIdx : Mode → Nat
  | .minmax => 0
  | .minsum => 1
  | .lateness => 2

theorem sum_range_upd (n : Nat) (f : Nat → Int) (k : Nat) (v : Int) (hk : k < n) :
    ((List.range n).map (upd f k v)).sum = ((List.range n).map f).sum + (v - f k) := by
  have := sum_map_range_update hk fun j hj => upd_other f k j v hj
  rw [upd_same] at this
  omega

def totalLen (i : Inst) (s : State) : Int := (lens i s).sum

section
variable {tok : Bool} {i : Inst}

theorem totalLen_step {s : State} (hwf : WFT tok i) (hi : InvT tok i s) (hopen : i.openMode = true)
    {a : Nat} (ha : a < i.N) (hm : s.mask a = true) :
    totalLen i (stepF tok i s a) = totalLen i s + (if a < i.K then 0 else i.D s.cur a) := by
  have hdK := (invT_stepF hwf hi ha hm).invX.depK
  simp only [totalLen, lens, hwf.wf.kg]
  rw [stepF_len, sum_range_upd i.K s.len _ _ hdK]
  by_cases haK : a < i.K
  · rw [leg_depot i s.cur haK, hopen, if_pos haK, if_pos rfl]; omega
  · rw [leg_customer i s.cur haK, if_neg haK]; omega

theorem totalLen_of_run (hwf : WFT tok i) (hopen : i.openMode = true) {s s' : State}
    {as : List Nat} (h : Run (envF tok) i s as s') (hi : InvT tok i s) :
    totalLen i s' = totalLen i s + openLength (problemOf i) s.cur as := by
  induction h with
  | nil s => exact (Int.add_zero _).symm
  | @cons s s' a as ha hm _ ih =>
    rw [ih (invT_stepF hwf hi ha hm)]
    show totalLen i (stepF tok i s a) + openLength (problemOf i) a as = _
    rw [totalLen_step hwf hi hopen ha hm, Int.add_assoc]
    rfl

end

/-- **C03 (MDCPDP), open mode, minsum**: the reward is minus the total open-route length, along every mask-confined run. -/
theorem reward_minsum_open (i : Inst) (hwf : WF i) (hopen : i.openMode = true) {as : List Nat}
    {s : State} (h : Run env i (env.reset i) as s) :
    reward .minsum i s = - openLength (problemOf i) 0 as := by
  have := totalLen_of_run hwf.toT hopen (env_eq ▸ h) (invT_reset i hwf)
  show - totalLen i s = _
  rw [this]
  show - ((lens i (reset i)).sum + _) = _
  rw [show (lens i (reset i)).sum = 0 from sum_map_zero (List.range i.KG), Int.zero_add]
  rfl

/-- The statement one would like, per reward mode. -/
def reward_statement (m : Mode) : Prop :=
  ∀ (i : Inst) (as : List Nat) (s : State), WF i → Run env i (env.reset i) as s →
    env.done i s = true → Feasible (problemOf i) as →
      reward m i s = - objOf (modeIdx m) (problemOf i) {} as

/-- 2 depots, 2 orders, unit distances, open mode -/
def cexMM : Inst :=
  { N := 6, K := 2, split0 := 4, KG := 2, cap := fun _ => 2, D := fun a b => if a = b then 0 else 1,
    openMode := true, wNum := 1, wDen := 1 }

/-- `minmax`: two tours of length 2 each; the code reports 4 (their sum). -/
theorem reward_minmax_counterexample : ¬ reward_statement .minmax := by
  intro h
  have := h cexMM [0, 2, 4, 0, 1, 3, 5] (exec env cexMM (env.reset cexMM) [0, 2, 4, 0, 1, 3, 5])
    (by decide)
    (.of_admitted (by decide)) (by decide) (by unfold Feasible; decide)
  revert this; decide

/-- `lateness` (weight 1): the second vehicle's deliveries are timed from the first vehicle's start. -/
theorem reward_lateness_counterexample : ¬ reward_statement .lateness := by
  intro h
  have := h cexMM [0, 2, 4, 0, 1, 3, 5] (exec env cexMM (env.reset cexMM) [0, 2, 4, 0, 1, 3, 5])
    (by decide)
    (.of_admitted (by decide)) (by decide) (by unfold Feasible; decide)
  revert this; decide

/-- 1 depot, 1 order, unit distances, close mode -/
def cexClose : Inst :=
  { N := 3, K := 1, split0 := 2, KG := 1, cap := fun _ => 1, D := fun a b => if a = b then 0 else 1,
    openMode := false, wNum := 0, wDen := 1 }

/-- `minsum`, close mode: the closed tour 0→1→2→0 has length 3; the code reports 2. -/
theorem reward_minsum_close_counterexample : ¬ reward_statement .minsum := by
  intro h
  have := h cexClose [0, 1, 2] (exec env cexClose (env.reset cexClose) [0, 1, 2])
    (by decide)
    (.of_admitted (by decide)) (by decide) (by unfold Feasible; decide)
  revert this; decide

/-- Non-vacuity of `reward_minsum_open`, and agreement of the declarative open length with the
route-level objective on a feasible solution: both are 4 on the two-tour episode of `cexMM`. -/
example : Run env cexMM (env.reset cexMM) [0, 2, 4, 0, 1, 3, 5] (exec env cexMM (env.reset cexMM) [0, 2, 4, 0, 1, 3, 5]) :=
  .of_admitted (by decide)
example : openLength (problemOf cexMM) 0 [0, 2, 4, 0, 1, 3, 5] = 4 ∧
    objMinsum (problemOf cexMM) {} [0, 2, 4, 0, 1, 3, 5] = 4 := by decide

end Rl4co.Mdcpdp
