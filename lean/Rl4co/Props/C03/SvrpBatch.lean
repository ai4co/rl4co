/-
C03/C04 for SVRP, batched form of the reward's cost table.  `_get_reward` builds the cost rows of ALL batch
rows in one Python loop over the row-major positions of the depot visits, carrying `start`, `tech` and the
running row number `batch` from row to row.  `costsBatch_eq_rows`: whenever every row contains a depot visit
(true of every finished episode: `done` requires the depot) the table equals, row by row, the per-instance
cost row `costRow` (entry p = cost of the technician number "depot visits among the first p actions") — at any
batch size, position and composition.  The proof needs both flush statements of the loop to be present
(`Params.svrpRewardFlushOnRowChange`, `Params.svrpRewardFlushAtEnd`, extracted from the source): dropping
either one leaves the tail of a row at cost 0 and breaks this proof.
All rows are taken from one instance `i`: only `i.costs` (`tech_costs`, an attribute of the environment) is read.
The invariant of the whole file is the view `flushed`: the table as it would be if the closing flush ran now.  The
loop's own table is wrong on the tail of the current row until that row is left; a depot visit changes the flushed view
only behind its column (`flushed_step`), so the view is right within a row (`cols_fold`) and across a row change (`row_step`).
-/
import Rl4co.Env.Svrp

namespace Rl4co.Svrp

/-- entry `p` of the per-instance cost row: technician = number of depot visits among the first `p` actions -/
def costAt (i : Inst) (t : Nat) (as : List Nat) (p : Nat) : Int := i.costs (t + (as.take p).count 0)

theorem costRow_getD (i : Inst) (as : List Nat) : ∀ t p, p ≤ as.length →
    (costRow i t as).getD p 0 = costAt i t as p := by
  induction as with
  | nil => intro t p hp; rw [Nat.le_zero.mp hp]; rfl
  | cons a as ih =>
    intro t p hp
    cases p with
    | zero => rfl
    | succ p =>
      rw [costRow, List.getD_cons_succ, ih _ p (Nat.le_of_succ_le_succ hp), costAt, costAt, List.take_succ_cons]
      by_cases h0 : a = 0
      · rw [if_pos h0, h0, List.count_cons_self, Nat.add_assoc, Nat.add_comm 1]
      · rw [if_neg h0, List.count_cons_of_ne h0]

/-- the table "as if the current row were flushed now" -/
def flushed (i : Inst) (st : LoopState) : Nat → Nat → Int :=
  fun r p => if r = st.batch ∧ st.start ≤ p then i.costs st.tech else st.costs r p

/-- the view is what the closing flush `costs[batch, start:] = tech_costs[tech]` writes -/
theorem fillRow_flush (i : Inst) (st : LoopState) {len p : Nat} (hp : p < len) (r : Nat) :
    fillRow st.costs st.batch st.start len (i.costs st.tech) r p = flushed i st r p := by
  unfold fillRow flushed
  by_cases h : r = st.batch ∧ st.start ≤ p
  · rw [if_pos ⟨h.1, h.2, hp⟩, if_pos h]
  · rw [if_neg (fun h' => h ⟨h'.1, h'.2.1⟩), if_neg h]

theorem loopBody_same (i : Inst) (len : Nat) {st : LoopState} {b : Nat} (hb : st.batch = b) (c : Nat) :
    loopBody i len st (b, c) =
      { costs := fillRow st.costs b st.start (c + 1) (i.costs st.tech), start := c + 1, tech := st.tech + 1,
        batch := b } := by
  simp [loopBody, hb]

/-- a depot visit at column `c` leaves the flushed view as it is on the other rows and up to column `c` -/
theorem flushed_step (i : Inst) (len : Nat) {st : LoopState} {b : Nat} (hb : st.batch = b) (c : Nat) {r p : Nat}
    (h : r ≠ b ∨ p < c + 1) : flushed i (loopBody i len st (b, c)) r p = flushed i st r p := by
  rw [loopBody_same i len hb]
  show (if r = b ∧ c + 1 ≤ p then i.costs (st.tech + 1)
      else if r = b ∧ st.start ≤ p ∧ p < c + 1 then i.costs st.tech else st.costs r p) =
    if r = st.batch ∧ st.start ≤ p then i.costs st.tech else st.costs r p
  rw [hb, if_neg (fun h' => h.elim (fun hr => hr h'.1) (fun hp => Nat.not_le_of_lt hp h'.2))]
  by_cases h2 : r = b ∧ st.start ≤ p
  · rw [if_pos h2, if_pos ⟨h2.1, h2.2, h.resolve_left (fun hr => hr h2.1)⟩]
  · rw [if_neg h2, if_neg (fun h' => h2 ⟨h'.1, h'.2.1⟩)]

/-- within one row (no row change): processing the depot columns of `as` (first action at column `c`) leaves
the other rows and the positions before `c` as they are; position `c + q` gets the technician that follows the
depot visits among the first `q` actions -/
theorem cols_fold (i : Inst) (len b : Nat) (as : List Nat) : ∀ (c : Nat) (st : LoopState), st.batch = b → st.start ≤ c →
    let st' := ((zeroCols c as).map (fun x => (b, x))).foldl (loopBody i len) st
    st'.batch = b ∧
    (∀ r p, r ≠ b ∨ p < c → flushed i st' r p = flushed i st r p) ∧
    (∀ q, flushed i st' b (c + q) = i.costs (st.tech + (as.take q).count 0)) := by
  induction as with
  | nil =>
    intro c st hb hs
    refine ⟨hb, fun _ _ _ => rfl, fun q => ?_⟩
    show flushed i st b (c + q) = _
    rw [flushed, if_pos ⟨hb.symm, Nat.le_trans hs (Nat.le_add_right c q)⟩, List.take_nil, List.count_nil,
      Nat.add_zero]
  | cons a as ih =>
    intro c st hb hs
    have hzero : flushed i st b c = i.costs st.tech := if_pos ⟨hb.symm, hs⟩
    by_cases h0 : a = 0
    · subst h0
      rw [show zeroCols c (0 :: as) = c :: zeroCols (c + 1) as from rfl, List.map_cons, List.foldl_cons]
      have htech : (loopBody i len st (b, c)).tech = st.tech + 1 := by rw [loopBody_same i len hb]
      obtain ⟨q1, q2, q3⟩ := ih (c + 1) (loopBody i len st (b, c)) (by rw [loopBody_same i len hb])
        (by rw [loopBody_same i len hb]; exact Nat.le_refl _)
      refine ⟨q1, fun r p h => ?_, fun q => ?_⟩
      · have h' : r ≠ b ∨ p < c + 1 := h.imp_right Nat.lt_succ_of_lt
        exact (q2 r p h').trans (flushed_step i len hb c h')
      · cases q with
        | zero =>
          have h' : b ≠ b ∨ c < c + 1 := Or.inr (Nat.lt_succ_self c)
          exact ((q2 b c h').trans (flushed_step i len hb c h')).trans hzero
        | succ q =>
          rw [← Nat.add_assoc, Nat.add_right_comm c q 1, q3 q, htech, List.take_succ_cons, List.count_cons_self,
            Nat.add_right_comm st.tech 1, Nat.add_assoc]
    · have hz : zeroCols c (a :: as) = zeroCols (c + 1) as := by rw [zeroCols, if_neg h0]
      rw [hz]
      obtain ⟨q1, q2, q3⟩ := ih (c + 1) st hb (Nat.le_succ_of_le hs)
      refine ⟨q1, fun r p h => q2 r p (h.imp_right Nat.lt_succ_of_lt), fun q => ?_⟩
      cases q with
      | zero => exact (q2 b c (Or.inr (Nat.lt_succ_self c))).trans hzero
      | succ q =>
        rw [← Nat.add_assoc, Nat.add_right_comm c q 1, q3 q, List.take_succ_cons,
          List.count_cons_of_ne h0]

theorem zeroCols_ne_nil (as : List Nat) (h : 0 ∈ as) : ∀ c, zeroCols c as ≠ [] := by
  induction as with
  | nil => cases h
  | cons a as ih =>
    intro c
    rw [zeroCols]
    by_cases h0 : a = 0
    · rw [if_pos h0]; exact List.cons_ne_nil _ _
    · rw [if_neg h0]
      exact ih ((List.mem_cons.mp h).resolve_left (Ne.symm h0)) (c + 1)

def enterRow (i : Inst) (len : Nat) (st : LoopState) (b : Nat) : LoopState :=
  if b > st.batch then rowChange i len st b else st

theorem loopBody_enterRow (i : Inst) (len : Nat) (st : LoopState) (b c : Nat) :
    loopBody i len st (b, c) = loopBody i len (enterRow i len st b) (b, c) := by
  unfold enterRow
  by_cases h : b > st.batch
  · rw [if_pos h]
    simp [loopBody, h, rowChange]
  · rw [if_neg h]

/-- entering a later row flushes the row that is left: below `len` its flushed view stays -/
theorem flushed_rowChange (i : Inst) (hF : Params.svrpRewardFlushOnRowChange = true) (len : Nat) (st : LoopState)
    {b r p : Nat} (hr : r ≠ b) (hp : p < len) :
    flushed i (rowChange i len st b) r p = flushed i st r p := by
  show (if r = b ∧ 0 ≤ p then i.costs 0
      else (if Params.svrpRewardFlushOnRowChange then fillRow st.costs st.batch st.start len (i.costs st.tech)
        else st.costs) r p) = _
  rw [if_neg (fun h => hr h.1), hF, if_pos rfl]
  exact fillRow_flush i st hp r

/-- one whole row `b` that contains a depot visit, entered from a state of an earlier row (or from the initial
state when `b = 0`): the previous row is flushed up to `len`, row `b` gets its own cost row -/
theorem row_step (i : Inst) (hF : Params.svrpRewardFlushOnRowChange = true) (len b : Nat) (as : List Nat)
    (h0 : 0 ∈ as) (st : LoopState)
    (hst : st.batch < b ∨ (st.batch = b ∧ st.start = 0 ∧ st.tech = 0)) :
    let st' := ((zeroCols 0 as).map (fun x => (b, x))).foldl (loopBody i len) st
    st'.batch = b ∧
    ∀ r p, p < len → flushed i st' r p = if r = b then costAt i 0 as p else flushed i st r p := by
  -- the first loop step of the row is the same from `st` and from the state after the (possible) row change
  have hfold : ((zeroCols 0 as).map (fun x => (b, x))).foldl (loopBody i len) st =
      ((zeroCols 0 as).map (fun x => (b, x))).foldl (loopBody i len) (enterRow i len st b) := by
    cases hz : zeroCols 0 as with
    | nil => exact absurd hz (zeroCols_ne_nil as h0 0)
    | cons c cs => rw [List.map_cons, List.foldl_cons, List.foldl_cons, loopBody_enterRow i len st]
  have hent : (enterRow i len st b).batch = b ∧ (enterRow i len st b).start = 0 ∧ (enterRow i len st b).tech = 0 := by
    unfold enterRow
    rcases hst with h | h
    · rw [if_pos h]; exact ⟨rfl, rfl, rfl⟩
    · rw [if_neg (by rw [h.1]; exact Nat.lt_irrefl b)]; exact h
  obtain ⟨q1, q2, q3⟩ := cols_fold i len b as 0 (enterRow i len st b) hent.1 (Nat.le_of_eq hent.2.1)
  intro st'
  have hst' : st' = ((zeroCols 0 as).map (fun x => (b, x))).foldl (loopBody i len) (enterRow i len st b) := hfold
  rw [hst']
  refine ⟨q1, fun r p hp => ?_⟩
  by_cases hr : r = b
  · rw [if_pos hr, hr]
    have := q3 p
    rw [Nat.zero_add, hent.2.2] at this
    exact this
  · rw [if_neg hr, q2 r p (Or.inl hr)]
    unfold enterRow
    rcases hst with h | h
    · rw [if_pos h]; exact flushed_rowChange i hF len st hr hp
    · rw [if_neg (by rw [h.1]; exact Nat.lt_irrefl b)]

/-- all rows `b0, b0+1, …`: the rows before `b0` stay, row `b0 + k` gets the cost row of `rows[k]` -/
theorem rows_fold (i : Inst) (hF : Params.svrpRewardFlushOnRowChange = true) (len : Nat) (rows : List (List Nat)) :
    ∀ (b0 : Nat) (st : LoopState), (∀ r ∈ rows, 0 ∈ r) →
      (st.batch < b0 ∨ (st.batch = b0 ∧ st.start = 0 ∧ st.tech = 0)) →
      let st' := (zeroIndices b0 rows).foldl (loopBody i len) st
      (∀ r p, r < b0 → p < len → flushed i st' r p = flushed i st r p) ∧
      (∀ k (hk : k < rows.length) p, p < len → flushed i st' (b0 + k) p = costAt i 0 rows[k] p) := by
  induction rows with
  | nil => intro b0 st _ _; exact ⟨fun _ _ _ _ => rfl, fun k hk => nomatch hk⟩
  | cons row rows ih =>
    intro b0 st hz hst
    obtain ⟨hb, hrow⟩ := row_step i hF len b0 row (hz row List.mem_cons_self) st hst
    obtain ⟨ih1, ih2⟩ := ih (b0 + 1) (((zeroCols 0 row).map (fun x => (b0, x))).foldl (loopBody i len) st)
      (fun r' hr' => hz r' (List.mem_cons_of_mem _ hr')) (Or.inl (by rw [hb]; exact Nat.lt_succ_self b0))
    simp only [zeroIndices, List.foldl_append]
    refine ⟨fun r p hr hp => ?_, fun k hk p hp => ?_⟩
    · rw [ih1 r p (Nat.lt_succ_of_lt hr) hp, hrow r p hp, if_neg (Nat.ne_of_lt hr)]
    · cases k with
      | zero =>
        show flushed i _ b0 p = costAt i 0 row p
        rw [ih1 b0 p (Nat.lt_succ_self b0) hp, hrow b0 p hp, if_pos rfl]
      | succ k =>
        rw [← Nat.add_assoc, Nat.add_right_comm b0 k 1]
        exact ih2 k (Nat.lt_of_succ_lt_succ hk) p hp

/-- **batched cost table = per-row cost rows**, at any batch size and composition, when every row contains a
depot visit (as every finished episode does). -/
theorem costsBatch_eq_rows (i : Inst) (len : Nat) (rows : List (List Nat)) (hz : ∀ r ∈ rows, 0 ∈ r)
    (b : Nat) (hb : b < rows.length) (p : Nat) (hp : p < len) :
    costsBatch i len rows b p = costAt i 0 rows[b] p := by
  have hF : Params.svrpRewardFlushOnRowChange = true := by decide
  have hE : Params.svrpRewardFlushAtEnd = true := by decide
  have h := (rows_fold i hF len rows 0 loopInit hz (Or.inr ⟨rfl, rfl, rfl⟩)).2 b hb p hp
  rw [Nat.zero_add] at h
  rw [← h, costsBatch, if_pos hE]
  exact fillRow_flush i _ hp b

/-- … and in terms of the model's per-instance `costRow` (rows of `len − 1` actions) -/
theorem costsBatch_eq_costRow (i : Inst) (L : Nat) (rows : List (List Nat)) (hz : ∀ r ∈ rows, 0 ∈ r)
    (hl : ∀ r ∈ rows, r.length = L) (b : Nat) (hb : b < rows.length) (p : Nat) (hp : p ≤ L) :
    costsBatch i (L + 1) rows b p = (costRow i 0 rows[b]).getD p 0 := by
  rw [costsBatch_eq_rows i (L + 1) rows hz b hb p (by omega), costRow_getD]
  rw [hl _ (List.getElem_mem hb)]; exact hp

/-- Non-vacuity / the seeded defect: two rows, the first one ends at a customer; with both flushes its tail
(positions 2, 3) is charged to technician 1. -/
example : (List.range 4).map (costsBatch ⟨3, 3, fun _ => 9, fun _ => 1, fun k => (k : Int) + 1, fun _ _ => 0⟩ 4
    [[1, 0, 2], [3, 0, 0]] 0) = [1, 1, 2, 2] := by decide

end Rl4co.Svrp
