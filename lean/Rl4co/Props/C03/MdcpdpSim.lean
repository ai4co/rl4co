/-
Refinement between the MDCPDP model and the route-level Spec simulation (`Spec.Mdcpdp.sim`), under either
`current_depot` rule.

The model with the rule `tok` implements the Spec variant `vOf tok`: `vOf false = v0` is the Spec with exactly the four
clauses switched off that the known defects of the code break (return to the own depot, own capacity, per-vehicle
lengths/clock, charge of the last way home); `vOf true = v1` is the Spec as stated except for the last way home.
Along EVERY mask-confined run (solo row, well-formed instance) the simulation under `vOf tok` never fails and carries the same
bookkeeping as the environment (`RelT`); so the code as it is deviates from the problem statement by those four clauses only.
With a single depot the two rules take the same steps, and the theorems under the intended rule apply to the code.

By content this is the helper layer of the family (the relation `Seen`/`RelT`, its step `rel_stepT`, `sim_refinesT`); it stands
under `Props/C03` because it also states what follows at once, and the unit tables list this module for it: the C03 results
(`reward_eq_obj_v0`, `reward_eq_objective_single_open`) and the C01 results that need the simulation (`verdict_v0_of_run`,
`feasible_of_run_single_depot`).
-/
import Rl4co.Spec.MdcpdpAdmits
import Rl4co.Proofs.MdcpdpSpec
import Rl4co.Props.C03.Mdcpdp

namespace Rl4co.Mdcpdp
open Rl4co.Spec.Mdcpdp Fixed

/-- the simulation state after the visits `hist` (before the end-of-list checks) -/
def simOf (i : Inst) (v : Variant) (hist : List Nat) : Sim := hist.foldl (simStep (problemOf i) v) {}

/-- the clauses that depend on WHICH vehicle drives hold exactly under the intended rule; the last way home is charged under
neither.  `vOf false = v0`, `vOf true = v1`. -/
def vOf (tok : Bool) : Variant := { home := tok, ownCap := tok, perVehicle := tok, chargeLast := false }

/-- what the simulation has seen of the visits `av` records: started vehicles, served customers, orders on board -/
structure Seen (i : Inst) (av : Nat → Bool) (o sv ob : List Nat) : Prop where
  opened  : ∀ d, d < i.K → (d ∈ o ↔ av d = false)
  served  : ∀ x, x ∈ sv ↔ (i.K ≤ x ∧ x < i.N ∧ av x = false)
  onboard : ∀ x, x ∈ ob ↔ (i.K ≤ x ∧ x < i.K + i.h ∧ av x = false ∧ av (x + i.h) = true)
  nodup   : ob.Nodup

section seen
variable {i : Inst} {av : Nat → Bool} {o sv ob : List Nat} {a : Nat}

theorem Seen.start (h : Seen i av o sv ob) (haK : a < i.K) : Seen i (upd av a false) (a :: o) sv ob := by
  refine ⟨fun d hd => ?_, fun x => ?_, fun x => ?_, h.nodup⟩
  · rw [List.mem_cons, upd_apply]
    by_cases hda : d = a
    · rw [if_pos hda]; exact ⟨fun _ => rfl, fun _ => Or.inl hda⟩
    · rw [if_neg hda, h.opened d hd]; exact ⟨fun h => h.resolve_left hda, Or.inr⟩
  · rw [h.served x]
    exact and_congr_right fun hx => by rw [upd_other _ _ _ _ (by omega)]
  · rw [h.onboard x]
    exact and_congr_right fun hx => by rw [upd_other _ _ _ _ (by omega), upd_other _ _ _ _ (by omega)]

theorem Seen.visit_customer (h : Seen i av o sv ob) (h1 : i.K ≤ a) (ha : a < i.N) :
    (∀ d, d < i.K → (d ∈ o ↔ upd av a false d = false)) ∧
    (∀ x, x ∈ a :: sv ↔ (i.K ≤ x ∧ x < i.N ∧ upd av a false x = false)) := by
  refine ⟨fun d hd => ?_, fun x => ?_⟩
  · rw [upd_other _ _ _ _ (by omega)]; exact h.opened d hd
  · rw [List.mem_cons, upd_apply]
    by_cases hxa : x = a
    · rw [if_pos hxa, hxa]; exact ⟨fun _ => ⟨h1, ha, rfl⟩, fun _ => Or.inl rfl⟩
    · rw [if_neg hxa, h.served x]; exact ⟨fun h => h.resolve_left hxa, Or.inr⟩

theorem Seen.pickup (h : Seen i av o sv ob) (h1 : i.K ≤ a) (h2 : a < i.K + i.h) (ha : a < i.N)
    (hav : av a = true) (hdel : av (a + i.h) = true) : Seen i (upd av a false) o (a :: sv) (a :: ob) := by
  obtain ⟨ho, hs⟩ := h.visit_customer h1 ha
  refine ⟨ho, hs, fun x => ?_, List.nodup_cons.mpr ⟨fun hm => ?_, h.nodup⟩⟩
  · by_cases hxa : x = a
    · rw [hxa]
      refine ⟨fun _ => ⟨h1, h2, upd_same _ _ _, ?_⟩, fun _ => List.mem_cons_self⟩
      rw [upd_other _ _ _ _ (by omega)]; exact hdel
    · rw [List.mem_cons, or_iff_right hxa, h.onboard x, upd_other _ _ _ _ hxa]
      exact and_congr_right fun hx => by rw [upd_other _ _ _ _ (by omega)]
  · have := ((h.onboard a).mp hm).2.2.1
    rw [hav] at this; cases this

theorem Seen.mem_onboard_sub (h : Seen i av o sv ob) (h1 : i.K + i.h ≤ a) (ha : a < i.K + 2 * i.h) :
    a - i.h ∈ ob ↔ av (a - i.h) = false ∧ av a = true := by
  obtain ⟨p, rfl⟩ := Nat.exists_eq_add_of_le' (Nat.le_trans (Nat.le_add_left _ _) h1)
  rw [Nat.add_sub_cancel, h.onboard]
  exact ⟨fun h => h.2.2, fun h => ⟨by omega, by omega, h⟩⟩

theorem Seen.deliver (h : Seen i av o sv ob) (h1 : i.K + i.h ≤ a) (ha : a < i.N) :
    Seen i (upd av a false) o (a :: sv) (ob.erase (a - i.h)) := by
  obtain ⟨ho, hs⟩ := h.visit_customer (by omega) ha
  refine ⟨ho, hs, fun x => ?_, h.nodup.erase _⟩
  rw [h.nodup.mem_erase_iff, h.onboard x]
  constructor
  · rintro ⟨hne, h1, h2, h3, h4⟩
    refine ⟨h1, h2, ?_, ?_⟩
    · rw [upd_other _ _ _ _ (by omega)]; exact h3
    · rw [upd_other _ _ _ _ (by omega)]; exact h4
  · rintro ⟨h1, h2, h3, h4⟩
    rw [upd_other _ _ _ _ (by omega)] at h3
    have hne : x + i.h ≠ a := fun h => by rw [h, upd_same] at h4; cases h4
    rw [upd_other _ _ _ _ hne] at h4
    exact ⟨by omega, h1, h2, h3, h4⟩

end seen

theorem lateSum_stepF (tok : Bool) (i : Inst) (s : State) (a : Nat) (ha : a < i.N) :
    lateSum i (stepF tok i s a) =
      lateSum i s + (if i.K + i.h ≤ a then (stepF tok i s a).len (stepF tok i s a).depot - s.arrive a else 0) := by
  simp only [lateSum, stepF_arrive]
  rw [← pd_eq]
  by_cases hp : i.pd ≤ a
  · obtain ⟨k, rfl⟩ := Nat.exists_eq_add_of_le hp
    have hfun : ∀ v, (fun k' => upd s.arrive (i.pd + k) v (i.pd + k')) = upd (fun k' => s.arrive (i.pd + k')) k v := by
      intro v
      funext k'
      simp only [upd_apply, Nat.add_left_cancel_iff]
    rw [hfun, sum_range_upd _ _ k _ (by omega), if_pos hp]
  · rw [if_neg hp, Int.add_zero]
    congr 1
    exact List.map_congr_left fun k _ => upd_other _ _ _ _ (by omega)

/-- the invariant the refinement carries: `InvPh`; the slots and arrival records no step has written are zero; between two
tours the row stands at its current depot -/
structure InvR (tok : Bool) (i : Inst) (b : Bool) (s : State) : Prop extends InvPh tok i b s where
  /-- as coded only slot 0 is ever charged -/
  idle    : tok = false → ∀ d, d ≠ 0 → s.len d = 0
  /-- for the clock when a vehicle starts under the intended rule: its clock, 0, is its slot's length -/
  fresh   : ∀ d, d < i.K → s.avail d = true → s.len d = 0
  arrive  : ∀ x, i.K ≤ x → s.avail x = true → s.arrive x = 0
  homePos : b = true → s.cur = s.depot

theorem invR_reset (tok : Bool) (i : Inst) (hwf : WF i) : InvR tok i true (reset i) :=
  { invPh_reset i hwf with
    idle := fun _ _ _ => rfl, fresh := fun _ _ _ => rfl, arrive := fun _ _ _ => rfl, homePos := fun _ => hwf.start0.symm }

theorem invR_stepF {tok : Bool} {i : Inst} {b : Bool} {s : State} {a : Nat} (hwf : WFT tok i) (hi : InvR tok i b s)
    (ha : a < i.N) (hm : s.mask a = true) : InvR tok i (backFlag i s a) (stepF tok i s a) := by
  have hk := hi.offered hwf ha hm
  have hinv := invPh_stepF hwf hi.toInvPh ha hm
  have hz := (stepped_stepF hwf hi.toInvPh ha hm).zero
  refine { hinv with idle := fun ht d hd => ?_, fresh := fun d hd hav => ?_, arrive := fun x hx hav => ?_,
                     homePos := fun hb => ?_ }
  · rw [stepF_len, hinv.inv.dep0 (Or.inl ht), upd_other _ _ _ _ hd]
    exact hi.idle ht d hd
  · have hne : d ≠ (stepF tok i s a).depot := fun h => by rw [h, hz] at hav; cases hav
    rw [stepF_len, upd_other _ _ _ _ hne]
    rw [stepF_avail, upd_apply] at hav
    split at hav
    · cases hav
    · exact hi.fresh d hd hav
  · rw [stepF_avail, upd_apply] at hav
    split at hav
    · cases hav
    · rw [stepF_arrive, upd_other _ _ _ _ (by assumption)]; exact hi.arrive x hx hav
  · show a = _
    rw [hk.depot]
    split
    · rfl
    · exact (hk.of_back hb).1

/-- the per-slot lengths agree and the clock is the length of the current slot: a slot is charged only while its vehicle is
out, and a clock restarted under the intended rule starts on a slot nothing has been charged to -/
structure Clocks (s : State) (lens : Nat → Int) (clock : Int) : Prop where
  lens  : ∀ d, lens d = s.len d
  clock : clock = s.len s.depot

section clocks
variable {tok : Bool} {i : Inst} {s : State} {a : Nat} {lens : Nat → Int} {clock : Int}

/-- a move that costs nothing; `c0` is the clock that runs on, or 0 for the vehicle that starts under the intended rule -/
theorem Clocks.stay (h : Clocks s lens clock) (hx : leg i s.cur a = 0) {c0 : Int}
    (hc : c0 = s.len (stepF tok i s a).depot) : Clocks (stepF tok i s a) lens c0 := by
  have e : (stepF tok i s a).len = s.len := by rw [stepF_len, hx, Int.add_zero]; exact upd_self _ _
  exact ⟨fun d => by rw [e]; exact h.lens d, by rw [e]; exact hc⟩

/-- the leg is charged to the slot of the current depot, which stays the current one -/
theorem Clocks.charge (h : Clocks s lens clock) (hd : (stepF tok i s a).depot = s.depot) {slot : Nat} {x : Int}
    (hs : slot = s.depot) (hx : x = leg i s.cur a) : Clocks (stepF tok i s a) (addLen lens slot x) (clock + x) := by
  refine ⟨fun d => ?_, ?_⟩
  · rw [stepF_len, hd, hs, hx, upd_apply]
    unfold addLen
    split
    · subst_vars; rw [h.lens]
    · exact h.lens d
  · rw [stepF_len, hd, upd_same, hx, h.clock]

end clocks

/-- a reachable state under the `current_depot` rule `tok` with its phase bit (`b` = no vehicle is out, see `Phase`) and what
ties it to the state of the simulation under `vOf tok` -/
structure RelT (tok : Bool) (i : Inst) (b : Bool) (s : State) (σ : Sim) : Prop where
  inv     : InvR tok i b s
  err     : σ.err = 0
  seen    : Seen i s.avail σ.opened σ.served σ.onboard
  /-- not implied by `Seen.opened`, which speaks of depots only -/
  openedK : ∀ d, d ∈ σ.opened → d < i.K
  carry   : (σ.onboard.length : Int) = s.carry
  vehNone : b = true → σ.veh = none
  vehSome : b = false → ∃ d, σ.veh = some d ∧ (tok = true → d = s.depot)
  pos     : σ.pos = s.cur
  clocks  : Clocks s σ.lens σ.clock
  late    : σ.late = lateSum i s

theorem RelT.invX {tok : Bool} {i : Inst} {b : Bool} {s : State} {σ : Sim} (hr : RelT tok i b s σ) : InvX i s :=
  hr.inv.inv.invX

/- Cases on `Offered`: in each case `simStep` is rewritten by its branch lemma; the state side is `invR_stepF`, the lengths and the
clock are `Clocks.stay` (nothing is charged) or `Clocks.charge`. -/
theorem rel_stepT {tok : Bool} {i : Inst} {b : Bool} {s : State} {σ : Sim} {a : Nat} (hwf : WFT tok i)
    (hr : RelT tok i b s σ) (ha : a < i.N) (hm : s.mask a = true) :
    RelT tok i (backFlag i s a) (stepF tok i s a) (simStep (problemOf i) (vOf tok) σ a) := by
  have hi := hr.inv.inv
  have hx := hi.invX
  have hdK := hx.depK
  have hk := hr.inv.offered hwf ha hm
  have hinv := invR_stepF hwf hr.inv ha hm
  have hdep := hk.depot (tok := tok)
  have haN : a < (problemOf i).N := by rw [problemOf_N hwf.wf]; exact ha
  have hlate : a < i.K + i.h → σ.late = lateSum i (stepF tok i s a) := by
    intro h
    rw [lateSum_stepF tok i s a ha, if_neg (Nat.not_le.mpr h), Int.add_zero]; exact hr.late
  -- the vehicle that is out is charged to the slot, and limited by the capacity, of the current depot
  have hslot : ∀ d, (tok = true → d = s.depot) → (if tok = true then d else 0) = s.depot := by
    intro d hd
    split
    · exact hd (by assumption)
    · exact (hi.dep0 (Or.inl (eq_false_of_ne_true (by assumption)))).symm
  cases hk with
  | start haK hav hb hc =>
    have hcur : s.cur < i.K := by rw [hr.inv.homePos hb]; exact hdK
    have hno : a ∉ σ.opened := fun h => by have := (hr.seen.opened a haK).mp h; rw [hav] at this; cases this
    rw [simStep_start (vOf tok) hr.err haN haK hno (hr.vehNone hb), backFlag_of_avail hav]
    exact
      { hr with
        inv := backFlag_of_avail hav ▸ hinv
        seen := hr.seen.start haK
        openedK := fun d hd => by
          rcases List.mem_cons.mp hd with h | h
          · rw [h]; exact haK
          · exact hr.openedK d h
        carry := by rw [stepF_carry_depot tok s haK]; exact hr.carry
        vehNone := fun h => nomatch h
        vehSome := fun _ => ⟨a, rfl, fun ht => by rw [hdep, if_pos ⟨ht, haK⟩]⟩
        pos := rfl
        clocks := hr.clocks.stay (leg_depots i haK hcur) <| by
          show (if tok = true then 0 else σ.clock) = _
          rw [hdep]
          split
          · rw [if_pos ⟨by assumption, haK⟩, hr.inv.fresh a haK hav]
          · rw [if_neg (fun h => absurd h.1 (by assumption))]
            exact hr.clocks.clock
        late := hlate (Nat.lt_add_right _ haK) }
  | home hav hc hb' =>
    have hdep' : (stepF tok i s s.depot).depot = s.depot := by rw [hdep, ite_self]
    have hop : s.depot ∈ σ.opened := (hr.seen.opened _ hdK).mpr hav
    have hseen : Seen i (upd s.avail s.depot false) σ.opened σ.served σ.onboard := by
      rw [upd_false_same hav]; exact hr.seen
    have hcarry : (σ.onboard.length : Int) = (stepF tok i s s.depot).carry := by
      rw [stepF_carry_depot tok s hdK]; exact hr.carry
    rw [backFlag_of_visited hdK hav]
    cases b with
    | true =>
      have hcur := hr.inv.homePos rfl
      rw [simStep_wait (vOf tok) hr.err haN hdK hop (hr.vehNone rfl) (by rw [hr.pos, hcur])]
      exact
        { hr with
          inv := backFlag_of_visited hdK hav ▸ hinv
          seen := hseen
          carry := hcarry
          vehSome := fun h => nomatch h
          pos := by rw [hr.pos, hcur]; rfl
          clocks := hr.clocks.stay (leg_depots i hdK (hcur ▸ hdK)) (by rw [hdep']; exact hr.clocks.clock)
          late := hlate (Nat.lt_add_right _ hdK) }
    | false =>
      obtain ⟨d, hvd, hdd⟩ := hr.vehSome rfl
      have hon : σ.onboard = [] := by
        have := hr.carry; rw [hc] at this
        exact List.eq_nil_of_length_eq_zero (by omega)
      rw [simStep_return (vOf tok) hr.err haN hdK hop hvd hon (fun ht => (hdd ht).symm)]
      exact
        { hr with
          inv := backFlag_of_visited hdK hav ▸ hinv
          seen := hseen
          carry := hcarry
          vehNone := fun _ => rfl
          vehSome := fun h => nomatch h
          pos := rfl
          clocks := hr.clocks.charge hdep' (hslot d hdd) (by rw [leg_depot i s.cur hdK, hr.pos]; rfl)
          late := hlate (Nat.lt_add_right _ hdK) }
  | pickup h1 h2 hb hav hcap =>
    subst hb
    have hdep' : (stepF tok i s a).depot = s.depot := by rw [hdep, if_neg (fun h => Nat.not_lt.mpr h1 h.2)]
    obtain ⟨d, hvd, hdd⟩ := hr.vehSome rfl
    have hns : a ∉ σ.served := fun h => by have := ((hr.seen.served a).mp h).2.2; rw [hav] at this; cases this
    have hc : (σ.onboard.length : Int) + 1 ≤ (if tok = true then i.cap d else i.cap 0) := by
      rw [← apply_ite i.cap, hslot d hdd, hr.carry]; omega
    rw [simStep_pickup (p := problemOf i) (vOf tok) hr.err h1 h2 hvd hns hc, backFlag_of_avail hav]
    exact
      { hr with
        inv := backFlag_of_avail hav ▸ hinv
        seen := hr.seen.pickup h1 h2 ha hav (hx.delAfter a h1 h2 hav)
        carry := by
          show (((a :: σ.onboard).length : Nat) : Int) = _
          rw [stepF_carry_pickup tok s h1 h2, List.length_cons, ← hr.carry]; omega
        vehNone := fun h => nomatch h
        vehSome := fun _ => ⟨d, hvd, fun ht => by rw [hdep']; exact hdd ht⟩
        pos := rfl
        clocks := hr.clocks.charge hdep' (hslot d hdd) (by rw [leg_customer i s.cur (Nat.not_lt.mpr h1), hr.pos]; rfl)
        late := hlate h2 }
  | deliver h hb hav hpk =>
    subst hb
    have h1 : i.K ≤ a := Nat.le_trans (Nat.le_add_right _ _) h
    have hdep' : (stepF tok i s a).depot = s.depot := by rw [hdep, if_neg (fun h => Nat.not_lt.mpr h1 h.2)]
    obtain ⟨d, hvd, hdd⟩ := hr.vehSome rfl
    have hns : a ∉ σ.served := fun h => by have := ((hr.seen.served a).mp h).2.2; rw [hav] at this; cases this
    have hon : a - i.h ∈ σ.onboard := (hr.seen.mem_onboard_sub h (hwf.wf.even ▸ ha)).mpr ⟨hpk, hav⟩
    rw [simStep_deliver (vOf tok) hr.err haN h hvd hns hon, backFlag_of_avail hav]
    have hclk := hr.clocks.charge (tok := tok) hdep' (hslot d hdd)
      (show i.D σ.pos a = leg i s.cur a by rw [leg_customer i s.cur (Nat.not_lt.mpr h1), hr.pos])
    exact
      { hr with
        inv := backFlag_of_avail hav ▸ hinv
        seen := hr.seen.deliver h ha
        carry := by
          show (((σ.onboard.erase (a - i.h)).length : Nat) : Int) = _
          have := List.length_pos_of_mem hon
          rw [stepF_carry_delivery tok s h, List.length_erase_of_mem hon, ← hr.carry]; omega
        vehNone := fun h => nomatch h
        vehSome := fun _ => ⟨d, hvd, fun ht => by rw [hdep']; exact hdd ht⟩
        pos := rfl
        clocks := hclk
        late := by
          show σ.late + (σ.clock + i.D σ.pos a) = _
          rw [lateSum_stepF tok i s a ha, if_pos h, ← hclk.clock, hr.inv.arrive a h1 hav, hr.late, Int.sub_zero] }

theorem relT_reset (tok : Bool) (i : Inst) (hwf : WF i) : RelT tok i true (reset i) {} where
  inv := invR_reset tok i hwf
  err := rfl
  seen := ⟨fun _ _ => ⟨(nomatch ·), fun h => Bool.noConfusion (h : true = false)⟩,
    fun _ => ⟨(nomatch ·), fun h => Bool.noConfusion (h.2.2 : true = false)⟩,
    fun _ => ⟨(nomatch ·), fun h => Bool.noConfusion (h.2.2.1 : true = false)⟩, List.nodup_nil⟩
  openedK := fun _ h => nomatch h
  carry := rfl
  vehNone := fun _ => rfl
  vehSome := fun h => nomatch h
  pos := rfl
  clocks := ⟨fun _ => rfl, rfl⟩
  late := (sum_map_zero _).symm

/-- **Refinement.**  Along every mask-confined run the Spec simulation under `vOf tok` carries the same
bookkeeping as the environment and never fails. -/
theorem sim_refinesT {tok : Bool} {i : Inst} (hwf : WFT tok i) {as : List Nat} {s : State}
    (h : Run (envF tok) i (reset i) as s) :
    ∃ b, RelT tok i b s (simOf i (vOf tok) as) ∧ (as ≠ [] → Stepped i b s) :=
  Rl4co.inv_of_run (e := envF tok) (i := i)
    (Inv := fun s hist => ∃ b, RelT tok i b s (simOf i (vOf tok) hist) ∧ (hist ≠ [] → Stepped i b s))
    ⟨true, relT_reset tok i hwf.wf, fun h => absurd rfl h⟩
    (fun s hist a ⟨b, hr, _⟩ ha hm =>
      ⟨_, by rw [simOf, List.foldl_append]; exact rel_stepT hwf hr ha hm, fun _ => stepped_stepF hwf hr.inv.toInvPh ha hm⟩) h

section finished
variable {tok : Bool} {i : Inst} {s : State}

theorem done_iff_allDone {σ : Sim} (hwf : WF i) (hi : InvX i s)
    (hs : Seen i s.avail σ.opened σ.served σ.onboard) :
    s.done = allDone (problemOf i) σ := by
  have hev := hwf.even
  rw [Bool.eq_iff_iff, allDone, Bool.and_eq_true, List.all_eq_true, List.all_eq_true]
  constructor
  · intro hd
    have hall := avail_of_done hi hd
    refine ⟨fun d hd => ?_, fun k hk => ?_⟩
    · have hd' : d < i.K := List.mem_range.mp hd
      exact decide_eq_true ((hs.opened d hd').mpr (hall d (hwf.depot_lt hd')))
    · have hk' : k < 2 * i.h := List.mem_range.mp hk
      exact decide_eq_true ((hs.served (i.K + k)).mpr ⟨by omega, by omega, hall (i.K + k) (by omega)⟩)
  · rintro ⟨h1, h2⟩
    have : anyIn i.N s.avail = false := by
      apply anyIn_eq_false.mpr
      intro j hj
      by_cases hjK : j < i.K
      · exact (hs.opened j hjK).mp (of_decide_eq_true (h1 j (List.mem_range.mpr hjK)))
      · obtain ⟨k, rfl⟩ := Nat.exists_eq_add_of_le (Nat.le_of_not_lt hjK)
        exact ((hs.served _).mp (of_decide_eq_true (h2 k (List.mem_range.mpr (by show k < 2 * i.h; omega))))).2.2
    rw [hi.doneEq, this]; rfl

theorem end_facts {σ : Sim} (hwf : WF i) (hi : InvX i s) (hr : Seen i s.avail σ.opened σ.served σ.onboard)
    (hd : s.done = true) :
    σ.onboard = [] ∧
      (List.range (2 * (problemOf i).h)).all (fun k => decide ((problemOf i).K + k ∈ σ.served)) = true := by
  have hev := hwf.even
  have hall : allDone (problemOf i) σ = true := by rw [← done_iff_allDone hwf hi hr]; exact hd
  refine ⟨List.eq_nil_iff_forall_not_mem.mpr fun x hx => ?_, (Bool.and_eq_true _ _ ▸ hall).2⟩
  have := (hr.onboard x).mp hx
  rw [avail_of_done hi hd (x + i.h) (by omega)] at this
  cases this.2.2.2

theorem simEnd_of_done (hwf : WF i) {b : Bool} {σ : Sim} (hr : RelT tok i b s σ) (hd : s.done = true) :
    simEnd (problemOf i) (vOf tok) σ = σ := by
  obtain ⟨hon, hserved⟩ := end_facts hwf hr.invX hr.seen hd
  simp only [simEnd, hr.err, ne_eq, not_true_eq_false, if_false, hon, hserved, Bool.not_true,
    Bool.false_eq_true, vOf, Bool.false_and]
  cases σ.veh <;> rfl

theorem verdict_of_runT (hwf : WFT tok i) {as : List Nat} (h : Run (envF tok) i (reset i) as s)
    (hd : s.done = true) : verdict (problemOf i) (vOf tok) as = 0 := by
  obtain ⟨b, hr, _⟩ := sim_refinesT hwf h
  show (simEnd (problemOf i) (vOf tok) (simOf i (vOf tok) as)).err = 0
  rw [simEnd_of_done hwf.wf hr hd]; exact hr.err

theorem maxList1_eq (l : List Int) : Rl4co.Mdcpdp.maxList1 l = Rl4co.Spec.Mdcpdp.maxList1 l := by
  induction l with
  | nil => rfl
  | cons x xs ih =>
    cases xs with
    | nil => rfl
    | cons y ys => simp only [Rl4co.Mdcpdp.maxList1, Rl4co.Spec.Mdcpdp.maxList1, ih]

theorem reward_eq_objT (m : Mode) (hwf : WFT tok i) {as : List Nat} (h : Run (envF tok) i (reset i) as s)
    (hd : s.done = true) : reward m i s = - objOf (modeIdx m) (problemOf i) (vOf tok) as := by
  obtain ⟨b, hr, _⟩ := sim_refinesT hwf h
  have hsim : sim (problemOf i) (vOf tok) as = simOf i (vOf tok) as := simEnd_of_done hwf.wf hr hd
  have hlens : perDepot (problemOf i) (vOf tok) as = lens i s := by
    simp only [perDepot, hsim, lens, hwf.wf.kg]
    exact List.map_congr_left (fun d _ => hr.clocks.lens d)
  cases m with
  | minmax => simp only [reward, objOf, modeIdx, objMinmax, hlens, maxList1_eq, if_true]
  | minsum => simp [reward, objOf, modeIdx, objMinsum, hlens]
  | lateness =>
    simp only [reward, objOf, modeIdx, objLateness, objMinsum, hlens, hsim, hr.late]
    simp [problemOf]

theorem feasible_of_run_intended (hwf : WFT true i) {as : List Nat} (h : Run (envF true) i (reset i) as s)
    (hd : s.done = true) : Feasible (problemOf i) as := by
  obtain ⟨b, hr, _⟩ := sim_refinesT hwf h
  -- the step function of the Spec does not look at `chargeLast`
  have e : as.foldl (simStep (problemOf i) {}) {} = simOf i (vOf true) as := rfl
  rw [feasible_iff_err, e]
  exact (simEnd_err_zero_iff _ {} hr.err).mpr (end_facts hwf.wf hr.invX hr.seen hd)

theorem reward_eq_objective_open_intended (m : Mode) (hwf : WFT true i) (hopen : i.openMode = true)
    {as : List Nat} (h : Run (envF true) i (reset i) as s) (hd : s.done = true) :
    reward m i s = - objOf (modeIdx m) (problemOf i) {} as := by
  rw [reward_eq_objT m hwf h hd]
  have hend : ∀ σ : Sim, simEnd (problemOf i) {} σ = simEnd (problemOf i) (vOf true) σ := by
    intro σ
    have ho : (problemOf i).openMode = true := hopen
    simp [simEnd, ho, vOf]
  have hs : sim (problemOf i) {} as = sim (problemOf i) (vOf true) as := by
    have e : as.foldl (simStep (problemOf i) {}) {} = as.foldl (simStep (problemOf i) (vOf true)) {} := rfl
    simp only [sim, e, hend]
  simp only [objOf, objMinmax, objMinsum, objLateness, perDepot, hs]

end finished

/-- what ties an environment state (after at least one step, `b` = the last step was a return) to the
simulation state -/
structure Rel (i : Inst) (b : Bool) (s : State) (σ : Sim) : Prop where
  mask    : s.mask = maskOf i b s.avail s.toDeliver s.carry 0 s.done
  err     : σ.err = 0
  opened  : ∀ d, d < i.K → (d ∈ σ.opened ↔ s.avail d = false)
  veh     : (b = true → σ.veh = none) ∧ (b = false → ∃ d, σ.veh = some d)
  onboard : ∀ x, x ∈ σ.onboard ↔ (i.K ≤ x ∧ x < i.K + i.h ∧ s.avail x = false ∧ s.avail (x + i.h) = true)
  nodup   : σ.onboard.Nodup
  carry   : (σ.onboard.length : Int) = s.carry
  served  : ∀ x, x ∈ σ.served ↔ (i.K ≤ x ∧ x < i.N ∧ s.avail x = false)
  pos     : σ.pos = s.cur
  homePos : b = true → s.cur = 0
  lens0   : σ.lens 0 = s.len 0
  lensD   : ∀ d, d ≠ 0 → σ.lens d = 0 ∧ s.len d = 0
  clock   : σ.clock = s.len 0
  late    : σ.late = lateSum i s
  arrive  : ∀ x, i.K ≤ x → s.avail x = true → s.arrive x = 0
  zero    : s.avail 0 = false

theorem Rel.seen {i : Inst} {b : Bool} {s : State} {σ : Sim} (hr : Rel i b s σ) :
    Seen i s.avail σ.opened σ.served σ.onboard :=
  ⟨hr.opened, hr.served, hr.onboard, hr.nodup⟩

theorem RelT.toRel {i : Inst} {b : Bool} {s : State} {σ : Sim} (hst : Stepped i b s)
    (hr : RelT false i b s σ) : Rel i b s σ := by
  have hi := hr.inv.inv
  have hm := hst.mask
  have hz := hst.zero
  have hh := hr.inv.homePos
  have hc := hr.clocks.clock
  rw [hi.dep0 (Or.inl rfl)] at hm hz hh hc
  exact
    { mask := hm, err := hr.err, opened := hr.seen.opened
      veh := ⟨hr.vehNone, fun h => (hr.vehSome h).imp fun _ h => h.1⟩
      onboard := hr.seen.onboard, nodup := hr.seen.nodup, carry := hr.carry, served := hr.seen.served
      pos := hr.pos, homePos := hh, lens0 := hr.clocks.lens 0
      lensD := fun d hd => ⟨(hr.clocks.lens d).trans (hr.inv.idle rfl d hd), hr.inv.idle rfl d hd⟩
      clock := hc, late := hr.late, arrive := hr.inv.arrive, zero := hz }

theorem sim_refines (i : Inst) (hwf : WF i) {as : List Nat} {s : State}
    (h : Run env i (env.reset i) as s) :
    Inv i s ∧ (as ≠ [] → ∃ b, Rel i b s (simOf i v0 as)) := by
  obtain ⟨b, hr, hst⟩ := sim_refinesT hwf.toT (env_eq ▸ h)
  exact ⟨hr.inv.inv, fun hne => ⟨b, hr.toRel (hst hne)⟩⟩

/-- **Finished episodes are `v0`-feasible**: the code deviates from the problem statement by
the four clauses of `v0` only. -/
theorem verdict_v0_of_run (i : Inst) (hwf : WF i) {as : List Nat} {s : State}
    (h : Run env i (env.reset i) as s) (hd : env.done i s = true) :
    verdict (problemOf i) v0 as = 0 :=
  verdict_of_runT hwf.toT (env_eq ▸ h) hd

/-- **All three rewards are minus the `v0` objectives** (every finished mask-confined run, open or
close mode, any number of depots). -/
theorem reward_eq_obj_v0 (m : Mode) (i : Inst) (hwf : WF i) {as : List Nat} {s : State}
    (h : Run env i (env.reset i) as s) (hd : env.done i s = true) :
    reward m i s = - objOf (modeIdx m) (problemOf i) v0 as :=
  reward_eq_objT m hwf.toT (env_eq ▸ h) hd

theorem depot_single {i : Inst} (hK : i.K = 1) {s : State} (hs : s.depot = 0) (tok : Bool) (a : Nat) :
    (stepF tok i s a).depot = 0 := by
  rw [stepF_depot]
  split
  · have := depotSel_lt (by assumption); omega
  · exact hs

theorem run_intended_of_single {i : Inst} (hK : i.K = 1) {s s' : State} {as : List Nat}
    (h : Run (envF false) i s as s') (hs : s.depot = 0) : Run (envF true) i s as s' := by
  induction h with
  | nil s => exact Run.nil s
  | @cons s s' a as ha hm _ ih =>
    have e : stepF false i s a = stepF true i s a :=
      stepF_congr i s a ((depot_single hK hs false a).trans (depot_single hK hs true a).symm)
    refine Run.cons ha hm ?_
    show Run (envF true) i (stepF true i s a) as s'
    rw [← e]; exact ih (depot_single hK hs false a)

theorem wft_single {i : Inst} (hwf : WF i) (hK : i.K = 1) : WFT true i :=
  ⟨hwf, fun _ d hd => by rw [show d = 0 by omega]; exact hwf.cap0⟩

/-- **C01 (MDCPDP), single depot: the full problem statement holds.** -/
theorem feasible_of_run_single_depot (i : Inst) (hwf : WF i) (hK : i.K = 1) {as : List Nat} {s : State}
    (h : Run env i (env.reset i) as s) (hd : env.done i s = true) : Feasible (problemOf i) as :=
  feasible_of_run_intended (wft_single hwf hK) (run_intended_of_single hK (env_eq ▸ h) hwf.start0) hd

/-- **C03 (MDCPDP), single depot, open mode: reward = −objective of the problem as stated, for minmax,
minsum and lateness.** -/
theorem reward_eq_objective_single_open (m : Mode) (i : Inst) (hwf : WF i) (hK : i.K = 1)
    (hopen : i.openMode = true) {as : List Nat} {s : State}
    (h : Run env i (env.reset i) as s) (hd : env.done i s = true) :
    reward m i s = - objOf (modeIdx m) (problemOf i) {} as :=
  reward_eq_objective_open_intended m (wft_single hwf hK) hopen
    (run_intended_of_single hK (env_eq ▸ h) hwf.start0) hd

/-- Non-vacuity: a single-depot open-mode instance with a finished run. -/
def exOne : Inst :=
  { N := 5, K := 1, split0 := 3, KG := 1, cap := fun _ => 1, D := fun a b => if a = b then 0 else 1,
    openMode := true, wNum := 1, wDen := 2 }
example : WF exOne := by decide
example : Run env exOne (env.reset exOne) [0, 1, 3, 2, 4] (exec env exOne (env.reset exOne) [0, 1, 3, 2, 4]) ∧
    env.done exOne (exec env exOne (env.reset exOne) [0, 1, 3, 2, 4]) = true :=
  ⟨.of_admitted (by decide), by decide⟩

end Rl4co.Mdcpdp
