/-
C03 for mTSP (code after the repairs 0b6c547 / 894138a in /repo, DESIGN §8.1).

`minmax`: the reward read from the incrementally maintained `max_subtour_length` equals minus the
longest closed tour of the executed solution, for EVERY finished mask-confined run — including runs
that keep being stepped with the depot after `done` (padding while batch-mates run): the closing leg of
the last tour enters the running maximum but is not stored in `current_length`, so a padding step
cannot add it twice (`reward_minmax_eq_objective`).

`sum`: the depot is prepended to the action list, so the gather / roll / sum idiom measures the sum of
the closed tour lengths for action lists of ANY length (`reward_sum_eq_objective`).
-/
import Rl4co.Proofs.Mtsp

namespace Rl4co.Mtsp
open Rl4co.Spec.Mtsp

/-- The longest closed tour among the one in progress — the salesman stands at `p` and has driven `c`
since the depot; the first route of `as` completes it — and those that the later routes of `as` make. -/
def openMax (D : Nat → Nat → Int) (p : Nat) (c : Int) (as : List Nat) : Int :=
  max (c + pathLen D (p :: firstRoute as ++ [0])) (maxList ((restRoutes as).map (routeLen D)))

theorem openMax_nil (D : Nat → Nat → Int) (p : Nat) (c : Int) : openMax D p c [] = max (c + D p 0) 0 := by
  show max (c + (D p 0 + 0)) 0 = _
  rw [Int.add_zero]

theorem openMax_cons_zero (D : Nat → Nat → Int) (h00 : D 0 0 = 0) (p : Nat) (c : Int) (as : List Nat) :
    openMax D p c (0 :: as) = max (c + D p 0) (openMax D 0 0 as) := by
  rw [openMax, openMax, firstRoute_zero_cons, restRoutes_zero_cons, routes_eq, List.map_cons, maxList,
    routeLen_eq_pathLen D h00, Int.zero_add]
  show max (c + (D p 0 + 0)) _ = _
  rw [Int.add_zero]

theorem openMax_cons_ne (D : Nat → Nat → Int) (p : Nat) (c : Int) {a : Nat} (h0 : a ≠ 0)
    (as : List Nat) : openMax D p c (a :: as) = openMax D a (c + D p a) as := by
  rw [openMax, openMax, firstRoute_cons h0, restRoutes_cons h0, Int.add_assoc]
  rfl

theorem le_openMax (D : Nat → Nat → Int) (hD : ∀ a b, 0 ≤ D a b) (as : List Nat) (p : Nat) (c : Int) :
    c ≤ openMax D p c as :=
  Int.le_trans (Int.le_add_of_nonneg_right (pathLen_nonneg hD _)) (Int.le_max_left _ _)


/-- The refinement, generalised over the start state: along ANY mask-confined run that ends finished
(steps from finished states included), `max_subtour_length` ends up as the maximum of its old value
and of the longest closed tour that the current position and the remaining actions make.  Of the
start state it needs the length bookkeeping and that, if finished, it offers no customer.  It looks forward (the actions
to come) where the other families' reward refinements look back (the history): the run may go on after `done` (padding),
and what a padding step does is read off the state it starts from. -/
theorem maxLen_of_run (i : Inst) (hwf : WFD i) {s s' : State} {as : List Nat}
    (h : Run env i s as s') (hs' : s'.done = true)
    (hno : s.done = true → ∀ j, 1 ≤ j → j ≤ i.n → s.avail j = false) (hp : InvLen i s) :
    s'.maxLen = max s.maxLen (openMax i.D s.cur s.curLen as) := by
  obtain ⟨hD, h00⟩ := hwf
  induction h with
  | nil s => rw [openMax_nil, Int.max_eq_left (Int.max_le.mpr ⟨hp.closedIn hs', hp.maxNonneg⟩)]
  | @cons s s' a as ha hm hrest ih =>
    have ih := ih hs' step_done_true (invLen_step h00 hp)
    rw [show env.step i s a = step i s a from rfl, step_maxLen, step_cur, step_curLen] at ih
    rw [ih]
    by_cases h0 : a = 0
    · subst h0
      rw [if_pos rfl, openMax_cons_zero i.D h00, h00, ite_self, Int.add_zero, Int.max_assoc]
    · -- the leg just driven (and the closing leg, if the episode ends here) is part of what is to come
      rw [if_neg h0, openMax_cons_ne i.D s.cur s.curLen h0, Int.max_assoc]
      refine congrArg _ (Int.max_eq_right ?_)
      cases hd1 : (step i s a).done with
      | false =>
        rw [if_neg Bool.false_ne_true, Int.add_zero]
        exact le_openMax i.D hD as a _
      | true =>
        -- the rest of the run is padding: it is empty or starts with the depot
        rw [if_pos rfl]
        cases hrest with
        | nil =>
          rw [openMax_nil]
          exact Int.le_max_left _ _
        | cons hb hmb _ =>
          have := depot_of_none_left (step_done_true hd1) hb hmb
          subst this
          rw [openMax_cons_zero i.D h00]
          exact Int.le_max_left _ _

theorem openMax_eq_objMinmax (i : Inst) (hwf : WFD i) (as : List Nat) :
    openMax i.D 0 0 as = objMinmax i as := by
  rw [openMax, objMinmax, routes_eq, List.map_cons, maxList, routeLen_eq_pathLen i.D hwf.depot, Int.zero_add]

/-- **C03 (mTSP, minmax): reward = −(longest closed tour) for EVERY finished mask-confined run,
padding included.** -/
theorem reward_minmax_eq_objective (i : Inst) (hwf : WFD i) (hm : 1 ≤ i.m) {as : List Nat} {s : State}
    (h : Run env i (env.reset i) as s) (hd : env.done i s = true) :
    rewardMinmax s = - objMinmax i as := by
  have hmax := maxLen_of_run i hwf h hd (fun hd => by cases hd) (invLen_reset i)
  rw [rewardMinmax, hmax, ← openMax_eq_objMinmax i hwf]
  exact congrArg Neg.neg (Int.max_eq_right (le_openMax i.D hwf.nonneg as 0 0))

/-- **C03 (mTSP, sum): reward = −(summed closed tour lengths) for EVERY action list.** -/
theorem reward_sum_eq_objective (i : Inst) (h00 : i.D 0 0 = 0) (as : List Nat) :
    rewardSum i as = - objSum i as := by
  rw [rewardSum, objSum, rollLen_depot_eq_routesLen i.D h00]

/-- the instance on which the unfixed code failed: one customer at distance 1 -/
def exInst : Inst := ⟨1, 1, fun a b => if a = b then 0 else 1⟩

/-- Non-vacuity: a finished run WITH a padding step (the regression witness of 0b6c547: reward −2,
not −3), and the two-tour list on which the unfixed `sum` reward was wrong (regression of 894138a). -/
example : Run env exInst (env.reset exInst) [1, 0] (exec env exInst (env.reset exInst) [1, 0]) ∧
    env.done exInst (exec env exInst (env.reset exInst) [1, 0]) = true ∧
    rewardMinmax (exec env exInst (env.reset exInst) [1, 0]) = -2 :=
  ⟨.of_admitted (by decide), by decide, by decide⟩
example : rewardSum ⟨2, 2, fun a b => if a ≤ b then (b - a : Nat) else (a - b : Nat)⟩ [1, 0, 2] = -6 := by
  decide

end Rl4co.Mtsp
