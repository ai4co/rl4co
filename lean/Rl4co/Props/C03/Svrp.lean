/-
C03 for SVRP: the reward computed by `_get_reward` — distances between `[depot] ++ actions` and its
roll, multiplied entry-wise by the cost row that the Python loop over the depot positions writes — is
minus Σ_k cost_k · (closed length of route k), route k being driven by technician k, for EVERY action
list, provided the depot has distance 0 to itself.  (The real code indexes `tech_costs[#depot visits]`
and raises when that reaches T; inside a batch loop it does not, see C02 `tech_lt_of_run`.)
-/
import Rl4co.Spec.Svrp

namespace Rl4co.Svrp
open Rl4co.Spec.Svrp

theorem weighted_cons (i : Inst) (k : Nat) (r : List Nat) (rs : List (List Nat)) :
    weighted i k (r :: rs) = i.costs k * routeLen i.D r + weighted i (k + 1) rs := rfl

/-- legs zipped with the cost row, from node `x` with technician `tech` on duty: the route in progress is charged to
`tech`, the later routes to the technicians after him -/
theorem zip_costRow_routes (i : Inst) (h00 : i.D 0 0 = 0) (as : List Nat) : ∀ tech x,
    (List.zipWith (· * ·) (List.zipWith (fun a b => i.D a b) (x :: as) (as ++ [0])) (costRow i tech as)).sum
      = i.costs tech * pathLen i.D (x :: firstRoute as ++ [0]) + weighted i (tech + 1) (restRoutes as) := by
  induction as with
  | nil =>
    intro tech x
    show i.D x 0 * i.costs tech + 0 = i.costs tech * (i.D x 0 + 0) + 0
    rw [Int.add_zero, Int.add_zero, Int.add_zero, Int.mul_comm]
  | cons a as ih =>
    intro tech x
    simp only [List.cons_append, List.zipWith_cons_cons, costRow, List.sum_cons]
    rw [ih]
    by_cases h0 : a = 0
    · subst h0
      rw [if_pos rfl, firstRoute_zero_cons, restRoutes_zero_cons, routes_eq, weighted_cons, routeLen_eq_pathLen i.D h00,
        Int.mul_comm]
      exact congrArg (fun t => i.costs tech * t + _) (pathLen_pair i.D x 0).symm
    · rw [if_neg h0, firstRoute_cons h0, restRoutes_cons h0, List.cons_append, pathLen_cons_cons, Int.mul_add,
        Int.mul_comm (i.D x a), Int.add_assoc]

theorem reward_eq_objective (i : Inst) (h00 : i.D 0 0 = 0) (as : List Nat) :
    reward i as = - Spec.Svrp.objective i as := by
  rw [reward, objective, weightedLen, roll1, zip_costRow_routes i h00, routes_eq, weighted_cons,
    routeLen_eq_pathLen i.D h00]

/-- Non-vacuity / sanity: routes `[1,2]` (technician 0, cost 1) and `[3]` (technician 1, cost 2). -/
example : reward ⟨3, 2, fun _ => 9, fun _ => 1, fun k => (k : Int) + 1, fun a b => if a = b then 0 else (a + b : Int)⟩
    [1, 2, 0, 3] = -((1 + 3 + 2) * 1 + (3 + 3) * 2) := by decide

end Rl4co.Svrp
