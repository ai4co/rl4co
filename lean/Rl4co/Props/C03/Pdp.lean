/-
C03 for PDP: the reward `-get_tour_length([depot] ++ locs[actions])` is minus the length of the closed
walk depot → customers in order → depot, for every action list that does not contain the depot
(`force_start_at_depot = False`), and for every action list `0 :: cs` with `cs` depot-free (forced
start; the code prepends the depot once more, which costs `D 0 0 = 0`).  Distances symmetric.
-/
import Rl4co.Spec.Tsp
import Rl4co.Env.Pdp
import Rl4co.Spec.Pdp
import Rl4co.Proofs.TspfamTour
import Rl4co.Proofs.TspfamAvail

namespace Rl4co.Pdp
open Rl4co.Tspfam

theorem reward_eq_closed (i : Inst) (hs : ∀ a b, i.D a b = i.D b a) (as : List Nat) :
    reward i as = - closedLen i.D (0 :: as) := by
  rw [reward, Tspfam.sum_zipWith_roll1 i.D hs]

theorem reward_eq_objective (i : Inst) (hs : ∀ a b, i.D a b = i.D b a) {cs : List Nat}
    (h0 : 0 ∉ cs) : reward i cs = - Spec.Pdp.objective i.D cs := by
  rw [reward_eq_closed i hs, Spec.Pdp.objective, filter_ne_zero_of_not_mem h0]

theorem reward_eq_objective_force (i : Inst) (hs : ∀ a b, i.D a b = i.D b a) (h00 : i.D 0 0 = 0)
    {cs : List Nat} (h0 : 0 ∉ cs) : reward i (0 :: cs) = - Spec.Pdp.objective i.D (0 :: cs) := by
  rw [reward_eq_closed i hs, Spec.Pdp.objective]
  have : (0 :: cs).filter (fun a => a != 0) = cs := by
    simp [filter_ne_zero_of_not_mem h0]
  rw [this]
  simp only [closedLen, List.cons_append, pathLen_cons_cons, h00]
  omega

theorem zero_not_mem_of_feasible {h : Nat} {cs : List Nat} (hf : Spec.Pdp.Feasible h cs) : 0 ∉ cs := by
  intro hm; have := hf.range 0 hm; omega

example : reward ⟨1, false, fun a b => if a = b then 0 else (a + b : Int)⟩ [1, 2] = -(1 + 3 + 2) := by decide

end Rl4co.Pdp

namespace Rl4co.Spec.Pdp
theorem objective_eq_tsp (D : Nat → Nat → Int) (cs : List Nat) (h0 : 0 ∉ cs) :
    objective D cs = Rl4co.Spec.Tsp.objective D (0 :: cs) := by
  rw [objective, Rl4co.Tspfam.filter_ne_zero_of_not_mem h0, Rl4co.Spec.Tsp.objective]
end Rl4co.Spec.Pdp
