/-
C03 for SDVRP: `_get_reward` is inherited from `CVRPEnv` (gather / roll / sum over `[depot] ++ actions`);
it is minus the sum of the closed lengths of the routes (depot → visits → depot) for EVERY action list —
repeated visits of a customer included — provided the depot has distance 0 to itself.
-/
import Rl4co.Spec.Sdvrp

namespace Rl4co.Sdvrp

theorem reward_eq_objective (i : Inst) (h00 : i.D 0 0 = 0) (as : List Nat) :
    reward i as = - Spec.Sdvrp.objective i as := by
  rw [reward, Spec.Sdvrp.objective, rollLen_depot_eq_routesLen i.D h00]

/-- Non-vacuity / sanity: customer 2 visited twice, in two routes. -/
example : reward ⟨2, 8, fun _ => 1, fun a b => if a = b then 0 else (a + b : Int)⟩ [1, 2, 0, 2] = -(1 + 3 + 2 + 2 + 2) := by
  decide

end Rl4co.Sdvrp
