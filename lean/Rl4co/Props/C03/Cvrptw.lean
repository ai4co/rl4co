/-
C03 for CVRPTW: `_get_reward` is CVRP's (time windows do not enter the reward), so the reward of EVERY
action list is minus the total closed route length, provided the depot has distance 0 to itself.
-/
import Rl4co.Spec.Cvrptw
import Rl4co.Props.C03.Cvrp

namespace Rl4co.Cvrptw

theorem reward_eq_objective (i : Inst) (h00 : i.base.D 0 0 = 0) (as : List Nat) :
    reward i as = - Spec.Cvrptw.objective i as :=
  Cvrp.reward_eq_objective i.base h00 as

example : reward ⟨⟨3, 8, fun _ => 1, fun a b => if a = b then 0 else (a + b : Int)⟩, fun _ => 0, fun _ => 9, fun _ => 0⟩
    [1, 2, 0, 3] = -(1 + 3 + 2 + 3 + 3) := by decide

end Rl4co.Cvrptw
