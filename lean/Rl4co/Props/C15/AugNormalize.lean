/-
C15 (rl4co/data/transforms.py): the glue of `symmetric_augmentation` / `StateAugmentation` and `min_max_normalize`.

* which rows get `φ = 0` is a MODELLED EXPRESSION (`firstZeroCount Params.augFirstZeroBound rows A`, extracted:
  `xy.shape[0] // num_augment`), and so is the `num_augment` the function sees (`Params.augForwardsNumAugment`,
  `Params.augSymDefaultNumAugment`): `first_rows_are_batch` stops compiling when the bound becomes `num_augment`, or
  when `StateAugmentation` stops forwarding `num_augment` (the first copy would no longer be the identity);
* `normalize=True`: a similarity of ratio `r` (one ratio for the whole batch), costs scale by one
  common factor, the order of solutions is preserved.
-/
import Rl4co.Props.C15.AugIsometry
namespace Rl4co.Augment
open Lean.Grind (CommRing)

section
variable {α : Type} [CommRing α]

/-- obligations on the extracted expressions: the zeroed rows are `rows // num_augment` and `StateAugmentation`
forwards its `num_augment` -/
theorem first_rows_are_batch (A B : Nat) (hA : 0 < A) :
    firstZeroCount Params.augFirstZeroBound (A * B) (seenNumAugment A) = B := by
  rw [seenNumAugment, if_pos (show Params.augForwardsNumAugment = true from rfl), Params.augFirstZeroBound, firstZeroCount,
    Nat.mul_div_cancel_left _ hA]

theorem symParams_eq (A B : Nat) (hA : 0 < A) (draws : List (α × α × Bool)) (hlen : draws.length = A * B) :
    symParams A draws = List.replicate B ((1 : α), (0 : α), false) ++ draws.drop B := by
  rw [symParams, hlen, first_rows_are_batch A B hA, Nat.min_eq_left (Nat.le_mul_of_pos_left B hA)]

theorem symParams_length (A : Nat) (draws : List (α × α × Bool)) : (symParams A draws).length = draws.length := by
  rw [symParams, List.length_append, List.length_replicate, List.length_drop]
  generalize firstZeroCount _ _ _ = z
  rcases Nat.le_total z draws.length with h | h
  · rw [Nat.min_eq_left h, Nat.add_sub_cancel' h]
  · rw [Nat.min_eq_right h, Nat.sub_eq_zero_of_le h, Nat.add_zero]

/-- **C15** the parameters `symmetric_augmentation` really uses (`phi[: rows // num_augment] = 0` applied to the raw
draws, `num_augment` as forwarded by `StateAugmentation`) satisfy the side conditions of `stateAugSym_all_isometric`:
the first `B` rows are un-rotated, un-reflected, and all rows are unit rotations when the draws are. -/
theorem symParams_ok (A B : Nat) (hA : 0 < A) (draws : List (α × α × Bool)) (hlen : draws.length = A * B)
    (hunit : ∀ q ∈ draws, q.1 * q.1 + q.2.1 * q.2.1 = 1) : SymPrmOk B (symParams A draws) := by
  rw [symParams_eq A B hA draws hlen]
  refine ⟨fun q hq => ?_, fun b hb => ?_⟩
  · rcases List.mem_append.mp hq with hq | hq
    · rw [(List.mem_replicate.mp hq).2]
      show (1 : α) * 1 + 0 * 0 = 1
      rw [Lean.Grind.Semiring.mul_one, Lean.Grind.Semiring.mul_zero, Lean.Grind.Semiring.add_zero]
    · exact hunit q (List.mem_of_mem_drop hq)
  · rw [List.getElem?_append_left (by rw [List.length_replicate]; exact hb), List.getElem?_replicate_of_lt hb]

/-- **C15** `StateAugmentation(symmetric)` as called by the evaluators (default `first_aug_identity=True`), for
every `num_augment = A > 0` and every batch: all rows isometric images, first `B` rows the originals. -/
theorem stateAugSymDraws_all_isometric (o : α) (A : Nat) (hA : 0 < A) (draws : List (α × α × Bool))
    (rows out : List (List (Pt α))) (hlen : draws.length = A * rows.length)
    (hunit : ∀ q ∈ draws, q.1 * q.1 + q.2.1 * q.2.1 = 1)
    (h : stateAugSymDraws o A true draws rows = some out) : AugOk A rows out := by
  rw [stateAugSymDraws, stateAugmentationSym, if_pos rfl] at h
  cases h
  exact stateAugSym_all_isometric o A _ rows (by rw [symParams_length, hlen]) (symParams_ok A rows.length hA draws hlen hunit)

/-- **C15 (normalize=True)** `min_max_normalize` scales every squared distance by the same factor `r²`
(`r = 1/(max − min)` over the whole batch tensor): a similarity, not an isometry. -/
theorem normalize_similarity (r m : α) (p q : Pt α) : sqDist (normPt r m p) (normPt r m q) = r * r * sqDist p q := by
  simp only [normPt, sqDist]
  grind
end

section
variable {α : Type} [CommRing α]

/-- **C15 (normalize=True)**: if `root` (the square root) is homogeneous for the ratio, `root (r²·x) = ρ·root x`,
every tour / routes cost on the normalised copy is `ρ` times the cost on the original — the SAME factor for every
action list and every instance of the batch. -/
theorem normalize_cost_scales (root : α → Int) (r m : α) (ρ : Int) (hroot : ∀ x, root (r * r * x) = ρ * root x)
    (P : Nat → Pt α) (as : List Nat) :
    closedLen (distOf root (fun j => normPt r m (P j))) as = ρ * closedLen (distOf root P) as
    ∧ routesLen (distOf root (fun j => normPt r m (P j))) as = ρ * routesLen (distOf root P) as := by
  have hD : distOf root (fun j => normPt r m (P j)) = fun a b => ρ * distOf root P a b := by
    funext a b
    rw [distOf, normalize_similarity, hroot]; rfl
  rw [hD]
  exact ⟨closedLen_scale ρ _ as, routesLen_scale ρ _ as⟩

/-- … hence the ORDER of any two solutions by cost is the same on the normalised copy (`ρ > 0`). -/
theorem normalize_preserves_order (root : α → Int) (r m : α) (ρ : Int) (hρ : 0 < ρ)
    (hroot : ∀ x, root (r * r * x) = ρ * root x) (P : Nat → Pt α) (as bs : List Nat) :
    closedLen (distOf root (fun j => normPt r m (P j))) as ≤ closedLen (distOf root (fun j => normPt r m (P j))) bs
      ↔ closedLen (distOf root P) as ≤ closedLen (distOf root P) bs := by
  rw [(normalize_cost_scales root r m ρ hroot P as).1, (normalize_cost_scales root r m ρ hroot P bs).1]
  constructor
  · intro h; exact Int.le_of_mul_le_mul_left h hρ
  · intro h; exact Int.mul_le_mul_of_nonneg_left h (Int.le_of_lt hρ)
end

/-- non-vacuity: A = 2, B = 2, raw draws all quarter turns: the first two rows are reset to the identity -/
example : symParams 2 [((0 : Int), (1 : Int), true), (0, 1, true), (0, 1, false), (0, 1, true)]
    = [(1, 0, false), (1, 0, false), (0, 1, false), (0, 1, true)] := by decide
example : normPt (2 : Int) 3 (5, 4) = (4, 2) := by decide

end Rl4co.Augment
