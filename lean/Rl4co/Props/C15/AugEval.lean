/-
C15, evaluation half (rl4co/tasks/eval.py): the evaluators report, for every instance, the reward of the actions
they return, computed on the ORIGINAL instance, and that reward is the maximum over all candidate rollouts of
that very instance; padding + concatenation across loader batches keep rows and order; chunking of the dataset
does not matter.  The policy is an oracle (`acts` = whatever candidate rows it returned); `rew` is the env's
reward on one instance.  No Mathlib.
-/
import Rl4co.Proofs.EvalLayout
import Rl4co.Core.Tour
import Rl4co.Props.C17.Dataset
import Rl4co.Props.C12.Select
namespace Rl4co.Eval

/-- the scan over a list is the scan `Ops.argmaxFirst` of C12 over its table: with the values `g i, g (i + 1), …` still to
come and the first maximum of `g` below `i` as running best, it ends at the first maximum below `i + xs.length` -/
theorem argmaxFrom_eq (g : Nat → Int) (xs : List Int) : ∀ i, (∀ t, t < xs.length → xs.getD t 0 = g (i + t)) →
    argmaxFrom (g (Ops.argmaxFirst g i)) (Ops.argmaxFirst g i) i xs = Ops.argmaxFirst g (i + xs.length) := by
  induction xs with
  | nil => exact fun _ _ => rfl
  | cons y ys ih =>
    intro i hxs
    have hy : y = g i := hxs 0 (Nat.zero_lt_succ _)
    have hys := ih (i + 1) fun t ht => Nat.add_right_comm i 1 t ▸ hxs (t + 1) (Nat.succ_lt_succ ht)
    rw [Nat.add_right_comm] at hys
    refine Eq.trans ?_ hys
    -- both scans move to `i` exactly when `g i` beats the running best
    rw [argmaxFrom, hy, Ops.argmaxFirst_succ]
    split <;> rfl

theorem argmax_eq (xs : List Int) : argmax xs = Ops.argmaxFirst (fun j => xs.getD j 0) xs.length := by
  cases xs with
  | nil => rfl
  | cons x xs =>
    -- the list scan starts at position 1 with the head as running best, and `argmaxFirst g 1 = 0` whatever the comparison says
    have h := argmaxFrom_eq (fun j => (x :: xs).getD j 0) xs 1 (fun t _ => by rw [Nat.add_comm]; rfl)
    rw [show Ops.argmaxFirst (fun j => (x :: xs).getD j 0) 1 = 0 from ite_self _, Nat.add_comm] at h
    exact h

theorem argmax_spec (xs : List Int) (h : xs ≠ []) :
    argmax xs < xs.length ∧ ∀ t, t < xs.length → xs.getD t 0 ≤ xs.getD (argmax xs) 0 := by
  rw [argmax_eq]
  exact Ops.argmaxFirst_isArgmax _ _ (List.length_pos_iff.mpr h)

/-- what `unbatchify / max(dim=1) / gather_by_index` returns for instance `b`; `k` is `max_idxs[b]` -/
theorem selectBest_getElem? (K B : Nat) (hK : 0 < K) (rs : List Int) (acts : List (List Nat))
    (hr : rs.length = K * B) (ha : acts.length = K * B) (b : Nat) (hb : b < B) :
    ∃ k, k < K ∧ (bestIdx K rs)[b]? = some k
      ∧ (selectBest K rs acts)[b]? = some (rs.getD (k * B + b) 0, acts.getD (k * B + b) [])
      ∧ ∀ k', k' < K → rs.getD (k' * B + b) 0 ≤ rs.getD (k * B + b) 0 := by
  have hRlen : ((List.range K).map fun k => rs.getD (k * B + b) 0).length = K := by
    rw [List.length_map, List.length_range]
  obtain ⟨hj, hmax⟩ := argmax_spec ((List.range K).map fun k => rs.getD (k * B + b) 0)
    (fun h => by rw [h] at hRlen; exact Nat.ne_of_lt hK hRlen)
  rw [hRlen] at hj hmax
  have h1 : (unbatch K rs)[b]? = some _ := unbatch_getElem? K B hK rs hr b hb
  have h2 : (unbatch K acts)[b]? = some _ := unbatch_getElem? K B hK acts ha b hb
  refine ⟨_, hj, ?_, ?_, fun k' hk' => ?_⟩
  · rw [bestIdx, List.getElem?_map, h1]; rfl
  · rw [selectBest, List.getElem?_zipWith, h1, h2]
    exact congrArg some (Prod.ext (getD_map_range _ hj 0) (getD_map_range _ hj []))
  · have := hmax k' hk'
    rwa [getD_map_range _ hk', getD_map_range _ hj] at this

variable {I : Type}

theorem rewardsOn_length (rew : I → List Nat → Int) (K : Nat) (insts : List I) (acts : List (List Nat))
    (ha : acts.length = K * insts.length) : (rewardsOn rew K insts acts).length = K * insts.length := by
  rw [rewardsOn, List.length_zipWith, tile_length, ha, Nat.min_self]

/-- `env.get_reward(batchify(td_init, K), actions)[k*B+b]` is the reward of candidate row `k*B+b` on the
ORIGINAL instance `b` -/
theorem rewardsOn_getD (rew : I → List Nat → Int) (K : Nat) (insts : List I) (acts : List (List Nat))
    (ha : acts.length = K * insts.length) (k b : Nat) (hk : k < K) (hb : b < insts.length) :
    (rewardsOn rew K insts acts).getD (k * insts.length + b) 0 = rew insts[b] (acts.getD (k * insts.length + b) []) := by
  have hidx : k * insts.length + b < acts.length := ha ▸ idx_lt hk hb
  rw [getD_eq_getElem acts _ hidx, rewardsOn, List.getD_eq_getElem?_getD, List.getElem?_zipWith,
    tile_getElem? K insts k b hk hb, List.getElem?_eq_getElem hb, List.getElem?_eq_getElem hidx]
  rfl

/-- **C15 `eval_reports_max`** for `AugmentationEval` (`K = num_augment`) and `GreedyMultiStartEval`
(`K = num_starts`): for every instance `b` of the loader batch the evaluator returns one of `b`'s own `K`
candidates, reports exactly the reward of those actions on the ORIGINAL instance, and that reward is the
maximum over all of `b`'s candidates. -/
theorem eval_reports_max (rew : I → List Nat → Int) (K : Nat) (hK : 0 < K) (insts : List I) (acts : List (List Nat))
    (ha : acts.length = K * insts.length) (b : Nat) (hb : b < insts.length) :
    ∃ k, k < K ∧
      (bestOfInner rew K insts acts)[b]? =
        some (rew insts[b] (acts.getD (k * insts.length + b) []), acts.getD (k * insts.length + b) []) ∧
      ∀ k', k' < K → rew insts[b] (acts.getD (k' * insts.length + b) []) ≤ rew insts[b] (acts.getD (k * insts.length + b) []) := by
  obtain ⟨k, hk, _, h1, h2⟩ := selectBest_getElem? K insts.length hK (rewardsOn rew K insts acts) acts
    (rewardsOn_length rew K insts acts ha) ha b hb
  refine ⟨k, hk, ?_, fun k' hk' => ?_⟩
  · rw [bestOfInner, h1, rewardsOn_getD rew K insts acts ha k b hk hb]
  · rw [← rewardsOn_getD rew K insts acts ha k' b hk' hb, ← rewardsOn_getD rew K insts acts ha k b hk hb]
    exact h2 k' hk'

/-- **C15 `eval_reports_max`** for `GreedyMultiStartAugmentEval`: the policy lays its `S * A * B` rollouts out
start-major over the augmented batch, the evaluator tiles the original instances `(A, S)`; both put instance
`r % B` at row `r`, so the statement is the same with `K = S * A`. -/
theorem eval_reports_max_msaug (rew : I → List Nat → Int) (A S : Nat) (hA : 0 < A) (hS : 0 < S) (insts : List I)
    (acts : List (List Nat)) (ha : acts.length = S * A * insts.length) (b : Nat) (hb : b < insts.length) :
    ∃ k, k < S * A ∧
      (msAugInner rew A S insts acts)[b]? =
        some (rew insts[b] (acts.getD (k * insts.length + b) []), acts.getD (k * insts.length + b) []) ∧
      ∀ k', k' < S * A → rew insts[b] (acts.getD (k' * insts.length + b) []) ≤ rew insts[b] (acts.getD (k * insts.length + b) []) := by
  rw [msAugInner, tile_tile]
  exact eval_reports_max rew (S * A) (Nat.mul_pos hS hA) insts acts ha b hb

theorem bestOfInner_length (rew : I → List Nat → Int) (K : Nat) (hK : 0 < K) (insts : List I) (acts : List (List Nat))
    (ha : acts.length = K * insts.length) : (bestOfInner rew K insts acts).length = insts.length := by
  rw [bestOfInner, selectBest, List.length_zipWith,
    unbatch_length K insts.length hK _ (rewardsOn_length rew K insts acts ha), unbatch_length K insts.length hK _ ha,
    Nat.min_self]

/-- **C15 `eval_reports_max`** for `SamplingEval`, through the policy-side `DecodingStrategy._select_best`: actions and
STATE rows are gathered with the same `max_idxs` from the start-major replicated batch
(`Params.augSelectBestGathersTd`, extracted), so the state that `env.get_reward` sees for instance `b` is instance `b`
itself and the reported reward is the reward of the returned actions on the original instance = max over `b`'s samples. -/
theorem eval_reports_max_sampling [Inhabited I] (rew : I → List Nat → Int) (S : Nat) (hS : 0 < S) (insts : List I)
    (acts : List (List Nat)) (ha : acts.length = S * insts.length) (b : Nat) (hb : b < insts.length) :
    ∃ k, k < S ∧
      (samplingInner rew S insts acts)[b]? =
        some (rew insts[b] (acts.getD (k * insts.length + b) []), acts.getD (k * insts.length + b) []) ∧
      ∀ k', k' < S → rew insts[b] (acts.getD (k' * insts.length + b) []) ≤ rew insts[b] (acts.getD (k * insts.length + b) []) := by
  obtain ⟨k, hk, hidx, _, h2⟩ := selectBest_getElem? S insts.length hS (rewardsOn rew S insts acts) acts
    (rewardsOn_length rew S insts acts ha) ha b hb
  refine ⟨k, hk, ?_, fun k' hk' => ?_⟩
  · -- the gathered state row of instance `b` is row `k * B + b` of the tiled batch, i.e. instance `b` itself
    have htd : (selectTd Params.augSelectBestGathersTd S (tile S insts) (bestIdx S (rewardsOn rew S insts acts)))[b]?
        = some insts[b] := by
      have hrow : (tile S insts).getD ((bestIdx S (rewardsOn rew S insts acts)).getD b 0 * insts.length + b) default
          = insts[b] := by
        rw [List.getD_eq_getElem?_getD (l := bestIdx _ _), hidx, Option.getD_some,
          List.getD_eq_getElem?_getD, tile_getElem? S insts k b hk hb, List.getElem?_eq_getElem hb]
        rfl
      rw [selectTd, tile_length, Nat.mul_div_cancel_left _ hS, List.getElem?_map, List.getElem?_range hb,
        Option.map_some, if_pos (show Params.augSelectBestGathersTd = true from rfl), hrow]
    have hact : (List.zipWith (fun (a : List (List Nat)) j => a.getD j []) (unbatch S acts)
        (bestIdx S (rewardsOn rew S insts acts)))[b]? = some (acts.getD (k * insts.length + b) []) := by
      rw [List.getElem?_zipWith, unbatch_getElem? S insts.length hS acts ha b hb, hidx]
      exact congrArg some (getD_map_range _ hk _)
    rw [samplingInner, List.getElem?_zipWith, htd, hact]
  · rw [← rewardsOn_getD rew S insts acts ha k' b hk' hb, ← rewardsOn_getD rew S insts acts ha k b hk hb]
    exact h2 k' hk'

/-- the alternative `td = td[:: num_starts]` (instance-major slice of a start-major batch) pairs instance `b` with the
state of row `b * S`, i.e. of instance `(b * S) % B`: wrong as soon as `(b * S) % B ≠ b`. -/
example : selectTd false 2 (tile 2 [10, 20, 30]) [0, 0, 0] = [10, 30, 20] := by decide
example : selectTd true 2 (tile 2 [10, 20, 30]) [1, 0, 1] = [10, 20, 30] := by decide

/-- `GreedyEval` reports the reward of the actions it returns, on the instance they were decoded for. -/
theorem eval_greedy_reports (rew : I → List Nat → Int) (insts : List I) (acts : List (List Nat))
    (ha : acts.length = insts.length) (b : Nat) (hb : b < insts.length) :
    (greedyInner rew insts acts)[b]? = some (rew insts[b] (acts.getD b []), acts.getD b []) := by
  have hb' : b < acts.length := ha ▸ hb
  rw [getD_eq_getElem acts _ hb', greedyInner, List.getElem?_zipWith, List.getElem?_eq_getElem hb,
    List.getElem?_eq_getElem hb']

/-- **C15 `eval_ge_greedy`**: if one of `b`'s candidates is the greedy rollout `g` on the unmodified instance,
the reported reward is at least the greedy reward. -/
theorem eval_ge_greedy (rew : I → List Nat → Int) (K : Nat) (hK : 0 < K) (insts : List I) (acts : List (List Nat))
    (ha : acts.length = K * insts.length) (b : Nat) (hb : b < insts.length) (g : List Nat)
    (k0 : Nat) (hk0 : k0 < K) (hg : acts.getD (k0 * insts.length + b) [] = g) :
    ∃ r a, (bestOfInner rew K insts acts)[b]? = some (r, a) ∧ rew insts[b] g ≤ r := by
  obtain ⟨k, _, h1, h2⟩ := eval_reports_max rew K hK insts acts ha b hb
  exact ⟨_, _, h1, hg ▸ h2 k0 hk0⟩

/-- `AugmentationEval` with a row-wise deterministic policy `π` (C14) whose input for copy `a` of instance `i`
is `view a i`: the reported reward is at least that of candidate 0, `π (view 0 i)`.  That copy 0 is the unmodified
instance (`dihedral_first_id`, `symmetric_first_id`), so that candidate 0 is the greedy rollout, is NOT part of the
statement: `view` is arbitrary, and of `hrow` only the copy `a = 0` is used. -/
theorem eval_ge_greedy_identity_copy {J : Type} (rew : I → List Nat → Int) (A : Nat) (hA : 0 < A) (insts : List I)
    (view : Nat → I → J) (π : J → List Nat) (acts : List (List Nat)) (ha : acts.length = A * insts.length)
    (hrow : ∀ a b, a < A → (hb : b < insts.length) → acts.getD (a * insts.length + b) [] = π (view a insts[b]))
    (b : Nat) (hb : b < insts.length) :
    ∃ r a, (bestOfInner rew A insts acts)[b]? = some (r, a) ∧ rew insts[b] (π (view 0 insts[b])) ≤ r :=
  eval_ge_greedy rew A hA insts acts ha b hb _ 0 hA (hrow 0 b hA hb)

/-- a loader batch of action rows is rectangular (it is a tensor) -/
def Rect (batch : List (List Nat)) : Prop := ∀ row, row ∈ batch → row.length = rowLen batch

def padTo (L : Nat) (row : List Nat) : List Nat := row ++ List.replicate (L - row.length) 0

theorem padBatch_eq (L : Nat) {batch : List (List Nat)} (h : Rect batch) : padBatch L batch = batch.map (padTo L) :=
  List.map_congr_left fun row hrow => by rw [padTo, h row hrow]

/-- **C15 `concat_batches`**: padding with 0 and `torch.cat` keep every row of every loader batch, in loader
order, each extended by zeros only; the result is rectangular of width `maxLen`. -/
theorem concat_batches (bs : List (List (List Nat))) (h : ∀ b, b ∈ bs → Rect b) :
    concatActions bs = bs.flatten.map (padTo (maxLen bs))
    ∧ ∀ row, row ∈ concatActions bs → row.length = maxLen bs := by
  have h1 : concatActions bs = bs.flatten.map (padTo (maxLen bs)) := by
    rw [concatActions, List.flatMap_def, List.map_flatten]
    exact congrArg List.flatten (List.map_congr_left fun b hb => padBatch_eq _ (h b hb))
  refine ⟨h1, fun row hrow => ?_⟩
  rw [h1] at hrow
  obtain ⟨r0, hr0, rfl⟩ := List.mem_map.1 hrow
  obtain ⟨b, hb, hr0b⟩ := List.mem_flatten.1 hr0
  have : rowLen b ≤ maxLen bs := by
    rw [maxLen, List.foldl_map]
    exact (foldl_max_ge rowLen bs 0).2 b hb
  rw [padTo, List.length_append, List.length_replicate, h b hb r0 hr0b]
  omega

theorem chunksAux_eq {β : Type} (n fuel : Nat) (xs : List β) : chunksAux n fuel xs = Ops.chunksAux n fuel xs := by
  induction fuel generalizing xs with
  | zero => rfl
  | succ f ih =>
    cases xs with
    | nil => rfl
    | cons x xs => rw [chunksAux, Ops.chunksAux, ih]

theorem flatten_chunks {β : Type} (n : Nat) (hn : 0 < n) (xs : List β) : (chunks n xs).flatten = xs := by
  rw [chunks, chunksAux_eq]
  exact Ops.chunks_flatten n hn xs

/-- **chunking does not matter for the rewards**: if `_inner` (policy included) is per-instance on the rewards
— which is C14 plus the index laws above — `evaluate_policy` returns `map` over the dataset for ANY batch size. -/
theorem evalCall_eq_map (f : List I → List (Int × List Nat)) (h1 : I → Int)
    (hf : ∀ batch, (f batch).map (·.1) = batch.map h1) (n : Nat) (hn : 0 < n) (ds : List I) :
    (evalCall f n ds).1 = ds.map h1 := by
  have : ((chunks n ds).map f).map (·.map (·.1)) = (chunks n ds).map (List.map h1) := by
    rw [List.map_map]
    exact List.map_congr_left fun b _ => hf b
  rw [evalCall, concatRewards, this, ← List.map_flatten, flatten_chunks n hn]

/-- `rows` are the action lists `h2 i` of the instances `l`, in order, each followed by zeros only -/
def ZeroPadded (h2 : I → List Nat) (l : List I) (rows : List (List Nat)) : Prop :=
  ∃ zs : List Nat, zs.length = l.length ∧ rows = List.zipWith (fun i z => h2 i ++ List.replicate z 0) l zs

theorem ZeroPadded.append {h2 : I → List Nat} {l l' : List I} {rows rows' : List (List Nat)}
    (h : ZeroPadded h2 l rows) (h' : ZeroPadded h2 l' rows') : ZeroPadded h2 (l ++ l') (rows ++ rows') := by
  obtain ⟨zs, hz, rfl⟩ := h
  obtain ⟨zs', hz', rfl⟩ := h'
  exact ⟨zs ++ zs', by rw [List.length_append, List.length_append, hz, hz'], (List.zipWith_append hz.symm).symm⟩

theorem ZeroPadded.flatten {h2 : I → List Nat} (g : List I → List (List Nat)) (cs : List (List I))
    (h : ∀ c, ZeroPadded h2 c (g c)) : ZeroPadded h2 cs.flatten (cs.map g).flatten := by
  induction cs with
  | nil => exact ⟨[], rfl, rfl⟩
  | cons c cs ih => exact (h c).append ih

theorem ZeroPadded.padTo {h2 : I → List Nat} {l : List I} {rows : List (List Nat)} (L : Nat)
    (h : ZeroPadded h2 l rows) : ZeroPadded h2 l (rows.map (padTo L)) := by
  obtain ⟨zs, hz, rfl⟩ := h
  induction l generalizing zs with
  | nil => exact ⟨[], rfl, by rw [List.zipWith_nil_left]; rfl⟩
  | cons i l ih =>
    cases zs with
    | nil => exact absurd hz (Nat.succ_ne_zero _).symm
    | cons z zs =>
      obtain ⟨ws, hw, hws⟩ := ih zs (Nat.succ.inj hz)
      refine ⟨(z + (L - (h2 i ++ List.replicate z 0).length)) :: ws, congrArg Nat.succ hw, ?_⟩
      rw [List.zipWith_cons_cons, List.map_cons, hws, List.zipWith_cons_cons, Eval.padTo, List.append_assoc,
        List.replicate_append_replicate]

/-- … and for the actions up to zero padding: if in every batch the row returned for an instance is its own
action list `h2 i` followed by zeros only (depot padding while batch-mates finish), the same holds for the
concatenated result, in dataset order. -/
theorem evalCall_actions (f : List I → List (Int × List Nat)) (h2 : I → List Nat)
    (hrect : ∀ batch, Rect ((f batch).map (·.2)))
    (hf : ∀ batch, ∃ zs : List Nat, zs.length = batch.length ∧
      (f batch).map (·.2) = List.zipWith (fun i z => h2 i ++ List.replicate z 0) batch zs)
    (n : Nat) (hn : 0 < n) (ds : List I) :
    ∃ zs : List Nat, zs.length = ds.length ∧
      (evalCall f n ds).2 = List.zipWith (fun i z => h2 i ++ List.replicate z 0) ds zs := by
  have hbs : ((chunks n ds).map f).map (·.map (·.2)) = (chunks n ds).map fun c => (f c).map (·.2) := List.map_map
  have hf' : ∀ c, ZeroPadded h2 c ((f c).map (·.2)) := hf
  have hpad := (ZeroPadded.flatten _ (chunks n ds) hf').padTo (maxLen ((chunks n ds).map fun c => (f c).map (·.2)))
  rw [flatten_chunks n hn] at hpad
  rw [evalCall, hbs, (concat_batches _ fun b hb => by
    obtain ⟨c, _, rfl⟩ := List.mem_map.mp hb; exact hrect c).1]
  exact hpad

/-- depot padding is free: zeros appended to a routing solution do not change the routes objective — so the objective of the
returned, padded actions is the objective of the rollout. -/
theorem pad_cost_invariant (D : Nat → Nat → Int) (h00 : D 0 0 = 0) (as : List Nat) (z : Nat) :
    routesLen D (as ++ List.replicate z 0) = routesLen D as := by
  induction z with
  | zero => rw [List.replicate_zero, List.append_nil]
  | succ z ih => rw [List.replicate_succ', ← List.append_assoc, routesLen_append_zero, ih]

/-- 2 instances × 2 candidates each, reward = −(sum of the actions) + instance offset: instance 0 gets its own
best candidate (row 2), instance 1 its own (row 1); rows are never mixed between instances. -/
example : bestOfInner (fun (i : Int) as => i - (as.map Int.ofNat).sum) 2 [100, 200] [[5, 5], [1, 1], [2, 2], [9, 9]]
    = [(96, [2, 2]), (198, [1, 1])] := by decide

example : msAugInner (fun (i : Int) as => i - (as.map Int.ofNat).sum) 2 2 [100] [[5], [4], [3], [7]] = [(97, [3])] := by decide

example : samplingInner (fun (i : Int) as => i - (as.map Int.ofNat).sum) 2 [100, 200] [[5, 5], [1, 1], [2, 2], [9, 9]]
    = [(96, [2, 2]), (198, [1, 1])] := by decide

/-- loader batches of sizes 2,2,1 with action widths 3,4,2: padded to 4, order kept -/
example : concatActions [[[1, 2, 0], [2, 1, 0]], [[1, 0, 2, 0], [2, 0, 1, 0]], [[2, 1]]]
    = [[1, 2, 0, 0], [2, 1, 0, 0], [1, 0, 2, 0], [2, 0, 1, 0], [2, 1, 0, 0]] := by decide

example : chunks 2 [10, 11, 12, 13, 14] = [[10, 11], [12, 13], [14]] := by decide
example : chunks 5 [10, 11, 12] = [[10, 11, 12]] := by decide

example : routesLen (fun a b => if a = b then 0 else (a + b : Int)) ([1, 2, 0, 3] ++ List.replicate 2 0)
    = routesLen (fun a b => if a = b then 0 else (a + b : Int)) [1, 2, 0, 3] := by decide

end Rl4co.Eval
