/-
C15 — an augmentation that transforms only the keys in `feats` preserves ALL pairwise distances of an instance when every
coordinate-bearing key is in `feats` (`augTd_isometric`), and not otherwise (`augTd_depot_counterexample`: raw batch of a depot
env, default `feats = ["locs"]`); the reset states of the routing envs keep all coordinates under `locs`
(`reset_coord_keys_in_feats`, extracted per env) and POMO / SymNCO augment the RESET td (`models_augment_reset_td`, extracted),
hence their val / test augmentation is isometric on every coordinate key (`shared_step_aug_isometric`).  No Mathlib.
-/
import Rl4co.Props.C15.AugIsometry
import Rl4co.Train.Eval
namespace Rl4co.Eval
open Lean.Grind (CommRing)

open Rl4co.Augment

section
variable {α : Type} [CommRing α]

/-- **C15** if every coordinate-bearing key of the td is in `feats`, the augmentation preserves ALL pairwise squared distances
of the instance, also between points stored under different keys (depot ↔ customers) -/
theorem augTd_isometric (keys feats : List String) (hk : ∀ k, k ∈ keys → k ∈ feats) (f : Pt α → Pt α) (hf : Isometry f)
    (td : CoordTd (Pt α)) (k1 k2 : String) (h1 : k1 ∈ keys) (h2 : k2 ∈ keys) (i j : Nat) :
    sqDist (augTd feats f td k1 i) (augTd feats f td k2 j) = sqDist (td k1 i) (td k2 j) := by
  simp only [augTd, hk k1 h1, hk k2 h2, if_true]
  exact hf _ _
end

/-- the raw batch of a depot env keeps the depot under its own key: augmenting it with the default `feats = ["locs"]` moves
the customers and leaves the depot where it was — the depot–customer distance changes (1024-grid, dihedral copy 1) -/
theorem augTd_depot_counterexample :
    ∃ (td : CoordTd (Pt Int)), sqDist (augTd ["locs"] (dihedral 1024 1) td "depot" 0) (augTd ["locs"] (dihedral 1024 1) td "locs" 0)
      ≠ sqDist (td "depot" 0) (td "locs" 0) := by
  refine ⟨fun k _ => if k = "depot" then (100, 100) else (300, 100), ?_⟩
  decide

/-- obligations on the extracted facts: the default `feats`, the coordinate keys of every env's reset state, and the order
"reset, then augment the reset td" in both models -/
theorem reset_coord_keys_in_feats : ∀ e ∈ Params.augResetCoordKeys, ∀ k ∈ e.2, k ∈ Params.augDefaultFeats := by decide
theorem models_augment_reset_td : Params.augPomoAugmentsResetTd = true ∧ Params.augSymncoAugmentsResetTd = true := by decide

/-- **C15** the augmentation inside `POMO.shared_step` / `SymNCO.shared_step` (val / test) is isometric on every coordinate key
of every env of the extracted table: it is applied to the reset td, whose coordinates all live under keys in `feats`.
`k1` ranges over the keys POMO's step augments, `k2` over SymNCO's; both tokens are `true`, so both are the reset keys `e.2`:
the statement covers either model, not a pair of keys from two models. -/
theorem shared_step_aug_isometric {α : Type} [CommRing α] (e : String × List String) (he : e ∈ Params.augResetCoordKeys)
    (rawKeys : List String) (f : Pt α → Pt α) (hf : Isometry f) (td : CoordTd (Pt α)) (k1 k2 : String)
    (h1 : k1 ∈ stepAugKeys Params.augPomoAugmentsResetTd rawKeys e.2) (h2 : k2 ∈ stepAugKeys Params.augSymncoAugmentsResetTd rawKeys e.2)
    (i j : Nat) :
    sqDist (augTd Params.augDefaultFeats f td k1 i) (augTd Params.augDefaultFeats f td k2 j) = sqDist (td k1 i) (td k2 j) := by
  simp only [stepAugKeys, models_augment_reset_td.1, models_augment_reset_td.2, if_true] at h1 h2
  exact augTd_isometric e.2 _ (reset_coord_keys_in_feats e he) f hf td k1 k2 h1 h2 i j

end Rl4co.Eval
