/-
C15 — object reuse, and sanity of the objectives.
* The evaluator OBJECT has no memory: `eval_call_independent_of_history`, `callSeq_eq_map` — with the extracted fact
  (`Params.augEvalListsLocal`) that `rewards_list` / `actions_list` are locals of `EvalBase.__call__`; if they were
  attributes created in `__init__`, a second call would return the first call's rows in front
  (`callObj_attr_counterexample`).
* Spec sanity for the objectives used as oracles by the evaluation checks: the closed tour length is invariant under
  rotation of the tour and, for a symmetric matrix, under reversal (a mis-stated objective would not have these).
No Mathlib.
-/
import Rl4co.Props.C15.AugEval
import Rl4co.Proofs.TspfamTour
namespace Rl4co.Eval

variable {I : Type}

theorem lists_local : Params.augEvalListsLocal = true := by decide

/-- **C15 (object reuse)** whatever was evaluated before on the same evaluator object, a call returns exactly what a fresh
evaluator returns for that dataset, and leaves the object as it was: `evaluate` is a function of its arguments only. -/
theorem eval_call_independent_of_history (f : List I → List (Int × List Nat)) (n : Nat) (st : EvalObj) (ds : List I) :
    (callObj Params.augEvalListsLocal f n st ds).2 = evalCall f n ds
    ∧ (callObj Params.augEvalListsLocal f n st ds).1 = st := by
  simp [callObj, lists_local, evalCall]

/-- … hence for every history of calls: result `k` is the fresh result for dataset `k` -/
theorem callSeq_eq_map (f : List I → List (Int × List Nat)) (st : EvalObj) (calls : List (Nat × List I)) :
    callSeq Params.augEvalListsLocal f st calls = calls.map fun c => evalCall f c.1 c.2 := by
  induction calls generalizing st with
  | nil => rfl
  | cons c cs ih =>
    obtain ⟨n, ds⟩ := c
    simp only [callSeq, List.map_cons]
    rw [(eval_call_independent_of_history f n st ds).1, (eval_call_independent_of_history f n st ds).2, ih]

/-- with the lists kept on the object the second call returns the first call's rows in front -/
theorem callObj_attr_counterexample :
    ∃ (f : List Nat → List (Int × List Nat)) (d1 d2 : List Nat),
      (callSeq false f EvalObj.fresh [(2, d1), (2, d2)]).getD 1 ([], []) ≠ evalCall f 2 d2 := by
  refine ⟨fun b => b.map fun i => (Int.ofNat i, [i]), [1, 2, 3], [7], ?_⟩
  decide

end Rl4co.Eval

namespace Rl4co

theorem closedLen_cons (D : Nat → Nat → Int) (x : Nat) (xs : List Nat) :
    closedLen D (x :: xs) = pathLen D (x :: xs) + D ((x :: xs).getLast (by simp)) x :=
  pathLen_append_singleton D x xs x

theorem pathLen_append (D : Nat → Nat → Int) (x : Nat) (xs : List Nat) (y : Nat) (ys : List Nat) :
    pathLen D ((x :: xs) ++ (y :: ys)) = pathLen D (x :: xs) + D ((x :: xs).getLast (by simp)) y + pathLen D (y :: ys) := by
  induction xs generalizing x with
  | nil => simp [pathLen]
  | cons z zs ih =>
    have := ih z
    simp only [List.cons_append] at this ⊢
    rw [pathLen_cons_cons, pathLen_cons_cons, this, List.getLast_cons (List.cons_ne_nil z zs), Int.add_assoc, Int.add_assoc, Int.add_assoc]

/-- **Spec sanity** the closed tour length does not depend on where the tour starts: moving the first node to the end
(a rotation of the cyclic order) leaves it unchanged -/
theorem closedLen_rotate (D : Nat → Nat → Int) (x : Nat) (xs : List Nat) :
    closedLen D (xs ++ [x]) = closedLen D (x :: xs) :=
  closedLen_roll1 D (x :: xs)

/-- **Spec sanity** with a symmetric distance matrix the closed tour length is the same in both directions -/
theorem closedLen_reverse (D : Nat → Nat → Int) (hs : ∀ a b, D a b = D b a) (xs : List Nat) :
    closedLen D xs.reverse = closedLen D xs :=
  Tspfam.closedLen_reverse D hs xs

/-- non-vacuity: a symmetric 4-point matrix, a tour and its rotation / reversal -/
example : closedLen (fun a b => ((a : Int) - b) * (a - b)) [0, 2, 1, 3] = closedLen (fun a b => ((a : Int) - b) * (a - b)) [2, 1, 3, 0] := by decide
example : closedLen (fun a b => ((a : Int) - b) * (a - b)) [0, 2, 1, 3] = closedLen (fun a b => ((a : Int) - b) * (a - b)) [3, 1, 2, 0] := by decide

end Rl4co
