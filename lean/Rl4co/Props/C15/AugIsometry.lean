/-
C15, augmentation half (rl4co/data/transforms.py).  All statements are over an arbitrary commutative ring
(core class `Lean.Grind.CommRing`; the algebra is closed by `grind`'s ring solver, no Mathlib); `Int` (ticks)
and `Rat` are instances, and so is any Mathlib `CommRing` such as ℝ.

The sign / permutation tables are not written here: they are `Params.augDihedralTable`, `Params.augRotTable`,
`Params.augOffsetSigns`, `Params.augReflectCmp`, … regenerated from the Python AST on every run
(harness/probes/aug.py); the theorems about them stop compiling when the source changes a sign.
With `first_aug_identity=False` the statement for the whole augmented batch (`stateAugDihedral_statement`) fails
(`first_aug_identity_false_counterexample`).
-/
import Rl4co.Train.Augment
import Rl4co.Core.Tour
import Rl4co.Core.Lists
namespace Rl4co.Augment
open Lean.Grind (CommRing)

theorem tile_length {β : Type} (A : Nat) (rows : List β) : (tile A rows).length = A * rows.length :=
  length_flatten_replicate A rows

/-- `batchify` layout: copy `a` of row `b` sits at flat row `a * B + b`. -/
theorem tile_getElem? {β : Type} (A : Nat) (rows : List β) (a b : Nat) (ha : a < A) (hb : b < rows.length) :
    (tile A rows)[a * rows.length + b]? = rows[b]? :=
  getElem?_flatten_replicate rows ha hb

section
variable {α : Type} [CommRing α]

def Isometry (f : Pt α → Pt α) : Prop := ∀ p q, sqDist (f p) (f q) = sqDist p q

/-- an output coordinate `[one] ± v` differs between two points by `± (v - v')`: the constant cancels -/
theorem coord_sub_sq (one : α) (c : Bool × Bool × Bool) (p q : Pt α) :
    (coord one c p - coord one c q) * (coord one c p - coord one c q)
      = (sel c.1 p - sel c.1 q) * (sel c.1 p - sel c.1 q) := by
  obtain ⟨u, h, n⟩ := c
  simp only [coord]
  generalize (if h = true then one else 0) = k
  cases n
  · rw [if_neg Bool.false_ne_true, if_neg Bool.false_ne_true]; grind
  · rw [if_pos rfl, if_pos rfl]; grind

/-- the decidable side condition on a dihedral table: every copy uses x for one output coordinate and y
for the other -/
def tableOk (tbl : List ((Bool × Bool × Bool) × (Bool × Bool × Bool))) : Bool :=
  tbl.all fun e => e.1.1 != e.2.1

theorem dihedralWith_isometry (tbl) (h : tableOk tbl = true) (one : α) (k : Nat) :
    Isometry (dihedralWith tbl one k) := by
  intro p q
  unfold dihedralWith
  cases hk : tbl[k]? with
  | none => rfl
  | some e =>
    have he : (e.1.1 != e.2.1) = true := (List.all_eq_true.1 h) e (List.mem_of_getElem? hk)
    simp only [sqDist]
    rw [coord_sub_sq, coord_sub_sq]
    obtain ⟨⟨u1, r1⟩, ⟨u2, r2⟩⟩ := e
    -- one output coordinate reads `x`, the other `y`
    cases u1 <;> cases u2
    · cases he
    · rfl
    · exact Lean.Grind.Semiring.add_comm _ _
    · cases he

theorem table_ok : tableOk Params.augDihedralTable = true := by decide

/-- **C15** each of the 8 maps of `dihedral_8_augmentation` preserves squared distance. -/
theorem dihedral_isometry (one : α) (k : Nat) : Isometry (dihedral one k) :=
  dihedralWith_isometry _ table_ok one k

/-- **C15** copy 0 of `dihedral_8_augmentation` is the identity. -/
theorem dihedral_first_id (one : α) (p : Pt α) : dihedral one 0 p = p := by
  have h : dihedral one 0 p = (0 + p.1, 0 + p.2) := rfl
  rw [h, Lean.Grind.Semiring.add_comm 0, Lean.Grind.Semiring.add_zero, Lean.Grind.Semiring.add_comm 0,
    Lean.Grind.Semiring.add_zero]

/-- `symmetric_transform` with the extracted tables, without reflection: translate by `-o`, rotate, translate back.
This `rfl` (and the next) is the obligation on `Params.augRotTable` / `Params.augOffsetSigns`: it fails when the source
changes a sign. -/
theorem symTransform_false (c s o : α) (p : Pt α) :
    symTransform c s o false p = (c * (p.1 - o) + (0 - s * (p.2 - o)) + o, s * (p.1 - o) + c * (p.2 - o) + o) := rfl

/-- … and with reflection the two output coordinates change places -/
theorem symTransform_true (c s o : α) (p : Pt α) :
    symTransform c s o true p = ((symTransform c s o false p).2, (symTransform c s o false p).1) := rfl

theorem symmetric_isometry (c s o : α) (h : c * c + s * s = 1) (swap : Bool) :
    Isometry (symTransform c s o swap) := by
  have hrot : Isometry (symTransform c s o false) := fun p q => by
    rw [symTransform_false, symTransform_false]
    simp only [sqDist]
    -- the offset cancels in the differences; with `u = p - q` the two squares are `(c u₁ - s u₂)² + (s u₁ + c u₂)²
    -- = (c² + s²)(u₁² + u₂²)`, and `h` is `c² + s² = 1`: a polynomial identity modulo `h`
    grind
  cases swap
  · exact hrot
  · intro p q
    rw [symTransform_true, symTransform_true, ← hrot p q]
    exact Lean.Grind.Semiring.add_comm _ _

theorem symmetric_first_id (o : α) (p : Pt α) : symTransform 1 0 o false p = p := by
  rw [symTransform_false]
  exact Prod.ext (by grind) (by grind)

theorem swap_first (den : Int) (h : 0 < den) : swapOf 0 den = false := by
  simp [swapOf, Params.augReflectCmp, Params.augPhiMul, Params.augReflectMul, Cmp.eval]
  omega

theorem dihedral_table_length : Params.augDihedralTable.length = 8 := by decide

/-- **layout of `StateAugmentation(dihedral8)`**: row `a * B + b` is copy `a` of instance `b`. -/
theorem stateAugDihedral_row (one : α) (rows : List (List (Pt α))) (a b : Nat) (ha : a < 8) (hb : b < rows.length) :
    (stateAugDihedral one 8 rows)[a * rows.length + b]? = (rows[b]?).map (fun row => row.map (dihedral one a)) := by
  have htake : (tile 8 rows).take ((tile 8 rows).length / 8) = rows := by
    rw [tile_length, Nat.mul_div_cancel_left _ (by decide : 0 < 8)]
    exact List.take_left' rfl
  rw [stateAugDihedral, htake, dihedral_table_length,
    getElem?_flatMap_range (fun k _ => List.length_map _) ha hb, List.getElem?_map]

/-- **layout of `StateAugmentation(symmetric)`**: row `a * B + b` is instance `b` under that row's rotation. -/
theorem stateAugSym_row (o : α) (A : Nat) (prm : List (α × α × Bool)) (rows : List (List (Pt α))) (a b : Nat)
    (ha : a < A) (hb : b < rows.length) (hp : prm.length = A * rows.length) :
    (stateAugSym o A prm rows)[a * rows.length + b]? =
      (prm[a * rows.length + b]?).bind fun q => (rows[b]?).map fun row => row.map (symTransform q.1 q.2.1 o q.2.2) := by
  rw [stateAugSym, List.getElem?_zipWith, tile_getElem? A rows a b ha hb,
    List.getElem?_eq_getElem (hp ▸ idx_lt ha hb), List.getElem?_eq_getElem hb]
  rfl

/-- distance matrix of a point family through an arbitrary root function (`sqrt` is never needed) -/
def distOf (root : α → Int) (P : Nat → Pt α) : Nat → Nat → Int := fun a b => root (sqDist (P a) (P b))

theorem dist_invariant (root : α → Int) (f : Pt α → Pt α) (hf : Isometry f) (P : Nat → Pt α) :
    distOf root (fun j => f (P j)) = distOf root P := by
  funext a b; simp [distOf, hf _ _]

/-- **C15** any objective that depends on the coordinates only through the pairwise distances (tour length,
routes length, … — everything in `Core/Tour`) takes the same value, for EVERY action list, on an isometric
copy of the instance. -/
theorem cost_invariant (root : α → Int) (f : Pt α → Pt α) (hf : Isometry f) (P : Nat → Pt α)
    (obj : (Nat → Nat → Int) → List Nat → Int) (as : List Nat) :
    obj (distOf root (fun j => f (P j))) as = obj (distOf root P) as := by
  rw [dist_invariant root f hf P]

theorem cost_invariant_dihedral (root : α → Int) (one : α) (k : Nat) (P : Nat → Pt α) (as : List Nat) :
    closedLen (distOf root (fun j => dihedral one k (P j))) as = closedLen (distOf root P) as
    ∧ routesLen (distOf root (fun j => dihedral one k (P j))) as = routesLen (distOf root P) as :=
  ⟨cost_invariant root _ (dihedral_isometry one k) P closedLen as, cost_invariant root _ (dihedral_isometry one k) P routesLen as⟩

def IsoImage (row row' : List (Pt α)) : Prop := ∃ f, Isometry f ∧ row' = row.map f

/-- what C15 asks of an augmented batch: row `a*B+b` is an isometric image of instance `b`, and copy 0 is
the instance itself -/
def AugOk (A : Nat) (rows out : List (List (Pt α))) : Prop :=
  ∀ a b, a < A → b < rows.length →
    ∃ row row', rows[b]? = some row ∧ out[a * rows.length + b]? = some row' ∧ IsoImage row row' ∧ (a = 0 → row' = row)

/-- the full claim about `StateAugmentation(num_augment=8, augment_fn='dihedral8', first_aug_identity=fai)` -/
def stateAugDihedral_statement (α : Type) [CommRing α] (fai : Bool) : Prop :=
  ∀ (one : α) (rows out : List (List (Pt α))), stateAugmentationDihedral one 8 fai rows = some out → AugOk 8 rows out

/-- **C15 (partial: first_aug_identity = True, the default)** -/
theorem stateAug_all_isometric_partial : stateAugDihedral_statement α true := by
  intro one rows out h a b ha hb
  rw [stateAugmentationDihedral, if_pos rfl] at h
  cases h
  refine ⟨rows[b], rows[b].map (dihedral one a), List.getElem?_eq_getElem hb, ?_, ⟨_, dihedral_isometry one a, rfl⟩, ?_⟩
  · rw [stateAugDihedral_row one rows a b ha hb, List.getElem?_eq_getElem hb]; rfl
  · rintro rfl
    exact List.map_id'' (dihedral_first_id one) _

/-- side conditions on the sampled angles of `symmetric_augmentation`: unit vectors, and `φ = 0` without
reflection on the first `B` rows (`phi[: B] = 0.0`, `swap_first`) -/
def SymPrmOk (B : Nat) (prm : List (α × α × Bool)) : Prop :=
  (∀ q ∈ prm, q.1 * q.1 + q.2.1 * q.2.1 = 1) ∧ (∀ b, b < B → prm[b]? = some (1, 0, false))

/-- **C15** `StateAugmentation(symmetric, first_aug_identity=True)`: every row is an isometric image of its
instance and the first `B` rows are the instances themselves. -/
theorem stateAugSym_all_isometric (o : α) (A : Nat) (prm : List (α × α × Bool)) (rows : List (List (Pt α)))
    (hp : prm.length = A * rows.length) (hok : SymPrmOk rows.length prm) : AugOk A rows (stateAugSym o A prm rows) := by
  intro a b ha hb
  have hidx : a * rows.length + b < prm.length := hp ▸ idx_lt ha hb
  generalize hq : prm[a * rows.length + b] = q
  refine ⟨rows[b], rows[b].map (symTransform q.1 q.2.1 o q.2.2), List.getElem?_eq_getElem hb, ?_, ⟨_, ?_, rfl⟩, ?_⟩
  · rw [stateAugSym_row o A prm rows a b ha hb hp, List.getElem?_eq_getElem hidx, List.getElem?_eq_getElem hb, hq]
    rfl
  · exact symmetric_isometry q.1 q.2.1 o (hok.1 q (hq ▸ List.getElem_mem hidx)) q.2.2
  · rintro rfl
    -- row `b` of copy 0 carries the parameters `(1, 0, false)`
    have h0 : prm[0 * rows.length + b]? = some (1, 0, false) := by
      rw [Nat.zero_mul, Nat.zero_add]; exact hok.2 b hb
    rw [List.getElem?_eq_getElem hidx, hq] at h0
    cases h0
    exact List.map_id'' (symmetric_first_id o) _
end

/-- **C15 counterexample (first_aug_identity = False)**: one instance with two nodes; row `B = 1` keeps node 0
where it was while node 1 is reflected: distance 95 becomes 73. -/
theorem first_aug_identity_false_counterexample : ¬ stateAugDihedral_statement Int false := by
  intro h
  have hrun : stateAugmentationDihedral (1024 : Int) 8 false [[(523, 529), (428, 529)]]
      = some [[(523, 529), (428, 529)], [(523, 529), (596, 529)], [(523, 495), (428, 495)], [(501, 495), (596, 495)],
              [(529, 523), (529, 428)], [(495, 523), (495, 428)], [(529, 501), (529, 596)], [(495, 501), (495, 596)]] := by
    decide
  obtain ⟨row, row', h1, h2, ⟨f, hf, hmap⟩, _⟩ := h 1024 _ _ hrun 1 0 (by decide) (by decide)
  cases h1
  cases h2
  have := hf (523, 529) (428, 529)
  rw [← (List.cons.inj hmap).1, ← (List.cons.inj (List.cons.inj hmap).2).1] at this
  revert this
  decide

/-- side condition: every output coordinate is `v` or `one - v` -/
def squareOk (tbl : List ((Bool × Bool × Bool) × (Bool × Bool × Bool))) : Bool :=
  tbl.all fun e => (e.1.2.1 == e.1.2.2) && (e.2.2.1 == e.2.2.2)

theorem square_ok : squareOk Params.augDihedralTable = true := by decide

theorem coord_in_square (one : Int) (c : Bool × Bool × Bool) (hc : c.2.1 = c.2.2) (p : Pt Int)
    (hx : 0 ≤ p.1 ∧ p.1 ≤ one) (hy : 0 ≤ p.2 ∧ p.2 ≤ one) : 0 ≤ coord one c p ∧ coord one c p ≤ one := by
  obtain ⟨u, h, n⟩ := c
  cases (hc : h = n)
  -- the coordinate read is in `[0, one]`, and the output is it or its mirror image
  have hv : 0 ≤ sel u p ∧ sel u p ≤ one := by cases u <;> assumption
  simp only [coord]
  generalize sel u p = v at hv
  cases h
  · rw [if_neg Bool.false_ne_true, if_neg Bool.false_ne_true, Int.zero_add]; exact hv
  · rw [if_pos rfl, if_pos rfl]; exact ⟨Int.sub_nonneg.mpr hv.2, Int.sub_le_self one hv.1⟩

/-- **C15** every dihedral copy of a point of `[0, one]²` lies in `[0, one]²`. -/
theorem dihedral_maps_square (one : Int) (k : Nat) (p : Pt Int) (hx : 0 ≤ p.1 ∧ p.1 ≤ one) (hy : 0 ≤ p.2 ∧ p.2 ≤ one) :
    (0 ≤ (dihedral one k p).1 ∧ (dihedral one k p).1 ≤ one) ∧ (0 ≤ (dihedral one k p).2 ∧ (dihedral one k p).2 ≤ one) := by
  unfold dihedral dihedralWith
  cases hk : Params.augDihedralTable[k]? with
  | none => exact ⟨hx, hy⟩
  | some e =>
    have he := (List.all_eq_true.1 square_ok) e (List.mem_of_getElem? hk)
    simp only [Bool.and_eq_true, beq_iff_eq] at he
    exact ⟨coord_in_square one e.1 he.1 p hx hy, coord_in_square one e.2 he.2 p hx hy⟩

/-- the hypotheses are satisfiable and the maps are not all trivial: copy 1 moves a point, a quarter turn
(`c = 0, s = 1`) satisfies `c² + s² = 1` and moves a point, and the 3-4-5 rotation `c = 3/5, s = 4/5` does too -/
example : dihedral (1024 : Int) 1 (100, 200) = (924, 200) := by decide
example : dihedral (1024 : Int) 7 (100, 200) = (824, 924) := by decide
example : symTransform (0 : Int) 1 512 false (612, 512) = (512, 612) ∧ (0 : Int) * 0 + 1 * 1 = 1 := by decide
example : symTransform (0 : Int) 1 512 true (612, 512) = (612, 512) := by decide
example : ((3 : Rat) / 5) * (3 / 5) + (4 / 5) * (4 / 5) = 1 := by grind
example : swapOf 3 4 = true ∧ swapOf 1 4 = false ∧ swapOf 1 2 = false := by decide
example : AugOk 8 [[((523 : Int), (529 : Int)), (428, 529)]] (stateAugDihedral 1024 8 [[(523, 529), (428, 529)]]) :=
  stateAug_all_isometric_partial 1024 _ _ rfl

end Rl4co.Augment
