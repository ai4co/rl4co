/-
C01 for TSP: every mask-confined episode that the environment declares finished visits every node
exactly once (`Spec.Tsp.Feasible`), for every instance size and every admitted action sequence.
-/
import Rl4co.Proofs.TspfamTsp

namespace Rl4co.Tsp
open Rl4co.Tspfam

theorem feasible_of_run (i : Inst) {as : List Nat} {s : State}
    (h : Run env i (env.reset i) as s) (hd : env.done i s = true) : Spec.Tsp.Feasible i.n as :=
  (Spec.Tsp.feasible_iff_perm i.n as).mpr (initial_eq i ▸ availEnv.perm_of_done_run h hd)

example : ∃ s, Run env ⟨3, fun _ _ => 1⟩ (env.reset ⟨3, fun _ _ => 1⟩) [2, 0, 1] s ∧
    env.done ⟨3, fun _ _ => 1⟩ s = true :=
  ⟨_, .of_admitted (by decide), by decide⟩

end Rl4co.Tsp
