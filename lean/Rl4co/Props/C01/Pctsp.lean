/-
C01 for PCTSP / SPCTSP: every mask-confined episode that the environment declares finished is a
feasible prize-collecting solution by the independent definition `Spec.Pctsp.Feasible`: nodes in
range, every customer at most once, and the REAL prize collected (the stochastic one when
`stochastic = true`) reaches the requirement unless every customer was visited — for every instance
(any number of customers, any prizes incl. zero or negative ones, any penalties, any distances) and
every admitted action sequence.  No well-formedness hypothesis is needed.

This file is also the base of the PCTSP family: the other PCTSP property files take the mask equations and the instance
`isTour` of `Prize.IsTour` from it.
-/
import Rl4co.Spec.Pctsp
import Rl4co.Proofs.PrizeTour
import Rl4co.Proofs.PctspGenerated

namespace Rl4co.Pctsp
open Rl4co.Spec.Pctsp Rl4co.Prize

theorem mask_customer_iff {i : Inst} {s : State} {a : Nat} (h0 : a ≠ 0) :
    mask i s a = true ↔ s.vis a = false ∧ s.vis 0 = false := by
  simp [mask_customer_generated i s a h0, Params.pctspMaskOrExpr]

/-- the mask's literal is 1.0: the requirement of the problem (extracted constant `1.0`) -/
theorem maskReq_eq (i : Inst) : maskReq i = i.req := by
  simp [maskReq, Params.pctspMaskPrizeConst]

/-- the depot is offered IFF the collected prize has reached the requirement (EQUALITY included) or no
customer is left — in every state -/
theorem mask_depot_iff (i : Inst) (s : State) :
    env.mask i s 0 = true ↔ (i.req ≤ s.tot ∨ visitedCustomers i s = i.n) := by
  have hle : visitedCustomers i s ≤ i.n := cnt_le _ _
  simp only [env, mask, if_true, maskReq_eq, Params.pctspMaskPrizeCmp, Params.pctspMaskCountCmp, Cmp.eval,
    Cmp.evalNat, Bool.not_eq_true', Bool.and_eq_false_iff, decide_eq_false_iff_not, Int.not_lt]
  exact or_congr_right ⟨fun h => by omega, fun h => by omega⟩

theorem isTour : IsTour env Inst.n State.vis State.i where
  nAct _ := rfl
  reset_vis _ _ := rfl
  reset_ctr _ := rfl
  reset_done _ := rfl
  step_vis _ _ _ := rfl
  step_ctr := step_i
  step_done i s a := by simp [env, done, step, Params.pctspDoneCmp, Cmp.evalNat, and_comm]
  mask_customer _ _ _ h0 hm := ((mask_customer_iff h0).mp hm).1
  mask_depot _ _ _ h0 hm := ((mask_customer_iff h0).mp hm).2

/-- `cur_total_prize` after a run (no mask needed): the real prize gathered along the actions. -/
theorem tot_of_run (i : Inst) {s s' : State} {as : List Nat} (h : Run env i s as s') :
    s'.tot = s.tot + gatherSum (realPrize i) as := by
  induction h with
  | nil s => exact (Int.add_zero _).symm
  | @cons s s' a as _ _ _ ih =>
    have ih' : s'.tot = (step i s a).tot + gatherSum (realPrize i) as := ih
    -- through the generated `_step` expression and the `real_prize` token
    rw [ih', step_tot, gatherSum_cons, Int.add_assoc]

/-- the depot rule reads the collected prize and the visited customers: a depot step changes neither -/
theorem mask_depot_step_depot (i : Inst) (s : State) : env.mask i (env.step i s 0) 0 = env.mask i s 0 := by
  refine Bool.eq_iff_iff.mpr ((mask_depot_iff i _).trans (Iff.trans ?_ (mask_depot_iff i s).symm))
  show i.req ≤ (step i s 0).tot ∨ custCount i.n (upd s.vis 0 true) = i.n ↔ _
  rw [custCount_upd_depot, step_tot, padded_zero, Int.add_zero]
  rfl

theorem prize_ok_of_vis0 (i : Inst) {s : State} (h : Reach env i s) (hv : s.vis 0 = true) :
    i.req ≤ s.tot ∨ visitedCustomers i s = i.n := by
  refine inv_of_reach (Inv := fun s => s.vis 0 = true → i.req ≤ s.tot ∨ visitedCustomers i s = i.n)
    (fun hv => by cases hv) ?_ h hv
  intro s a _ _ hm hv
  by_cases h0 : a = 0
  · subst h0
    exact (mask_depot_iff i _).mp ((mask_depot_step_depot i s).trans hm)
  · rw [isTour.step_vis_depot s h0, ((mask_customer_iff h0).mp hm).2] at hv
    cases hv

/-- after a run from reset the depot rule reads exactly the Spec's prize clause of the actions so far -/
theorem prize_rule_of_run (i : Inst) {as : List Nat} {s : State} (h : Run env i (env.reset i) as s) :
    (i.req ≤ s.tot ∨ visitedCustomers i s = i.n) ↔ (i.req ≤ collected i as ∨ AllVisited i as) := by
  have htot : s.tot = 0 + gatherSum (realPrize i) as := tot_of_run i h
  rw [gatherSum_eq_sumTo i.n (realPrize i) as (isTour.range_of_run h) (isTour.count_le_one_of_run h),
    Int.zero_add] at htot
  have hvis : ∀ j, s.vis j = decide (j ∈ as) := fun j => isTour.vis_of_run h j
  rw [htot, show visitedCustomers i s = custCount i.n s.vis from rfl, custCount_eq_n]
  simp only [hvis, decide_eq_true_eq]
  rfl

/-- **C01 (PCTSP / SPCTSP)**: a finished episode is a tour that collected the required prize or visited everybody. -/
theorem feasible_of_run (i : Inst) {as : List Nat} {s : State}
    (h : Run env i (env.reset i) as s) (hd : env.done i s = true) : Feasible i as :=
  ⟨isTour.range_of_run h, fun j hj _ => isTour.count_le_one_of_run h j hj,
    (prize_rule_of_run i h).mp
      (prize_ok_of_vis0 i ⟨as, h⟩ ((isTour.inv_of_reach ⟨as, h⟩).done_vis hd))⟩

/-- Non-vacuity: three customers with prizes 1/2, 1/2, 1/4 (requirement 1 = 4 units): the episode
`[1, 2, 0]` collects exactly the requirement and is finished; SPCTSP sees other real prizes. -/
def exInst : Inst :=
  { n := 3, req := 4, D := fun a b => if a = b then 0 else 10, detPrize := fun j => if j = 3 then 1 else 2,
    stoPrize := fun j => if j = 1 then 4 else 0, stochastic := false, pen := fun j => (j : Int) }

example : ∃ s, Run env exInst (env.reset exInst) [1, 2, 0] s ∧ env.done exInst s = true := by
  refine ⟨_, .of_admitted (by decide), by decide⟩
-- `reset` reads `n` and `pen` only and `done` ignores the instance, so `env.reset exInst` and `env.done exInst` are those
-- of the instance with the flag flipped
example : ∃ s, Run env { exInst with stochastic := true } (env.reset exInst) [1, 0] s ∧
    env.done exInst s = true := by
  refine ⟨_, .of_admitted (by decide), by decide⟩

end Rl4co.Pctsp
