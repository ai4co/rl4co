/-
C01 for CVRP: every mask-confined episode that the environment declares finished is a feasible
CVRP solution by the independent definition `Spec.Cvrp.Feasible` — for every instance (any number of
customers, any demands, any capacity ≥ 0, any distances) and every admitted action sequence.
-/
import Rl4co.Spec.Cvrp
import Rl4co.Proofs.VrpCanon
import Rl4co.Proofs.CvrpModel

namespace Rl4co.Cvrp
open Rl4co.Spec.Cvrp

theorem loads_of_run (i : Inst) (hcap : 0 ≤ i.cap) {s s' : State} {as : List Nat}
    (h : Run env i s as s') (hu : s.used ≤ i.cap) : LoadsOk i.demand i.cap s.used as := by
  induction h with
  | nil s => exact loadsOk_nil.2 hu
  | @cons s s' a as ha hm _ ih =>
    by_cases h0 : a = 0
    · subst h0; exact loadsOk_zero_cons.2 ⟨hu, ih (step_used_zero i s ▸ hcap)⟩
    · have hfit := ((mask_of_ne i s h0).1 hm).2
      rw [Int.add_comm, ← step_used_of_ne i s h0 ha] at hfit
      rw [loadsOk_cons h0, ← step_used_of_ne i s h0 ha]
      exact ih hfit

theorem feasible_of_run (i : Inst) (hcap : 0 ≤ i.cap) {as : List Nat} {s : State}
    (h : Run env i (env.reset i) as s) (hd : env.done i s = true) : Feasible i as := by
  -- the vehicle starts empty, so `hcap` is also "the load at reset fits"
  have h0 : (env.reset i).used = 0 := rfl
  have hl := loads_of_run i hcap h (h0 ▸ hcap)
  rw [h0] at hl
  exact ⟨routing.range_of_run h, fun j h1 h2 => routing.once_of_done_run h hd h1 h2 rfl, loadsOk_zero.1 hl⟩

example : ∃ s, Run env ⟨2, 8, fun _ => 4, fun _ _ => 1⟩ (env.reset ⟨2, 8, fun _ => 4, fun _ _ => 1⟩) [1, 2, 0] s ∧
    env.done ⟨2, 8, fun _ => 4, fun _ _ => 1⟩ s = true := by
  refine ⟨_, .of_admitted (by decide), by decide⟩

end Rl4co.Cvrp
