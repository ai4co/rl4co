/-
Spec-level sanity for the prize-collecting TSP Spec (`Rl4co/Spec/Pctsp.lean`), independent of the
environment model: lemmas that a vacuous or mis-stated Spec would violate.
-/
import Rl4co.Spec.Pctsp
import Rl4co.Proofs.OpShared

namespace Rl4co.Spec.Pctsp
open Rl4co.Pctsp (Inst realPrize)
open Rl4co.Prize

def allTour (n : Nat) : List Nat := (List.range n).map (· + 1) ++ [0]

theorem allTour_eq (n : Nat) : allTour n = List.range' 1 n ++ [0] := by
  rw [allTour, List.range'_eq_map_range]
  exact congrArg (· ++ [0]) (List.map_congr_left (fun k _ => Nat.add_comm k 1))

theorem mem_allTour {n j : Nat} (hj : 1 ≤ j) : j ∈ allTour n ↔ j ≤ n := by
  rw [allTour_eq, List.mem_append, List.mem_range'_1, List.mem_singleton]
  omega

/-- a feasible solution exists for EVERY instance (whatever the prizes): visit everybody -/
theorem feasible_allTour (i : Inst) : Feasible i (allTour i.n) := by
  refine ⟨fun a ha => ?_, fun j h1 _ => ?_, Or.inr (fun j h1 h2 => (mem_allTour h1).mpr h2)⟩
  · by_cases h0 : a = 0
    · omega
    · exact (mem_allTour (by omega)).mp ha
  · have : j ∉ [0] := by simp; omega
    rw [allTour_eq, List.count_append, List.count_eq_zero_of_not_mem this]
    exact List.nodup_iff_count.mp List.nodup_range' j

/-- the collected prize depends on the SET of visited customers only -/
theorem collected_congr (i : Inst) {as bs : List Nat} (h : ∀ j, 1 ≤ j → (j ∈ as ↔ j ∈ bs)) :
    collected i as = collected i bs :=
  sumTo_mem_congr h i.n _ _

/-- … and so does the prize clause -/
theorem prize_congr (i : Inst) {as bs : List Nat} (h : ∀ j, 1 ≤ j → (j ∈ as ↔ j ∈ bs))
    (hp : i.req ≤ collected i as ∨ AllVisited i as) : i.req ≤ collected i bs ∨ AllVisited i bs :=
  hp.imp (fun hp => collected_congr i h ▸ hp) fun hall j h1 h2 => (h j h1).mp (hall j h1 h2)

theorem feasibleWithin_mono (i : Inst) {t t' : Int} (h : t ≤ t') {as : List Nat} (hf : FeasibleWithin t i as) :
    FeasibleWithin t' i as :=
  ⟨hf.range, hf.once, hf.prize.imp_left (Int.le_trans (Int.sub_le_sub_left h _))⟩

theorem feasibleWithin_zero_iff (i : Inst) (as : List Nat) : FeasibleWithin 0 i as ↔ Feasible i as :=
  ⟨fun h => ⟨h.range, h.once, by simpa using h.prize⟩, fun h => ⟨h.range, h.once, by simpa using h.prize⟩⟩

/-- the symmetry of the problem: on a symmetric distance matrix a tour and its reversal are feasible
together and have the same objective -/
theorem feasible_reverse (i : Inst) (hsym : ∀ a b, i.D a b = i.D b a) {as : List Nat} (hf : Feasible i as) :
    Feasible i as.reverse ∧ objective i as.reverse = objective i as := by
  have hmem : ∀ j, 1 ≤ j → (j ∈ as.reverse ↔ j ∈ as) := fun j _ => List.mem_reverse
  refine ⟨⟨fun a ha => hf.range a (List.mem_reverse.mp ha),
    fun j h1 h2 => by rw [List.count_reverse]; exact hf.once j h1 h2,
    prize_congr i (fun j hj => (hmem j hj).symm) hf.prize⟩, ?_⟩
  show pathLen i.D (0 :: as.reverse ++ [0]) + _ = _
  rw [depot_tour_reverse i.D hsym, sumTo_mem_congr hmem]
  rfl

theorem feasible_mono_req (i : Inst) (r : Int) (h : r ≤ i.req) {as : List Nat} (hf : Feasible i as) :
    Feasible { i with req := r } as :=
  ⟨hf.range, hf.once, hf.prize.imp_left (Int.le_trans h)⟩

end Rl4co.Spec.Pctsp
