/-
C01 for MDCPDP (row stepped on its own, well-formed hand-supplied instance).

What holds of every instance and every mask-confined finished episode: only
nodes of the instance are visited, every customer exactly once, every delivery after its pickup,
the number of orders on board stays within `[0, capacity of depot 0]` after every prefix, and every
depot is entered with an empty vehicle (so an order is delivered by the vehicle that picked it up).

The full problem statement (`Spec.Mdcpdp.Feasible`: each vehicle limited by the capacity of its OWN
depot and returning to its OWN depot) is false of the code, because `current_depot` is never updated
when a new depot's vehicle starts: the capacity of depot 0 is applied to the vehicle of depot 1, and even with equal
capacities the vehicle of depot 1 ends its tour at node 0.
-/
import Rl4co.Proofs.Mdcpdp
import Rl4co.Spec.Mdcpdp

namespace Rl4co.Mdcpdp
open Rl4co.Spec.Mdcpdp

/-- the problem instance the environment instance stands for -/
def problemOf (i : Inst) : Problem :=
  { K := i.K, h := i.h, cap := i.cap, D := i.D, openMode := i.openMode, wNum := i.wNum, wDen := i.wDen }

theorem problemOf_N {i : Inst} (hwf : WF i) : (problemOf i).N = i.N := by
  have := hwf.even; show i.K + 2 * i.h = i.N; omega

theorem carryOf_snoc (p : Problem) (hist : List Nat) (a : Nat) :
    carryOf p (hist ++ [a]) =
      carryOf p hist + (if p.isPickup a then 1 else 0) - (if p.isDelivery a then 1 else 0) := by
  have hlen : ∀ f : Nat → Bool,
      (((hist ++ [a]).filter f).length : Int) = (hist.filter f).length + (if f a then 1 else 0) := by
    intro f
    rw [List.filter_append, List.length_append]
    cases h : f a <;> simp [List.filter, h]
  rw [carryOf, hlen, hlen, carryOf]
  omega

structure Hist (i : Inst) (s : State) (hist : List Nat) : Prop where
  inv   : Inv i s
  count : ∀ j, i.K ≤ j → hist.count j = if s.avail j then 0 else 1
  carry : s.carry = carryOf (problemOf i) hist

theorem hist_of_run {i : Inst} (hwf : WF i) {as : List Nat} {s : State} (h : Run env i (env.reset i) as s) :
    Hist i s as := by
  have hev := hwf.even
  refine Rl4co.inv_of_run (e := env) (i := i) (Inv := Hist i) ⟨invT_reset i hwf, fun _ _ => rfl, rfl⟩ ?_ h
  intro s hist a hh ha hm
  have ha : a < i.N := ha
  show Hist i (step i s a) (hist ++ [a])
  have hi := hh.inv.invX
  obtain ⟨b, hp⟩ := hh.inv.exists_ph
  have hk := hp.offered hwf.toT ha hm
  refine ⟨inv_step hwf hh.inv ha hm, fun j hj => ?_, ?_⟩
  · show _ = if (step i s a).avail j = true then 0 else 1
    rw [step_eq, stepF_avail, upd_apply, List.count_append, List.count_singleton, hh.count j hj]
    by_cases hja : j = a
    · -- an offered customer is unvisited
      rw [if_pos hja, hja, (hk.customer hi (hja ▸ hj)).2, beq_self_eq_true]; rfl
    · rw [if_neg hja, if_neg (fun h => hja (beq_iff_eq.mp h).symm)]; rfl
  · have hdel : (problemOf i).isDelivery a = decide (i.K + i.h ≤ a) :=
      decide_eq_decide.mpr (by show i.K + i.h ≤ a ∧ a < i.K + 2 * i.h ↔ _; omega)
    rw [step_eq, carryOf_snoc, stepF_carry, hh.carry, hdel]
    show _ = _ + (if decide (i.K ≤ a ∧ a < i.K + i.h) = true then 1 else 0) - _
    simp only [decide_eq_true_eq]

/-- **C01 (MDCPDP)**, the declarative core with the load limit of depot 0: what finished episodes of the code as it is satisfy. -/
theorem core_of_run (i : Inst) (hwf : WF i) {as : List Nat} {s : State}
    (h : Run env i (env.reset i) as s) (hd : env.done i s = true) :
    CoreFeasible (problemOf i) (i.cap 0) as := by
  have hev := hwf.even
  have hN := problemOf_N hwf
  -- a clause about the prefix `as.take k` is read off the state that prefix leads to
  have hpre := fun k => hist_of_run hwf (h.take k)
  have hoff : ∀ {k a}, as[k]? = some a → ∃ b, Offered i b (exec env i (env.reset i) (as.take k)) a := by
    intro k a hk
    obtain ⟨ha, hm⟩ := h.at hk
    obtain ⟨b, hp⟩ := (hpre k).inv.exists_ph
    exact ⟨b, hp.offered hwf.toT ha hm⟩
  refine ⟨fun a ha => by rw [hN]; exact h.lt_nAct a ha, fun j h1 h2 => ?_, fun k a hk hdel => ?_, fun k => ?_,
    fun k d hk hdK => ?_⟩
  · have hh := hist_of_run hwf h
    rw [hh.count j h1, avail_of_done hh.inv.invX hd j (hN ▸ h2)]; rfl
  · -- the delivery was offered, so its pickup is no longer available, so it was visited
    obtain ⟨b, hk⟩ := hoff hk
    have hxpd : i.K + i.h ≤ a := (of_decide_eq_true hdel).1
    have := (hpre k).count (a - i.h) (by omega)
    rw [hk.pickup_visited (hpre k).inv.invX hxpd] at this
    exact mem_of_count_eq_one this
  · have := (hpre k).inv.invX.carryCap
    rw [(hpre k).inv.dep0 (Or.inl rfl)] at this
    rw [← (hpre k).carry]
    exact ⟨carry_nonneg (hpre k).inv.invX, this⟩
  · obtain ⟨b, hk⟩ := hoff hk
    rw [← (hpre k).carry]; exact hk.carry_depot hdK

/-- The statement one would like: finished mask-confined episodes satisfy the problem as stated. -/
def feasible_of_run_statement : Prop :=
  ∀ (i : Inst) (as : List Nat) (s : State), WF i → (∀ d, d < i.K → 1 ≤ i.cap d) →
    Run env i (env.reset i) as s → env.done i s = true → Feasible (problemOf i) as

/-- 2 depots with capacities 2 and 1, two orders -/
def cexCap : Inst :=
  { N := 6, K := 2, split0 := 4, KG := 2, cap := fun d => if d = 0 then 2 else 1,
    D := fun _ _ => 1, openMode := false, wNum := 0, wDen := 1 }

/-- The vehicle of depot 1 (capacity 1) picks up both orders: the mask applies depot 0's capacity. -/
theorem feasible_of_run_counterexample : ¬ feasible_of_run_statement := by
  intro h
  have := h cexCap [0, 0, 1, 2, 3, 4, 5] (exec env cexCap (env.reset cexCap) [0, 0, 1, 2, 3, 4, 5])
    (by decide)
    (by intro d _; simp only [cexCap]; split <;> omega)
    (.of_admitted (by decide)) (by decide)
  revert this; unfold Feasible; decide

/-- 3 depots with equal capacities, one order -/
def cexHome : Inst :=
  { N := 5, K := 3, split0 := 4, KG := 3, cap := fun _ => 1,
    D := fun _ _ => 1, openMode := false, wNum := 0, wDen := 1 }

/-- Even with equal capacities: the vehicle started at depot 1 ends its tour at node 0. -/
theorem feasible_of_run_uniform_counterexample :
    ¬ (∀ (i : Inst) (as : List Nat) (s : State), WF i → (∀ d, d < i.K → i.cap d = i.cap 0) →
        Run env i (env.reset i) as s → env.done i s = true → Feasible (problemOf i) as) := by
  intro h
  have := h cexHome [0, 0, 1, 3, 4, 0, 2] (exec env cexHome (env.reset cexHome) [0, 0, 1, 3, 4, 0, 2])
    (by decide) (by intro d _; rfl)
    (.of_admitted (by decide)) (by decide)
  revert this; unfold Feasible; decide

/-- 2 depots, one order, start_mode "random" having drawn depot 1 -/
def cexStart : Inst :=
  { N := 4, K := 2, split0 := 3, KG := 2, cap := fun _ => 1,
    D := fun _ _ => 1, openMode := false, wNum := 0, wDen := 1, start := 1 }

/-- start_mode "random" (outside `WF`, which fixes `start = 0`): `_reset` sets `current_depot = 1` but forces
the first action to node 0; the finished episode `[0,2,3,1]` starts depot 1's vehicle while the vehicle of
depot 0 is still out. -/
theorem feasible_of_run_random_start_counterexample :
    ∃ s, Run env cexStart (env.reset cexStart) [0, 2, 3, 1] s ∧ env.done cexStart s = true ∧
      ¬ Feasible (problemOf cexStart) [0, 2, 3, 1] :=
  ⟨_, .of_admitted (by decide), by decide, by unfold Feasible; decide⟩

/-- The bundled generator emits a capacity tensor whose last dimension (`genCapLen`, extracted from the
source) is not the number of depots as soon as there is more than one depot — and `_step` takes its
`num_depot` from that dimension. -/
theorem generator_shape_mismatch (G : Nat) (hG : 1 < G) : genCapLen G ≠ G := by
  rw [genCapLen_eq]; omega

/-- the reset state the real code builds from the bundled generator with `num_loc = 4`, `num_depot = 2`:
6 nodes, `to_deliver`/`current_length` sized for 2 depots, but `_step` sees `genCapLen 2 = 1` depot -/
def cexGen : Inst :=
  { N := 6, K := genCapLen 2, split0 := 4, KG := 2, cap := fun _ => 2,
    D := fun _ _ => 1, openMode := false, wNum := 0, wDen := 1 }

/-- the problem that instance stands for: 2 depots, 2 orders, vehicles of capacity 2 -/
def cexGenProblem : Problem :=
  { K := 2, h := 2, cap := fun _ => 2, D := fun _ _ => 1, openMode := false, wNum := 0, wDen := 1 }

/-- With the bundled generator (outside `WF`, which demands one capacity entry per depot) depot 1 is
treated as a pickup: the finished mask-confined episode `[0,1,2,3,5,4]` enters depot 1 while the vehicle
of depot 0 is out, and the pairing is shifted. -/
theorem feasible_of_run_generator_counterexample :
    ∃ s, Run env cexGen (env.reset cexGen) [0, 1, 2, 3, 5, 4] s ∧ env.done cexGen s = true ∧
      ¬ Feasible cexGenProblem [0, 1, 2, 3, 5, 4] :=
  ⟨_, .of_admitted (by decide), by decide, by unfold Feasible; decide⟩

/-- Non-vacuity: the Spec accepts the corresponding solution in which the vehicle returns home. -/
example : Feasible (problemOf cexHome) [0, 0, 1, 3, 4, 1, 2] := by unfold Feasible; decide

end Rl4co.Mdcpdp
