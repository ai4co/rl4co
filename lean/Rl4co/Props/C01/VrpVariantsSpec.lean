/-
Spec-level sanity lemmas for the CVRP variants (independent of the environment models): they pin down the
independent definitions so that a vacuous or mis-stated Spec would be noticed.
-/
import Rl4co.Spec.Cvrptw
import Rl4co.Spec.Sdvrp
import Rl4co.Spec.Svrp

namespace Rl4co.Spec

namespace Cvrptw
open Rl4co.Cvrptw (Inst)

/-- widening the windows' ends keeps a route in time (the clock does not depend on the ends) -/
theorem routeOk_mono (i i' : Inst) (hb : i'.base = i.base) (hS : i'.twS = i.twS) (hd : i'.dur = i.dur)
    (hE : ∀ j, i.twE j ≤ i'.twE j) (r : List Nat) : ∀ t cur, routeOk i t cur r = true → routeOk i' t cur r = true := by
  induction r with
  | nil =>
    intro t cur h
    simp only [routeOk, decide_eq_true_eq] at h ⊢
    rw [hb]; have := hE 0; omega
  | cons j r ih =>
    intro t cur h
    simp only [routeOk, Bool.and_eq_true, decide_eq_true_eq] at h ⊢
    rw [hb, hS, hd]
    exact ⟨by have := hE j; omega, ih _ j h.2⟩

/-- **monotonicity**: a solution feasible for given deadlines stays feasible when deadlines are relaxed -/
theorem feasible_mono (i i' : Inst) (hb : i'.base = i.base) (hS : i'.twS = i.twS) (hd : i'.dur = i.dur)
    (hE : ∀ j, i.twE j ≤ i'.twE j) (as : List Nat) (h : Feasible i as) : Feasible i' as :=
  ⟨by rw [hb]; exact h.base, fun r hr => routeOk_mono i i' hb hS hd hE r 0 0 (h.tw r hr)⟩

/-- a time-window-feasible solution is in particular CVRP-feasible, and the objective is CVRP's -/
theorem feasible_cvrp (i : Inst) (as : List Nat) (h : Feasible i as) : Spec.Cvrp.Feasible i.base as := h.base

/-- deadlines matter: on a one-customer instance whose deadline is before the direct arrival nothing is feasible -/
theorem infeasible_of_unreachable (i : Inst) (hn : i.base.n = 1) (hlate : i.twE 1 < i.base.D 0 1) (as : List Nat) :
    ¬ Feasible i as := by
  intro h
  -- customer 1 is the only customer, so the route that contains it starts with it
  have key : ∀ as : List Nat, (∀ a ∈ as, a ≤ 1) → 1 ∈ as → ∃ r', (1 :: r') ∈ routes as := by
    intro as
    induction as with
    | nil => exact fun _ hm => absurd hm List.not_mem_nil
    | cons a as ih =>
      intro hr hm
      by_cases h0 : a = 0
      · obtain ⟨r', hr'⟩ := ih (fun b hb => hr b (List.mem_cons_of_mem _ hb))
          ((List.mem_cons.mp hm).resolve_left fun e => Nat.one_ne_zero (e.trans h0))
        exact ⟨r', by rw [h0, routes]; exact List.mem_cons_of_mem _ hr'⟩
      · have ha : a = 1 := Nat.le_antisymm (hr a List.mem_cons_self) (Nat.pos_of_ne_zero h0)
        exact ⟨firstRoute as, by rw [routes_eq, firstRoute_cons h0, ha]; exact List.mem_cons_self⟩
  obtain ⟨r', hr'⟩ := key as (fun a ha => hn ▸ h.base.range a ha)
    (mem_of_count_eq_one (h.base.once 1 (Nat.le_refl 1) (Nat.le_of_eq hn.symm)))
  have := h.tw _ hr'
  simp only [routeOk, Bool.and_eq_true, decide_eq_true_eq] at this
  omega

end Cvrptw

namespace Svrp
open Rl4co.Svrp (Inst)

/-- with equal cost factors the objective is the plain total route length times that factor -/
theorem weighted_const (i : Inst) (c : Int) (hc : ∀ k, i.costs k = c) (rs : List (List Nat)) : ∀ k,
    weighted i k rs = c * (rs.map (routeLen i.D)).sum := by
  induction rs with
  | nil => intro k; simp [weighted]
  | cons r rs ih => intro k; simp only [weighted, ih, hc, List.map_cons, List.sum_cons, Int.mul_add]

theorem objective_const_costs (i : Inst) (c : Int) (hc : ∀ k, i.costs k = c) (as : List Nat) :
    objective i as = c * routesLen i.D as := by
  simp only [objective, routesLen]; exact weighted_const i c hc _ 0

/-- raising a technician's level never destroys feasibility -/
theorem routesOk_mono (i i' : Inst) (hT : i'.T = i.T) (hs : i'.skills = i.skills)
    (hl : ∀ k, i.techs k ≤ i'.techs k) (rs : List (List Nat)) : ∀ k, routesOk i k rs = true → routesOk i' k rs = true := by
  induction rs with
  | nil => intro _ _; rfl
  | cons r rs ih =>
    intro k h
    simp only [routesOk, routeOk, Bool.and_eq_true, Bool.or_eq_true, List.isEmpty_iff, List.all_eq_true,
      decide_eq_true_eq] at h ⊢
    refine ⟨?_, ih (k + 1) h.2⟩
    rcases h.1 with h1 | h1
    · exact Or.inl h1
    · refine Or.inr ⟨by rw [hT]; exact h1.1, fun j hj => ?_⟩
      rw [hs]; have := h1.2 j hj; have := hl k; omega

theorem feasible_mono (i i' : Inst) (hn : i'.n = i.n) (hT : i'.T = i.T) (hs : i'.skills = i.skills)
    (hl : ∀ k, i.techs k ≤ i'.techs k) (as : List Nat) (h : Feasible i as) : Feasible i' as :=
  ⟨by rw [hn]; exact h.range, by rw [hn]; exact h.once, routesOk_mono i i' hT hs hl _ 0 h.skill⟩

end Svrp

namespace Sdvrp
open Rl4co.Sdvrp (Inst)

theorem deliveredTo_nonneg (j : Nat) (zs : List (Nat × Int)) (h : ∀ z ∈ zs, 0 ≤ z.2) : 0 ≤ deliveredTo j zs := by
  induction zs with
  | nil => simp [deliveredTo]
  | cons z zs ih =>
    obtain ⟨a, q⟩ := z
    have hq := h (a, q) (by simp)
    have := ih (fun z hz => h z (by simp [hz]))
    simp only [deliveredTo]
    split <;> omega

/-- a feasible split-delivery solution exists only for non-negative demands -/
theorem demand_nonneg_of_feasible (i : Inst) (as : List Nat) (h : Feasible i as) (j : Nat) (h1 : 1 ≤ j) (h2 : j ≤ i.n) :
    0 ≤ i.demand j := by
  obtain ⟨qs, _, hv⟩ := h
  rw [← hv.served j h1 h2]
  exact deliveredTo_nonneg j _ hv.nonneg

/-- a customer with positive demand must be visited -/
theorem visited_of_feasible (i : Inst) (as : List Nat) (h : Feasible i as) (j : Nat) (h1 : 1 ≤ j) (h2 : j ≤ i.n)
    (hpos : 0 < i.demand j) : j ∈ as := by
  obtain ⟨qs, _, hv⟩ := h
  have hs := hv.served j h1 h2
  apply Classical.byContradiction
  intro hn
  have : ∀ zs : List (Nat × Int), (∀ z ∈ zs, z.1 ≠ j) → deliveredTo j zs = 0 := by
    intro zs
    induction zs with
    | nil => intro _; rfl
    | cons z zs ih =>
      intro hz
      obtain ⟨a, q⟩ := z
      have ha : a ≠ j := hz (a, q) (by simp)
      simp only [deliveredTo, ha, if_false, Int.zero_add]
      exact ih (fun z hz' => hz z (by simp [hz']))
  have h0 := this (as.zip qs) (fun z hz e => hn (e ▸ (List.of_mem_zip hz).1))
  omega

end Sdvrp
end Rl4co.Spec
