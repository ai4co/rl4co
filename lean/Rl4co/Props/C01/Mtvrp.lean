/-
C01 for the multi-task VRP environment: every mask-confined episode that the environment declares
finished is a feasible solution by the independent definition `Spec.Mtvrp.Feasible` — customers visited
exactly once, linehaul and backhaul loads within capacity, no linehaul after a backhaul in a route,
service started inside the time windows (and the depot reached before it closes when routes are closed),
route length within the distance limit (return leg not counted when routes are open).

ONE statement over the feature valuation of the instance: `openR : Bool`, `limit : Option Int`,
`late : Nat → Option Int`, arbitrary backhaul demands and arbitrary travel-time matrix (any speed), so
all 16 named variants and every other combination are covered by the same proof, for any number of
customers and any mask-admitted action sequence.  Hypotheses: no customer is both linehaul and
backhaul (`Excl`, the generator's invariant) and the capacity is non-negative.
-/
import Rl4co.Proofs.MtvrpRun
import Rl4co.Proofs.MtvrpGenerated

namespace Rl4co.Mtvrp
open Rl4co.Spec.Mtvrp

/-- **C01 (MTVRP).** One statement over the feature valuation of the instance (open routes or not,
finite or infinite distance limit, finite or infinite time windows, backhauls or not, any speed): every
mask-confined episode that the environment declares finished is a feasible solution. -/
theorem feasible_of_run (i : Inst) (hx : Excl i) (hcap : 0 ≤ i.cap) {as : List Nat} {s : State}
    (h : Run env i (env.reset i) as s) (hd : env.done i s = true) : Feasible i as :=
  -- the last two `hcap` say that the loads of `reset i`, which are `0`, fit
  ⟨routing.range_of_run h, fun _ h1 h2 => routing.once_of_done_run h hd h1 h2 rfl,
    (routesOk_of_run i hx hcap h hcap hcap).routeOk rfl (fresh_reset i)⟩

/-- the same on the environment assembled from the statement-level translation of `get_action_mask` / `_step` -/
theorem feasible_of_run_gen (i : Inst) (hx : Excl i) (hcap : 0 ≤ i.cap) {as : List Nat} {s : State}
    (h : Run envGen i (envGen.reset i) as s) (hd : envGen.done i s = true) : Feasible i as := by
  rw [envGen_eq] at h hd
  exact feasible_of_run i hx hcap h hd

/-- Non-vacuity on `exInst`: closed routes, a linehaul and a backhaul customer, distance limit, time windows -/
example : Excl exInst := excl_of_wf (by decide)

example : ∃ s, Run env exInst (env.reset exInst) [1, 2, 0] s ∧ env.done exInst s = true := by
  refine ⟨_, .of_admitted (by decide), by decide⟩

end Rl4co.Mtvrp
