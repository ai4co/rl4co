/-
C01 for OP: every mask-confined episode (finished or not, with or without padding steps) is a feasible
orienteering solution by the independent definition `Spec.Op.Feasible`: nodes in range, every
customer at most once, and the tour depot → actions → depot is not longer than `max_length` — for
every instance (any number of customers, any distances, any prizes) and every admitted action
sequence.  The only facts used about the budgets the code pre-computes are `budget j ≤ L − D j 0`
(the harness checks the pre-computation against this on every instance it generates).

This file is also the base of the OP family: the other OP property files take `WF`, the mask equations and the instance
`isTour` of `Prize.IsTour` from it.
-/
import Rl4co.Spec.Op
import Rl4co.Proofs.PrizeTour
import Rl4co.Proofs.OpGenerated

namespace Rl4co.Op
open Rl4co.Spec.Op Rl4co.Prize

/-- well-formed instance: the depot is at distance 0 from itself, the budget is not negative, and the
pre-computed per-node budget leaves room for the way back. -/
structure WF (i : Inst) : Prop where
  d00 : i.D 0 0 = 0
  Lnonneg : 0 ≤ i.L
  budget_le : ∀ j, 1 ≤ j → j ≤ i.n → i.budget j ≤ i.L - i.D j 0

theorem mask_customer_iff {i : Inst} {s : State} {a : Nat} (h0 : a ≠ 0) :
    mask i s a = true ↔ s.vis a = false ∧ s.vis 0 = false ∧ s.len + i.D s.cur a ≤ i.budget a := by
  simp only [mask, h0, if_false, baseMask, exceeds, Params.opMaskLenCmp, Cmp.eval, Bool.not_eq_true',
    Bool.or_eq_false_iff, decide_eq_false_iff_not, Int.not_lt, and_assoc]

/-- the depot is forced open (extracted flag) -/
theorem mask_depot (i : Inst) (s : State) : env.mask i s 0 = true := by
  simp [env, mask, Params.opDepotForcedOpen]

theorem isTour : IsTour env Inst.n State.vis State.i where
  nAct _ := rfl
  reset_vis _ _ := rfl
  reset_ctr _ := rfl
  reset_done _ := rfl
  step_vis _ _ _ := rfl
  step_ctr := step_i
  step_done i s a := by simp [env, done, step, Params.opDoneCmp, Cmp.evalNat]
  mask_customer _ _ _ h0 hm := ((mask_customer_iff h0).mp hm).1
  mask_depot _ _ _ h0 hm := ((mask_customer_iff h0).mp hm).2.1

/-- every customer's budget keeps at least `m` of slack for the way home -/
def MarginGe (i : Inst) (m : Int) : Prop := ∀ j, 1 ≤ j → j ≤ i.n → i.budget j ≤ i.L - i.D j 0 - m

/-- From a state that can return within `L − m`, the walk so far and then through the admitted actions, closed at the
depot, stays within `L − m`: the mask admits a customer only with the way home in its budget, and a depot step
costs nothing on top of the way home. -/
theorem closed_le_of_run (i : Inst) (m : Int) (hd : i.D 0 0 = 0) (hmg : MarginGe i m)
    {as : List Nat} {s s' : State} (h : Run env i s as s') (hs : s.len + i.D s.cur 0 ≤ i.L - m) :
    s.len + pathLen i.D (s.cur :: as ++ [0]) ≤ i.L - m := by
  induction h with
  | nil s => exact (pathLen_pair ..).symm ▸ hs
  | @cons s s' a as ha hm _ ih =>
    have ih' : (step i s a).len + pathLen i.D (a :: as ++ [0]) ≤ i.L - m := by
      refine ih ?_
      show s.len + i.D s.cur a + i.D a 0 ≤ i.L - m
      by_cases h0 : a = 0
      · subst h0
        rw [hd, Int.add_zero]
        exact hs
      · have := ((mask_customer_iff h0).mp hm).2.2
        have := hmg a (Nat.pos_of_ne_zero h0) (Nat.le_of_lt_succ ha)
        omega
    rw [step_len] at ih'  -- through the generated `_step` expression
    rw [pathLen_cons_snoc]
    omega

theorem tourLen_le_of_run (i : Inst) (m : Int) (hd : i.D 0 0 = 0) (hmg : MarginGe i m) (hmL : m ≤ i.L)
    {as : List Nat} {s : State} (h : Run env i (env.reset i) as s) : tourLen i as ≤ i.L - m := by
  have hs : (0 : Int) + i.D 0 0 ≤ i.L - m := by
    rw [hd]
    exact Int.sub_nonneg_of_le hmL
  have := closed_le_of_run i m hd hmg h hs
  exact Int.le_trans (Int.le_of_eq (Int.zero_add _).symm) this

/-- Every mask-confined episode is feasible and keeps unused whatever margin `0 ≤ m ≤ L` the budgets keep. -/
theorem feasible_of_run_margin (i : Inst) (m : Int) (hd : i.D 0 0 = 0) (hm0 : 0 ≤ m) (hmL : m ≤ i.L)
    (hmg : MarginGe i m) {as : List Nat} {s : State} (h : Run env i (env.reset i) as s) :
    Feasible i as ∧ tourLen i as ≤ i.L - m := by
  have := tourLen_le_of_run i m hd hmg hmL h
  exact ⟨⟨isTour.range_of_run h, fun j hj _ => isTour.count_le_one_of_run h j hj,
    Int.le_trans this (Int.sub_le_self _ hm0)⟩, this⟩

/-- **C01 (OP).**  Every mask-confined episode is a feasible orienteering solution. -/
theorem feasible_of_run (i : Inst) (hwf : WF i) {as : List Nat} {s : State}
    (h : Run env i (env.reset i) as s) : Feasible i as :=
  (feasible_of_run_margin i 0 hwf.d00 (Int.le_refl 0) hwf.Lnonneg
    (fun j h1 h2 => (Int.sub_zero _).symm ▸ hwf.budget_le j h1 h2) h).1

/-- `_reset` computes `max_length − dist − 1e-6` (extracted constant) up to a rounding error `rho`: the
budgets stay at least `1e-6 − rho` below `L − D j 0`.  `1000000` is `Params.opResetMargin.2`, written out because
`omega` reads numerals only; the `simp only` puts the token's value next to it, so the proof breaks when the token
changes (likewise `marginLe_of_precomp`). -/
theorem marginGe_of_precomp (i : Inst) (U rho m : Int) (hp : Precomp i U rho)
    (hm : 1000000 * m ≤ U - 1000000 * rho) : MarginGe i m := by
  intro j h1 h2
  have := (hp j h1 h2).2
  simp only [budgetSpecScaled, Params.opResetMargin] at this
  omega

theorem precomp_iff (i : Inst) (U rho : Int) : precomp i U rho = true ↔ Precomp i U rho := by
  simp only [precomp, List.all_eq_true, List.mem_range, Bool.and_eq_true, decide_eq_true_eq]
  exact forall_lt_succ_iff (P := fun j =>
    budgetSpecScaled i U j - Params.opResetMargin.2 * rho ≤ Params.opResetMargin.2 * i.budget j ∧
    Params.opResetMargin.2 * i.budget j ≤ budgetSpecScaled i U j + Params.opResetMargin.2 * rho)

/-- **C01 (OP), with the pre-computation inside the model**: no hypothesis about the read-back budgets other
than that they ARE the code's formula up to a rounding error smaller than the margin. -/
theorem feasible_of_run_precomp (i : Inst) (U rho : Int) (hd : i.D 0 0 = 0) (hL : 0 ≤ i.L)
    (hp : Precomp i U rho) (hrho : 1000000 * rho ≤ U) {as : List Nat} {s : State}
    (h : Run env i (env.reset i) as s) : Feasible i as :=
  (feasible_of_run_margin i 0 hd (Int.le_refl 0) hL (marginGe_of_precomp i U rho 0 hp (by omega)) h).1

/-- Non-vacuity: a concrete well-formed instance (budgets with a margin of one unit) with a finished
mask-confined run that uses the budget up to that margin. -/
def exInst : Inst :=
  { n := 2, L := 21, D := fun a b => if a = b then 0 else 10, prize := fun _ => 1,
    budget := fun j => if j = 0 then 20 else 10, cbound := fun _ => 22 }

example : WF exInst :=
  ⟨by decide, by decide, by
    intro j h1 h2
    have : j = 1 ∨ j = 2 := by simp only [exInst] at h2; omega
    rcases this with h | h <;> subst h <;> decide⟩

example : ∃ s, Run env exInst (env.reset exInst) [1, 0] s ∧ env.done exInst s = true := by
  refine ⟨_, .of_admitted (by decide), by decide⟩

end Rl4co.Op
