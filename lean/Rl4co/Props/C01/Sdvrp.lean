/-
C01 for SDVRP: every mask-confined episode that the environment declares finished is a feasible
split-delivery solution by the independent definition `Spec.Sdvrp.Feasible`: there are amounts handed
over at the visits (non-negative, none at the depot) with every vehicle load within the capacity and
every customer receiving exactly its demand.  The witness is the greedy split that the environment
itself performs (`greedyFeasible_of_run`); it holds for every instance with capacity ≥ 0 and demands
≥ 0 (demands above the capacity included) and every admitted action sequence.
-/
import Rl4co.Proofs.SdvrpModel

namespace Rl4co.Sdvrp
open Rl4co.Spec.Sdvrp

/-- **C01 (SDVRP)**, strong form: the greedy replay of a finished mask-confined episode is a valid split. -/
theorem greedyFeasible_of_run (i : Inst) (hw : WF i) {as : List Nat} {s : State}
    (h : Run env i (env.reset i) as s) (hd : env.done i s = true) : greedyFeasible i as = true := by
  have hi := inv_reset i hw
  exact (greedyFeasible_iff i hw as).2
    ⟨fun a ha => Nat.le_of_lt_succ (h.lt_nAct a ha), fun j _ h2 =>
      (congrFun (rem_eq_greedyRem i h hi) j).symm.trans (rem_zero_of_done (hi.of_run h) hd j h2)⟩

theorem feasible_of_run (i : Inst) (hw : WF i) {as : List Nat} {s : State}
    (h : Run env i (env.reset i) as s) (hd : env.done i s = true) : Feasible i as :=
  feasible_of_greedy i as (greedyFeasible_of_run i hw h hd)

example : WF exInst := ⟨by decide, by intro j; simp only [exInst]; split <;> omega⟩

example : ∃ s, Run env exInst (env.reset exInst) [1, 2, 0, 2] s ∧ env.done exInst s = true := by
  refine ⟨_, .of_admitted (by decide), by decide⟩

end Rl4co.Sdvrp
