/-
Translator obligations for the CVRP model.  Three source tokens are *parameters* of the model
(`Params.cvrpMaskCapCmp`, `cvrpCheckCapCmp`, `cvrpDoneCmp`: the proofs unfold them); the remaining
decision-critical tokens of `cvrp/env.py` are hard-coded in `Rl4co/Env/Cvrp.lean`.  `harness/extract.py` reads all of them from the CURRENT
source on every run; this theorem states that the source still says what the model hard-codes, so a
one-token edit of the source (depot rule, load-reset factor, checker clamp, checker tolerance) breaks
this obligation at `lake build` and the check goes into its failing-input search.
-/
import Rl4co.Env.Cvrp

namespace Rl4co.Cvrp

theorem params_match :
    Params.cvrpMaskCapCmp = .gt ∧      -- get_action_mask: demand + used_capacity > vehicle_capacity
    Params.cvrpDoneCmp = .eq ∧         -- _step: visited.sum(-1) == visited.size(-1)
    Params.cvrpDepotCurCmp = .eq ∧     -- get_action_mask: current_node == 0          (`s.cur == 0` in `mask`)
    Params.cvrpDepotAnyCmp = .gt ∧     -- get_action_mask: (mask_loc == 0).sum(-1) > 0  (`anyLoc`)
    Params.cvrpStepDepotCmp = .ne ∧    -- _step: (current_node != 0) load-reset factor (`if a ≠ 0` in `step`)
    Params.cvrpCheckCapCmp = .le ∧     -- checker: used_cap <= vehicle_capacity + tol
    Params.cvrpCheckClampCmp = .lt ∧   -- checker: used_cap[used_cap < 0] = 0          (`if u < 0` in `checkLoads`)
    Params.cvrpCheckTol = (1, 100000)  -- checker tolerance 1e-5 (the harness converts it to ticks)
    := by decide

end Rl4co.Cvrp
