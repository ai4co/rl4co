/-
Spec-level sanity for the MTVRP family: lemmas that pin `Spec.Mtvrp.Feasible` / `objective` down, so that a vacuous or
mis-stated Spec would be noticed: every well-formed instance HAS a feasible solution (each customer on its own route),
that solution is canonical (hence mask-reachable, C05), the objective is non-negative.
-/
import Rl4co.Props.C05.Mtvrp

namespace Rl4co.Mtvrp
open Rl4co.Spec.Mtvrp

/-- The function `rebuild` of `Proofs/VrpCanon` once more (`join_eq_rebuild`): `singles` is defined with it, the proofs
rewrite it away. -/
def join : List (List Nat) → List Nat
  | [] => []
  | r :: rs => r ++ 0 :: join rs

theorem join_eq_rebuild : ∀ rs : List (List Nat), join rs = rebuild rs
  | [] => rfl
  | r :: rs => by rw [join, rebuild, join_eq_rebuild rs]

/-- every customer on a route of its own: `[1, 0, 2, 0, …, n, 0]` -/
def singles (n : Nat) : List Nat := join ((List.range n).map (fun k => [k + 1]))

theorem singles_eq (n : Nat) : singles n = rebuild ((List.range n).map (fun k => [k + 1])) := join_eq_rebuild _

theorem zero_not_mem_single {n : Nat} : ∀ r ∈ (List.range n).map (fun k => [k + 1]), r ≠ [] ∧ 0 ∉ r := by
  intro r hr
  obtain ⟨k, _, rfl⟩ := List.mem_map.mp hr
  exact ⟨List.cons_ne_nil _ _, fun h => Nat.succ_ne_zero k (List.mem_singleton.1 h).symm⟩

/-- customer `j` occurs once in `[1], [2], …, [n]` if `1 ≤ j ≤ n` and not at all otherwise -/
theorem count_singletons (j n : Nat) :
    (((List.range n).map (fun k => [k + 1])).map (List.count j)).sum = if 1 ≤ j ∧ j ≤ n then 1 else 0 := by
  -- the routes `[1], …, [n]` flattened are `List.range' 1 n`
  rw [← List.count_flatten, ← List.flatMap_def, ← List.map_eq_flatMap,
    show (fun k => k + 1) = (fun k => 1 + k) from funext fun k => Nat.add_comm k 1, ← List.range'_eq_map_range,
    List.count_range_1', Nat.add_comm 1 n]
  exact ite_congr (propext (and_congr_right fun _ => Nat.lt_succ_iff)) (fun _ => rfl) fun _ => rfl

/-- **the Spec is not vacuous: every well-formed instance has a feasible solution** (each customer served on its own
route), for every feature valuation -/
theorem exists_feasible_of_wf (i : Inst) (hwf : wf i = true) : Feasible i (singles i.n) := by
  refine ⟨fun a ha => ?_, fun j h1 h2 => ?_, fun r hr hne => ?_⟩
  · rw [singles_eq] at ha
    rcases mem_rebuild _ a ha with h | ⟨r, hr, har⟩
    · rw [h]; exact Nat.zero_le _
    · obtain ⟨k, hk, rfl⟩ := List.mem_map.mp hr
      rw [List.mem_singleton.1 har]
      exact List.mem_range.mp hk
  · rw [singles_eq, count_rebuild (Nat.ne_of_gt h1) fun r hr => (zero_not_mem_single r hr).2, count_singletons,
      if_pos ⟨h1, h2⟩]
  · rw [singles_eq, routes_rebuild _ fun r hr => (zero_not_mem_single r hr).2] at hr
    rcases List.mem_append.mp hr with h | h
    · -- the mask offers every customer to a fresh vehicle, and what the mask admits can end a route
      obtain ⟨k, hk, rfl⟩ := List.mem_map.mp h
      have hkn : k + 1 < i.n + 1 := Nat.succ_lt_succ (List.mem_range.mp hk)
      have hadm := (canVisit_iff i (reset i) (k + 1)).1
        (canVisit_of_fresh hwf (fresh_reset i) rfl (Nat.succ_pos k) (Nat.le_of_lt_succ hkn) rfl)
      have hx := excl_of_wf hwf
      exact routeOk_of_cont rfl (fresh_reset i) (cont_cons hx (Nat.succ_ne_zero k) hkn hadm
        (cont_nil_of_adm (Nat.succ_ne_zero k) hadm
          (used_step hx (Nat.succ_ne_zero k) hkn hadm (wf_cap hwf) (wf_cap hwf))))
    · exact absurd (List.mem_singleton.1 h) hne

/-- … and it is canonical, so (C05) the mask generates it -/
theorem canonical_singles (n : Nat) (hn : 0 < n) : Canonical (singles n) := by
  rw [singles_eq]
  refine ⟨canon_rebuild _ zero_not_mem_single, zero_mem_rebuild _ fun e => ?_⟩
  have := congrArg List.length e
  rw [List.length_map, List.length_range] at this
  exact absurd this (Nat.ne_of_gt hn)

theorem objective_nonneg (i : Inst) (hD : ∀ a b, 0 ≤ i.D a b) (as : List Nat) : 0 ≤ objective i as := by
  refine sum_map_nonneg fun r _ => ?_
  unfold routeCost
  split
  · exact Int.le_refl 0
  · exact pathLen_nonneg hD _

/-- hence every well-formed metric instance is solved through the mask: a finished mask-confined run exists -/
theorem wf_solvable (i : Inst) (hwf : wf i = true) (hm : Metric i) (hn : 0 < i.n) :
    ∃ s, Run env i (env.reset i) (singles i.n) s ∧ env.done i s = true :=
  run_of_feasible i hwf hm (singles i.n) (exists_feasible_of_wf i hwf) (canonical_singles i.n hn)

example : singles 3 = [1, 0, 2, 0, 3, 0] := by decide

end Rl4co.Mtvrp
