/-
Spec-level sanity for the orienteering Spec (`Rl4co/Spec/Op.lean`), independent of the environment model:
lemmas that a vacuous or mis-stated Spec would violate.
-/
import Rl4co.Spec.Op
import Rl4co.Proofs.OpShared

namespace Rl4co.Spec.Op
open Rl4co.Op (Inst) 
open Rl4co.Prize

theorem feasible_nil (i : Inst) (hd : i.D 0 0 = 0) (hL : 0 ≤ i.L) : Feasible i [] :=
  ⟨by simp, by simp, by simp [tourLen, pathLen, hd, hL]⟩

theorem feasible_depot_twice (i : Inst) (hd : i.D 0 0 = 0) (hL : 0 ≤ i.L) : Feasible i [0, 0] :=
  ⟨by simp, by intro j h1 _; rw [List.count_eq_zero_of_not_mem (by simp; omega)]; omega, by simp [tourLen, pathLen, hd, hL]⟩

/-- the objective depends on the SET of visited customers only -/
theorem objective_congr (i : Inst) {as bs : List Nat} (h : ∀ j, 1 ≤ j → (j ∈ as ↔ j ∈ bs)) :
    objective i as = objective i bs :=
  sumTo_mem_congr h i.n _ _

/-- … hence it is invariant under reordering the visits and under depot padding -/
theorem objective_perm (i : Inst) {as bs : List Nat} (h : as.Perm bs) : objective i as = objective i bs :=
  objective_congr i (fun _ _ => h.mem_iff)

theorem objective_pad (i : Inst) (as : List Nat) : objective i (as ++ [0]) = objective i as :=
  objective_congr i (fun j hj => by simp; omega)

theorem objective_mono (i : Inst) (hp : ∀ j, 1 ≤ j → j ≤ i.n → 0 ≤ i.prize j) {as bs : List Nat}
    (h : ∀ j, j ∈ as → j ∈ bs) : objective i as ≤ objective i bs := by
  refine sumTo_le_sumTo (fun k hk => ?_)
  by_cases ha : k + 1 ∈ as
  · rw [if_pos ha, if_pos (h _ ha)]; exact Int.le_refl _
  · rw [if_neg ha]
    split
    · exact hp (k + 1) (Nat.succ_pos k) hk
    · exact Int.le_refl _

theorem feasible_mono (i : Inst) (L' : Int) (h : i.L ≤ L') {as : List Nat} (hf : Feasible i as) :
    Feasible { i with L := L' } as :=
  ⟨hf.range, hf.once, Int.le_trans hf.length h⟩

theorem feasibleWithin_mono (i : Inst) {t t' : Int} (h : t ≤ t') {as : List Nat} (hf : FeasibleWithin t i as) :
    FeasibleWithin t' i as :=
  ⟨hf.range, hf.once, Int.le_trans hf.length (Int.add_le_add_left h _)⟩

theorem feasibleWithin_zero_iff (i : Inst) (as : List Nat) : FeasibleWithin 0 i as ↔ Feasible i as :=
  ⟨fun h => ⟨h.range, h.once, by simpa using h.length⟩, fun h => ⟨h.range, h.once, by simpa using h.length⟩⟩

/-- the symmetry of the problem: on a symmetric distance matrix a tour and its reversal have the same
length, the same prize, and are feasible together -/
theorem feasible_reverse (i : Inst) (hsym : ∀ a b, i.D a b = i.D b a) {as : List Nat} (hf : Feasible i as) :
    Feasible i as.reverse ∧ objective i as.reverse = objective i as :=
  ⟨⟨fun a ha => hf.range a (List.mem_reverse.mp ha), fun j h1 h2 => by rw [List.count_reverse]; exact hf.once j h1 h2,
    by rw [tourLen, depot_tour_reverse i.D hsym]; exact hf.length⟩,
   objective_perm i (List.reverse_perm as)⟩

end Rl4co.Spec.Op
