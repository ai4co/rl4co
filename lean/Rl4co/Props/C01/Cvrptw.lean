/-
C01 for CVRPTW: every mask-confined episode that the environment declares finished is a feasible
CVRPTW solution by the independent definition `Spec.Cvrptw.Feasible` (customers exactly once, route
loads within capacity, every service started within its window, every route back at the depot within
the depot's window) — for every instance with capacity ≥ 0 satisfying `RetOK` and every admitted action
sequence.  The CVRP part is inherited from `Cvrp.feasible_of_run` through the projection `run_base`
(the model embeds the CVRP model exactly as the class extends `CVRPEnv`).  `RetOK` is needed only for
the *implicit* return of the last route when the episode ends at a customer (the mask tests every
explicit return); the bundled generator guarantees it (`max_ts ≤ max_time − dist − duration`).
-/
import Rl4co.Proofs.CvrptwModel
import Rl4co.Props.C01.Cvrp

namespace Rl4co.Cvrptw
open Rl4co.Spec.Cvrptw

theorem clock_of_run (i : Inst) {s s' : State} {as : List Nat} (h : Run env i s as s')
    (hc : CacheOk i s) : clockOk i s.time s.base.cur as = true := by
  induction h with
  | nil s => rfl
  | @cons s s' a as ha hm _ ih =>
    have ih' := ih (cacheOk_step i s a)
    rw [step_time, hc a, step_cur i s a] at ih'
    exact (clockOk_cons_iff i _ _ a as).2 ⟨((mask_iff i s a).1 hm).2, ih'⟩

theorem feasible_of_run (i : Inst) (hcap : 0 ≤ i.base.cap) (hw : RetOK i) {as : List Nat} {s : State}
    (h : Run env i (env.reset i) as s) (hd : env.done i s = true) : Feasible i as := by
  have hb := Cvrp.feasible_of_run i.base hcap (run_base i h) hd
  exact ⟨hb, forall_mem_routes.2 (routes_of_clock i hw as 0 0 hb.range (clock_of_run i h (cacheOk_reset i))
    (by rw [Int.zero_add]; exact hw.depot))⟩

example : RetOK exInst := ⟨by decide, forall_customers (by decide)⟩

example : ∃ s, Run env exInst (env.reset exInst) [1, 2, 0] s ∧ env.done exInst s = true := by
  refine ⟨_, .of_admitted (by decide), by decide⟩

end Rl4co.Cvrptw
