/-
C01 for SVRP: every mask-confined episode that the environment declares finished is a feasible skill-VRP
solution by the independent definition `Spec.Svrp.Feasible` (customers exactly once; route number k is
driven by technician k, who exists and covers the skill of each of its customers) — for every instance
in which the last technician covers every customer (`WF`; the generator scales the skills by the
largest level) and every admitted action sequence.  Without `WF` the real environment raises (technician
index out of range) instead of finishing.  Range and visit counts come from the model being a depot-routing
environment (`routing`, `Proofs/VisitedRow`); the skill part (`skills_of_run`) is proved here.
-/
import Rl4co.Proofs.SvrpModel

namespace Rl4co.Svrp
open Rl4co.Spec.Svrp

theorem skills_of_run (i : Inst) (hw : WF i) {s s' : State} {as : List Nat} (h : Run env i s as s')
    (hi : TechOk i s) : SkillsFrom i s.tech as := by
  induction h with
  | nil s => trivial
  | @cons s s' a as ha hm _ ih =>
    have ih' := ih (techOk_step i hw s a hi hm)
    by_cases h0 : a = 0
    · subst h0
      rw [step_tech_zero] at ih'
      rwa [skillsFrom_zero_cons]
    · rw [step_tech_ne i s h0] at ih'
      rw [skillsFrom_cons i _ h0]
      have hc := mask_customer h0 hm
      refine ⟨⟨hi.resolve_right (fun hall => ?_), hc.2⟩, ih'⟩
      exact Bool.false_ne_true (hc.1.symm.trans (hall a (Nat.pos_of_ne_zero h0) (Nat.le_of_lt_succ ha)))

theorem feasible_of_run (i : Inst) (hw : WF i) {as : List Nat} {s : State}
    (h : Run env i (env.reset i) as s) (hd : env.done i s = true) : Feasible i as :=
  ⟨routing.range_of_run h, fun _ h1 h2 => routing.once_of_done_run h hd h1 h2 rfl,
    (routesOk_routes i as 0).mpr (skills_of_run i hw h (Or.inl hw.tech))⟩

example : WF exInst :=
  ⟨by decide, forall_customers (n := 2) (P := fun j => exInst.skills j ≤ exInst.techs 1) (by decide)⟩

example : ∃ s, Run env exInst (env.reset exInst) [1, 0, 2] s ∧ env.done exInst s = true := by
  refine ⟨_, .of_admitted (by decide), by decide⟩

end Rl4co.Svrp
