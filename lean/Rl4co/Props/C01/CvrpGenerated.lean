/-
CVRP: the per-row functions that `harness/rowtrans.py` REGENERATES from `CVRPEnv.get_action_mask` and
`CVRPEnv._step` on every run (`Rl4co/Generated/CvrpRow.lean`) are the hand-written model `Rl4co.Cvrp`
under the list representation of its state (`mask_gen_eq`, `step_gen_eq`), so the environment built from the
generated functions alone (`GenEnv`) simulates the model, and C01, the two C02 statements (no dead end, step
bound) and C05 are lifted to it.  Only mask and step are regenerated: `reward` and the objective are the model's.
`Gen` in `Rl4co.Cvrp.Gen` and in `gen_steps_le` etc. means this regenerated environment; the instance generators are `Rl4co.Gen` (C18).
-/
import Rl4co.Env.CvrpGen
import Rl4co.Props.C02.Cvrp
import Rl4co.Props.C05.CvrpOpt

namespace Rl4co.Cvrp.Gen
open Rl4co.Spec.Cvrp

@[simp] theorem demandL_length (i : Inst) : (demandL i).length = i.n := by simp [demandL]
@[simp] theorem visL_length (i : Inst) (s : State) : (visL i s).length = i.n + 1 := by simp [visL]

theorem count_true_map_pos {α : Type} (p : α → Bool) (l : List α) :
    decide (List.count true (l.map p) > 0) = l.any p := by
  simp [List.count_pos_iff, List.any_eq]

theorem mask_gen_eq (i : Inst) (s : State) :
    GenRow.cvrpMaskRow (demandL i) s.used i.cap (visL i s) s.cur = (List.range (i.n + 1)).map (mask i s) := by
  have hloc : ∀ k, (!(s.vis (k + 1) || decide (i.demand (k + 1) + s.used > i.cap))) = locOk i s (k + 1) := fun k => by
    simp only [locOk, Params.cvrpMaskCapCmp, Cmp.eval, Bool.not_or]
  have hdrop : List.drop 1 (visL i s) = (List.range i.n).map (fun k => s.vis (k + 1)) := by
    simp [visL, List.range_succ_eq_map, List.map_map, Function.comp_def]
  simp only [GenRow.cvrpMaskRow, demandL, List.map_map, Function.comp_def, hdrop, List.zipWith_map, List.zipWith_self,
    count_true_map_pos, hloc, List.range_succ_eq_map, List.map_cons, Bool.and_comm]
  rfl

theorem clamp_index {a n : Nat} (h0 : a ≠ 0) (ha : a < n + 1) :
    Int.toNat (max 0 (min (((a : Nat) : Int) - 1) (((n : Nat) : Int) - 1))) = a - 1 := by
  obtain ⟨k, rfl⟩ := Nat.exists_eq_succ_of_ne_zero h0
  have hk : (k : Int) ≤ (n : Int) - 1 := by omega
  rw [Int.natCast_succ, Int.add_sub_cancel, Int.min_eq_left hk, Int.max_eq_right (Int.natCast_nonneg k),
    Int.toNat_natCast]
  rfl

/-- the regenerated `done` test on the visited row of a model state -/
theorem done_visL (i : Inst) (s : State) : decide (List.count true (visL i s) = (visL i s).length) = done i s := by
  simp only [visL, count_true_map, List.length_map, List.length_range, done, Params.cvrpDoneCmp, Cmp.evalNat]

theorem step_gen_eq (i : Inst) (s : State) (a : Nat) (ha : a < i.n + 1) :
    GenRow.cvrpStepRow (demandL i) s.used (visL i s) a
      = ((step i s a).cur, (step i s a).used, visL i (step i s a), done i (step i s a)) := by
  have hvis : (visL i s).set a true = visL i (step i s a) := by
    apply List.ext_getElem
    · simp [visL]
    · intro k h1 h2
      simp only [visL, step, List.getElem_set, List.getElem_map, List.getElem_range, upd, eq_comm (a := a)]
  have hused : (if decide (a ≠ 0) = true then
        (demandL i).getD (Int.toNat (max 0 (min (((a : Nat) : Int) - 1) (((i.n : Nat) : Int) - 1)))) 0 + s.used else 0)
      = (step i s a).used := by
    by_cases h0 : a = 0
    · subst h0; rfl
    · have hdem : (demandL i).getD (a - 1) 0 = i.demand (a - 1 + 1) := getD_map_range _ (by omega) 0
      rw [if_pos (decide_eq_true h0), clamp_index h0 ha, hdem,
        Nat.sub_add_cancel (Nat.pos_of_ne_zero h0), step_used_of_ne i s h0 ha, Int.add_comm]
  unfold GenRow.cvrpStepRow
  simp only [demandL_length, hused, hvis, done_visL]
  rfl

theorem absS_reset (i : Inst) : GenEnv.reset i = absS i (env.reset i) := by
  simp only [GenEnv, env, absS, reset, greset, visL, GState.mk.injEq, true_and]
  apply List.ext_getElem <;> simp

theorem gmask_abs (i : Inst) (s : State) (a : Nat) (ha : a < i.n + 1) :
    GenEnv.mask i (absS i s) a = env.mask i s a := by
  simp only [GenEnv, env, gmask, absS, mask_gen_eq]
  exact getD_map_range _ ha false

theorem gstep_abs (i : Inst) (s : State) (a : Nat) (ha : a < i.n + 1) :
    GenEnv.step i (absS i s) a = absS i (env.step i s a) := by
  simp only [GenEnv, env, gstep, absS, step_gen_eq i s a ha]

theorem gdone_abs (i : Inst) (s : State) : GenEnv.done i (absS i s) = env.done i s := by
  simp only [GenEnv, env, gdone, absS, done_visL]

theorem gen_run_sim (i : Inst) {as : List Nat} {s : State} {g' : GState}
    (h : Run GenEnv i (absS i s) as g') : ∃ s', Run env i s as s' ∧ g' = absS i s' := by
  induction as generalizing s with
  | nil => cases h; exact ⟨s, Run.nil s, rfl⟩
  | cons a as ih =>
    cases h with
    | cons ha hm hr =>
      rw [gstep_abs i s a ha] at hr
      obtain ⟨s', hrun, hg⟩ := ih hr
      exact ⟨s', Run.cons ha ((gmask_abs i s a ha).symm.trans hm) hrun, hg⟩

theorem gen_runND_sim (i : Inst) {as : List Nat} {s : State} {g' : GState}
    (h : RunND GenEnv i (absS i s) as g') : ∃ s', RunND env i s as s' ∧ g' = absS i s' := by
  induction as generalizing s with
  | nil => cases h; exact ⟨s, RunND.nil s, rfl⟩
  | cons a as ih =>
    cases h with
    | cons hd ha hm hr =>
      rw [gstep_abs i s a ha] at hr
      obtain ⟨s', hrun, hg⟩ := ih hr
      exact ⟨s', RunND.cons ((gdone_abs i s).symm.trans hd) ha ((gmask_abs i s a ha).symm.trans hm) hrun, hg⟩

theorem gen_run_of_run (i : Inst) {as : List Nat} {s s' : State} (h : Run env i s as s') :
    Run GenEnv i (absS i s) as (absS i s') := by
  induction h with
  | nil s => exact Run.nil _
  | cons ha hm _ ih => exact Run.cons ha ((gmask_abs i _ _ ha).trans hm) (by rw [gstep_abs i _ _ ha]; exact ih)

theorem gen_feasible_of_run (i : Inst) (hcap : 0 ≤ i.cap) {as : List Nat} {g : GState}
    (h : Run GenEnv i (GenEnv.reset i) as g) (hd : GenEnv.done i g = true) : Feasible i as := by
  rw [absS_reset] at h
  obtain ⟨s', hrun, rfl⟩ := gen_run_sim i h
  rw [gdone_abs] at hd
  exact feasible_of_run i hcap hrun hd

theorem gen_mask_nonempty (i : Inst) {as : List Nat} {g : GState}
    (h : Run GenEnv i (GenEnv.reset i) as g) : ∃ a, a < i.n + 1 ∧ GenEnv.mask i g a = true := by
  rw [absS_reset] at h
  obtain ⟨s', _, rfl⟩ := gen_run_sim i h
  obtain ⟨a, ha, hm⟩ := mask_nonempty i s'
  exact ⟨a, ha, (gmask_abs i s' a ha).trans hm⟩

/-- **C02 (step bound) for the regenerated CVRP environment**: at most `2n + 1` steps ("two steps per customer plus one"). -/
theorem gen_steps_le (i : Inst) (hwf : WF i) {as : List Nat} {g : GState}
    (h : RunND GenEnv i (GenEnv.reset i) as g) : as.length ≤ 2 * i.n + 1 := by
  rw [absS_reset] at h
  obtain ⟨s', hrun, _⟩ := gen_runND_sim i h
  exact steps_le i hwf hrun

/-- **C05 for the regenerated CVRP environment**: the regenerated mask hides no feasible solution (up to the
canonicalisation of C05: no depot→depot move, no start at the depot; `reward` is the hand-written model's). -/
theorem gen_opt_reachable (i : Inst) (hd : ∀ j, 0 ≤ i.demand j) (hcap : 0 ≤ i.cap) (h00 : i.D 0 0 = 0)
    (hn : 1 ≤ i.n) :
    (∀ as g, Run GenEnv i (GenEnv.reset i) as g → GenEnv.done i g = true →
        Feasible i as ∧ reward i as = - objective i as) ∧
    (∀ as, Feasible i as → ∃ as' g, Run GenEnv i (GenEnv.reset i) as' g ∧ GenEnv.done i g = true ∧
        reward i as' = - objective i as) := by
  refine ⟨fun as g hr hdn => ⟨gen_feasible_of_run i hcap hr hdn, reward_eq_objective i h00 as⟩, fun as hf => ?_⟩
  obtain ⟨as', s, hrun, hdn, hrw⟩ := (opt_reachable i hd hcap h00 hn).2 as hf
  exact ⟨as', absS i s, by rw [absS_reset]; exact gen_run_of_run i hrun, by rw [gdone_abs]; exact hdn, hrw⟩

/-- the episode `[1, 0, 2]`: the second customer does not fit after the first -/
example :
    let i : Inst := ⟨2, 4, fun _ => 3, fun a b => if a = b then 0 else 1⟩
    admitted GenEnv i (GenEnv.reset i) [1, 0, 2] = true ∧ GenEnv.done i (exec GenEnv i (GenEnv.reset i) [1, 0, 2]) = true
      ∧ GenEnv.mask i (GenEnv.step i (GenEnv.reset i) 1) 2 = false := by
  decide

end Rl4co.Cvrp.Gen
