/-
C01 for mTSP: every mask-confined episode that the environment declares finished — whether or not it
was padded with further depot steps afterwards — visits every customer exactly once and uses at most
`m` (non-empty) tours, for every instance with `m ≥ 1` agents, any number of customers, any distances.
-/
import Rl4co.Proofs.Mtsp

namespace Rl4co.Mtsp
open Rl4co.Spec.Mtsp

theorem starts_of_none_left (i : Inst) {s s' : State} {as : List Nat} (h : Run env i s as s')
    (hno : ∀ j, 1 ≤ j → j ≤ i.n → s.avail j = false) (p : Nat) : starts p as = 0 := by
  induction h generalizing p with
  | nil s => rfl
  | cons ha hm _ ih =>
    have h0 := depot_of_none_left hno ha hm
    subst h0
    rw [starts_cons_zero]
    exact ih (step_done_true (done_step_of_none_left hno 0)) 0

/-- Tour-count part, generalised over the start state: from an unfinished state the departures to
come fit into the agents not yet on their way. -/
theorem starts_of_run (i : Inst) {s s' : State} {as : List Nat} (h : Run env i s as s')
    (hi : Inv i s) (hd : s.done = false) :
    starts s.cur as + s.agent + (if s.cur ≠ 0 then 1 else 0) ≤ i.m := by
  induction h with
  | nil s =>
    have := hi.agentOk hd
    show 0 + _ + _ ≤ _
    split <;> omega
  | @cons s s' a as ha hm hrest ih =>
    have hm' : s.avail a = true := hm
    have hpa : a ≠ 0 ∨ s.cur ≠ 0 := by
      by_cases h0 : a = 0
      · subst h0; exact Or.inr (hi.depot hd hm').1
      · exact Or.inl h0
    rw [starts_cons hpa as]
    cases hd1 : (step i s a).done with
    | true =>
      rw [starts_of_none_left i hrest (step_done_true hd1) a, Nat.zero_add]
      exact hi.agentOk hd
    | false =>
      have := ih (inv_step hi hm') hd1
      rwa [show env.step i s a = step i s a from rfl, step_cur, Nat.add_assoc, step_used] at this

theorem feasible_of_run (i : Inst) (hm : 1 ≤ i.m) {as : List Nat} {s : State}
    (h : Run env i (env.reset i) as s) (hd : env.done i s = true) : Feasible i as := by
  have hi := inv_reset i (one_le_n_of_run h hd) hm
  refine ⟨routing.range_of_run h, ?_, ?_⟩
  · intro j hj1 hj2
    have hj : j ≠ 0 := Nat.ne_of_gt hj1
    have hc := routing.count_of_run h hj
    have hr : (env.reset i).avail j = true := decide_eq_true hj
    rw [visited_cust _ hj, visited_cust _ hj, (inv_of_run h hi).doneNo hd j hj1 hj2, hr] at hc
    exact hc
  · rw [tours_length_eq_starts]
    exact starts_of_run i h hi rfl

/-- 3 customers, 2 agents: a finished mask-confined run that uses both agents and is padded with a further depot step -/
example : ∃ s, Run env ⟨3, 2, fun a b => if a = b then 0 else 1⟩
      (env.reset ⟨3, 2, fun a b => if a = b then 0 else 1⟩) [2, 0, 3, 1, 0] s ∧
    env.done ⟨3, 2, fun a b => if a = b then 0 else 1⟩ s = true := by
  refine ⟨_, .of_admitted (by decide), by decide⟩

end Rl4co.Mtsp
