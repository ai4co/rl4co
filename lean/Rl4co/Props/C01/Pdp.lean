/-
C01 for PDP (both values of `force_start_at_depot`): every mask-confined episode that the environment
declares finished visits every pickup and every delivery exactly once, never the depot in between,
and every pickup before its delivery (`Spec.Pdp.Feasible`); with the forced start the action list is
the depot followed by such a sequence (`Spec.Pdp.FeasibleF`).  Any number of pairs, any distances.
-/
import Rl4co.Proofs.TspfamPdp

namespace Rl4co.Pdp
open Rl4co.Tspfam

theorem prec_of_run (i : Inst) {s s' : State} {as : List Nat} (h : Run env i s as s')
    (hm : Main i s) : OpenPrec i s as := by
  induction h with
  | nil s => exact openPrec_nil i s
  | @cons s s' a as ha hmask _ ih =>
    -- the delivery is not offered while its pickup is open
    refine (ih (main_step i s a hm ha hmask)).cons fun p hp1 hp2 hav hh => ?_
    have := hmask.symm.trans (hh ▸ hm.amask_delivery hp1 hp2)
    rw [hav, Bool.not_true, Bool.and_false] at this
    cases this

theorem feasible_of_perm_run (i : Inst) {s s' : State} {cs : List Nat} (h : Run env i s cs s')
    (hm : Main i s) (hfresh : ∀ j, j ≠ 0 → s.avail j = true) (hp : cs.Perm (List.range' 1 i.n)) :
    Spec.Pdp.Feasible i.h cs := by
  obtain ⟨hr, ho⟩ := (once_iff_perm (2 * i.h) cs).mpr hp
  refine ⟨hr, ho, fun p hp1 hp2 => ?_⟩
  exact prec_of_run i h hm p hp1 hp2 (hfresh p (Nat.ne_of_gt hp1))
    (mem_of_count_eq_one (ho (p + i.h) (pair_bounds hp1 hp2).2.1 (pair_bounds hp1 hp2).2.2))

theorem feasible_of_run (i : Inst) (hf : i.force = false) {as : List Nat} {s : State}
    (h : Run env i (env.reset i) as s) (hd : env.done i s = true) : Spec.Pdp.Feasible i.h as := by
  have hp := availEnv.perm_of_done_run h hd
  rw [initial_eq i hf] at hp
  exact feasible_of_perm_run i h (main_reset i hf)
    (fun j hj => (reset_avail i hf j).trans (decide_eq_true hj)) hp

theorem feasible_of_run_force (i : Inst) (hf : i.force = true) {as : List Nat} {s : State}
    (h : Run env i (env.reset i) as s) (hd : env.done i s = true) : Spec.Pdp.FeasibleF i.h as := by
  have hp := availEnv.perm_of_done_run h hd
  rw [initial_eq_force i hf] at hp
  cases h with
  | nil => exact absurd hp.length_eq (by simp)
  | @cons _ _ a cs ha hm hrest =>
    have ha0 : a = 0 := of_decide_eq_true ((forced_mask i hf a).symm.trans hm)
    subst ha0
    refine ⟨cs, rfl, feasible_of_perm_run i hrest (main_forced_first i hf) (fun j hj => ?_) hp.cons_inv⟩
    rw [env_step, step_avail, upd_other _ _ _ _ hj]
    exact reset_avail_force i hf j

/-- Non-vacuity: two pairs (1→3, 2→4), episodes `1,3,2,4` and `0,1,2,4,3`. -/
example : ∃ s, Run env ⟨2, false, fun _ _ => 1⟩ (env.reset ⟨2, false, fun _ _ => 1⟩) [1, 3, 2, 4] s ∧
    env.done ⟨2, false, fun _ _ => 1⟩ s = true :=
  ⟨_, .of_admitted (by decide), by decide⟩
example : ∃ s, Run env ⟨2, true, fun _ _ => 1⟩ (env.reset ⟨2, true, fun _ _ => 1⟩) [0, 1, 2, 4, 3] s ∧
    env.done ⟨2, true, fun _ _ => 1⟩ s = true :=
  ⟨_, .of_admitted (by decide), by decide⟩

end Rl4co.Pdp
