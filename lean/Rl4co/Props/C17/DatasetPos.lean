/-
C17 — positional form of the loader theorems (model: `Rl4co/Train/Dataset.lean`): *where* every instance
goes, for every data set, every batch size (dividing the size of the set or not) and every sampler order —
slot `j` of batch `k` holds element `k * bs + j` of the sampler order, the loader yields `⌈len / bs⌉` batches,
and with `ExtraKeyDataset` the extra value in a slot is that very instance's.  No Mathlib.
-/
import Rl4co.Props.C17.Dataset
namespace Rl4co.Ops
variable {α β : Type}

/-- slot `j` of batch `k` is element `k * n + j` of the list that was cut (and the slot is empty exactly
when that position does not exist: the tail of the final, partial batch and everything after it) -/
theorem chunks_getElem? (n : Nat) (hn : 0 < n) (xs : List α) (k j : Nat) (hj : j < n) :
    ((chunks n xs)[k]?).bind (·[j]?) = xs[k * n + j]? := by
  refine chunks_induction (motive := fun xs cs => ∀ k, (cs[k]?).bind (·[j]?) = xs[k * n + j]?) n hn
    (fun _ => rfl) (fun x xs cs ih k => ?_) xs k
  cases k with
  | zero => rw [Nat.zero_mul, Nat.zero_add, List.getElem?_cons_zero, Option.bind_some, List.getElem?_take_of_lt hj]
  | succ k => rw [List.getElem?_cons_succ, ih k, List.getElem?_drop, Nat.succ_mul, Nat.add_right_comm, Nat.add_comm n]

/-- `⌈m / n⌉` counts one batch for the first `n` entries and `⌈(m - n) / n⌉` for the rest -/
theorem ceilDiv_step {m n : Nat} (hn : 0 < n) (hm : 0 < m) : (m + n - 1) / n = (m - n + n - 1) / n + 1 := by
  rcases Nat.lt_or_ge m n with h | h
  · rw [Nat.sub_eq_zero_of_le (Nat.le_of_lt h), Nat.zero_add, Nat.div_eq_of_lt (Nat.sub_lt hn Nat.one_pos),
      Nat.add_comm m, Nat.add_sub_assoc hm, Nat.add_div_left _ hn, Nat.div_eq_of_lt (Nat.lt_of_le_of_lt (Nat.sub_le _ _) h)]
  · rw [Nat.sub_add_cancel h, Nat.add_comm m, Nat.add_sub_assoc hm, Nat.add_div_left _ hn, Nat.add_comm]

theorem chunks_length (n : Nat) (hn : 0 < n) (xs : List α) :
    (chunks n xs).length = (xs.length + n - 1) / n :=
  chunks_induction (motive := fun xs cs => cs.length = (xs.length + n - 1) / n) n hn
    (Nat.div_eq_of_lt (by rw [List.length_nil, Nat.zero_add]; exact Nat.sub_lt hn Nat.one_pos)).symm
    (fun x xs cs ih => by
      rw [List.length_cons, ih, List.length_drop]
      exact (ceilDiv_step hn (Nat.succ_pos _)).symm) xs

theorem loader_getElem? (bs : Nat) (hbs : 0 < bs) (order : List Nat) (item : Nat → α) (k j : Nat) (hj : j < bs) :
    ((loader bs order item)[k]?).bind (·[j]?) = (order[k * bs + j]?).map item := by
  rw [← chunks_getElem? bs hbs order k j hj, loader_batches, List.getElem?_map]
  cases (chunks bs order)[k]? with
  | none => rfl
  | some c => exact List.getElem?_map

theorem loader_sequential_slot (bs : Nat) (hbs : 0 < bs) (ds : List α) (d : α) (k j : Nat) (hj : j < bs)
    (hi : k * bs + j < ds.length) :
    ((loader bs (List.range ds.length) (fun i => ds.getD i d))[k]?).bind (·[j]?) = ds[k * bs + j]? := by
  rw [loader_getElem? bs hbs _ _ k j hj, List.getElem?_range hi]
  simp [List.getD_eq_getElem?_getD, List.getElem?_eq_getElem hi]

/-- with `ExtraKeyDataset`, whatever the sampler order, the slot that holds instance `order[p]` holds that
instance's own extra value -/
theorem extra_slot (bs : Nat) (hbs : 0 < bs) (order : List Nat) (item : Nat → α) (extra : Nat → β)
    (k j : Nat) (hj : j < bs) :
    ((loader bs order (extraItem item extra))[k]?).bind (·[j]?)
      = (order[k * bs + j]?).map (fun i => (item i, extra i)) := by
  rw [loader_getElem? bs hbs order _ k j hj, extraItem_eq]

/-- non-vacuity: 7 instances, batch size 3 → 3 batches, the last one partial; slot (2, 0) is instance 6,
slot (2, 1) does not exist -/
example : (chunks 3 [10, 11, 12, 13, 14, 15, 16]).length = 3
    ∧ ((chunks 3 [10, 11, 12, 13, 14, 15, 16])[2]?).bind (·[0]?) = some 16
    ∧ ((chunks 3 [10, 11, 12, 13, 14, 15, 16])[2]?).bind (·[1]?) = none := by decide

end Rl4co.Ops
