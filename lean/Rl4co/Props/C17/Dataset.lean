/-
C17 — datasets, collation and baseline wrapping preserve instance identity and order (model:
`Rl4co/Train/Dataset.lean`): for every data set, batch size (dividing the set size or not), sampler order
(sequential or any permutation) and evaluation batch size of the rollout baseline, batching loses, duplicates
and reorders nothing, an extra key stays with its instance, and the baseline value attached to item `i` is the
row-wise policy's reward on instance `i`.  No Mathlib.
-/
import Rl4co.Train.Dataset
import Rl4co.Core.Lists
namespace Rl4co.Ops
variable {α β : Type}

/-- how the batch sampler cuts (`0 < n`): the empty order into no batch, a non-empty one into its first `n` entries
followed by the batches of the rest -/
theorem chunks_induction {motive : List α → List (List α) → Prop} (n : Nat) (hn : 0 < n)
    (nil : motive [] [])
    (cons : ∀ x xs cs, motive ((x :: xs).drop n) cs → motive (x :: xs) ((x :: xs).take n :: cs))
    (xs : List α) : motive xs (chunks n xs) := by
  -- any fuel at least as large as the order does
  suffices h : ∀ fuel (xs : List α), xs.length ≤ fuel → motive xs (chunksAux n fuel xs) from h _ xs (Nat.le_refl _)
  intro fuel
  induction fuel with
  | zero => intro xs h; cases List.eq_nil_of_length_eq_zero (Nat.le_zero.mp h); exact nil
  | succ fuel ih =>
    intro xs h
    cases xs with
    | nil => exact nil
    | cons x xs =>
      refine cons x xs _ (ih _ ?_)
      rw [List.length_drop]
      exact Nat.le_trans (Nat.sub_le_sub_left hn _) (Nat.le_of_succ_le_succ h)

/-- **C17 `loader_roundtrip`** (core): cutting into batches and concatenating is the identity,
including a final partial batch. -/
theorem chunks_flatten (n : Nat) (hn : 0 < n) (xs : List α) : (chunks n xs).flatten = xs :=
  chunks_induction (motive := fun xs cs => cs.flatten = xs) n hn rfl
    (fun x xs cs ih => by rw [List.flatten_cons, ih]; exact List.take_append_drop n _) xs

theorem chunks_sizes (n : Nat) (hn : 0 < n) (xs : List α) :
    (∀ c ∈ chunks n xs, 0 < c.length ∧ c.length ≤ n) ∧ (∀ c ∈ (chunks n xs).dropLast, c.length = n) := by
  -- carried along: nothing is cut from an empty rest, so a batch followed by another one is full
  have key : (xs = [] → chunks n xs = []) ∧ (∀ c ∈ chunks n xs, 0 < c.length ∧ c.length ≤ n) ∧
      (∀ c ∈ (chunks n xs).dropLast, c.length = n) := by
    refine chunks_induction (motive := fun xs cs => (xs = [] → cs = []) ∧ (∀ c ∈ cs, 0 < c.length ∧ c.length ≤ n) ∧
      (∀ c ∈ cs.dropLast, c.length = n)) n hn ⟨fun _ => rfl, fun c hc => absurd hc List.not_mem_nil,
        fun c hc => absurd hc List.not_mem_nil⟩ (fun x xs cs ih => ?_) xs
    obtain ⟨ih0, ih1, ih2⟩ := ih
    refine ⟨fun h => absurd h (List.cons_ne_nil _ _), fun c hc => ?_, fun c hc => ?_⟩
    · rcases List.mem_cons.mp hc with rfl | hc
      · rw [List.length_take, List.length_cons]
        exact ⟨Nat.lt_min.mpr ⟨hn, Nat.succ_pos _⟩, Nat.min_le_left _ _⟩
      · exact ih1 c hc
    · cases cs with
      | nil => exact absurd hc List.not_mem_nil
      | cons c' rest =>
        rw [List.dropLast_cons_cons] at hc
        rcases List.mem_cons.mp hc with rfl | hc
        · have hlt : n < (x :: xs).length := Nat.lt_of_not_le fun hle =>
            List.cons_ne_nil _ _ (ih0 (List.drop_eq_nil_of_le hle))
          rw [List.length_take, Nat.min_eq_left (Nat.le_of_lt hlt)]
        · exact ih2 c hc
  exact key.2

theorem fetch_eq (item : Nat → α) : fetch item = List.map item := by
  funext idxs
  simp [fetch, fetchDirect, Params.dsCollateInOrder, Params.dsFastTdDirect, Params.dsFastGenDirect]

theorem loader_batches (bs : Nat) (order : List Nat) (item : Nat → α) :
    loader bs order item = (chunks bs order).map (List.map item) := by
  simp [loader, fetch_eq]

theorem extraIdx_eq (i : Nat) : extraIdx i = i := by simp [extraIdx, Params.dsExtraIndexShift]

theorem extraItem_eq (item : Nat → α) (extra : Nat → β) : extraItem item extra = fun i => (item i, extra i) := by
  funext i; simp [extraItem, extraIdx_eq]

/-- batches hold entries of the order only (also for the degenerate batch size `0`, which `chunks_induction` excludes) -/
theorem chunks_mem (n : Nat) (xs : List α) : ∀ c ∈ chunks n xs, ∀ a ∈ c, a ∈ xs := by
  suffices h : ∀ fuel (xs : List α), ∀ c ∈ chunksAux n fuel xs, ∀ a ∈ c, a ∈ xs from h _ xs
  intro fuel
  induction fuel with
  | zero => exact fun _ c hc => absurd hc List.not_mem_nil
  | succ fuel ih =>
    intro xs
    cases xs with
    | nil => exact fun c hc => absurd hc List.not_mem_nil
    | cons x xs =>
      intro c hc a ha
      rcases List.mem_cons.mp hc with rfl | hc
      · exact List.mem_of_mem_take ha
      · exact List.mem_of_mem_drop (ih _ c hc a ha)

theorem loader_flatten (bs : Nat) (hbs : 0 < bs) (order : List Nat) (item : Nat → α) :
    (loader bs order item).flatten = order.map item := by
  rw [loader_batches, ← List.map_flatten, chunks_flatten bs hbs]

/-- **C17 `loader_roundtrip`**: a sequential loader over any data set, any batch size, returns
exactly the original instances in the original order. -/
theorem loader_roundtrip (bs : Nat) (hbs : 0 < bs) (ds : List α) (d : α) :
    (loader bs (List.range ds.length) (fun i => ds.getD i d)).flatten = ds := by
  rw [loader_flatten bs hbs, map_getD_range]

/-- **C17 `extra_travels`**: for every sampler order (in particular every permutation) and every
batch size, the batches of the data set with an extra key are the batches of the plain data set
zipped with the batches of the extra values *under the same order*. -/
theorem extra_travels (bs : Nat) (order : List Nat) (item : Nat → α) (extra : Nat → β) :
    loader bs order (extraItem item extra) =
      List.zipWith List.zip (loader bs order item) (loader bs order extra) := by
  simp only [loader_batches]
  induction chunks bs order with
  | nil => rfl
  | cons c cs ih =>
    simp only [List.map_cons, List.zipWith_cons_cons, ih]
    congr 1
    exact List.zip_map'.symm

theorem extra_travels_mem (bs : Nat) (order : List Nat) (item : Nat → α) (extra : Nat → β)
    (batch : List (α × β)) (hb : batch ∈ loader bs order (extraItem item extra)) (p : α × β)
    (hp : p ∈ batch) : ∃ i, p = (item i, extra i) := by
  rw [loader_batches, List.mem_map] at hb
  obtain ⟨c, _, rfl⟩ := hb
  obtain ⟨i, _, rfl⟩ := List.mem_map.mp hp
  exact ⟨i, rfl⟩

/-- **C17 `rollout_aligned`**: for a row-wise policy, concatenating the per-batch rewards of the
sequential evaluation loader gives, at position `i`, the reward of instance `i` — for every
evaluation batch size, dividing the set size or not. -/
theorem rollout_aligned (f : List α → List β) (g : α → β) (hf : ∀ xs, f xs = xs.map g) (bs : Nat)
    (hbs : 0 < bs) (ds : List α) : rollout f bs ds = ds.map g := by
  simp only [rollout, Params.blRolloutLoaderPlain, Params.blRolloutPlainConcat, Bool.and_self, if_true]
  have : (chunks bs ds).map f = (chunks bs ds).map (List.map g) := List.map_congr_left (fun c _ => hf c)
  rw [this, ← List.map_flatten, chunks_flatten bs hbs]

/-- **C17 `rollout_eval_aligned`**: both rollout functions of the code base — `RolloutBaseline.rollout` and MDAM's own —
put the policy into eval mode (extracted), so for a policy whose INFERENCE behaviour is row-wise the concatenated
values are `map g ds` for every evaluation batch size, whatever the policy would do in training mode (`fTrain`
arbitrary: batch-norm batch statistics, dropout …): the attached value does not depend on the rollout batch size
or on batch-mates. -/
theorem rollout_eval_aligned (fEval fTrain : List α → List β) (g : α → β) (hf : ∀ xs, fEval xs = xs.map g)
    (bs : Nat) (hbs : 0 < bs) (ds : List α) :
    blRollout fEval fTrain bs ds = ds.map g ∧ mdamRollout fEval fTrain bs ds = ds.map g := by
  simp only [blRollout, mdamRollout, rolloutWith, Params.blRolloutEvalMode, Params.mdamRolloutEvalMode,
    Params.mdamRolloutPlainConcat, if_true]
  exact ⟨rollout_aligned fEval g hf bs hbs ds, rollout_aligned fEval g hf bs hbs ds⟩

theorem rollout_eval_batch_size_independent (fEval fTrain : List α → List β) (g : α → β) (hf : ∀ xs, fEval xs = xs.map g)
    (bs bs' : Nat) (hbs : 0 < bs) (hbs' : 0 < bs') (ds : List α) :
    mdamRollout fEval fTrain bs ds = mdamRollout fEval fTrain bs' ds ∧ blRollout fEval fTrain bs ds = blRollout fEval fTrain bs' ds := by
  rw [(rollout_eval_aligned fEval fTrain g hf bs hbs ds).1, (rollout_eval_aligned fEval fTrain g hf bs hbs ds).2,
    (rollout_eval_aligned fEval fTrain g hf bs' hbs' ds).1, (rollout_eval_aligned fEval fTrain g hf bs' hbs' ds).2]
  exact ⟨rfl, rfl⟩

/-- without the `.eval()` call the training-mode behaviour is rolled out: a policy that centres its batch (as batch
norm does) attaches values that depend on the evaluation batch size -/
theorem rolloutWith_train_mode_counterexample :
    let fTrain : List Int → List Int := fun xs => xs.map (fun x => x - xs.sum)
    rolloutWith false (fun xs => xs) fTrain 1 [1, 2, 3] ≠ rolloutWith false (fun xs => xs) fTrain 3 [1, 2, 3] := by
  decide

theorem rollout_aligned' (f : List α → List β) (hf : RowWise f) (bs : Nat) (hbs : 0 < bs)
    (ds : List α) : ∃ g, (∀ xs, f xs = xs.map g) ∧ rollout f bs ds = ds.map g := by
  obtain ⟨g, hg⟩ := hf
  exact ⟨g, hg, rollout_aligned f g hg bs hbs ds⟩

/-- **C17 `wrap_aligned`**: item `i` of the wrapped training set is instance `i` together with the
baseline policy's reward on instance `i`. -/
theorem wrap_aligned (f : List α → List β) (g : α → β) (hf : ∀ xs, f xs = xs.map g) (bs : Nat)
    (hbs : 0 < bs) (ds : List α) (d : α) (dB : β) (i : Nat) (hi : i < ds.length) :
    wrapItem f bs ds d dB i = (ds[i], g ds[i]) := by
  simp only [wrapItem, extraItem_eq, rollout_aligned f g hf bs hbs]
  simp [List.getD_eq_getElem?_getD, hi]

/-- **C17 `wrap_travels`**: through any sampler order over valid indices and any training batch
size, every delivered pair is an instance with the baseline value of that very instance. -/
theorem wrap_travels (f : List α → List β) (g : α → β) (hf : ∀ xs, f xs = xs.map g) (ebs : Nat)
    (hebs : 0 < ebs) (ds : List α) (d : α) (dB : β) (bs : Nat) (order : List Nat)
    (ho : ∀ i ∈ order, i < ds.length) (batch : List (α × β))
    (hb : batch ∈ loader bs order (wrapItem f ebs ds d dB)) (p : α × β) (hp : p ∈ batch) :
    ∃ i, ∃ h : i < ds.length, i ∈ order ∧ p = (ds[i], g ds[i]) := by
  rw [loader_batches, List.mem_map] at hb
  obtain ⟨c, hc, rfl⟩ := hb
  obtain ⟨i, hic, rfl⟩ := List.mem_map.mp hp
  have hio : i ∈ order := chunks_mem bs order c hc i hic
  exact ⟨i, ho i hio, hio, wrap_aligned f g hf ebs hebs ds d dB i (ho i hio)⟩

/-- explicit permutation form: with shuffling (any permutation of `0..n-1` as sampler order) the
loader delivers every (instance, extra) pair of the data set exactly once, paired correctly. -/
theorem extra_travels_perm (bs : Nat) (hbs : 0 < bs) (n : Nat) (order : List Nat)
    (hperm : order.Perm (List.range n)) (item : Nat → α) (extra : Nat → β) :
    ((loader bs order (extraItem item extra)).flatten).Perm
      ((List.range n).map (fun i => (item i, extra i))) := by
  rw [loader_flatten bs hbs]
  exact hperm.map _

theorem row_get? (td : Cols β) (d : β) (i : Nat) (hk : (td.map (·.1)).Nodup) (kc : String × List β) (h : kc ∈ td) :
    (td.row d i).get? kc.1 = some (kc.2.getD i d) := by
  induction td with
  | nil => simp at h
  | cons x xs ih =>
    simp only [List.map_cons, List.nodup_cons] at hk
    rcases List.mem_cons.mp h with rfl | h'
    · simp [Cols.row, Dict.get?]
    · have hne : (x.1 == kc.1) = false := by
        have : x.1 ≠ kc.1 := fun e => hk.1 (e ▸ List.mem_map_of_mem (f := (·.1)) h')
        simpa using this
      have := ih hk.2 h'
      simp only [Cols.row, Dict.get?, List.map_cons, List.find?_cons, hne] at this ⊢
      exact this

theorem tddInit_getitem (td : Cols β) (d : β) (len i : Nat) (hi : i < len) :
    tddGetitem (tddInit td d len) i = td.row d i := by
  simp [tddGetitem, tddInit, Params.dsInitRowsInOrder, List.getD_eq_getElem?_getD, hi]

/-- **C17 `tdd_fetch_eq_index`**: `TensorDictDataset` (disassemble in `__init__`, `__getitem__` per index, stack in
`collate_fn`) delivers for ANY non-empty index list — unsorted, with gaps, with repetitions — exactly the
TensorDict indexed with that list: every key, every column entry `i ↦ value[i]` in the order given. -/
theorem tdd_fetch_eq_index (td : Cols β) (d : β) (len : Nat) (idxs : List Nat) (hne : idxs ≠ [])
    (hk : (td.map (·.1)).Nodup) (hi : ∀ i ∈ idxs, i < len) :
    tddFetch td d len idxs = tdIndex td d idxs := by
  have hrows : idxs.map (tddGetitem (tddInit td d len)) = idxs.map (td.row d) :=
    List.map_congr_left (fun i h => tddInit_getitem td d len i (hi i h))
  simp only [tddFetch, hrows, collate, Params.dsCollateInOrder, if_true]
  match idxs, hne with
  | i0 :: is, _ =>
    simp only [List.map_cons, tdIndex, Cols.row, List.map_map]
    apply List.map_congr_left
    intro kc hkc
    have hg : ∀ i, ((td.row d i).get? kc.1).getD d = kc.2.getD i d := fun i => by
      rw [row_get? td d i hk kc hkc]; rfl
    simp only [Function.comp, Prod.mk.injEq, true_and, List.cons.injEq]
    exact ⟨hg i0, List.map_congr_left fun i _ => hg i⟩

/-- **C17 `all_classes_agree`**: the three bundled classes return the same batch for the same index list. -/
theorem all_classes_agree (td : Cols β) (d : β) (len : Nat) (idxs : List Nat) (hne : idxs ≠ [])
    (hk : (td.map (·.1)).Nodup) (hi : ∀ i ∈ idxs, i < len) :
    fastGetitems td d idxs = tdIndex td d idxs ∧ fastGenGetitems td d idxs = tdIndex td d idxs ∧
    tddFetch td d len idxs = tdIndex td d idxs :=
  ⟨by simp [fastGetitems, Params.dsFastTdDirect], by simp [fastGenGetitems, Params.dsFastGenDirect],
   tdd_fetch_eq_index td d len idxs hne hk hi⟩

/-- **C17 `loader_roundtrip_perm`**: for an ARBITRARY index sequence (any sampler: sequential, shuffled, a `Subset`,
with replacement) and any batch size, the instances a loader returns, in order, are the index sequence mapped
through the data set; for a permutation of `0..n-1` every instance is returned exactly once. -/
theorem loader_roundtrip_perm (bs : Nat) (hbs : 0 < bs) (order : List Nat) (item : Nat → α) :
    (loader bs order item).flatten = order.map item ∧
    ∀ n, order.Perm (List.range n) → ((loader bs order item).flatten).Perm ((List.range n).map item) := by
  refine ⟨loader_flatten bs hbs order item, fun n hp => ?_⟩
  rw [loader_flatten bs hbs]
  exact hp.map _

/-- what `wrap_dataset` attaches, for a row-wise baseline policy: `g policy x`, or nothing during warm-up -/
theorem blWrap_eq {π : Type} (pol : π → List α → List β) (g : π → α → β) (hp : ∀ p xs, pol p xs = xs.map (g p))
    (bs : Nat) (hbs : 0 < bs) (b : BlState π) (ds : List α) :
    blWrap pol bs b ds = ds.map (fun x => (x, if b.alphaNum > 0 then some (g b.policy x) else none)) := by
  rw [blWrap]
  split
  · rw [rollout_aligned (pol b.policy) (g b.policy) (hp b.policy) bs hbs, List.zipWith_map_right, List.zipWith_self]
  · rfl

/-- **C17 `epoch_end_wrap_uses_updated_baseline`**: at every epoch boundary of REINFORCE (statement order of
`on_train_epoch_end` regenerated from the source: baseline callback first, then the data set reset), for every
accept / reject decision, warm-up length, epoch, candidate and evaluation batch size: the value attached to item `x`
of the NEW training set is the greedy reward of the baseline policy AFTER the callback on `x`, and the data set is
wrapped iff the alpha AFTER the callback is positive. -/
theorem epoch_end_wrap_uses_updated_baseline {π : Type} (accept : π → π → Bool) (nEpochs epoch : Nat) (cand : π)
    (pol : π → List α → List β) (g : π → α → β) (hp : ∀ p xs, pol p xs = xs.map (g p)) (bs : Nat) (hbs : 0 < bs)
    (b : BlState π) (newData : List α) :
    let r := reinforceEpochEnd accept nEpochs epoch cand pol bs b newData
    r.1 = blCallback accept nEpochs epoch cand b ∧
    r.2 = newData.map (fun x => (x, if r.1.alphaNum > 0 then some (g r.1.policy x) else none)) := by
  simp only [reinforceEpochEnd, epochEnd, Params.rfCallbackBeforeSuper, if_true, true_and]
  exact blWrap_eq pol g hp bs hbs _ newData

/-- the claim for the swapped order (data set reset first, callback afterwards) … -/
def epoch_end_swapped_statement : Prop :=
  ∀ (accept : Nat → Nat → Bool) (nEpochs epoch cand : Nat) (b : BlState Nat) (newData : List Nat),
    let pol : Nat → List Nat → List Nat := fun p xs => xs.map (fun x => p + x)
    let r := epochEnd false accept nEpochs epoch cand pol 2 b newData
    r.2 = newData.map (fun x => (x, if r.1.alphaNum > 0 then some (r.1.policy + x) else none))

/-- … is false: an accepted candidate 7 replaces baseline policy 0, but the new items carry the values of policy 0
(and at the end of the warm-up epoch the new training set is not wrapped at all although alpha is now 1). -/
theorem epoch_end_swapped_counterexample : ¬ epoch_end_swapped_statement := by
  intro h
  have := h (fun c p => decide (p < c)) 1 1 7 ⟨0, 1⟩ [10, 20, 30]
  revert this; decide

/-- with the swapped order the attached values are those of the PRE-update baseline -/
theorem epoch_end_swapped_is_stale {π : Type} (accept : π → π → Bool) (nEpochs epoch : Nat) (cand : π)
    (pol : π → List α → List β) (g : π → α → β) (hp : ∀ p xs, pol p xs = xs.map (g p)) (bs : Nat) (hbs : 0 < bs)
    (b : BlState π) (newData : List α) :
    (epochEnd false accept nEpochs epoch cand pol bs b newData).2 =
      newData.map (fun x => (x, if b.alphaNum > 0 then some (g b.policy x) else none)) := by
  simp only [epochEnd, Bool.false_eq_true, if_false]
  exact blWrap_eq pol g hp bs hbs b newData

/-- several (epoch, candidate) boundaries in a row -/
def runEpochs {π : Type} (accept : π → π → Bool) (nEpochs : Nat) (pol : π → List α → List β) (bs : Nat) :
    BlState π × List (α × Option β) → List (Nat × π × List α) → BlState π × List (α × Option β)
  | st, [] => st
  | st, (e, cand, ds) :: rest =>
    runEpochs accept nEpochs pol bs (reinforceEpochEnd accept nEpochs e cand pol bs st.1 ds) rest

/-- after any non-empty sequence of boundaries the current training set is the one wrapped by the current baseline state -/
theorem runEpochs_current {π : Type} (accept : π → π → Bool) (nEpochs : Nat) (pol : π → List α → List β)
    (g : π → α → β) (hp : ∀ p xs, pol p xs = xs.map (g p)) (bs : Nat) (hbs : 0 < bs)
    (st : BlState π × List (α × Option β)) (hist : List (Nat × π × List α)) (hne : hist ≠ []) :
    let r := runEpochs accept nEpochs pol bs st hist
    ∃ ds : List α, r.2 = ds.map (fun x => (x, if r.1.alphaNum > 0 then some (g r.1.policy x) else none)) := by
  induction hist generalizing st with
  | nil => exact absurd rfl hne
  | cons h rest ih =>
    obtain ⟨e, cand, ds⟩ := h
    cases rest with
    | nil =>
      exact ⟨ds, (epoch_end_wrap_uses_updated_baseline accept nEpochs e cand pol g hp bs hbs st.1 ds).2⟩
    | cons h2 rest2 =>
      exact ih _ (by simp)

theorem Dict.get?_set_same (d : Dict β) (k : String) (v : β) : (d.set k v).get? k = some v := by
  simp [Dict.get?, Dict.set]

theorem Dict.get?_set_other (d : Dict β) (k k' : String) (v : β) (h : k' ≠ k) :
    (d.set k v).get? k' = d.get? k' := by
  have hk : (k == k') = false := beq_false_of_ne (Ne.symm h)
  -- the new entry is not the one looked up, and the filter removes only entries with key `k`
  have hf : (fun a : String × β => !(a.1 == k) && a.1 == k') = fun a => a.1 == k' := funext fun a => by
    cases hak : a.1 == k'
    · exact Bool.and_false _
    · rw [eq_of_beq hak, beq_false_of_ne h]; rfl
  simp only [Dict.get?, Dict.set, List.find?_cons, hk, List.find?_filter, Bool.decide_and, Bool.decide_eq_true, hf]

theorem readExtra_eq (st : Store β) (key : String) (extra : Nat → β) (i : Nat) :
    (readExtra st key extra i).2 = (st.getD i []).set key (extra i) := by
  simp [readExtra, Params.dsExtraWriteUnconditional, extraIdx_eq]

/-- **C17 `rewrap_current`**: whatever happened to the shared items before (any earlier wrappers, any
reads — `st` is arbitrary), reading item `i` through a wrapper returns the CURRENT wrapper's value under
its key and leaves every other entry of the item as it was. -/
theorem rewrap_current (st : Store β) (key : String) (extra : Nat → β) (i : Nat) :
    ((readExtra st key extra i).2).get? key = some (extra i) ∧
    ∀ k', k' ≠ key → ((readExtra st key extra i).2).get? k' = (st.getD i []).get? k' := by
  rw [readExtra_eq]
  exact ⟨Dict.get?_set_same _ _ _, fun k' h => Dict.get?_set_other _ _ _ _ h⟩

theorem readMany_current (st : Store β) (key : String) (extra : Nat → β) (idxs : List Nat) :
    ((readMany st key extra idxs).2).map (fun d => d.get? key) = idxs.map (fun i => some (extra i)) := by
  induction idxs generalizing st with
  | nil => rfl
  | cons i is ih =>
    simp only [readMany, List.map_cons]
    rw [ih, readExtra_eq]
    congr 1
    exact Dict.get?_set_same _ _ _

/-- `_dataloader_single(dataset, bs, shuffle=False)` reads sequentially -/
theorem moduleOrder_sequential (n : Nat) (perm : List Nat) : moduleOrder false n perm = List.range n := by
  simp [moduleOrder, Params.loaderShufflePassthrough]

theorem moduleOrder_shuffle (n : Nat) (perm : List Nat) : moduleOrder true n perm = perm := by
  simp [moduleOrder, Params.loaderShufflePassthrough]

theorem padRow_eq (L : Nat) (row : List Int) : padRow L row = row ++ List.replicate (L - row.length) 0 := by
  simp [padRow, Params.evalPadLeft]

/-- **C17 `eval_call_aligned`**: for a row-wise `_inner` (`g x` = reward and action row of instance `x`)
and ANY batching of the instances (any batch sizes, final partial batch, per-batch action lengths that
differ): entry `i` of the concatenated rewards is instance `i`'s reward, row `i` of the concatenated
actions is instance `i`'s action row followed by zeros only, and all rows have the common length. -/
theorem eval_call_aligned (inner : List α → List (β × List Int)) (g : α → β × List Int)
    (h : ∀ xs, inner xs = xs.map g) (batches : List (List α)) :
    let rows := batches.flatten.map (fun x => (g x).2)
    (evalCall inner batches).1 = batches.flatten.map (fun x => (g x).1) ∧
    (evalCall inner batches).2 =
      batches.flatten.map (fun x => (g x).2 ++ List.replicate (maxLen rows - (g x).2.length) 0) ∧
    ∀ r ∈ (evalCall inner batches).2, r.length = maxLen rows := by
  intro rows
  have h1 : batches.map inner = batches.map (List.map g) := List.map_congr_left (fun c _ => h c)
  -- a component of the per-batch outcomes, concatenated, is that component of `g` over the concatenated batches
  have hcat : ∀ {γ : Type} (π : β × List Int → γ),
      ((batches.map inner).map (fun o => o.map π)).flatten = batches.flatten.map (fun x => π (g x)) := fun π => by
    rw [h1, ← List.map_flatten, ← List.map_flatten, List.map_map]; rfl
  have e2 : (evalCall inner batches).2 =
      batches.flatten.map (fun x => (g x).2 ++ List.replicate (maxLen rows - (g x).2.length) 0) := by
    rw [evalCall, if_pos (show Params.evalCatInOrder = true from rfl)]
    show List.map _ ((batches.map inner).map (fun o => o.map Prod.snd)).flatten = _
    rw [hcat Prod.snd, List.map_map]
    exact List.map_congr_left fun x _ => padRow_eq _ _
  refine ⟨?_, e2, fun r hr' => ?_⟩
  · rw [evalCall, if_pos (show Params.evalCatInOrder = true from rfl)]
    exact hcat Prod.fst
  · rw [e2] at hr'
    obtain ⟨x, hx, rfl⟩ := List.mem_map.mp hr'
    have hle : (g x).2.length ≤ maxLen rows :=
      (foldl_max_ge List.length rows 0).2 _ (List.mem_map.mpr ⟨x, hx, rfl⟩)
    rw [List.length_append, List.length_replicate, Nat.add_sub_cancel' hle]

/-- … in particular over the batches of a sequential loader: the evaluation returns one reward / action
row per instance of the data set, in the data set's order. -/
theorem eval_call_roundtrip (inner : List α → List (β × List Int)) (g : α → β × List Int)
    (h : ∀ xs, inner xs = xs.map g) (bs : Nat) (hbs : 0 < bs) (ds : List α) (d : α) :
    (evalCall inner (loader bs (List.range ds.length) (fun i => ds.getD i d))).1 = ds.map (fun x => (g x).1) := by
  rw [(eval_call_aligned inner g h _).1, loader_roundtrip bs hbs]

example : padRow 4 [7, 8] = [7, 8, 0, 0] := by decide
example : evalCall (fun xs : List Nat => xs.map (fun x => (10 * x, List.replicate (1 + xs.length) (Int.ofNat x))))
    [[1, 2], [3]] = ([10, 20, 30], [[1, 1, 1], [2, 2, 2], [3, 3, 0]]) := by decide

example : tddFetch [("id", [10, 11, 12, 13]), ("x", [5, 6, 7, 8])] 0 4 [0, 3, 1, 1] =
    [("id", [10, 13, 11, 11]), ("x", [5, 8, 6, 6])] := by decide
example : fastGetitems [("id", [10, 11, 12, 13])] 0 [0, 2, 1, 3] = [("id", [10, 12, 11, 13])] := by decide

/-- warm-up epoch 0 with `n_epochs = 1`, an accepted candidate: alpha becomes 1 and the new set carries the
candidate's values -/
example : reinforceEpochEnd (fun c p => decide (p < c)) 1 0 7 (fun p xs => xs.map (fun x => p + x)) 2 ⟨0, 0⟩ [10, 20, 30] =
    (⟨7, 1⟩, [(10, some 17), (20, some 27), (30, some 37)]) := by decide

/-- wrap with 100+i, read, wrap the same store with 200+i, read: the second pass sees 200+i -/
example :
    let st0 : Store Nat := [[("id", 0)], [("id", 1)]]
    let (st1, _) := readMany st0 "extra" (fun i => 100 + i) [0, 1]
    ((readMany st1 "extra" (fun i => 200 + i) [1, 0]).2).map (fun d => (d.get? "id", d.get? "extra")) =
      [(some 1, some 201), (some 0, some 200)] := by decide

example : chunks 3 [0, 1, 2, 3, 4, 5, 6] = [[0, 1, 2], [3, 4, 5], [6]] := by decide
example : chunks 3 [0, 1, 2, 3, 4, 5] = [[0, 1, 2], [3, 4, 5]] := by decide
example : chunks 18 [0, 1, 2] = [[0, 1, 2]] := by decide
example : loader 2 [2, 0, 1] (extraItem (fun i => 10 * i) (fun i => 7 + i)) = [[(20, 9), (0, 7)], [(10, 8)]] := by
  decide
example : RowWise (fun xs : List Nat => xs.map (· + 1)) := ⟨(· + 1), fun _ => rfl⟩
example : rollout (fun xs : List Nat => xs.map (· + 1)) 2 [5, 6, 7] = [6, 7, 8] := by decide
example : [2, 0, 1].Perm (List.range 3) := by decide
/-- a batch function that is NOT row-wise (reverses its batch) breaks the alignment: the hypothesis is needed -/
example : rollout (fun xs : List Nat => xs.reverse) 2 [5, 6, 7] ≠ [5, 6, 7] := by decide

end Rl4co.Ops
