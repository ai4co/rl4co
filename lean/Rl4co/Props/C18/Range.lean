/-
C18, the range layer every generator theorem rests on: a uniform draw `u = p / q ∈ [0,1)` mapped by the affine sampler
`affNum lo hi p q` (a value over `q`) stays in `[lo, hi]`, and so does what `.int()` / a floor in coarser units makes of
it (`affInt_range`, `coord_in_bounds`, `demand_draw_range`).  Integers only; no Mathlib, no environment.
-/
import Rl4co.Gen.Routing
namespace Rl4co.Gen

/-- the sampled value seen from the upper end: `hi − (1 − u)(hi − lo)` -/
theorem affNum_eq (lo hi : Int) (p q : Nat) : affNum lo hi p q = hi * q - ((q : Int) - p) * (hi - lo) := by
  unfold affNum
  rw [Int.sub_mul, Int.mul_sub (q : Int), Int.mul_comm (q : Int) hi, Int.mul_comm (q : Int) lo]
  omega

theorem aff_lower (lo hi : Int) (p q : Nat) (h : lo ≤ hi) : lo * q ≤ affNum lo hi p q :=
  Int.le_add_of_nonneg_right (Int.mul_nonneg (Int.natCast_nonneg p) (Int.sub_nonneg_of_le h))

theorem aff_upper (lo hi : Int) (p q : Nat) (h : lo ≤ hi) (hp : p < q) : affNum lo hi p q ≤ hi * q := by
  rw [affNum_eq]
  exact Int.sub_le_self _ (Int.mul_nonneg (Int.sub_nonneg_of_le (Int.ofNat_le.mpr (Nat.le_of_lt hp))) (Int.sub_nonneg_of_le h))

theorem aff_upper_strict (lo hi : Int) (p q : Nat) (h : lo < hi) (hp : p < q) : affNum lo hi p q < hi * q := by
  rw [affNum_eq]
  exact Int.sub_lt_self _ (Int.mul_pos (Int.sub_pos_of_lt (Int.ofNat_lt.mpr hp)) (Int.sub_pos_of_lt h))

/-- `.int()` of a value over `q`; it is the floor because `0 ≤ a` (`h0`): truncation rounds negative values up -/
theorem tdiv_range (a lo hi q : Int) (hq : 0 < q) (h0 : 0 ≤ a) (hl : lo * q ≤ a) (hu : a ≤ hi * q) :
    lo ≤ a.tdiv q ∧ a.tdiv q ≤ hi ∧ (a < hi * q → a.tdiv q < hi) := by
  rw [Int.tdiv_eq_ediv_of_nonneg h0]
  exact ⟨Int.le_ediv_of_mul_le hq hl, Int.ediv_le_of_le_mul hq hu, Int.ediv_lt_of_lt_mul hq⟩

/-- floor of a value over `q` in units of `S` -/
theorem ediv_units {d u a S q : Int} (hS : 0 < S) (hq : 0 < q) (hl : d * q ≤ a) (hu : a ≤ u * q) :
    d / S ≤ a / (S * q) ∧ a / (S * q) ≤ u / S := by
  rw [← Int.mul_ediv_mul_of_pos_left d S hq, ← Int.mul_ediv_mul_of_pos_left u S hq]
  exact ⟨Int.ediv_le_ediv (Int.mul_pos hS hq) hl, Int.ediv_le_ediv (Int.mul_pos hS hq) hu⟩

/-- `Uniform(lo, hi).sample().int() + add`.  `h0`: `.int()` truncates toward zero, which is the floor only from 0 upwards
(`Uniform(-5, -3)` at `u = 7/8` is `-3.25`: truncated `-3`, floored `-4`). -/
theorem affInt_range (lo hi add : Int) (p q : Nat) (h0 : 0 ≤ lo) (h : lo ≤ hi) (hp : p < q) :
    lo + add ≤ affInt lo hi add p q ∧ affInt lo hi add p q ≤ hi + add ∧ (lo < hi → affInt lo hi add p q ≤ hi + add - 1) := by
  have hq : (0:Int) < (q:Int) := Int.natCast_pos.mpr (Nat.zero_lt_of_lt hp)
  have hl := aff_lower lo hi p q h
  obtain ⟨h1, h2, h3⟩ := tdiv_range _ lo hi q hq (Int.le_trans (Int.mul_nonneg h0 (Int.le_of_lt hq)) hl) hl (aff_upper lo hi p q h hp)
  exact ⟨Int.add_le_add_right h1 add, Int.add_le_add_right h2 add,
    fun hlt => Int.le_sub_one_of_lt (Int.add_lt_add_right (h3 (aff_upper_strict lo hi p q hlt hp)) add)⟩

/-- coordinates: `min_loc ≤ loc ≤ max_loc` for every draw -/
theorem coord_in_bounds (minLoc maxLoc : Int) (p q : Nat) (h : minLoc ≤ maxLoc) (hp : p < q) :
    minLoc * q ≤ coordNum minLoc maxLoc p q ∧ coordNum minLoc maxLoc p q ≤ maxLoc * q :=
  ⟨aff_lower minLoc maxLoc p q h, aff_upper minLoc maxLoc p q h hp⟩

/-- `Uniform(lo − 1, hi − 1).sample().int() + 1`: the demands of CVRP, CVRPTW and MTVRP -/
theorem demand_draw_range (lo hi : Int) (p q : Nat) (h1 : 1 ≤ lo) (h : lo ≤ hi) (hp : p < q) :
    lo ≤ affInt (lo - 1) (hi - 1) 1 p q ∧ affInt (lo - 1) (hi - 1) 1 p q ≤ hi ∧
      (lo < hi → affInt (lo - 1) (hi - 1) 1 p q ≤ hi - 1) := by
  obtain ⟨a, b, c⟩ := affInt_range (lo - 1) (hi - 1) 1 p q (Int.sub_nonneg.2 h1) (Int.sub_le_sub_right h 1) hp
  rw [Int.sub_add_cancel] at a b c
  exact ⟨a, b, fun hlt => c (Int.sub_lt_sub_right hlt 1)⟩

end Rl4co.Gen
