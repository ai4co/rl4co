/-
C18 → C02 chains "generated ⇒ well-formed ⇒ every episode completes" for SDVRP, mTSP and FFSP: each ends in the
environment family's own C02 step bound applied to an instance assembled from the generator model's outputs; PDP stops at
`WF` (`gen_wf_pdp`).  Elsewhere: CVRP `gen_wf_cvrp` in `Props/C18/Routing` (stops at `Cvrp.WF`, the hypothesis of `Cvrp.steps_le`);
CVRPTW, SVRP, FLP/MCP/DPP, FJSP/JSSP, MTVRP, PCTSP in `Props/C02/CvrptwGen`, `SvrpGen`, `SelectGen`, `Props/C18/FjspGenWF`, `MtvrpWf`,
`Pctsp`; TSP, ATSP, OP and SMTWTP need no well-formedness beyond a positive size.  (`Rl4co.Cvrp.Gen.gen_steps_le` in
`Props/C01/CvrpGenerated` is about the regenerated environment, not about a generator.)
-/
import Rl4co.Props.C18.Routing
import Rl4co.Props.C02.Sdvrp
import Rl4co.Props.C02.Mtsp
import Rl4co.Props.C02.Pdp
import Rl4co.Props.C02.Ffsp
namespace Rl4co.Gen
open Rl4co

/-- the SDVRP instance (bundled generator = `CVRPGenerator`) assembled from generated demands, scaled by the capacity's
denominator as in `gen_wf_cvrp` -/
def sdvrpInst (n : Nat) (minD maxD : Int) (ps : Nat → Nat) (q : Nat) (c : Frac) (D : Nat → Nat → Int) : Sdvrp.Inst :=
  { n := n, cap := c.1, demand := fun j => cvrpDemand minD maxD (ps j) q * c.2, D := D }

/-- **gen_wf (SDVRP)**: positive capacity and positive (hence non-negative) demands for all draws -/
theorem gen_wf_sdvrp (n : Nat) (minD maxD : Int) (ps : Nat → Nat) (q : Nat) (c : Frac) (D : Nat → Nat → Int)
    (h1 : 1 ≤ minD) (h : minD ≤ maxD) (hq : ∀ j, ps j < q) (hc : 0 < c.1) :
    Sdvrp.WFpos (sdvrpInst n minD maxD ps q c D) where
  cap := hc
  demand j :=
    Int.mul_nonneg (Int.le_trans (Int.le_trans (by decide) h1) (cvrp_demand_range minD maxD (ps j) q h1 h (hq j)).1)
      (Int.natCast_nonneg _)

/-- generated ⇒ solvable: every mask-confined SDVRP episode on a generated instance ends within the C02 bound -/
theorem gen_steps_le_sdvrp (n : Nat) (minD maxD : Int) (ps : Nat → Nat) (q : Nat) (c : Frac) (D : Nat → Nat → Int)
    (h1 : 1 ≤ minD) (h : minD ≤ maxD) (hq : ∀ j, ps j < q) (hc : 0 < c.1) {as : List Nat} {s : Sdvrp.State}
    (hr : RunND Sdvrp.env (sdvrpInst n minD maxD ps q c D) (Sdvrp.env.reset (sdvrpInst n minD maxD ps q c D)) as s) :
    (as.length : Int) ≤ 2 * ((n : Int) + Sdvrp.sumTo n (sdvrpInst n minD maxD ps q c D).demand / c.1) + 1 :=
  Sdvrp.steps_le _ (gen_wf_sdvrp n minD maxD ps q c D h1 h hq hc) hr

/-- `num_agents = randint(min_num_agents, max_num_agents + 1)` -/
def mtspInst (numLoc : Nat) (r : Int) (D : Nat → Nat → Int) : Mtsp.Inst := { n := numLoc - 1, m := r.toNat, D := D }

theorem randint_toNat {lo hi r : Int} (h0 : 0 ≤ lo) (hr : randintInclusiveOk lo hi r = true) :
    lo ≤ (r.toNat : Int) ∧ (r.toNat : Int) ≤ hi := by
  have h := of_decide_eq_true hr
  rw [Int.toNat_of_nonneg (Int.le_trans h0 h.1)]
  exact h

/-- **gen_wf (mTSP)**: at least one customer and one agent, whatever the integer draw -/
theorem gen_wf_mtsp (numLoc : Nat) (minA maxA r : Int) (D : Nat → Nat → Int) (hn : 2 ≤ numLoc) (hmin : 1 ≤ minA)
    (hr : randintInclusiveOk minA maxA r = true) : Mtsp.WF (mtspInst numLoc r D) :=
  ⟨Nat.le_sub_one_of_lt hn,
    Int.ofNat_le.mp (Int.le_trans hmin (randint_toNat (Int.le_trans (by decide) hmin) hr).1)⟩

theorem mtsp_agents_range (numLoc : Nat) (minA maxA r : Int) (D : Nat → Nat → Int) (hmin : 1 ≤ minA)
    (hr : randintInclusiveOk minA maxA r = true) :
    minA ≤ ((mtspInst numLoc r D).m : Int) ∧ ((mtspInst numLoc r D).m : Int) ≤ maxA :=
  randint_toNat (Int.le_trans (by decide) hmin) hr

theorem gen_steps_le_mtsp (numLoc : Nat) (minA maxA r : Int) (D : Nat → Nat → Int) (hn : 2 ≤ numLoc) (hmin : 1 ≤ minA)
    (hr : randintInclusiveOk minA maxA r = true) {as : List Nat} {s : Mtsp.State}
    (h : RunND Mtsp.env (mtspInst numLoc r D) (Mtsp.env.reset (mtspInst numLoc r D)) as s) :
    as.length ≤ numLoc + (mtspInst numLoc r D).m - 2 := by
  have := Mtsp.steps_le_text _ (gen_wf_mtsp numLoc minA maxA r D hn hmin hr) h
  rwa [show (mtspInst numLoc r D).n + 1 = numLoc from Nat.sub_add_cancel (Nat.le_of_succ_le hn)] at this

/-- `num_loc` is made even by the generator -/
def pdpInst (numLoc : Nat) (force : Bool) (D : Nat → Nat → Int) : Pdp.Inst := { h := pdpNumLoc numLoc / 2, force := force, D := D }

/-- **gen_wf (PDP)**: the emitted number of customers is exactly twice the number of pairs the environment uses
(no customer is left unpaired) and the episode length is positive -/
theorem gen_wf_pdp (numLoc : Nat) (force : Bool) (D : Nat → Nat → Int) (hn : 1 ≤ numLoc) :
    (pdpInst numLoc force D).n = pdpNumLoc numLoc ∧ Pdp.WF (pdpInst numLoc force D) := by
  obtain ⟨he, h1, _⟩ := pdp_even numLoc
  have hn' : (pdpInst numLoc force D).n = pdpNumLoc numLoc := Nat.mul_div_cancel' (Nat.dvd_of_mod_eq_zero he)
  refine ⟨hn', ?_⟩
  unfold Pdp.WF Pdp.len
  rw [hn']
  cases force
  · exact Nat.lt_of_lt_of_le hn h1
  · exact Nat.succ_pos _

/-- `run_time = randint(min_time, max_time)` -/
def ffspInst (S M J : Nat) (r : Nat → Nat → Int) (flat : Bool) : Ffsp.Inst :=
  { S := S, M := M, J := J, dur := fun j m => (r j m).toNat, perm := fun p => p, flat := flat }

/-- **gen_wf (FFSP)**: positive shape, identity machine permutation, every duration below the environment's sentinel
(`max_time ≤ 999999`) for all integer draws in `[min_time, max_time)` -/
theorem gen_wf_ffsp (S M J : Nat) (r : Nat → Nat → Int) (flat : Bool) (minT maxT : Int) (hS : 0 < S) (hM : 0 < M) (hJ : 0 < J)
    (hmin : 0 ≤ minT) (hmax : maxT ≤ 999999) (hr : ∀ j m, randintExclusiveOk minT maxT (r j m) = true) :
    Ffsp.WF (ffspInst S M J r flat) where
  S_pos := hS
  M_pos := hM
  J_pos := hJ
  perm_lt p hp := hp
  dur_lt j m _ _ := by
    have h := of_decide_eq_true (hr j m)
    show (((r j m).toNat : Nat) : Int) < 999999
    rw [Int.toNat_of_nonneg (Int.le_trans hmin h.1)]
    exact Int.lt_of_lt_of_le h.2 hmax

theorem gen_steps_le_ffsp (S M J : Nat) (r : Nat → Nat → Int) (flat : Bool) (minT maxT : Int) (hS : 0 < S) (hM : 0 < M) (hJ : 0 < J)
    (hmin : 0 ≤ minT) (hmax : maxT ≤ 999999) (hr : ∀ j m, randintExclusiveOk minT maxT (r j m) = true)
    {as : List Nat} {s : Ffsp.State} (h : RunND Ffsp.envM (ffspInst S M J r flat) (Ffsp.envM.reset (ffspInst S M J r flat)) as s) :
    as.length ≤ Ffsp.stepBound (ffspInst S M J r flat) :=
  Ffsp.steps_le _ (gen_wf_ffsp S M J r flat minT maxT hS hM hJ hmin hmax hr) h

example : Mtsp.WF (mtspInst 5 3 (fun _ _ => 1)) := gen_wf_mtsp 5 1 5 3 _ (by decide) (by decide) (by decide)
example : (pdpInst 7 true (fun _ _ => 1)).n = 8 := by decide

end Rl4co.Gen
