/-
C18, sanity of the specifications the generator checks are judged by (independent of the generator models): the
executable oracles the harness evaluates on real outputs mean what the property text says, are monotone in the obvious
directions, are satisfiable and refutable; plus the obligations on source forms that the models take for granted.
-/
import Rl4co.Gen.Atsp
import Rl4co.Gen.Cvrptw
import Rl4co.Gen.Sched
import Rl4co.Gen.Mtvrp
import Rl4co.Generated.Params
namespace Rl4co.Gen

/-- the executable triangle test the harness runs on generated ATSP matrices is exactly the triangle inequality on
the first `n` indices -/
theorem Atsp.triangleOk_iff (n : Nat) (xs : List Int) :
    Atsp.triangleOk n xs = true ↔
      ∀ a, a < n → ∀ b, b < n → ∀ c, c < n → xs.getD (a * n + c) 0 ≤ xs.getD (a * n + b) 0 + xs.getD (b * n + c) 0 := by
  simp only [Atsp.triangleOk, List.all_eq_true, List.mem_range, decide_eq_true_eq]

/-- a symmetric "metric-like" matrix passes, a shortcut-violating one fails: the oracle is neither vacuous nor void -/
example : Atsp.triangleOk 3 [0, 1, 2, 1, 0, 1, 2, 1, 0] = true := by decide
example : Atsp.triangleOk 3 [0, 1, 5, 1, 0, 1, 5, 1, 0] = false := by decide

namespace Cvrptw

/-- more time never hurts: `WindowOk` is monotone in `max_time` -/
theorem windowOk_mono_T (i : In) (w : Int × Int) (T' : Int) (hT : i.T ≤ T') (h : WindowOk i w) :
    WindowOk { i with T := T' } w :=
  ⟨h.1, h.2.1, h.2.2.1, Int.le_trans h.2.2.2 hT⟩

/-- a closer customer keeps a window well-formed: monotone (downwards) in the distance -/
theorem windowOk_mono_d (i : In) (w : Int × Int) (d' : Int) (hd : d' ≤ i.d) (h : WindowOk i w) :
    WindowOk { i with d := d' } w :=
  ⟨h.1, h.2.1, Int.le_trans hd h.2.2.1, Int.le_trans (Int.add_le_add_left hd _) h.2.2.2⟩

/-- what `WindowOk` buys: the out-and-back trip depot → customer → depot is feasible — service can start at
`t = max(dist, window start)`, which lies inside the window, and the vehicle is back by `max_time` -/
theorem windowOk_trip (i : In) (w : Int × Int) (hS : 0 < i.S) (h : WindowOk i w) :
    let t := max i.d (w.1 * i.S)
    w.1 * i.S ≤ t ∧ t ≤ w.2 * i.S ∧ t + i.dur + i.d ≤ i.T := by
  obtain ⟨_, h2, h3, h4⟩ := h
  have ht : max i.d (w.1 * i.S) ≤ w.2 * i.S :=
    Int.max_le.mpr ⟨h3, Int.mul_le_mul_of_nonneg_right (Int.le_of_lt h2) (Int.le_of_lt (Int.natCast_pos.mpr hS))⟩
  exact ⟨Int.le_max_right _ _, ht, Int.le_trans (Int.add_le_add_right (Int.add_le_add_right ht _) _) h4⟩

/-- refutable: an unordered window, one that closes before arrival, one that leaves no time to return -/
example : ¬ WindowOk ⟨1, 100, 10, 0, 0, 0, 1⟩ (20, 20) := by decide
example : ¬ WindowOk ⟨1, 100, 10, 0, 0, 0, 1⟩ (3, 9) := by decide
example : ¬ WindowOk ⟨1, 100, 10, 0, 0, 0, 1⟩ (50, 95) := by decide
example : WindowOk ⟨1, 100, 10, 0, 0, 0, 1⟩ (10, 90) := by decide

end Cvrptw

namespace Sched

/-- `numEligible` counts what it says: it is positive iff some machine has a positive time -/
theorem numEligible_pos_iff (col : List Int) : 1 ≤ numEligible col ↔ ∃ t, t ∈ col ∧ 0 < t := by
  rw [numEligible, Nat.succ_le_iff, List.length_pos_iff_exists_mem]
  simp only [List.mem_filter, decide_eq_true_eq, gt_iff_lt]

/-- `ColumnsOk` is literally "every operation that is not padding is eligible on at least one machine with a
positive processing time" -/
theorem columnsOk_iff (cols : List (List Int)) (pad : List Bool) :
    ColumnsOk cols pad = true ↔
      ∀ k, k < cols.length → pad.getD k true = false → ∃ t, t ∈ cols.getD k [] ∧ 0 < t := by
  simp only [ColumnsOk, List.all_eq_true, List.mem_range, Bool.or_eq_true, decide_eq_true_eq]
  constructor
  · intro h k hk hp
    rcases h k hk with h1 | h1
    · rw [hp] at h1; exact absurd h1 (by decide)
    · exact (numEligible_pos_iff _).mp h1
  · intro h k hk
    cases hp : pad.getD k true
    · right; exact (numEligible_pos_iff _).mpr (h k hk hp)
    · left; rfl

example : ColumnsOk [[0, 3], [0, 0]] [false, true] = true ∧ ColumnsOk [[0, 3], [0, 0]] [false, false] = false := by decide

end Sched

namespace Mtvrp

/-- `variantName` character by character -/
def nameChars (k : Keep) : List Char :=
  if !k.o && !k.tw && !k.l && !k.b then ['c', 'v', 'r', 'p']
  else (if k.o then ['o'] else []) ++ ['v', 'r', 'p'] ++ (if k.b then ['b'] else []) ++ (if k.l then ['l'] else [])
        ++ (if k.tw then ['t', 'w'] else [])

theorem variantName_eq (k : Keep) : variantName k = String.ofList (nameChars k) := by
  unfold variantName nameChars
  simp only [apply_ite String.ofList, String.ofList_append]

/-- the features can be read off the characters of a name: a leading `o`, and the letters `t`, `l`, `b` -/
def featuresOfName (cs : List Char) : Keep :=
  ⟨cs.head? = some 'o', decide ('t' ∈ cs), decide ('l' ∈ cs), decide ('b' ∈ cs)⟩

theorem featuresOfName_nameChars : ∀ o tw l b : Bool, featuresOfName (nameChars ⟨o, tw, l, b⟩) = ⟨o, tw, l, b⟩ := by
  decide +kernel

end Mtvrp

/-- the name of a variant determines its feature set: two different feature sets never share a name, so "the preset
enables exactly the features in its name" (`preset_consistent`) is a statement about a well-defined map -/
theorem Mtvrp.variantName_injective :
    ∀ o tw l b o' tw' l' b' : Bool,
      Mtvrp.variantName ⟨o, tw, l, b⟩ = Mtvrp.variantName ⟨o', tw', l', b'⟩ → (o = o' ∧ tw = tw' ∧ l = l' ∧ b = b') := by
  intro o tw l b o' tw' l' b' h
  rw [variantName_eq, variantName_eq] at h
  have := congrArg featuresOfName (String.ofList_injective h)
  rw [featuresOfName_nameChars, featuresOfName_nameChars] at this
  exact Keep.mk.inj this

/-- source forms the models take for granted (regenerated from the sources; a recognised different form breaks these) -/
theorem source_forms :
    Params.genMcpCutoffSampled = true ∧      -- MCP mask cut at the sampled maximum (`Gen.mcpRow`)
    Params.genAtspLoopFull = true ∧          -- `for i in range(self.num_loc)` (`Gen.Atsp.closure … n`)
    Params.genDataAtspLoopFull = true ∧      -- the numpy twin in generate_data.py
    Params.genCenterIsMid = true ∧ Params.genLoadDataPerRow = true ∧
    Params.genCvrptwRepair = (-1, 1) ∧ Params.genFjspSpread = (1, 5) := by decide

end Rl4co.Gen
