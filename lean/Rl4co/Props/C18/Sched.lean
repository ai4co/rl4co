/-
C18, FJSP / JSSP generators: processing times within the documented range and positive, and every real operation
(`n_eligible ≥ 1`) eligible on at least one machine with a positive time — the well-formedness the scheduling
environments need.  Parameter conditions `1 ≤ min_pt`, `min_pt ≤ mean < max_pt` (the generator draws
`mean = randint(min_pt, max_pt)`), at least one machine; that the extracted defaults satisfy them is the table obligation
`sched_defaults` (`Props/C18/Tables`), stated there and applied by no theorem.
-/
import Rl4co.Gen.Sched
import Rl4co.Props.C18.SpecSanity
import Rl4co.Core.Lists
namespace Rl4co.Gen.Sched
open Rl4co.Gen

/-- rounding `0.8·mean` does not exceed `mean`, rounding `1.2·mean` does not fall below it -/
theorem round_spread (mean : Int) (h : 1 ≤ mean) :
    roundFrac mean (spreadDen - spreadNum) spreadDen ≤ mean ∧ mean ≤ roundFrac mean (spreadDen + spreadNum) spreadDen := by
  have hs : spreadNum = 1 ∧ spreadDen = 5 := by decide   -- obligation on the extracted spread 0.2
  unfold roundFrac
  rw [hs.1, hs.2]
  omega

theorem fjsp_bounds (minPt maxPt mean : Int) (h1 : 1 ≤ minPt) (h2 : minPt ≤ mean) (h3 : mean < maxPt) :
    minPt ≤ fjspLow minPt mean ∧ fjspLow minPt mean ≤ mean ∧ mean + 1 ≤ fjspHigh maxPt mean ∧ fjspHigh maxPt mean ≤ maxPt + 1 :=
  have hr := round_spread mean (Int.le_trans h1 h2)
  ⟨Int.le_max_left _ _, Int.max_le.mpr ⟨h2, hr.1⟩, Int.add_le_add_right (Int.le_min.mpr ⟨Int.le_of_lt h3, hr.2⟩) 1,
    Int.add_le_add_right (Int.min_le_left _ _) 1⟩

/-- FJSP (`same_mean_per_op`): whatever the raw 63-bit draw, the processing time lies in
`[max(min, round(0.8·mean)), min(max, round(1.2·mean))] ⊆ [min_pt, max_pt]`, in particular it is positive -/
theorem fjsp_proc_range (minPt maxPt mean : Int) (raw : Nat) (h1 : 1 ≤ minPt) (h2 : minPt ≤ mean) (h3 : mean < maxPt) :
    minPt ≤ fjspProc minPt maxPt mean raw ∧ fjspProc minPt maxPt mean raw ≤ maxPt ∧ 0 < fjspProc minPt maxPt mean raw := by
  obtain ⟨b1, b2, b3, b4⟩ := fjsp_bounds minPt maxPt mean h1 h2 h3
  have hpos : 0 < fjspHigh maxPt mean - fjspLow minPt mean := by omega
  have e1 := Int.emod_nonneg (raw : Int) (Int.ne_of_gt hpos)
  have e2 := Int.emod_lt_of_pos (raw : Int) hpos
  unfold fjspProc
  omega

theorem numEligible_range_map_pos (M : Nat) (f : Nat → Int) (m : Nat) (hm : m < M) (h : 0 < f m) :
    1 ≤ numEligible ((List.range M).map f) :=
  (numEligible_pos_iff _).mpr ⟨f m, List.mem_map.mpr ⟨m, List.mem_range.mpr hm, rfl⟩, h⟩

/-- a shuffled eligibility row with `n_eligible ≥ 1` has a machine switched on (the machine the shuffle sends to
position 0 of the unshuffled row `[1,…,1,0,…,0]`) -/
theorem elig_exists (M nElig : Nat) (idx : List Nat) (hperm : idx.Perm (List.range M)) (hM : 0 < M) (h1 : 1 ≤ nElig) :
    ∃ m, m < M ∧ (eligRow M nElig idx).getD m false = true := by
  obtain ⟨m, hm, hget⟩ := exists_getD_of_perm_range hperm 0 hM
  refine ⟨m, hm, ?_⟩
  rw [eligRow, getD_map_range _ hm, hget]
  exact decide_eq_true h1

theorem fjspColumn_getD {M m : Nat} {minPt maxPt : Int} {nElig : Nat} {idx : List Nat} {mean : Int} {raws : List Nat}
    (hm : m < M) :
    (fjspColumn M minPt maxPt nElig idx mean raws).getD m 0
      = if (eligRow M nElig idx).getD m false then fjspProc minPt maxPt mean (raws.getD m 0) else 0 :=
  getD_map_range _ hm 0

theorem fjspColumn_pos (M : Nat) (minPt maxPt : Int) (nElig : Nat) (idx : List Nat) (mean : Int) (raws : List Nat)
    (hperm : idx.Perm (List.range M)) (hM : 0 < M) (h1 : 1 ≤ nElig)
    (hp1 : 1 ≤ minPt) (hp2 : minPt ≤ mean) (hp3 : mean < maxPt) :
    ∃ m, m < M ∧ 0 < (fjspColumn M minPt maxPt nElig idx mean raws).getD m 0 := by
  obtain ⟨m, hm, he⟩ := elig_exists M nElig idx hperm hM h1
  refine ⟨m, hm, ?_⟩
  rw [fjspColumn_getD hm, he, if_pos rfl]
  exact (fjsp_proc_range minPt maxPt mean _ hp1 hp2 hp3).2.2

/-- **fjsp_operation_eligible**: every real operation (`n_eligible ≥ 1`) of a generated FJSP instance can run on
at least one machine with a positive processing time (parameters: `1 ≤ min_pt ≤ mean < max_pt`, at least one
machine, `idx` a permutation of the machines) -/
theorem fjsp_operation_eligible (M : Nat) (minPt maxPt : Int) (nElig : Nat) (idx : List Nat) (mean : Int) (raws : List Nat)
    (hperm : idx.Perm (List.range M)) (hM : 0 < M) (h1 : 1 ≤ nElig)
    (hp1 : 1 ≤ minPt) (hp2 : minPt ≤ mean) (hp3 : mean < maxPt) :
    1 ≤ numEligible (fjspColumn M minPt maxPt nElig idx mean raws) := by
  obtain ⟨m, hm, hpos⟩ := fjspColumn_pos M minPt maxPt nElig idx mean raws hperm hM h1 hp1 hp2 hp3
  rw [fjspColumn_getD hm] at hpos
  exact numEligible_range_map_pos M _ m hm hpos

/-- without `same_mean_per_op`: times are `randint(min_pt, max_pt + 1)` draws, positive when `min_pt ≥ 1` -/
theorem fjsp_plain_operation_eligible (M nElig : Nat) (idx : List Nat) (times : List Int)
    (hperm : idx.Perm (List.range M)) (hM : 0 < M) (h1 : 1 ≤ nElig) (hpos : ∀ m, m < M → 0 < times.getD m 0) :
    1 ≤ numEligible (fjspColumnPlain M nElig idx times) := by
  obtain ⟨m, hm, he⟩ := elig_exists M nElig idx hperm hM h1
  refine numEligible_range_map_pos M _ m hm ?_
  rw [he, if_pos rfl]
  exact hpos m hm

theorem jsspColumn_getD {M machine m : Nat} {times : List Int} (hm : m < M) :
    (jsspColumn M machine times).getD m 0 = if m = machine then times.getD m 0 else 0 :=
  getD_map_range _ hm 0

/-- **jssp_operation_eligible**: a JSSP operation runs on its machine with the drawn positive time and on no other -/
theorem jssp_operation_eligible (M machine : Nat) (times : List Int) (hm : machine < M) (hpos : 0 < times.getD machine 0) :
    1 ≤ numEligible (jsspColumn M machine times) ∧
    ∀ m, m ≠ machine → (jsspColumn M machine times).getD m 0 = 0 := by
  refine ⟨numEligible_range_map_pos M _ machine hm (by rw [if_pos rfl]; exact hpos), fun m hne => ?_⟩
  by_cases hlt : m < M
  · rw [jsspColumn_getD hlt, if_neg hne]
  · rw [List.getD_eq_getElem?_getD, List.getElem?_eq_none, Option.getD_none]
    rw [jsspColumn, List.length_map, List.length_range]
    exact Nat.le_of_not_lt hlt

example : numEligible (fjspColumn 3 1 20 2 [2, 0, 1] 10 [5, 6, 7]) = 2 := by decide
example : [2, 0, 1].Perm (List.range 3) := by decide

theorem cumsum_eq : ∀ ns : List Nat, cumsum ns = (List.range ns.length).map (fun j => (ns.take (j + 1)).sum)
  | [] => rfl
  | n :: ns => by
    rw [cumsum, cumsum_eq ns, List.length_cons, List.range_succ_eq_map, List.map_cons, List.map_map, List.map_map]
    simp [Nat.add_comm]

theorem endOps_eq (ns : List Nat) :
    endOps ns = (List.range ns.length).map (fun j => ((ns.take (j + 1)).sum : Int) - 1) := by
  rw [endOps, cumsum_eq, List.map_map]; rfl

/-- **op_index**: job `j` owns the operations `start_j … end_j` with `start_j = Σ_{i<j} n_i`, `end_j = start_j + n_j − 1`;
consecutive jobs are contiguous and the last operation id is `total − 1` -/
theorem op_index (ns : List Nat) (j : Nat) (hj : j < ns.length) :
    (endOps ns).getD j 0 = ((ns.take (j + 1)).sum : Int) - 1 ∧
    (startOps ns).getD j 0 = ((ns.take j).sum : Int) := by
  refine ⟨by rw [endOps_eq, getD_map_range _ hj], ?_⟩
  cases j with
  | zero => rfl
  | succ k =>
    have hk : k < ns.length - 1 := Nat.lt_sub_of_add_lt hj
    rw [startOps, List.getD_cons_succ, endOps_eq, List.dropLast_eq_take, List.length_map, List.length_range, ← List.map_take,
      List.take_range, Nat.min_eq_left (Nat.sub_le _ _), List.map_map, getD_map_range _ hk]
    exact Int.sub_add_cancel _ 1

example : startOps [2, 3, 1] = [0, 2, 5] ∧ endOps [2, 3, 1] = [1, 4, 5] ∧ padMask 8 [2, 3, 1] = [false, false, false, false, false, false, true, true] := by decide

end Rl4co.Gen.Sched
