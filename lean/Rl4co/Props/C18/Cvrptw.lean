/-
C18, CVRPTW time windows (steps 1–8 of `CVRPTWGenerator._generate`): for all draws, under the parameter condition
`2·dist + 1 ≤ max_time` (implied for the default `max_loc`, `max_time` by `default_room`) and zero service durations, each customer window is ordered, reachable from the depot and leaves time
to return; the generator's final assertion cannot fire.  Real arithmetic (`.int()` of float32 products is outside).
-/
import Rl4co.Gen.Cvrptw
import Rl4co.Props.C18.Tables
import Rl4co.Props.C18.Range
import Mathlib.Tactic.Linarith
import Mathlib.Tactic.Ring
namespace Rl4co.Gen.Cvrptw
open Rl4co.Gen

/-- parameter / draw conditions: positive tick scale, draws in [0,1), non-negative distance, zero service
durations (as the generator has them), and `2·dist + 1 ≤ max_time` (time units) -/
structure Cond (i : In) : Prop where
  hS : 0 < i.S
  hq : 0 < i.q
  hp1 : i.p1 < i.q
  hp2 : i.p2 < i.q
  hd : 0 ≤ i.d
  hdur : i.dur = 0
  room : 2 * i.d + i.S ≤ i.T   -- `+ S`: the one time unit the repair of equal bounds may add

theorem truncDiv_of_nonneg {x : Int} (hx : 0 ≤ x) (S : Nat) : truncDiv x S = x / (S : Int) :=
  Int.tdiv_eq_ediv_of_nonneg hx

theorem Cond.upper_ge {i : In} (c : Cond i) : i.d + i.S ≤ upper i := by
  have := c.room; have := c.hdur; have := c.hd; unfold upper; omega

/-- step 4 is the affine sampler every generator uses, between `dist` and `upper_bound` -/
theorem scaled_eq (i : In) (p : Nat) : scaled i p = truncDiv (affNum i.d (upper i) p i.q) (i.S * i.q) := by
  unfold scaled affNum
  rw [Int.mul_comm (p : Int)]

theorem scaled_bounds (i : In) (c : Cond i) (p : Nat) (hp : p < i.q) :
    i.d / (i.S : Int) ≤ scaled i p ∧ scaled i p ≤ upper i / (i.S : Int) := by
  have hq : (0:Int) < (i.q : Int) := Int.natCast_pos.2 c.hq
  have hdu : i.d ≤ upper i := Int.le_trans (Int.le_add_of_nonneg_right (Int.natCast_nonneg _)) c.upper_ge
  have hl := aff_lower i.d (upper i) p i.q hdu
  rw [scaled_eq, truncDiv_of_nonneg (Int.le_trans (Int.mul_nonneg c.hd hq.le) hl), Int.natCast_mul]
  exact ediv_units (Int.natCast_pos.2 c.hS) hq hl (aff_upper i.d (upper i) p i.q hdu hp)

/-- steps 5 and 7 on integer variables: the two draws `a b` are ordered, then equal bounds are repaired
against the earliest arrival `A` and the latest start `U` -/
def repaired (A U a b : Int) : Int × Int :=
  if min a b = max a b then
    if max A (min a b + -1) = max a b then
      (max A (min a b + -1), min U (max (max A (min a b + -1)) (max a b + 1)))
    else (max A (min a b + -1), max a b)
  else (min a b, max a b)

theorem repaired_bounds {A U a b : Int} (ha : A ≤ a) (ha' : a ≤ U) (hb : A ≤ b) (hb' : b ≤ U) (hAU : A + 1 ≤ U) :
    A ≤ (repaired A U a b).1 ∧ (repaired A U a b).1 < (repaired A U a b).2 ∧ (repaired A U a b).2 ≤ U := by
  unfold repaired
  rcases eq_or_ne a b with rfl | hab
  · rw [Int.min_self, Int.max_self, if_pos rfl]
    rcases Int.lt_or_eq_of_le ha with h | rfl
    · -- `(a − 1, a)`
      have h1 : A ≤ a + -1 := Int.le_sub_one_of_lt h
      have h2 : a + -1 < a := by omega
      rw [Int.max_eq_right h1, if_neg (Int.ne_of_lt h2)]
      exact ⟨h1, h2, ha'⟩
    · -- `(A, A + 1)`
      have h1 : A + -1 ≤ A := by omega
      have h2 : A < A + 1 := Int.lt_succ A
      rw [Int.max_eq_left h1, if_pos rfl, Int.max_eq_right (Int.le_of_lt h2), Int.min_eq_right hAU]
      exact ⟨Int.le_refl A, h2, hAU⟩
  · have h := min_lt_max.2 hab
    rw [if_neg (Int.ne_of_lt h)]
    exact ⟨Int.le_min.2 ⟨ha, hb⟩, h, Int.max_le.2 ⟨ha', hb'⟩⟩

theorem ceilUnits_mul (x : Int) {S : Nat} (hS : 0 < S) : ceilUnits (x * S + 0) S = x := by
  unfold ceilUnits
  rw [Int.add_zero, ← Int.neg_mul, Int.mul_ediv_cancel _ (by omega), Int.neg_neg]

theorem window_eq_repaired (i : In) (c : Cond i) :
    window i = repaired (i.d / (i.S : Int)) (upper i / (i.S : Int)) (scaled i i.p1) (scaled i i.p2) := by
  have hrep : Params.genCvrptwRepair = (-1, 1) := by decide   -- obligation on the extracted repair offsets
  unfold window repaired
  simp only [distInt, upperFloor, truncDiv_of_nonneg c.hd, c.hdur, ceilUnits_mul _ c.hS, hrep]

/-- **cvrptw_window**: `0 ≤ lo < hi`, `dist ≤ hi`, `hi + dur + dist ≤ max_time` for every pair of draws; the
generator's final assertion never fires. -/
theorem cvrptw_window (i : In) (c : Cond i) : WindowOk i (window i) := by
  have hS : (0:Int) < (i.S : Int) := Int.natCast_pos.2 c.hS
  obtain ⟨a1, a2⟩ := scaled_bounds i c i.p1 c.hp1
  obtain ⟨b1, b2⟩ := scaled_bounds i c i.p2 c.hp2
  -- A = ⌊d/S⌋, U = ⌊upper/S⌋, A + 1 ≤ U
  have hA0 : 0 ≤ i.d / (i.S : Int) := Int.ediv_nonneg c.hd hS.le
  have hAlt : i.d < (i.d / (i.S : Int) + 1) * i.S := Int.lt_ediv_add_one_mul_self _ hS
  have hUle : upper i / (i.S : Int) * i.S ≤ i.T - i.d - i.dur := Int.ediv_mul_le _ (by omega)
  have hAU : i.d / (i.S : Int) + 1 ≤ upper i / (i.S : Int) := by
    have h2 := Int.ediv_le_ediv hS c.upper_ge
    rwa [Int.add_ediv_of_dvd_right (dvd_refl _), Int.ediv_self (by omega)] at h2
  rw [window_eq_repaired i c]
  obtain ⟨k1, k2, k3⟩ := repaired_bounds a1 a2 b1 b2 hAU
  refine ⟨hA0.trans k1, k2, hAlt.le.trans (Int.mul_le_mul_of_nonneg_right (Int.lt_of_le_of_lt k1 k2) hS.le), ?_⟩
  have := Int.mul_le_mul_of_nonneg_right k3 hS.le
  omega

theorem cvrptw_assert (i : In) (c : Cond i) : assertOk i = true := by
  have := (cvrptw_window i c).2.1; simpa [assertOk] using this

/-- coordinates in `[0, max_loc]²` give `dist² ≤ 2·max_loc²`; with `8·max_loc² ≤ (max_time − 1)²` (the table
obligation `cvrptw_defaults_room`, applied in `default_room`) the room condition follows -/
theorem room_of_box (d L T S : Int) (hTS : S ≤ T) (h1 : d * d ≤ 2 * (L * L))
    (h2 : 8 * (L * L) ≤ (T - S) * (T - S)) : 2 * d + S ≤ T := by
  by_contra h
  -- otherwise `(T − S)² < (2d)² = 4d² ≤ 8L² ≤ (T − S)²`
  have := Int.mul_self_lt_mul_self (Int.sub_nonneg_of_le hTS) (show T - S < 2 * d by omega)
  rw [mul_mul_mul_comm] at this
  omega

/-- non-vacuity (default parameters, farthest corner ≈ 212.13, both draws 0 → the repaired window [212, 213]) -/
example : Cond ⟨1000, 480000, 212133, 0, 0, 0, 8⟩ := ⟨by decide, by decide, by decide, by decide, by decide, rfl, by decide⟩
example : window ⟨1000, 480000, 212133, 0, 0, 0, 8⟩ = (212, 213) := by decide
/-- the room condition is needed: `max_loc = 300`, `max_time = 480`, a customer at distance 400 gets a window
that ends before it can be reached -/
example : ¬ WindowOk ⟨1, 480, 400, 0, 1, 3, 4⟩ (window ⟨1, 480, 400, 0, 1, 3, 4⟩) := by decide

/-- box argument in ticks: coordinates in a square of side `L` time units (`S` ticks each) and `8L² ≤ (T−1)²` give
the room condition `2·dist + 1 ≤ max_time` -/
theorem room_of_box_ticks (S d L T : Int) (hS : 0 < S) (hT : 1 ≤ T)
    (hLT : 8 * (L * L) ≤ (T - 1) * (T - 1)) (hbox : d * d ≤ 2 * (L * S * (L * S))) : 2 * d + S ≤ T * S := by
  apply room_of_box d (L * S) (T * S) S (le_mul_of_one_le_left hS.le hT) hbox
  have e : T * S - S = (T - 1) * S := by rw [Int.sub_mul, Int.one_mul]
  rw [e, mul_mul_mul_comm L S L S, mul_mul_mul_comm (T - 1) S (T - 1) S, ← Int.mul_assoc]
  exact Int.mul_le_mul_of_nonneg_right hLT (Int.mul_nonneg hS.le hS.le)

theorem defaults_integral :
    Params.genCvrptwMaxLoc.2 = 1 ∧ Params.genCvrptwMinLoc.2 = 1 ∧ Params.genCvrptwMaxTime.2 = 1 := by decide

/-- **the extracted defaults** (`max_loc − min_loc = 150`, `max_time = 480`, whole numbers) satisfy the room
condition for every customer inside the box; an edit of either default that breaks it fails at the table obligations
`cvrptw_defaults_room` / `defaults_integral` -/
theorem default_room (S d : Int) (hS : 0 < S) (hd : 0 ≤ d)
    (hbox : d * d ≤ 2 * ((Params.genCvrptwMaxLoc.1 - Params.genCvrptwMinLoc.1) * S *
                         ((Params.genCvrptwMaxLoc.1 - Params.genCvrptwMinLoc.1) * S))) :
    2 * d + S ≤ Params.genCvrptwMaxTime.1 * S := by
  obtain ⟨hfit, _, hle⟩ := cvrptw_defaults_room
  obtain ⟨e1, e2, e3⟩ := defaults_integral
  have hroom := boxFits_integral hfit e2 e1 e3
  rw [e3] at hle hroom
  exact room_of_box_ticks S d _ _ hS hle hroom hbox

end Rl4co.Gen.Cvrptw
