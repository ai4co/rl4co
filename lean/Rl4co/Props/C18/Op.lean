/-
C18 → C01/C02 chain for OP: what the bundled generator emits (prize types `const`, `unif`, `dist` after
the fix commit a68723b of DESIGN §8.1; ranges proved in `Props/C18/Routing.lean: op_prize_total`), phrased on the
environment model's instance type, and what follows for the environment.  C02 for OP needs no
well-formedness at all, so the chain is: every generator instance, of every prize type, has no dead end,
keeps finished rows finished and finishes within `max (n+1) 2` steps; its prizes are positive, so the
objective is monotone and every visit pays.
-/
import Rl4co.Props.C18.Routing
import Rl4co.Props.C02.Op
import Rl4co.Props.C01.OpSpecSanity

namespace Rl4co.Op
open Rl4co.Spec.Op Rl4co.Prize

/-- the prize row the generator emits for prize type `t` (hundredths; `x j` = the integer draw for `unif`,
the distance to the depot for `dist`, `dmax` = the largest such distance) -/
def genPrize (t : Gen.PrizeType) (x : Nat → Int) (dmax : Int) : Nat → Int := fun j => Gen.opPrize100 t (x j) dmax

/-- **C18 → environment**: whatever the prize type, every generated prize is in `[0.01, 1]` -/
theorem genPrize_range (t : Gen.PrizeType) (x : Nat → Int) (dmax : Int) (h : ∀ j, Gen.PrizeInput t (x j) dmax) (j : Nat) :
    1 ≤ genPrize t x dmax j ∧ genPrize t x dmax j ≤ 100 :=
  Gen.op_prize_total t (x j) dmax (h j)

/-- hence on a generator instance visiting more customers never collects less … -/
theorem gen_objective_mono (i : Inst) (t : Gen.PrizeType) (x : Nat → Int) (dmax : Int)
    (h : ∀ j, Gen.PrizeInput t (x j) dmax) (hp : i.prize = genPrize t x dmax) {as bs : List Nat}
    (hsub : ∀ j, j ∈ as → j ∈ bs) : objective i as ≤ objective i bs :=
  objective_mono i (fun j _ _ => by rw [hp]; have := (genPrize_range t x dmax h j).1; omega) hsub

/-- … and **C02 for all three prize types**: no dead end in any state, and every mask-confined episode through
unfinished states has at most `max (n+1) 2` steps — for every generator instance, with no further hypothesis. -/
theorem gen_c02 (i : Inst) (t : Gen.PrizeType) (x : Nat → Int) (dmax : Int) (_hp : i.prize = genPrize t x dmax) :
    (∀ s : State, ∃ a, a < env.nAct i ∧ env.mask i s a = true) ∧
    (∀ {as : List Nat} {s : State}, RunND env i (env.reset i) as s → as.length ≤ max (i.n + 1) 2) :=
  ⟨mask_nonempty i, fun h => steps_le i h⟩

/-- Non-vacuity: the three prize types on concrete draws -/
example : genPrize .const (fun _ => 0) 1 3 = 100 ∧ genPrize .unif (fun _ => 41) 1 3 = 42 ∧
    genPrize .dist (fun _ => 50) 100 3 = 50 := by decide

end Rl4co.Op
