/-
C18, tables and defaults: obligations over the values `harness/extract.py` regenerates from /repo's sources into
`Rl4co/Generated/Params.lean` (`CAPACITIES`, `MAX_LENGTHS`, `VARIANT_GENERATION_PRESETS`, generator defaults).  They
are closed by `decide`, so an edited table entry or default that invalidates a side condition of the generator
theorems breaks this module at `lake build`.  Also: the nearest-key fallback of the lookups only ever returns
table values (any size, on or off the table).
-/
import Rl4co.Gen.Basic
import Rl4co.Gen.Routing
import Rl4co.Gen.Mtvrp
import Rl4co.Generated.Params
namespace Rl4co.Gen
open Rl4co Rl4co.Gen.Mtvrp

theorem nearest_mem {α : Type} (n : Nat) : ∀ (tbl : List (Nat × α)) (e : Nat × α), nearest n tbl = some e → e ∈ tbl
  | [], e, h => nomatch h
  | x :: xs, e, h => by
    rw [nearest] at h
    split at h
    · cases h; exact List.mem_cons_self
    · split at h <;> cases h
      · exact List.mem_cons_self
      · exact List.mem_cons_of_mem _ (nearest_mem n xs _ ‹_›)

theorem nearest_isSome {α : Type} (n : Nat) (x : Nat × α) (xs : List (Nat × α)) : (nearest n (x :: xs)).isSome = true := by
  rw [nearest]
  split
  · rfl
  · split <;> rfl

theorem tblLookup_mem {α : Type} (tbl : List (Nat × α)) (n : Nat) (v : α) (h : tblLookup tbl n = some v) :
    ∃ k, (k, v) ∈ tbl := by
  rw [tblLookup] at h
  split at h
  · obtain ⟨l₁, l₂, rfl, _⟩ := List.lookup_eq_some_iff.mp ‹_›
    cases h
    exact ⟨n, List.mem_append_right _ List.mem_cons_self⟩
  · obtain ⟨e, he, rfl⟩ := Option.map_eq_some_iff.mp h
    exact ⟨e.1, nearest_mem n tbl e he⟩

theorem tblLookup_isSome {α : Type} (tbl : List (Nat × α)) (n : Nat) (h : tbl ≠ []) : (tblLookup tbl n).isSome = true := by
  obtain ⟨x, xs, rfl⟩ := List.exists_cons_of_ne_nil h
  rw [tblLookup]
  split
  · rfl
  · rw [Option.isSome_map, nearest_isSome]

def capsCover (tbl : List (Nat × Frac)) (maxD : Frac) : Bool :=
  tbl.all (fun e => decide (maxD.1 * e.2.2 ≤ e.2.1 * maxD.2) && decide (0 < e.2.2))

theorem capsCover_mem {tbl : List (Nat × Frac)} {maxD : Frac} (h : capsCover tbl maxD = true) {e : Nat × Frac}
    (he : e ∈ tbl) : maxD.1 * e.2.2 ≤ e.2.1 * maxD.2 ∧ 0 < e.2.2 := by
  simpa only [Bool.and_eq_true, decide_eq_true_eq] using List.all_eq_true.mp h e he

/-- **table obligation**: every `CAPACITIES` entry is ≥ the default `max_demand` (CVRP and CVRPTW generators) -/
theorem capacities_cover_max_demand :
    capsCover Params.genCvrpCapacities Params.genCvrpMaxDemand = true ∧
    capsCover Params.genCvrpCapacities Params.genCvrptwMaxDemand = true := by decide

theorem cvrp_defaults : Params.genCvrpMinDemand = (1, 1) ∧ Params.genCvrpMaxDemand.2 = 1 ∧
    1 ≤ Params.genCvrpMinDemand.1 ∧ Params.genCvrpMinDemand.1 ≤ Params.genCvrpMaxDemand.1 := by decide

/-- the dataset writer (`data/generate_data.py`) carries copies of the tables: they agree with the generators' -/
theorem data_tables_agree :
    Params.genDataVrpCapacities = Params.genCvrpCapacities ∧
    Params.genDataOpMaxLengths = Params.genOpMaxLengths ∧
    Params.genDataPctspMaxLengths = Params.genPctspMaxLengths := by decide

/-- `generate_vrp_data` draws raw demands `randint(1, 10)` = 1..9: every table capacity is ≥ 9 -/
theorem data_capacities_cover : capsCover Params.genDataVrpCapacities (9, 1) = true := by decide

theorem max_lengths_pos :
    (Params.genOpMaxLengths.all (fun e => decide (0 < e.2.1 ∧ 0 < e.2.2))) = true ∧
    (Params.genPctspMaxLengths.all (fun e => decide (0 < e.2.1 ∧ 0 < e.2.2))) = true ∧
    Params.genCvrpCapacities ≠ [] ∧ Params.genOpMaxLengths ≠ [] ∧ Params.genPctspMaxLengths ≠ [] := by decide

/-- squares of fractions: `8·(hi − lo)² ≤ r²` with `lo = a/b`, `hi = c/d`, `r = e/f`, cross-multiplied -/
def boxFits (lo hi r : Frac) (strict : Bool) : Bool :=
  let w : Int := hi.1 * lo.2 - lo.1 * hi.2          -- (hi − lo) · (lo.2 · hi.2)
  let wd : Int := (lo.2 : Int) * hi.2
  if strict then decide (8 * (w * w) * ((r.2 : Int) * r.2) < r.1 * r.1 * (wd * wd))
  else decide (8 * (w * w) * ((r.2 : Int) * r.2) ≤ r.1 * r.1 * (wd * wd))

/-- on whole numbers `boxFits` is the inequality the box arguments of the generator theorems take as hypothesis -/
theorem boxFits_integral {lo hi r : Frac} (h : boxFits lo hi r false = true) (h1 : lo.2 = 1) (h2 : hi.2 = 1) (h3 : r.2 = 1) :
    8 * ((hi.1 - lo.1) * (hi.1 - lo.1)) ≤ r.1 * r.1 := by
  simpa only [boxFits, h1, h2, h3, Int.natCast_one, Int.mul_one, Bool.false_eq_true, if_false, decide_eq_true_eq] using h

/-- CVRPTW defaults: the farthest corner is at distance `√2·(max_loc − min_loc)`, and
`2·√2·(max_loc − min_loc) + 1 ≤ max_time`, i.e. `8(max_loc − min_loc)² ≤ (max_time − 1)²` -/
theorem cvrptw_defaults_room :
    boxFits Params.genCvrptwMinLoc Params.genCvrptwMaxLoc
      (Params.genCvrptwMaxTime.1 - Params.genCvrptwMaxTime.2, Params.genCvrptwMaxTime.2) false = true ∧
    0 < Params.genCvrptwMaxTime.2 ∧ Params.genCvrptwMaxTime.2 ≤ Params.genCvrptwMaxTime.1 := by decide

/-- `a, b, c` of `generate_time_windows`: service time is drawn from `[a, b]`, window length from `[b, c]` -/
def twA : Frac := Params.genMtvrpTwConsts.getD 0 (0, 1)
def twB : Frac := Params.genMtvrpTwConsts.getD 1 (0, 1)
def twC : Frac := Params.genMtvrpTwConsts.getD 2 (0, 1)

/-- `max_time − b − c` as a fraction -/
def mtvrpSlack : Frac :=
  (Params.genMtvrpMaxTime.1 * twB.2 * twC.2 - twB.1 * Params.genMtvrpMaxTime.2 * twC.2 - twC.1 * Params.genMtvrpMaxTime.2 * twB.2,
   Params.genMtvrpMaxTime.2 * twB.2 * twC.2)

/-- MTVRP defaults: constants ordered `0 ≤ a ≤ b ≤ c`, `0 < b`; speed 1; the round trip to the farthest corner fits
into `max_time − b − c` and stays below the distance limit; demands fit the smallest vehicle capacity (30) -/
theorem mtvrp_defaults :
    Params.genMtvrpTwConsts.length = 3 ∧
    Frac.le (0, 1) twA = true ∧ Frac.le twA twB = true ∧ Frac.le twB twC = true ∧ Frac.lt (0, 1) twB = true ∧
    Params.genMtvrpSpeed = (1, 1) ∧
    0 < mtvrpSlack.1 ∧
    boxFits Params.genMtvrpMinLoc Params.genMtvrpMaxLoc mtvrpSlack false = true ∧
    boxFits Params.genMtvrpMinLoc Params.genMtvrpMaxLoc Params.genMtvrpDistanceLimit true = true ∧
    Frac.le Params.genMtvrpMaxDemand (30, 1) = true ∧ Frac.le Params.genMtvrpMaxBackhaul (30, 1) = true ∧
    Frac.le (1, 1) Params.genMtvrpMinDemand = true ∧ Frac.le (1, 1) Params.genMtvrpMinBackhaul = true := by decide

/-- scheduling / ATSP / MCP defaults satisfy the parameter conditions of the generator theorems -/
theorem sched_defaults :
    1 ≤ Params.genFjspMinProcessingTime.1 ∧ Params.genFjspMinProcessingTime.1 < Params.genFjspMaxProcessingTime.1 ∧
    Params.genFjspMinProcessingTime.2 = 1 ∧ Params.genFjspMaxProcessingTime.2 = 1 ∧
    1 ≤ Params.genFjspMinEligibleMaPerOp.1 ∧ 1 ≤ Params.genFjspMinOpsPerJob.1 ∧
    Params.genFjspMinOpsPerJob.1 ≤ Params.genFjspMaxOpsPerJob.1 ∧
    1 ≤ Params.genJsspMinProcessingTime.1 ∧ Params.genJsspMinProcessingTime.1 ≤ Params.genJsspMaxProcessingTime.1 := by decide

theorem atsp_mcp_defaults :
    Frac.le (0, 1) Params.genAtspMinDist = true ∧ Frac.le Params.genAtspMinDist Params.genAtspMaxDist = true ∧
    1 ≤ Params.genMcpMinSize.1 ∧ Params.genMcpMinSize.1 ≤ Params.genMcpMaxSize.1 ∧
    1 ≤ Params.genMcpMinWeight.1 ∧ Params.genMcpMinWeight.1 ≤ Params.genMcpMaxWeight.1 := by decide

def featKeys : List String := ["O", "TW", "L", "B"]

def countTrue (k : Keep) : Nat := k.o.toNat + k.tw.toNat + k.l.toNat + k.b.toNat

/-- what a row of `VARIANT_GENERATION_PRESETS` must look like for the positional reading of
`subsample_problems` (column 0 = O, 1 = TW, 2 = L, 3 = B) to mean what the preset's name says -/
def presetRowOk (e : String × List (String × Frac)) : Bool :=
  let keys := e.2.map (·.1)
  let probs := probsOf e.2
  if e.1 = "single_feat_otw" then
    keys == featKeys ++ ["OTW"] && probs.all (fun p => p.1 > 0 && p.2 > 0)
      && (catSupport e.2).all (fun idx =>
            let k := keepCategorical e.1 idx
            decide (countTrue k ≤ 1) || (k.o && k.tw && !k.l && !k.b))
  else if e.1 = "cvrp" then
    keys == featKeys && (catSupport e.2).all (fun idx => keepCategorical e.1 idx == Keep.ofList [])
  else if e.1 = "single_feat" then
    keys == featKeys && probs.all (fun p => p.1 > 0 && p.2 > 0)
      && (catSupport e.2).all (fun idx => decide (countTrue (keepCategorical e.1 idx) ≤ 1))
      && (catSupport e.2) == [0, 1, 2, 3, 4]
  else if e.1 = "all" then
    keys == featKeys && probs.all (fun p => decide (0 < p.1 ∧ p.1 < p.2))   -- every feature both kept and dropped with positive probability
  else
    keys == featKeys && probs.all (fun p => (p.1 == 0 || p.1 == 1) && p.2 == 1)
      && variantName (keepNamed e.2) == e.1

theorem preset_consistent : Params.genMtvrpPresets.all presetRowOk = true := by decide +kernel

/-- every one of the 16 feature combinations has its named preset in the table -/
theorem preset_complete : ∀ o tw l b : Bool,
    (Params.genMtvrpPresets.lookup (variantName ⟨o, tw, l, b⟩)).map keepNamed = some ⟨o, tw, l, b⟩ := by decide +kernel

/-- non-vacuity: the table is not empty and contains a named three-feature preset -/
example : (Params.genMtvrpPresets.lookup "ovrpltw").map keepNamed = some ⟨true, true, true, false⟩ :=
  preset_complete true true true false
example : tblLookup Params.genCvrpCapacities 17 = some (25, 1) := by decide

end Rl4co.Gen
