/-
C18 → C02 for the multi-task VRP family: an instance that is the image in integer ticks of an output of `MTVRPGenerator`
(`GenPost`) satisfies the well-formedness predicate `wf` of the environment model, so that "every generated instance is
solvable" is a chain  `GenPost` ⇒ `wf` ⇒ `steps_le` / `progress`  for every preset / feature removal.  Of the generator
theorems of `Props/C18/Mtvrp.lean` only `mtvrp_window` (and `service_range`) is USED here, through the parameter
condition `TwCond` (whose `room` is what `room_of_box` gives for coordinates in a box); what `demands_kind`, the
distance-limit assertion and `demand_le_vehicle` conclude is assumed again as fields of `GenPost`, in ticks (see the
comments at the fields).
-/
import Rl4co.Props.C18.Mtvrp
import Rl4co.Props.C02.Mtvrp
import Mathlib.Tactic.NormNum

namespace Rl4co.Mtvrp
open Rl4co.Gen.Mtvrp

/-- The instance `i` (integer ticks, `κ` ticks per unit of length / time, `u` ticks per demand unit) is the image of
an output of `MTVRPGenerator`: per customer `j` the raw draws and constants `tw j` (distance to the depot `d`, speed
`v`, …) satisfy the generator's parameter condition `TwCond`; travel times, distances, windows, service times, the
depot window `[0, max_time]`, the distance limit and the demands are the generator's formulas scaled to ticks; the
removed features (`subsample_problems`) are infinite bounds. -/
structure GenPost (κ : ℚ) (u : Int) (i : Inst) (tw : Nat → TwIn) (Tmax limitR : ℚ) (C : Int)
    (minD maxD minB maxB : Int) : Prop where
  κpos   : 0 < κ
  upos   : 0 < u
  cond   : ∀ j, 1 ≤ j → j ≤ i.n → TwCond (tw j) ∧ (tw j).T = Tmax
  travel : ∀ j, 1 ≤ j → j ≤ i.n → (i.T 0 j : ℚ) = κ * ((tw j).d / (tw j).v) ∧ (i.T j 0 : ℚ) = κ * ((tw j).d / (tw j).v)
  dist   : ∀ j, 1 ≤ j → j ≤ i.n → (i.D 0 j : ℚ) = κ * (tw j).d ∧ (i.D j 0 : ℚ) = κ * (tw j).d
  /-- time windows kept (`generate_time_windows`: `twStart`, `twEnd`, `service` of `tw j`, scaled) or removed
  (`_default_time_window`) -/
  windows : (∀ j, j ≤ i.n → i.late j = none) ∨
            ((∃ l0 : Int, i.late 0 = some l0 ∧ (l0 : ℚ) = κ * Tmax) ∧
             ∀ j, 1 ≤ j → j ≤ i.n → (i.early j : ℚ) = κ * twStart (tw j) ∧ (i.service j : ℚ) = κ * service (tw j) ∧
               ∃ l : Int, i.late j = some l ∧ (l : ℚ) = κ * twEnd (tw j))
  /-- distance limit kept (the assertion of `generate_distance_limit` passed: the conclusion of `distance_limit_ok`, which
  `limit_of_box` discharges for coordinates in a box) or removed -/
  limit  : i.limit = none ∨
            (∃ L : Int, i.limit = some L ∧ (L : ℚ) = κ * limitR ∧ ∀ j, 1 ≤ j → j ≤ i.n → (tw j).d * 2 < limitR)
  /-- demands: the conclusion of `demands_kind` (+ `defaultBackhaul_kind`), scaled; `bounds` with `C` the vehicle capacity
  is what `demand_le_vehicle` / `vehicleCapacity_ge` give for the default ranges -/
  cap    : i.cap = u * C
  bounds : 1 ≤ minD ∧ maxD ≤ C ∧ 1 ≤ minB ∧ maxB ≤ C
  capNonneg : 0 ≤ C
  depot  : i.dL 0 = 0 ∧ i.dB 0 = 0
  demand : ∀ j, 1 ≤ j → j ≤ i.n → ∃ r : Int × Int, i.dL j = u * r.1 ∧ i.dB j = u * r.2 ∧
            ((r.1 = 0 ∧ minB ≤ r.2 ∧ r.2 ≤ maxB) ∨ (r.2 = 0 ∧ minD ≤ r.1 ∧ r.1 ≤ maxD))

/-- an integer `x` with `(x : ℚ) = κ * a` is "`a` in ticks" -/
theorem ticks_le {κ : ℚ} (hκ : 0 < κ) {x y : Int} {a b : ℚ} (hx : (x : ℚ) = κ * a) (hy : (y : ℚ) = κ * b)
    (h : a ≤ b) : x ≤ y :=
  Int.cast_le.1 (by rw [hx, hy]; exact mul_le_mul_of_nonneg_left h hκ.le)

theorem ticks_nonneg {κ : ℚ} (hκ : 0 < κ) {x : Int} {a : ℚ} (hx : (x : ℚ) = κ * a) (h : 0 ≤ a) : 0 ≤ x :=
  Int.cast_nonneg_iff.1 (by rw [hx]; exact mul_nonneg hκ.le h)

theorem ticks_add {κ : ℚ} {x y : Int} {a b : ℚ} (hx : (x : ℚ) = κ * a) (hy : (y : ℚ) = κ * b) :
    ((x + y : Int) : ℚ) = κ * (a + b) := by
  rw [Int.cast_add, hx, hy, mul_add]

theorem demand_ticks {u r lo hi C : Int} (hu : 0 < u) (h1 : 1 ≤ lo) (h2 : lo ≤ r) (h3 : r ≤ hi) (h4 : hi ≤ C) :
    0 < u * r ∧ u * r ≤ u * C :=
  ⟨Int.mul_pos hu (Int.lt_of_lt_of_le Int.zero_lt_one (Int.le_trans h1 h2)),
    Int.mul_le_mul_of_nonneg_left (Int.le_trans h3 h4) hu.le⟩

theorem gen_servable {κ : ℚ} {u : Int} {i : Inst} {tw : Nat → TwIn} {Tmax limitR : ℚ} {C minD maxD minB maxB : Int}
    (g : GenPost κ u i tw Tmax limitR C minD maxD minB maxB) (j : Nat) (h1 : 1 ≤ j) (h2 : j ≤ i.n) :
    servable i j = true := by
  obtain ⟨hc, hT⟩ := g.cond j h1 h2
  obtain ⟨w1, w2, _, w4⟩ := mtvrp_window (tw j) hc
  obtain ⟨t1, t2⟩ := g.travel j h1 h2
  obtain ⟨d1, d2⟩ := g.dist j h1 h2
  have κp := g.κpos
  have hdv : 0 ≤ (tw j).d / (tw j).v := div_nonneg hc.hd.le hc.hv.le
  have b0 : 0 ≤ i.T 0 j := ticks_nonneg κp t1 hdv
  have t0 : 0 ≤ i.T j 0 := ticks_nonneg κp t2 hdv
  have c0 : 0 ≤ i.D j 0 := ticks_nonneg κp d2 hc.hd.le
  have htw : cmpInf .le (i.T 0 j) (i.late j) = true ∧
      cmpInf .le (if i.openR then 0 else max (i.T 0 j) (i.early j) + i.service j + i.T j 0) (i.late 0) = true := by
    rcases g.windows with hnone | ⟨⟨l0, hl0, hl0v⟩, hw⟩
    · rw [hnone j h2, hnone 0 (Nat.zero_le _)]; exact ⟨rfl, rfl⟩
    · obtain ⟨e1, s1, l, hl, hlv⟩ := hw j h1 h2
      have b1 : i.T 0 j ≤ i.early j := ticks_le κp t1 e1 w1
      have b2 : i.early j ≤ l := ticks_le κp e1 hlv w2.le
      have b3 : l + i.service j + i.T j 0 ≤ l0 := ticks_le κp (ticks_add (ticks_add hlv s1) t2) (hT ▸ hl0v) w4
      have s0 : 0 ≤ i.service j := ticks_nonneg κp s1 (hc.ha.trans (service_range (tw j) hc).1)
      rw [hl, hl0, Int.max_eq_right b1]
      refine ⟨cmpInf_le_some.2 (Int.le_trans b1 b2), cmpInf_le_some.2 ?_⟩
      split
      · exact Int.le_trans (Int.add_nonneg (Int.add_nonneg (Int.le_trans b0 (Int.le_trans b1 b2)) s0) t0) b3
      · exact Int.le_trans (Int.add_le_add_right (Int.add_le_add_right b2 _) _) b3
  refine (servable_iff i j).2 ⟨htw.1, htw.2, ?_, ?_⟩
  · obtain ⟨r, hL, hB, hk⟩ := g.demand j h1 h2
    obtain ⟨m1, m2, m3, m4⟩ := g.bounds
    rw [hL, hB, g.cap]
    rcases hk with ⟨_, k2, k3⟩ | ⟨_, k2, k3⟩
    · exact Or.inr (demand_ticks g.upos m3 k2 k3 m4)
    · exact Or.inl (demand_ticks g.upos m1 k2 k3 m2)
  · rcases g.limit with hnone | ⟨L, hL, hLv, hd⟩
    · rw [hnone]; rfl
    · have b : i.D 0 j + i.D j 0 ≤ L := ticks_le κp (ticks_add d1 d2) hLv (by rw [← mul_two]; exact (hd j h1 h2).le)
      rw [hL]
      refine cmpInf_le_some.2 ?_
      split
      · exact Int.le_trans (Int.add_le_add_left c0 _) b
      · exact b

/-- **gen ⇒ wf**: every instance the MTVRP generator can emit (any preset / feature removal, any legal parameters
inside `TwCond`) is well-formed -/
theorem gen_wf_mtvrp {κ : ℚ} {u : Int} {i : Inst} {tw : Nat → TwIn} {Tmax limitR : ℚ} {C minD maxD minB maxB : Int}
    (g : GenPost κ u i tw Tmax limitR C minD maxD minB maxB) : wf i = true := by
  obtain ⟨m1, m2, m3, m4⟩ := g.bounds
  have up := g.upos
  refine (wf_iff i).2 ⟨g.cap ▸ Int.mul_nonneg up.le g.capNonneg, g.depot, ?_, gen_servable g⟩
  intro k hk
  rcases Nat.eq_zero_or_pos k with h0 | hpos
  · subst h0; rw [g.depot.1, g.depot.2]; exact ⟨Int.le_refl 0, Int.le_refl 0, Or.inl rfl⟩
  · obtain ⟨r, hL, hB, hkind⟩ := g.demand k hpos (Nat.le_of_lt_succ hk)
    rw [hL, hB]
    rcases hkind with ⟨k1, k2, k3⟩ | ⟨k1, k2, k3⟩
    · rw [k1, Int.mul_zero]; exact ⟨Int.le_refl 0, (demand_ticks up m3 k2 k3 m4).1.le, Or.inl rfl⟩
    · rw [k1, Int.mul_zero]; exact ⟨(demand_ticks up m1 k2 k3 m2).1.le, Int.le_refl 0, Or.inr rfl⟩

/-- **C18 "every generated instance is solvable", as a theorem chain**: generator post-conditions ⇒ `wf` ⇒ every
mask-confined episode is finished after at most `2n+1` steps … -/
theorem gen_steps_le {κ : ℚ} {u : Int} {i : Inst} {tw : Nat → TwIn} {Tmax limitR : ℚ} {C minD maxD minB maxB : Int}
    (g : GenPost κ u i tw Tmax limitR C minD maxD minB maxB) {as : List Nat} {s : State}
    (h : RunND env i (env.reset i) as s) : as.length ≤ 2 * i.n + 1 :=
  steps_le i (gen_wf_mtvrp g) h

/-- … and while it is not finished the mask offers an action (no dead end, no idling beyond the bound) -/
theorem gen_progress {κ : ℚ} {u : Int} {i : Inst} {tw : Nat → TwIn} {Tmax limitR : ℚ} {C minD maxD minB maxB : Int}
    (g : GenPost κ u i tw Tmax limitR C minD maxD minB maxB) {as : List Nat} {s : State}
    (h : RunND env i (env.reset i) as s) (hd : env.done i s = false) :
    ∃ a, a < env.nAct i ∧ env.mask i s a = true ∧ as.length + 1 ≤ 2 * i.n + 1 :=
  progress i (gen_wf_mtvrp g) h hd

/-- non-vacuity: one customer at distance 1 from the depot, the generator's constants (a = 0.15, b = 0.18, c = 0.2,
max_time = 4.6, distance_limit = 3.0, speed 1, capacity 30), draws 1/2, demand 5; 10 000 ticks per unit -/
def genInst : Inst :=
  { n := 1, cap := 30, dL := fun j => if j = 1 then 5 else 0, dB := fun _ => 0, openR := false, limit := some 30000,
    early := fun j => if j = 1 then 21225 else 0, late := fun j => some (if j = 0 then 46000 else 23125),
    service := fun j => if j = 1 then 1650 else 0,
    D := fun a b => if a = b then 0 else 10000, T := fun a b => if a = b then 0 else 10000 }

/-- the environment-side reading of the feature set of an instance (what `MTVRPEnv.check_variants` looks at) -/
structure HasFeatures (i : Inst) (f : Features) : Prop where
  openR : i.openR = f.openRoute
  tw    : (f.twFinite = true → ∀ j, j ≤ i.n → i.late j ≠ none) ∧ (f.twFinite = false → ∀ j, j ≤ i.n → i.late j = none)
  limit : (f.limitFinite = true → i.limit ≠ none) ∧ (f.limitFinite = false → i.limit = none)
  back  : f.backhaulAllowed = false → ∀ j, i.dB j = 0

/-- **preset ⇒ features ⇒ WF ⇒ C02**, for each of the 16 variant names of the regenerated preset table: the named
preset exists in `VARIANT_GENERATION_PRESETS`, it enables exactly the features its name spells, and every instance
generated under it (generator post-conditions `GenPost`, feature removals applied) is well-formed, never dead-ends
and finishes every mask-confined episode within `2n+1` steps -/
theorem preset_chain (o tw l b : Bool) :
    ∃ row, Params.genMtvrpPresets.lookup (variantName ⟨o, tw, l, b⟩) = some row ∧
      applyKeep (keepNamed row) = { openRoute := o, twFinite := tw, limitFinite := l, backhaulAllowed := b } ∧
      ∀ {κ : ℚ} {u : Int} {i : Inst} {tws : Nat → TwIn} {Tmax limitR : ℚ} {C minD maxD minB maxB : Int},
        GenPost κ u i tws Tmax limitR C minD maxD minB maxB → HasFeatures i (applyKeep (keepNamed row)) →
        wf i = true ∧ i.openR = o ∧
        (∀ (as : List Nat) (s : State), RunND env i (env.reset i) as s →
          as.length ≤ 2 * i.n + 1 ∧
          (env.done i s = false → ∃ a, a < env.nAct i ∧ env.mask i s a = true)) := by
  obtain ⟨row, hl, h⟩ := Option.map_eq_some_iff.1 (named_preset_features o tw l b)
  refine ⟨row, hl, h, ?_⟩
  intro κ u i tws Tmax limitR C minD maxD minB maxB g hf
  have hwf := gen_wf_mtvrp g
  exact ⟨hwf, by rw [hf.openR, h], fun as s hrun => ⟨steps_le i hwf hrun, fun _ => mask_nonempty i s⟩⟩

/-- the one-customer generator image `genInst` with the features `(o, tw, l, b)` kept and the others removed -/
def genInstF (o tw l b : Bool) : Inst :=
  { genInst with
    openR := o
    late := fun j => if tw then genInst.late j else none
    limit := if l then genInst.limit else none
    dL := fun j => if b then 0 else genInst.dL j
    dB := fun j => if b then genInst.dL j else 0 }

def genTw : TwIn := ⟨3/20, 9/50, 1/5, 23/5, 1, 1, 1/2, 1/2, 1/2⟩

theorem genTw_cond : TwCond genTw := by unfold genTw; constructor <;> norm_num

theorem genTw_window : twStart genTw = 21225 / 10000 ∧ service genTw = 1650 / 10000 ∧ twEnd genTw = 23125 / 10000 := by
  unfold genTw; norm_num [twEnd, twStart, hMax, service, twLength]

/-- **non-vacuity for every one of the 16 presets**: `genInstF o tw l b` is a generator image with exactly those features -/
theorem genPost_genInstF (o tw l b : Bool) :
    GenPost 10000 1 (genInstF o tw l b) (fun _ => ⟨3/20, 9/50, 1/5, 23/5, 1, 1, 1/2, 1/2, 1/2⟩) (23/5) 3 30 1 10 1 10 ∧
    HasFeatures (genInstF o tw l b) { openRoute := o, twFinite := tw, limitFinite := l, backhaulAllowed := b } := by
  have one : ∀ j, 1 ≤ j → j ≤ (genInstF o tw l b).n → j = 1 := fun j h1 h2 => Nat.le_antisymm h2 h1
  obtain ⟨w1, w2, w3⟩ := genTw_window
  refine ⟨{
    κpos := by norm_num
    upos := Int.one_pos
    cond := fun j _ _ => ⟨genTw_cond, rfl⟩
    travel := fun j h1 h2 => by
      cases one j h1 h2
      exact ⟨show ((10000 : Int) : ℚ) = _ by norm_num, show ((10000 : Int) : ℚ) = _ by norm_num⟩
    dist := fun j h1 h2 => by
      cases one j h1 h2
      exact ⟨show ((10000 : Int) : ℚ) = _ by norm_num, show ((10000 : Int) : ℚ) = _ by norm_num⟩
    windows := by
      cases tw
      · exact Or.inl fun j _ => rfl
      · refine Or.inr ⟨⟨46000, rfl, by norm_num⟩, fun j h1 h2 => ?_⟩
        cases one j h1 h2
        exact ⟨show ((21225 : Int) : ℚ) = 10000 * twStart genTw by rw [w1]; norm_num,
          show ((1650 : Int) : ℚ) = 10000 * service genTw by rw [w2]; norm_num,
          23125, rfl, show ((23125 : Int) : ℚ) = 10000 * twEnd genTw by rw [w3]; norm_num⟩
    limit := by
      cases l
      · exact Or.inl rfl
      · exact Or.inr ⟨30000, rfl, by norm_num, fun j _ _ => by norm_num⟩
    cap := rfl
    bounds := by norm_num
    capNonneg := by norm_num
    depot := by cases b <;> exact ⟨rfl, rfl⟩
    demand := fun j h1 h2 => by
      cases one j h1 h2
      cases b
      · exact ⟨(5, 0), rfl, rfl, Or.inr ⟨rfl, by norm_num, by norm_num⟩⟩
      · exact ⟨(0, 5), rfl, rfl, Or.inl ⟨rfl, by norm_num, by norm_num⟩⟩ }, ?_⟩
  refine ⟨rfl, ⟨?_, ?_⟩, ⟨?_, ?_⟩, ?_⟩
  · intro h j _; subst h; exact Option.some_ne_none _
  · intro h j _; subst h; rfl
  · intro h; subst h; exact Option.some_ne_none _
  · intro h; subst h; rfl
  · intro h j; cases h; rfl

example : GenPost 10000 1 genInst (fun _ => ⟨3/20, 9/50, 1/5, 23/5, 1, 1, 1/2, 1/2, 1/2⟩) (23/5) 3 30 1 10 1 10 :=
  (genPost_genInstF false true true false).1

/-- hence, for every preset name, a generated instance exists and it is solvable -/
theorem preset_instance_solvable (o tw l b : Bool) :
    wf (genInstF o tw l b) = true ∧
    ∀ (as : List Nat) (s : State), RunND env (genInstF o tw l b) (env.reset (genInstF o tw l b)) as s → as.length ≤ 3 := by
  have g := (genPost_genInstF o tw l b).1
  exact ⟨gen_wf_mtvrp g, fun as s h => by simpa [genInstF, genInst] using gen_steps_le g h⟩

end Rl4co.Mtvrp
