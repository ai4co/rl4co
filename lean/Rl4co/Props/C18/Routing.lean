/-
C18, range lemmas of the routing / graph generators as functions of the raw draws: coordinates and every other
affine sampler stay within their bounds, CVRP integer demands lie in `[min_demand, max_demand]` and — divided by the
table capacity, for every size on or off the table — never exceed 1 (so generated instances satisfy the CVRP
environment's `WF`), OP prizes, PDP pairing, MCP membership rows.  OP's `const`/`unif` prize types, MCP's
`cutoffs_masks` width and the `"center"` constant are modelled as they are after the upstream fixes.  No Mathlib.
-/
import Rl4co.Gen.Basic
import Rl4co.Gen.Routing
import Rl4co.Generated.Params
import Rl4co.Props.C18.Tables
import Rl4co.Props.C18.Range
import Rl4co.Core.Lists
import Rl4co.Props.C02.Cvrp
namespace Rl4co.Gen
open Rl4co

/-- PCTSP: `0 ≤ penalty ≤ max_penalty`, `0 ≤ deterministic prize < 4/n`, `0 ≤ stochastic prize ≤ 2·deterministic prize`
(numerators over the respective denominators) -/
theorem pctsp_ranges (mp : Frac) (p p2 q : Nat) (hmp : 0 ≤ mp.1) (hp : p < q) (hp2 : p2 < q) :
    0 ≤ pctspPenaltyNum mp p ∧ pctspPenaltyNum mp p ≤ mp.1 * q ∧
    0 ≤ pctspDetPrizeNum p ∧ pctspDetPrizeNum p < 4 * q ∧
    0 ≤ pctspStochPrizeNum p2 p ∧ pctspStochPrizeNum p2 p ≤ 2 * q * pctspDetPrizeNum p := by
  have h4 : (0 : Int) ≤ 4 * (p : Int) := Int.mul_nonneg (by decide) (Int.natCast_nonneg p)
  have h2 : (0 : Int) ≤ 2 * (p2 : Int) := Int.mul_nonneg (by decide) (Int.natCast_nonneg p2)
  refine ⟨Int.mul_nonneg (Int.natCast_nonneg p) hmp, ?_, h4, Int.mul_lt_mul_of_pos_left (Int.ofNat_lt.mpr hp) (by decide),
    Int.mul_nonneg h2 h4,
    Int.mul_le_mul_of_nonneg_right (Int.mul_le_mul_of_nonneg_left (Int.ofNat_le.mpr (Nat.le_of_lt hp2)) (by decide)) h4⟩
  rw [Int.mul_comm mp.1]
  exact Int.mul_le_mul_of_nonneg_right (Int.ofNat_le.mpr (Nat.le_of_lt hp)) hmp

/-- SVRP: every customer's required skill is at most the best technician's level (`skills = max(techs)·u`, `u < 1`),
so every customer can be served by some technician -/
theorem svrp_skill_le_best (techMax : Int) (p2 q2 : Nat) (h0 : 0 ≤ techMax) (hp : p2 < q2) :
    0 ≤ svrpSkillNum techMax p2 ∧ svrpSkillNum techMax p2 ≤ techMax * q2 :=
  ⟨Int.mul_nonneg h0 (Int.natCast_nonneg _), Int.mul_le_mul_of_nonneg_left (Int.ofNat_le.mpr (Nat.le_of_lt hp)) h0⟩

/-- **center_in_bounds**: the constant of the `"center"` distribution, `(high + low)/2`, lies in `[low, high]`
for every box (fixed upstream in 4726d9c; before it was `(high − low)/2`) -/
theorem center_in_bounds (lo hi : Int) (h : lo ≤ hi) : 2 * lo ≤ centerTwice lo hi ∧ centerTwice lo hi ≤ 2 * hi := by
  have hmid : Params.genCenterIsMid = true := by decide   -- obligation on the extracted formula
  rw [centerTwice, hmid, if_pos rfl]
  omega

example : centerTwice 2 3 = 5 := by decide

/-- CVRP: every generated integer demand lies in `[min_demand, max_demand]` (never reaching `max_demand` when the
range is non-degenerate) -/
theorem cvrp_demand_range (minD maxD : Int) (p q : Nat) (h1 : 1 ≤ minD) (h : minD ≤ maxD) (hp : p < q) :
    minD ≤ cvrpDemand minD maxD p q ∧ cvrpDemand minD maxD p q ≤ maxD ∧
    (minD < maxD → cvrpDemand minD maxD p q ≤ maxD - 1) := by
  have hshape : Params.genCvrpDemandShape = (-1, -1, 1) := by decide   -- obligation on the extracted offsets
  rw [cvrpDemand, hshape]
  exact demand_draw_range minD maxD p q h1 h hp

/-- a capacity override (or any capacity) at least `max_demand` keeps every demand within the vehicle -/
theorem cvrp_demand_fits_of_cap (minD maxD : Int) (p q : Nat) (c : Frac) (h1 : 1 ≤ minD) (h : minD ≤ maxD) (hp : p < q)
    (hc : maxD * c.2 ≤ c.1) : demandFits (cvrpDemand minD maxD p q) c = true :=
  decide_eq_true (Int.le_trans
    (Int.mul_le_mul_of_nonneg_right (cvrp_demand_range minD maxD p q h1 h hp).2.1 (Int.natCast_nonneg _)) hc)

/-- **cvrp_demand_le_capacity**: with the default demand range and the `CAPACITIES` table, for *every* `num_loc`
(table key or not — the nearest-key fallback) and every draw, `demand / capacity ≤ 1` -/
theorem cvrp_demand_le_capacity (n : Nat) (p q : Nat) (hp : p < q) (c : Frac) (hc : cvrpCapacity none n = some c) :
    demandFits (cvrpDemand Params.genCvrpMinDemand.1 Params.genCvrpMaxDemand.1 p q) c = true := by
  obtain ⟨k, hk⟩ := tblLookup_mem Params.genCvrpCapacities n c hc
  have hcov := (capsCover_mem capacities_cover_max_demand.1 hk).1
  obtain ⟨_, d2, d3, d4⟩ := cvrp_defaults
  rw [d2, Int.natCast_one, Int.mul_one] at hcov
  exact cvrp_demand_fits_of_cap _ _ p q c d3 d4 hp hcov

theorem cvrp_capacity_total (n : Nat) : (cvrpCapacity none n).isSome = true :=
  tblLookup_isSome _ n max_lengths_pos.2.2.1

/-- **gen_wf (CVRP)**: an instance assembled from generated demands and a capacity ≥ `max_demand` satisfies the
well-formedness predicate `Rl4co.Cvrp.WF` under which the CVRP environment's termination theorem (C02) is proved.
Demands are scaled by the capacity's denominator so that both sides are integers. -/
theorem gen_wf_cvrp (n : Nat) (minD maxD : Int) (ps : Nat → Nat) (q : Nat) (c : Frac) (D : Nat → Nat → Int)
    (h1 : 1 ≤ minD) (h : minD ≤ maxD) (hq : ∀ j, ps j < q) (hc : maxD * c.2 ≤ c.1) :
    Rl4co.Cvrp.WF { n := n, cap := c.1, demand := fun j => cvrpDemand minD maxD (ps j) q * c.2, D := D } :=
  fun j _ _ => of_decide_eq_true (cvrp_demand_fits_of_cap minD maxD (ps j) q c h1 h (hq j) hc)

/-- non-vacuity: default range, draw 7/8 → demand 8 ≤ 30 -/
example : cvrpDemand 1 10 7 8 = 8 ∧ demandFits 8 (30, 1) = true := by decide

/-- admissible raw input of a prize type: `const` none, `unif` an integer draw of `randint(0, 100)`,
`dist` a distance `0 ≤ d ≤ dmax` with `dmax > 0` -/
def PrizeInput (t : PrizeType) (x dmax : Int) : Prop :=
  match t with
  | .const => True
  | .unif => 0 ≤ x ∧ x < 100
  | .dist => 0 ≤ x ∧ x ≤ dmax ∧ 0 < dmax

/-- `prize_type = "dist"`: prizes are hundredths in `[1, 100]` (so `0.01 ≤ prize ≤ 1`) -/
theorem op_prize_range (d dmax : Int) (h0 : 0 ≤ d) (h1 : d ≤ dmax) (h2 : 0 < dmax) :
    1 ≤ opPrize100 .dist d dmax ∧ opPrize100 .dist d dmax ≤ 100 := by
  have h99 : (0 : Int) ≤ 99 := by decide
  obtain ⟨h3, h4, _⟩ := tdiv_range (d * 99) 0 99 dmax h2 (Int.mul_nonneg h0 h99)
    (by rw [Int.zero_mul]; exact Int.mul_nonneg h0 h99)
    (by rw [Int.mul_comm]; exact Int.mul_le_mul_of_nonneg_left h1 h99)
  exact ⟨Int.le_add_of_nonneg_right h3, Int.add_le_add_left h4 1⟩

/-- **op_prize_total**: every documented prize type (`const`, `unif`, `dist`) yields a prize in `[0.01, 1]`
(hundredths in `[1, 100]`) for every admissible draw (the `const`/`unif` branches run since a68723b) -/
theorem op_prize_total (t : PrizeType) (x dmax : Int) (h : PrizeInput t x dmax) :
    1 ≤ opPrize100 t x dmax ∧ opPrize100 t x dmax ≤ 100 := by
  cases t with
  | const => simp [opPrize100]
  | unif => simp only [PrizeInput] at h; simp only [opPrize100]; omega
  | dist => exact op_prize_range x dmax h.1 h.2.1 h.2.2

example : opPrize100 .unif 99 0 = 100 ∧ opPrize100 .const 0 0 = 100 ∧ opPrize100 .dist 5 13 = 39 := by decide

theorem pdp_even (n : Nat) : pdpNumLoc n % 2 = 0 ∧ n ≤ pdpNumLoc n ∧ pdpNumLoc n ≤ n + 1 := by
  unfold pdpNumLoc
  rcases Nat.mod_two_eq_zero_or_one n with h | h
  · rw [h]
    exact ⟨h, Nat.le_refl n, Nat.le_succ n⟩
  · rw [h]
    exact ⟨(Nat.add_mod n 1 2).trans (by rw [h]), Nat.le_succ n, Nat.le_refl _⟩

/-- with an even number `N` of customers the map pickup `i` ↦ delivery `i + N/2` is a bijection from
`{1..N/2}` onto `{N/2+1..N}` -/
theorem pdp_pairing (N : Nat) (hN : N % 2 = 0) :
    (∀ i, 1 ≤ i → i ≤ N / 2 → N / 2 < pdpDelivery N i ∧ pdpDelivery N i ≤ N) ∧
    (∀ i j, pdpDelivery N i = pdpDelivery N j → i = j) ∧
    (∀ k, N / 2 < k → k ≤ N → ∃ i, 1 ≤ i ∧ i ≤ N / 2 ∧ pdpDelivery N i = k) := by
  have hh : N / 2 + N / 2 = N := by omega
  exact ⟨fun i h1 h2 => ⟨Nat.lt_add_of_pos_left h1, Nat.le_trans (Nat.add_le_add_right h2 _) (Nat.le_of_eq hh)⟩,
    fun i j h => Nat.add_right_cancel h,
    fun k h1 h2 => ⟨k - N / 2, Nat.sub_pos_of_lt h1, Nat.sub_le_of_le_add (Nat.le_trans h2 (Nat.le_of_eq hh.symm)),
      Nat.sub_add_cancel (Nat.le_of_lt h1)⟩⟩

theorem mcp_clamp_range (mn mx : Int) (p q : Nat) (h : mn ≤ mx) :
    mn ≤ mcpClampFloor mn mx p q ∧ mcpClampFloor mn mx p q ≤ mx :=
  ⟨Int.le_max_left _ _, Int.max_le.mpr ⟨h, Int.min_le_right _ _⟩⟩

/-- `remove_repeat`: no item (non-zero entry) is listed twice in a membership row -/
theorem removeRepeat_nodup (l : List Nat) (x : Nat) (hx : x ≠ 0) : (removeRepeat l).count x ≤ 1 := by
  induction l with
  | nil => exact Nat.zero_le 1
  | cons y ys ih =>
    rw [removeRepeat, List.count_cons]
    by_cases hxy : y = x
    · subst hxy
      -- the later copies of `y` have been zeroed
      have : ((removeRepeat ys).map fun z => if z = y then 0 else z).count y = 0 :=
        List.count_eq_zero.mpr fun hm => by
          obtain ⟨z, _, hz⟩ := List.mem_map.mp hm
          split at hz
          · exact hx hz.symm
          · exact absurd hz ‹_›
      rw [this, beq_self_eq_true, if_pos rfl]
      exact Nat.le_refl 1
    · -- zeroing the copies of `y` creates no copy of `x`
      rw [if_neg (fun h => hxy (beq_iff_eq.mp h)), Nat.add_zero, List.count, List.countP_map]
      refine Nat.le_trans (List.countP_mono_left fun z _ hz => ?_) ih
      simp only [Function.comp_apply, beq_iff_eq] at hz ⊢
      split at hz
      · exact absurd hz.symm hx
      · exact hz

theorem removeRepeat_length (l : List Nat) : (removeRepeat l).length = l.length := by
  induction l with
  | nil => simp [removeRepeat]
  | cons y ys ih => simp [removeRepeat, ih]

theorem removeRepeat_mem (l : List Nat) (x : Nat) (hx : x ∈ removeRepeat l) : x = 0 ∨ x ∈ l := by
  induction l generalizing x with
  | nil => simp [removeRepeat] at hx
  | cons y ys ih =>
    simp only [removeRepeat, List.mem_cons, List.mem_map] at hx
    rcases hx with rfl | ⟨z, hz, hzx⟩
    · right; simp
    · split at hzx
      · left; exact hzx.symm
      · subst hzx
        rcases ih z hz with h | h
        · left; exact h
        · right; simp [h]

/-- **mcp_gen_total**: for every draw of items and every (clamped) set size a membership row comes out, as wide as
the sampled maximum; no item is listed twice; every listed item is one of the first `size` drawn items (fixed
upstream in 202be23: the mask is cut at the sampled maximum) -/
theorem mcp_gen_total (items : List Nat) (size : Nat) :
    (mcpRow items size).length = items.length ∧
    (∀ x, x ≠ 0 → (mcpRow items size).count x ≤ 1) ∧
    (∀ x, x ∈ mcpRow items size → x = 0 ∨ x ∈ items.take size) := by
  refine ⟨by rw [mcpRow, removeRepeat_length, List.length_map, List.length_range], fun x hx => removeRepeat_nodup _ x hx, ?_⟩
  intro x hx
  rcases removeRepeat_mem _ x hx with h | h
  · left; exact h
  · simp only [List.mem_map, List.mem_range] at h
    obtain ⟨k, hk, hkx⟩ := h
    split at hkx
    · right
      rw [List.mem_take_iff_getElem]
      refine ⟨k, by omega, ?_⟩
      rwa [getD_eq_getElem _ _ hk] at hkx
    · left; exact hkx.symm

example : mcpRow [3, 3, 5] 2 = [3, 0, 0] ∧ mcpRow [1, 2] 2 = [1, 2] := by decide

end Rl4co.Gen
