/-
C18, translator tie for the MTVRP time windows: `Generated/GenMtvrpTw.lean` (`twGen`) is regenerated on every run from
the statements of `MTVRPGenerator.generate_time_windows`; here it is shown to be the model (`twStart`, `twEnd`, `service`
with the constants read from the source) and the window theorem is restated on the generated definition.  A source edit
that changes an operand, a factor or a constant of the formulas changes `twGen` and breaks `twGen_eq` (`rfl`).
-/
import Rl4co.Generated.GenMtvrpTw
import Rl4co.Props.C18.Mtvrp
namespace Rl4co.Gen.Mtvrp
open Rl4co.Gen.Mtvrp.Generated

/-- the source constants `a, b, c = 0.15, 0.18, 0.2` plugged into an input record -/
def withConsts (i : TwIn) : TwIn := { i with a := 3 / 20, b := 9 / 50, c := 1 / 5 }

/-- **bridge**: the statement-level translation is the model -/
theorem twGen_eq (i : TwIn) : twGen i = (twStart (withConsts i), twEnd (withConsts i), service (withConsts i)) := rfl

/-- the translated constants are the ones the separate token probe extracted (`Params.genMtvrpTwConsts`) -/
theorem consts_agree : Params.genMtvrpTwConsts = [(3, 20), (9, 50), (1, 5)] := by decide

/-- **mtvrp_window on the generated definition**: for every customer away from the depot, positive speed, draws in [0,1)
and room for the round trip (`2·d/v ≤ max_time − 0.18 − 0.2`), the window the *source statements* compute is ordered,
reachable and leaves time to return -/
theorem mtvrp_window_generated (i : TwIn) (hd : 0 < i.d) (hv : 0 < i.v)
    (hus : 0 ≤ i.us ∧ i.us < 1) (hul : 0 ≤ i.ul ∧ i.ul < 1) (hut : 0 ≤ i.ut ∧ i.ut < 1)
    (room : 2 * (i.d / i.v) ≤ i.T - 9 / 50 - 1 / 5) :
    i.d / i.v ≤ (twGen i).1 ∧ (twGen i).1 < (twGen i).2.1 ∧ i.d / i.v ≤ (twGen i).2.1 ∧
      (twGen i).2.1 + (twGen i).2.2 + i.d / i.v ≤ i.T := by
  have c : TwCond (withConsts i) :=
    { ha := show (0 : ℚ) ≤ 3 / 20 by norm_num, hab := show (3 / 20 : ℚ) ≤ 9 / 50 by norm_num,
      hb := show (0 : ℚ) < 9 / 50 by norm_num, hbc := show (9 / 50 : ℚ) ≤ 1 / 5 by norm_num,
      hd := hd, hv := hv, hus := hus, hul := hul, hut := hut, room := room }
  rw [twGen_eq]
  exact mtvrp_window (withConsts i) c

/-- non-vacuity: the default farthest corner at double speed -/
example : (twGen ⟨0, 0, 0, 23/5, 14142/10000, 2, 1/2, 1/2, 1/2⟩).2.2 = 33 / 200 := by
  show (3 / 20 + (9 / 50 - 3 / 20) * (1 / 2) : ℚ) = 33 / 200
  norm_num

end Rl4co.Gen.Mtvrp
