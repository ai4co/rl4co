/-
C18 ↔ C01/C05 link for PCTSP / SPCTSP: what the instances of the bundled generator look like (ranges
proved in `Props/C18/Routing.lean: pctsp_ranges`), phrased on the environment model's instance type, and
what follows for the environment: the relation between the prize the policy is shown (deterministic =
expected) and the prize that is collected (stochastic, for SPCTSP).

The environment theorems C01–C06 of this family need NO well-formedness of prizes or penalties; the
facts below are therefore additional guarantees for generator instances, not missing hypotheses.
-/
import Rl4co.Props.C18.Routing
import Rl4co.Props.C05.Pctsp
import Rl4co.Props.C02.Pctsp

namespace Rl4co.Pctsp
open Rl4co.Spec.Pctsp Rl4co.Prize

/-- generator-shaped instance: non-negative prizes and penalties, expected prize below `4/n`, stochastic
prize between 0 and twice the expected prize -/
structure GenWF (i : Inst) : Prop where
  det_nonneg : ∀ j, 1 ≤ j → j ≤ i.n → 0 ≤ i.detPrize j
  det_lt     : ∀ j, 1 ≤ j → j ≤ i.n → i.n * i.detPrize j < 4 * i.req
  sto_nonneg : ∀ j, 1 ≤ j → j ≤ i.n → 0 ≤ i.stoPrize j
  sto_le     : ∀ j, 1 ≤ j → j ≤ i.n → i.stoPrize j ≤ 2 * i.detPrize j
  pen_nonneg : ∀ j, 1 ≤ j → j ≤ i.n → 0 ≤ i.pen j

/-- the instance `PCTSPGenerator._generate` emits for the uniform draws `p j / q` (expected prize),
`p2 j / q` (stochastic factor), `pp j / q` (penalty), all `< 1`: prizes in units of `1/(q²·n)`
(so the requirement 1.0 is `q²·n`), penalties as numerators over `q · den(max_penalty)` -/
def genInst (n q : Nat) (mp : Gen.Frac) (p p2 pp : Nat → Nat) (D : Nat → Nat → Int) (stochastic : Bool) : Inst :=
  { n := n, req := (q : Int) * q * n, D := D,
    detPrize := fun j => (q : Int) * Gen.pctspDetPrizeNum (p j),
    stoPrize := fun j => Gen.pctspStochPrizeNum (p2 j) (p j),
    stochastic := stochastic,
    pen := fun j => Gen.pctspPenaltyNum mp (pp j) }

/-- **C18 → environment**: generator instances are `GenWF` (from `Gen.pctsp_ranges`). -/
theorem genInst_wf (n q : Nat) (mp : Gen.Frac) (p p2 pp : Nat → Nat) (D : Nat → Nat → Int) (sto : Bool)
    (hn : 0 < n) (hmp : 0 ≤ mp.1)
    (hp : ∀ j, p j < q) (hp2 : ∀ j, p2 j < q) (hpp : ∀ j, pp j < q) :
    GenWF (genInst n q mp p p2 pp D sto) := by
  have hq : 0 < q := Nat.lt_of_le_of_lt (Nat.zero_le _) (hp 0)
  have hqi : (0 : Int) < q := by exact_mod_cast hq
  have hni : (0 : Int) < n := by exact_mod_cast hn
  have hr := fun j => Gen.pctsp_ranges mp (p j) (p2 j) q hmp (hp j) (hp2 j)
  refine ⟨fun j _ _ => Int.mul_nonneg (Int.le_of_lt hqi) (hr j).2.2.1, ?_, fun j _ _ => (hr j).2.2.2.2.1, ?_,
    fun j _ _ => (Gen.pctsp_ranges mp (pp j) (p2 j) q hmp (hpp j) (hp2 j)).1⟩
  · intro j _ _
    -- `det < 4 q`, multiplied by `n q > 0`
    have := Int.mul_lt_mul_of_pos_left (hr j).2.2.2.1 (Int.mul_pos hni hqi)
    rw [Int.mul_assoc] at this
    exact Int.lt_of_lt_of_le this (Int.le_of_eq (show (n : Int) * q * (4 * q) = 4 * (q * q * n) by ac_rfl))
  · intro j _ _
    exact (Int.mul_assoc 2 q _) ▸ (hr j).2.2.2.2.2

/-- expected prize of the customers that occur in `as` -/
def expectedCollected (i : Inst) (as : List Nat) : Int :=
  sumTo i.n (fun k => if k + 1 ∈ as then i.detPrize (k + 1) else 0)

/-- the prize really collected is at most twice the expected prize shown to the policy (SPCTSP on a
generator-shaped instance); for PCTSP they coincide -/
theorem collected_le_twice_expected (i : Inst) (hg : GenWF i) (as : List Nat) :
    collected i as ≤ 2 * expectedCollected i as := by
  rw [expectedCollected, ← sumTo_mul]
  refine sumTo_le_sumTo (fun k hk => ?_)
  split
  · have h1 := hg.sto_le (k + 1) (Nat.succ_pos k) hk
    have h2 := hg.det_nonneg (k + 1) (Nat.succ_pos k) hk
    rw [realPrize_eq]
    split <;> omega
  · exact Int.le_refl _

theorem collected_eq_expected_of_det (i : Inst) (hs : i.stochastic = false) (as : List Nat) :
    collected i as = expectedCollected i as := by
  simp [collected, expectedCollected, realPrize_eq, hs]

/-- **stochastic vs deterministic prize**: a finished mask-confined SPCTSP/PCTSP episode on a
generator-shaped instance that leaves a customer unvisited has collected an EXPECTED prize of at least
half the requirement (all of it for PCTSP). -/
theorem expected_ge_half_of_done (i : Inst) (hg : GenWF i) {as : List Nat} {s : State}
    (h : Run env i (env.reset i) as s) (hd : env.done i s = true) (hnot : ¬ AllVisited i as) :
    i.req ≤ 2 * expectedCollected i as := by
  rcases (feasible_of_run i h hd).prize with hp | hall
  · have := collected_le_twice_expected i hg as
    omega
  · exact absurd hall hnot

/-- the customer part of the mask, the visited set and the step counter do not depend on the prizes
at all: an episode prefix without depot visit is admitted for PCTSP iff it is admitted for SPCTSP -/
theorem admitted_customers_indep (i i' : Inst) (hn : i'.n = i.n) :
    ∀ (cs : List Nat) (s s' : State), (∀ c ∈ cs, c ≠ 0) → s'.vis = s.vis →
      admitted env i' s' cs = admitted env i s cs := by
  intro cs
  induction cs with
  | nil => intro s s' _ _; rfl
  | cons c t ih =>
    intro s s' hnz hv
    have hc0 : c ≠ 0 := hnz c (List.mem_cons_self)
    have hstep : (env.step i' s' c).vis = (env.step i s c).vis := by rw [isTour.step_vis, isTour.step_vis, hv]
    have ih' := ih (env.step i s c) (env.step i' s' c) (fun d hd => hnz d (List.mem_cons_of_mem _ hd)) hstep
    have hm : env.mask i' s' c = env.mask i s c := by simp [env, mask_customer_generated, hc0, hv]
    have ha : env.nAct i' = env.nAct i := by simp [env, hn]
    simp only [admitted, ih', hm, ha]

/-- **C18 → C02 chain (PCTSP / SPCTSP)**: every generator instance — indeed every instance — has no dead end
in any reachable state and finishes within `max (n+1) 2` steps; C02 needs no well-formedness here. -/
theorem gen_c02 (i : Inst) (_hg : GenWF i) :
    (∀ s : State, Reach env i s → ∃ a, a < env.nAct i ∧ env.mask i s a = true) ∧
    (∀ {as : List Nat} {s : State}, RunND env i (env.reset i) as s → as.length ≤ max (i.n + 1) 2) :=
  ⟨fun s hr => mask_nonempty i s hr, fun h => steps_le i h⟩

/-- Non-vacuity: a generator-shaped instance (n = 2, q = 4, draws 3/4, 1/4; stochastic factors 2/4, 3/4). -/
example : GenWF (genInst 2 4 (3, 2) (fun j => if j = 1 then 3 else 1) (fun j => if j = 1 then 2 else 3)
    (fun _ => 1) (fun _ _ => 0) true) :=
  genInst_wf 2 4 (3, 2) _ _ _ _ true (by decide) (by decide)
    (by intro j; split <;> decide) (by intro j; split <;> decide) (by intro j; decide)

end Rl4co.Pctsp
