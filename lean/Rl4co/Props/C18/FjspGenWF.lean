/-
The generator / file-reader → environment link for FJSP and JSSP (C18/C19 → C02/C07): the
post-conditions proved about the generator models (`Rl4co.Gen.Sched`: `op_index`, `fjspColumn_pos` (the witness
behind `fjsp_operation_eligible`), `jssp_operation_eligible`) and about the text-file reader (`Rl4co.Gen.Persist`:
`fjsp_read_write`, `jssp_read_write`) imply the well-formedness `Fjsp.WF` that every environment theorem (no dead
ends, termination, valid schedules, reachability of the optimum) assumes.  So "generated / re-read instances are
solvable" is a chain of theorems.
-/
import Rl4co.Props.C18.Sched
import Rl4co.Props.C19.Persist
import Rl4co.Props.C02.Fjsp

namespace Rl4co.Fjsp
open Rl4co.Gen Rl4co.Gen.Sched
open Rl4co.Spec.Fjsp (isReal opOf)

/-- the environment instance the generator's TensorDict describes: `start_op_per_job`, `end_op_per_job`,
`pad_mask` from the operation counts, `proc_times[m][o] = proc m o` -/
def ofOps (M N : Nat) (nOps : List Nat) (proc : Nat → Nat → Int) (mno jssp : Bool) : Inst :=
  { J := nOps.length, M := M, N := N,
    startOp := fun j => ((startOps nOps).getD j 0).toNat,
    endOp := fun j => ((endOps nOps).getD j 0).toNat,
    proc := proc,
    pad := fun o => (padMask N nOps).getD o true,
    maskNoOps := mno, jssp := jssp }

/-- an operation id below the total belongs to some job's block -/
theorem find_job (ns : List Nat) (o : Nat) : ∀ k, o < (ns.take k).sum →
    ∃ j, j < k ∧ (ns.take j).sum ≤ o ∧ o < (ns.take (j + 1)).sum
  | 0, h => nomatch h
  | k + 1, ho =>
    if hlt : o < (ns.take k).sum then
      let ⟨j, hj, h⟩ := find_job ns o k hlt
      ⟨j, Nat.lt_succ_of_lt hj, h⟩
    else ⟨k, Nat.lt_succ_self k, Nat.le_of_not_lt hlt, ho⟩

/-- `start_op_per_job[j]` / `end_op_per_job[j]` of `ofOps` as prefix sums (`op_index`) -/
theorem ofOps_start_end (M N : Nat) (nOps : List Nat) (proc : Nat → Nat → Int) (mno jssp : Bool)
    (h2 : ∀ n, n ∈ nOps → 1 ≤ n) (j : Nat) (hj : j < nOps.length) :
    (ofOps M N nOps proc mno jssp).startOp j = (nOps.take j).sum ∧
    (ofOps M N nOps proc mno jssp).endOp j + 1 = (nOps.take (j + 1)).sum ∧
    (nOps.take j).sum < (nOps.take (j + 1)).sum := by
  obtain ⟨he, hs⟩ := op_index nOps j hj
  have hsucc := take_succ_sum nOps j
  have hpos : 1 ≤ nOps.getD j 0 := h2 _ (getD_mem 0 hj)
  have hge : 1 ≤ (nOps.take (j + 1)).sum := hsucc ▸ Nat.le_add_left_of_le hpos
  simp only [ofOps, he, hs]
  exact ⟨Int.toNat_natCast _, (congrArg (· + 1) (Int.toNat_sub _ 1)).trans (Nat.sub_add_cancel hge),
    hsucc ▸ Nat.lt_add_of_pos_right hpos⟩

/-- **the index structure and the eligibility post-conditions give `WF`** -/
theorem wf_ofOps (M N : Nat) (nOps : List Nat) (proc : Nat → Nat → Int) (mno jssp : Bool)
    (h1 : nOps ≠ []) (h2 : ∀ n, n ∈ nOps → 1 ≤ n) (h3 : nOps.sum ≤ N)
    (hnn : ∀ m o, m < M → o < N → 0 ≤ proc m o)
    (helig : ∀ o, o < nOps.sum → ∃ m, m < M ∧ 0 < proc m o)
    (huniq : jssp = true → ∀ o, o < nOps.sum → ∀ m m', m < M → m' < M → 0 < proc m o → 0 < proc m' o → m = m') :
    WF (ofOps M N nOps proc mno jssp) := by
  have hse := ofOps_start_end M N nOps proc mno jssp h2
  have hlt_total : ∀ j, j < nOps.length → ∀ o, o ≤ (ofOps M N nOps proc mno jssp).endOp j → o < nOps.sum := by
    intro j hj o ho
    obtain ⟨_, h2', _⟩ := hse j hj
    have := take_sum_le nOps (j + 1)
    omega
  refine ⟨List.length_pos_iff.mpr h1, ?_, ?_, hnn, ?_, ?_, ?_⟩
  · intro j hj
    refine ⟨?_, Nat.lt_of_lt_of_le (hlt_total j hj _ (Nat.le_refl _)) h3⟩
    obtain ⟨a, b, c⟩ := hse j hj
    omega
  · intro j j' hj hj' hlt
    obtain ⟨_, b, _⟩ := hse j hj
    obtain ⟨a', _, _⟩ := hse j' hj'
    have := take_sum_mono nOps (j + 1) j' hlt
    omega
  · intro j hj o _ ho
    exact helig o (hlt_total j hj o ho)
  · intro hjs j hj o _ ho
    exact huniq hjs o (hlt_total j hj o ho)
  · intro o ho
    have hpad : (ofOps M N nOps proc mno jssp).pad o = decide (o ≥ nOps.sum) := getD_map_range _ ho _
    rw [hpad, decide_eq_false_iff_not, Nat.not_le]
    constructor
    · intro hlt
      rw [← List.take_length (l := nOps)] at hlt
      obtain ⟨j, hj, h1', h2'⟩ := find_job nOps o nOps.length hlt
      obtain ⟨a, b, _⟩ := hse j hj
      exact real_of_job hj (a ▸ h1') (Nat.le_of_lt_succ (by rw [Nat.succ_eq_add_one, b]; exact h2'))
    · intro h
      obtain ⟨j, hj, _, h2'⟩ := job_of_real h
      exact hlt_total j hj o h2'

/-- **gen_wf_fjsp**: an FJSP instance as `FJSPGenerator._generate` builds it — at least one job, at least one
operation per job (`min_ops_per_job ≥ 1`), `n_ops_max ≥` total, one column per operation produced by
`fjspColumn` from a shuffle `idx o` (a permutation of the machines), `n_eligible o ≥ 1` on the real
operations and parameters `1 ≤ min_pt ≤ mean o < max_pt` — is well-formed. -/
theorem gen_wf_fjsp (M N : Nat) (nOps : List Nat) (minPt maxPt : Int) (nElig : Nat → Nat) (idx : Nat → List Nat)
    (mean : Nat → Int) (raws : Nat → List Nat) (mno : Bool)
    (h1 : nOps ≠ []) (h2 : ∀ n, n ∈ nOps → 1 ≤ n) (h3 : nOps.sum ≤ N) (hM : 0 < M)
    (hperm : ∀ o, (idx o).Perm (List.range M)) (hel : ∀ o, o < nOps.sum → 1 ≤ nElig o)
    (hp1 : 1 ≤ minPt) (hp2 : ∀ o, minPt ≤ mean o) (hp3 : ∀ o, mean o < maxPt) :
    WF (ofOps M N nOps (fun m o => (fjspColumn M minPt maxPt (nElig o) (idx o) (mean o) (raws o)).getD m 0) mno false) := by
  apply wf_ofOps M N nOps _ mno false h1 h2 h3
  · intro m o hm _
    rw [fjspColumn_getD hm]
    split
    · exact Int.le_of_lt (fjsp_proc_range minPt maxPt (mean o) _ hp1 (hp2 o) (hp3 o)).2.2
    · exact Int.le_refl 0
  · exact fun o ho =>
      fjspColumn_pos M minPt maxPt (nElig o) (idx o) (mean o) (raws o) (hperm o) hM (hel o ho) hp1 (hp2 o) (hp3 o)
  · intro h; simp at h

theorem wf_ofOps_single (M N : Nat) (nOps : List Nat) (proc : Nat → Nat → Int) (ma : Nat → Nat) (mno : Bool)
    (h1 : nOps ≠ []) (h2 : ∀ n, n ∈ nOps → 1 ≤ n) (h3 : nOps.sum ≤ N) (hma : ∀ o, ma o < M)
    (hnn : ∀ m o, m < M → o < N → 0 ≤ proc m o) (hpos : ∀ o, o < nOps.sum → 0 < proc (ma o) o)
    (hzero : ∀ m o, o < nOps.sum → m ≠ ma o → proc m o = 0) :
    WF (ofOps M N nOps proc mno true) := by
  refine wf_ofOps M N nOps proc mno true h1 h2 h3 hnn (fun o ho => ⟨ma o, hma o, hpos o ho⟩) ?_
  intro _ o ho m m' _ _ hp hp'
  have e : ∀ k, 0 < proc k o → k = ma o := fun k hk =>
    Classical.byContradiction fun hne => Int.lt_irrefl 0 (hzero k o ho hne ▸ hk)
  rw [e m hp, e m' hp']

/-- **gen_wf_jssp**: a JSSP instance as `JSSPGenerator._generate` builds it (one machine `machine o < M` per
operation with a positive drawn time) is well-formed, including the uniqueness clause JSSP needs. -/
theorem gen_wf_jssp (M N : Nat) (nOps : List Nat) (machine : Nat → Nat) (times : Nat → List Int) (mno : Bool)
    (h1 : nOps ≠ []) (h2 : ∀ n, n ∈ nOps → 1 ≤ n) (h3 : nOps.sum ≤ N)
    (hma : ∀ o, machine o < M) (hpos : ∀ o, 0 < (times o).getD (machine o) 0) :
    WF (ofOps M N nOps (fun m o => (jsspColumn M (machine o) (times o)).getD m 0) mno true) := by
  have hself : ∀ o, (jsspColumn M (machine o) (times o)).getD (machine o) 0 = (times o).getD (machine o) 0 :=
    fun o => by rw [jsspColumn_getD (hma o), if_pos rfl]
  have hzero := fun o => (jssp_operation_eligible M (machine o) (times o) (hma o) (hpos o)).2
  refine wf_ofOps_single M N nOps _ machine mno h1 h2 h3 hma ?_ (fun o _ => hself o ▸ hpos o) (fun m o _ => hzero o m)
  intro m o _ _
  by_cases h : m = machine o
  · rw [h, hself]
    exact Int.le_of_lt (hpos o)
  · rw [hzero o m h]

open Rl4co.Gen.Persist in
/-- **read_wf_fjsp**: write an instance with the repo's FJSP writer and read it back with the repo's reader:
the instance the environment then gets (`max_ops = N` padding) is well-formed, provided the written
instance was (every real operation has a machine `< numMas` with a positive time, every job has an operation). -/
theorem read_wf_fjsp (i : Persist.Inst) (flex N : Nat) (mno : Bool)
    (h1 : i.nOps ≠ []) (h2 : ∀ n, n ∈ i.nOps → 1 ≤ n) (h3 : i.total ≤ N)
    (helig : ∀ o, o < i.total → ∃ m, m < i.numMas ∧ 0 < i.proc m o) :
    ∃ out, fjspRead (fjspWrite i flex) = some out ∧
      WF (ofOps out.numMas N out.nOps (fun m o => (out.proc m o : Int)) mno false) := by
  obtain ⟨out, hread, _, hM, hn, hproc⟩ := fjsp_read_write i flex h1
  refine ⟨out, hread, ?_⟩
  rw [hM, hn]
  apply wf_ofOps i.numMas N i.nOps _ mno false h1 h2 h3
  · intro m o _ _; exact Int.natCast_nonneg _
  · intro o ho
    obtain ⟨m, hm, hpos⟩ := helig o ho
    refine ⟨m, hm, ?_⟩
    rw [hproc, if_pos ⟨hm, ho⟩]
    exact Int.natCast_pos.mpr hpos
  · intro h; simp at h

open Rl4co.Gen.Persist in
/-- **read_wf_jssp**: the same for the JSSP text format -/
theorem read_wf_jssp (i : Persist.JInst) (N : Nat) (mno : Bool) (hma : ∀ op, i.ma op < i.numMas)
    (h1 : i.nOps ≠ []) (h2 : ∀ n, n ∈ i.nOps → 1 ≤ n) (h3 : i.nOps.sum ≤ N) (hdur : ∀ o, o < i.nOps.sum → 0 < i.dur o) :
    ∃ out, jsspRead (jsspWrite i) = some out ∧
      WF (ofOps out.numMas N out.nOps (fun m o => (out.proc m o : Int)) mno true) := by
  obtain ⟨out, hread, _, hM, hn, hproc⟩ := jssp_read_write i hma h1
  refine ⟨out, hread, ?_⟩
  rw [hM, hn]
  have hval : ∀ m o, o < i.nOps.sum → out.proc m o = if m = i.ma o then i.dur o else 0 := by
    intro m o ho; rw [hproc]; simp [ho, Persist.JInst.proc]
  refine wf_ofOps_single i.numMas N i.nOps _ i.ma mno h1 h2 h3 hma (fun m o _ _ => Int.natCast_nonneg _) ?_ ?_
  · intro o ho
    rw [hval _ o ho, if_pos rfl]
    exact Int.natCast_pos.mpr (hdur o ho)
  · intro m o ho hne
    rw [hval m o ho, if_neg hne]
    rfl

/-- the chain, spelled out once: on a generated FJSP instance every reachable state offers an action and no
assertion of the code fires (C18 ⇒ C02) -/
theorem gen_fjsp_solvable (M N : Nat) (nOps : List Nat) (minPt maxPt : Int) (nElig : Nat → Nat) (idx : Nat → List Nat)
    (mean : Nat → Int) (raws : Nat → List Nat) (mno : Bool)
    (h1 : nOps ≠ []) (h2 : ∀ n, n ∈ nOps → 1 ≤ n) (h3 : nOps.sum ≤ N) (hM : 0 < M)
    (hperm : ∀ o, (idx o).Perm (List.range M)) (hel : ∀ o, o < nOps.sum → 1 ≤ nElig o)
    (hp1 : 1 ≤ minPt) (hp2 : ∀ o, minPt ≤ mean o) (hp3 : ∀ o, mean o < maxPt) :
    let i := ofOps M N nOps (fun m o => (fjspColumn M minPt maxPt (nElig o) (idx o) (mean o) (raws o)).getD m 0) mno false
    ∀ s, Reach env i s → (∃ a, a < env.nAct i ∧ env.mask i s a = true) ∧ s.err = false := by
  intro i s hs
  have hwf := gen_wf_fjsp M N nOps minPt maxPt nElig idx mean raws mno h1 h2 h3 hM hperm hel hp1 hp2 hp3
  exact ⟨mask_nonempty i hwf s hs, (loop_terminates i hwf s hs).2⟩

/-- non-vacuity: the generator example of `Props/C18/Sched.lean` (operation counts `[2, 3, 1]`, padded to 8) -/
example : WF (ofOps 2 8 [2, 3, 1] (fun m o => (jsspColumn 2 (o % 2) [3, 4]).getD m 0) true true) :=
  gen_wf_jssp 2 8 [2, 3, 1] (fun o => o % 2) (fun _ => [3, 4]) true (by decide) (by decide) (by decide)
    (fun o => Nat.mod_lt _ (by decide)) (fun o => by
      have : o % 2 = 0 ∨ o % 2 = 1 := by omega
      rcases this with h | h <;> simp [h])

end Rl4co.Fjsp
