/-
C18, ATSP: the min-plus closure loop of `ATSPGenerator._generate` as coded — a *single* pass
`for i in range(n): dms = minimum(dms, dms[:, [i]] + dms[[i], :])` after zeroing the diagonal — is Floyd–Warshall:
with non-negative raw entries the output has zero diagonal, non-negative entries not above the raw ones, and
satisfies the triangle inequality.  (Exact arithmetic; float32 additions may break it by rounding — sampled by the
harness.)  The non-negativity hypothesis is needed (example below).
-/
import Rl4co.Gen.Atsp
namespace Rl4co.Gen.Atsp

structure Pre (D : Mat) : Prop where
  diag : ∀ a, D a a = 0
  nonneg : ∀ a b, 0 ≤ D a b

/-- invariant after `k` iterations: the triangle inequality through every intermediate `j < k` -/
structure Inv (D : Mat) (k : Nat) : Prop extends Pre D where
  tri : ∀ a b j, j < k → D a b ≤ D a j + D j b

theorem relax_le (D : Mat) (i a b : Nat) : relax D i a b ≤ D a b := by
  unfold relax; exact Int.min_le_left _ _

theorem relax_pre (D : Mat) (h : Pre D) (i : Nat) : Pre (relax D i) where
  diag a := by
    have h1 := h.nonneg a i; have h2 := h.nonneg i a; have h3 := h.diag a
    unfold relax; rw [h3]; exact Int.min_eq_left (by omega)
  nonneg a b := by
    have h1 := h.nonneg a b; have h2 := h.nonneg a i; have h3 := h.nonneg i b
    unfold relax; exact Int.le_min.mpr ⟨h1, by omega⟩

theorem relax_inv (D : Mat) (k : Nat) (h : Inv D k) : Inv (relax D k) (k + 1) where
  toPre := relax_pre D h.toPre k
  tri a b j hj := by
    rcases Nat.lt_succ_iff_lt_or_eq.mp hj with hlt | heq
    · -- j < k : each relaxed leg is a direct entry or a detour through `k`; in all four combinations the
      -- old triangle inequalities through `j` (and `D k k = 0`) bound the relaxed entry `a → b`
      have t1 := h.tri a b j hlt
      have t2 := h.tri a k j hlt
      have t3 := h.tri k b j hlt
      have t4 := h.tri k k j hlt
      have d0 := h.diag k
      simp only [relax]
      omega
    · subst heq
      simp only [relax, h.diag j, Int.add_zero, Int.zero_add, Int.min_self]
      exact Int.min_le_right _ _

theorem closure_inv (D : Mat) (h : Pre D) : ∀ k, Inv (closure D k) k
  | 0 => { toPre := h, tri := fun _ _ _ hj => absurd hj (Nat.not_lt_zero _) }
  | k + 1 => relax_inv (closure D k) k (closure_inv D h k)

theorem zeroDiag_pre (raw : Mat) (h : ∀ a b, 0 ≤ raw a b) : Pre (zeroDiag raw) where
  diag a := by simp [zeroDiag]
  nonneg a b := by unfold zeroDiag; split <;> simp [h]

theorem gen_true (raw : Mat) (n : Nat) : gen raw n true = closure (zeroDiag raw) n := rfl

theorem gen_false (raw : Mat) (n : Nat) : gen raw n false = zeroDiag raw := rfl

/-- **atsp_triangle**: with non-negative raw entries (`0 ≤ min_dist`) the single pass is the full min-plus closure:
the triangle inequality holds through every node `b < n` (`a`, `c` arbitrary). -/
theorem atsp_triangle (raw : Mat) (n : Nat) (h : ∀ a b, 0 ≤ raw a b) (a b c : Nat) (hb : b < n) :
    gen raw n true a c ≤ gen raw n true a b + gen raw n true b c := by
  rw [gen_true]
  exact (closure_inv (zeroDiag raw) (zeroDiag_pre raw h) n).tri a c b hb

theorem atsp_diag (raw : Mat) (n : Nat) (h : ∀ a b, 0 ≤ raw a b) (tm : Bool) (a : Nat) : gen raw n tm a a = 0 := by
  cases tm
  · rw [gen_false]; exact (zeroDiag_pre raw h).diag a
  · rw [gen_true]; exact (closure_inv (zeroDiag raw) (zeroDiag_pre raw h) n).diag a

theorem atsp_nonneg (raw : Mat) (n : Nat) (h : ∀ a b, 0 ≤ raw a b) (tm : Bool) (a b : Nat) : 0 ≤ gen raw n tm a b := by
  cases tm
  · rw [gen_false]; exact (zeroDiag_pre raw h).nonneg a b
  · rw [gen_true]; exact (closure_inv (zeroDiag raw) (zeroDiag_pre raw h) n).nonneg a b

/-- so the output stays `≤ max_dist` -/
theorem closure_le (D : Mat) : ∀ k a b, closure D k a b ≤ D a b
  | 0, _, _ => Int.le_refl _
  | k + 1, a, b => Int.le_trans (relax_le _ k a b) (closure_le D k a b)

/-- the hypothesis is needed: with a negative entry the single pass does not even keep the diagonal at zero -/
def negRaw : Mat := fun a b => if a = 0 ∧ b = 1 then -3 else if a = 1 ∧ b = 0 then 1 else 5
example : gen negRaw 2 true 0 0 = -2 := by decide

/-- non-vacuity: a 3-node matrix whose raw form violates the triangle inequality -/
def exRaw : Mat := fun a b => if a = 0 ∧ b = 1 then 10 else 1
example : ¬ (zeroDiag exRaw 0 1 ≤ zeroDiag exRaw 0 2 + zeroDiag exRaw 2 1) := by decide
example : gen exRaw 3 true 0 1 = 2 := by decide
end Rl4co.Gen.Atsp
