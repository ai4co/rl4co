/-
C05 for FJSP / JSSP (`mask_no_ops = false`): the optimum over ALL valid schedules is reachable,
without the event-alignment hypothesis of `schedule_reachable`.  Given any valid schedule `σ` (not
necessarily semi-active), the environment is driven by the policy of `Props/C05/Fjsp.lean` (`Track`, `Disp`
with `ex := False`): "dispatch an operation on `σ`'s machine as soon as its job predecessor has completed, the
machine is idle and all operations that `σ` puts earlier on that machine are scheduled; otherwise wait".  The
resulting schedule uses `σ`'s machines and machine orders and starts and completes every operation no later than
`σ` does — the left-shift of `σ`, built by the environment itself.  Hence best makespan through the mask =
minimum makespan over all valid schedules.
-/
import Rl4co.Props.C05.FjspClass
import Rl4co.Props.C02.FjspLoop

namespace Rl4co.Fjsp
open Rl4co.Spec.Fjsp (isReal opOf Sched ValidSchedule)

/-- **C05 (FJSP/JSSP, `mask_no_ops = false`), unconditional**: for EVERY valid schedule `σ` some
mask-confined finished episode is at least as good — it runs every operation on `σ`'s machine and
starts and completes it no later than `σ`. -/
theorem dominating_run (i : Inst) (hwf : WF i) (hmno : i.maskNoOps = false) (σ : Sched) (mk : Int)
    (hv : ValidSchedule i σ mk) :
    ∃ as s, Run env i (env.reset i) as s ∧ s.done = true ∧
      (∀ o, o < i.N → isReal i o = true →
        (∀ m, m < i.M → s.assign m o = σ.assign m o) ∧ s.start o ≤ σ.start o ∧ s.finish o ≤ σ.finish o) ∧
      - reward i s ≤ mk := by
  obtain ⟨as, s, hrun, hd, h⟩ := track_run (ex := False) hwf hv (fun h => h.elim)
    (fun h => by rw [hmno] at h; cases h)
  refine ⟨as, s, hrun, hd, fun o ho hr => (h o ho hr).1, ?_⟩
  obtain ⟨_, o1, ho1, hr1, he1⟩ := neg_reward_is_latest_completion i hwf s
  rw [← he1]
  exact Int.le_trans (h o1 ho1 hr1).1.2.2 (hv.mkUpper o1 ho1 hr1)

/-- makespans of finished mask-confined episodes -/
def ReachMk (i : Inst) (r : Int) : Prop := ∃ as s, Run env i (env.reset i) as s ∧ s.done = true ∧ - reward i s = r
/-- makespans of valid schedules -/
def ValidMk (i : Inst) (r : Int) : Prop := ∃ σ, ValidSchedule i σ r

/-- **"the best reward reachable through the mask equals the brute-force optimum"** (`mask_no_ops = false`),
as an equation of minima: the reachable makespans are makespans of valid schedules, every valid
makespan is matched or beaten by a reachable one, hence a value is the least reachable makespan iff it
is the least makespan of any valid schedule. -/
theorem best_reachable_eq_optimum (i : Inst) (hwf : WF i) (hmno : i.maskNoOps = false) (r : Int) :
    (ReachMk i r ∧ ∀ r', ReachMk i r' → r ≤ r') ↔ (ValidMk i r ∧ ∀ r', ValidMk i r' → r ≤ r') := by
  have h1 : ∀ x, ReachMk i x → ValidMk i x := by
    rintro x ⟨as, s, hrun, hd, he⟩
    exact ⟨schedOf s, by rw [← he]; exact schedule_valid i hwf as s hrun hd⟩
  have h2 : ∀ x, ValidMk i x → ∃ y, y ≤ x ∧ ReachMk i y := by
    rintro x ⟨σ, hv⟩
    obtain ⟨as, s, hrun, hd, _, hle⟩ := dominating_run i hwf hmno σ x hv
    exact ⟨- reward i s, hle, as, s, hrun, hd, rfl⟩
  constructor
  · rintro ⟨hr, hmin⟩
    refine ⟨h1 r hr, fun r' hv' => ?_⟩
    obtain ⟨y, hy, hry⟩ := h2 r' hv'
    have := hmin y hry; omega
  · rintro ⟨hv, hmin⟩
    obtain ⟨y, hy, hry⟩ := h2 r hv
    have hyr : r ≤ y := hmin y (h1 y hry)
    have : y = r := by omega
    subst this
    exact ⟨hry, fun r' hr' => hmin r' (h1 r' hr')⟩

/-- every well-formed instance has a finished mask-confined episode (any policy that follows the mask
gets there: `mask_nonempty` + the step bound) -/
theorem exists_finished_run (i : Inst) (hwf : WF i) : ∃ r, ReachMk i r := by
  obtain ⟨as, s, hrun, hd⟩ := exists_done_run i hwf
  exact ⟨_, as, s, hrun, hd, rfl⟩

theorem _root_.Rl4co.exists_least_of_nonneg {P : Int → Prop} (h0 : ∀ r, P r → 0 ≤ r) (hne : ∃ r, P r) :
    ∃ r, P r ∧ ∀ r', P r' → r ≤ r' := by
  have key : ∀ n : Nat, (∃ r, P r ∧ r.toNat ≤ n) → ∃ r, P r ∧ ∀ r', P r' → r ≤ r' := by
    intro n
    induction n with
    | zero =>
      rintro ⟨r, hr, hle⟩
      refine ⟨r, hr, fun r' hr' => ?_⟩
      have := h0 r hr
      have := h0 r' hr'
      omega
    | succ n ih =>
      rintro ⟨r, hr, hle⟩
      by_cases hsm : ∃ r0, P r0 ∧ r0.toNat ≤ n
      · exact ih hsm
      · refine ⟨r, hr, fun r' hr' => ?_⟩
        have := h0 r hr
        have := h0 r' hr'
        apply Classical.byContradiction; intro hc
        exact hsm ⟨r', hr', by omega⟩
  obtain ⟨r, hr⟩ := hne
  exact key r.toNat ⟨r, hr, Nat.le_refl _⟩

theorem reachMk_nonneg (i : Inst) (hwf : WF i) {r : Int} (h : ReachMk i r) : 0 ≤ r := by
  obtain ⟨as, s, hrun, hd, he⟩ := h
  exact he ▸ Int.le_of_lt (makespan_pos (schedule_valid i hwf as s hrun hd))

theorem best_reachable_exists (i : Inst) (hwf : WF i) : ∃ r, ReachMk i r ∧ ∀ r', ReachMk i r' → r ≤ r' :=
  exists_least_of_nonneg (fun _ h => reachMk_nonneg i hwf h) (exists_finished_run i hwf)

/-- **C05 as the property text states it (`mask_no_ops = false`)**: there is a best makespan reachable
through the mask, and it is the minimum makespan over all valid schedules of the instance. -/
theorem optimum_reachable (i : Inst) (hwf : WF i) (hmno : i.maskNoOps = false) :
    ∃ r, (ReachMk i r ∧ ∀ r', ReachMk i r' → r ≤ r') ∧ (ValidMk i r ∧ ∀ r', ValidMk i r' → r ≤ r') := by
  obtain ⟨r, hr⟩ := best_reachable_exists i hwf
  exact ⟨r, hr, (best_reachable_eq_optimum i hwf hmno r).mp hr⟩

/-- non-vacuity on the delay instance with waiting allowed: its optimum 12 is the best reachable makespan -/
example : ∃ r, (ReachMk { exDelay with maskNoOps := false } r ∧ ∀ r', ReachMk { exDelay with maskNoOps := false } r' → r ≤ r') ∧
    ValidMk { exDelay with maskNoOps := false } r :=
  let ⟨r, h1, h2, _⟩ := optimum_reachable { exDelay with maskNoOps := false } (wf_setMaskNoOps exDelay_wf false) rfl
  ⟨r, h1, h2⟩

end Rl4co.Fjsp

namespace Rl4co.Jssp
open Rl4co.Fjsp

theorem optimum_reachable (i : Inst) (_ : i.jssp = true) (hwf : WF i) (hmno : i.maskNoOps = false) :
    ∃ r, (ReachMk i r ∧ ∀ r', ReachMk i r' → r ≤ r') ∧ (ValidMk i r ∧ ∀ r', ValidMk i r' → r ≤ r') :=
  Fjsp.optimum_reachable i hwf hmno

theorem reachable_iff_wait_allowed (i : Inst) (_ : i.jssp = true) (hwf : WF i) (hmno : i.maskNoOps = false)
    (σ : Spec.Fjsp.Sched) :
    Reachable i σ ↔ ((∃ mk, Spec.Fjsp.ValidSchedule i σ mk) ∧ EventAligned i σ) :=
  Fjsp.reachable_iff_wait_allowed i hwf hmno σ

theorem reachable_iff_no_wait (i : Inst) (_ : i.jssp = true) (hwf : WF i) (hmno : i.maskNoOps = true)
    (σ : Spec.Fjsp.Sched) :
    Reachable i σ ↔ ((∃ mk, Spec.Fjsp.ValidSchedule i σ mk) ∧ EventAligned i σ ∧ NonDelay i σ) :=
  Fjsp.reachable_iff_no_wait i hwf hmno σ

end Rl4co.Jssp
