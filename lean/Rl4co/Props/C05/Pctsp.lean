/-
C05 for PCTSP / SPCTSP: the mask hides no feasible solution.  Every canonical feasible solution —
customers in any order, each at most once, then one return to the depot, the collected real prize
reaching the requirement (EQUALITY included: the mask closes the depot only while
`cur_total_prize < 1.0`) or every customer visited — is a finished mask-confined run.  Every other
feasible action list (no final return, depot padding, depot visits in between) has a canonical
representative that is feasible and not worse, hence the best reward over mask-confined complete runs
equals the optimum over feasible solutions.

`Canonical` removes exactly the documented pruning: the episode ends at the first return to the
depot; the empty tour is `[0, 0]` (the code does not count a depot step at `i = 0` as a return; it is
feasible only without customers or with a non-positive requirement).
-/
import Rl4co.Props.C03.Pctsp
import Rl4co.Props.C01.PctspSpecSanity

namespace Rl4co.Pctsp
open Rl4co.Spec.Pctsp Rl4co.Prize

/-- canonical complete solutions: customers, then one return; or the empty tour `[0, 0]` (what `Prize.canon_cases`
concludes of `canon as`; the same definition as `Op.Canonical`) -/
def Canonical (as : List Nat) : Prop :=
  as = [0, 0] ∨ ∃ cs, cs ≠ [] ∧ (∀ c ∈ cs, c ≠ 0) ∧ as = cs ++ [0]

/-- **C05 (PCTSP / SPCTSP).**  Every canonical feasible solution is a finished mask-confined run. -/
theorem run_of_feasible (i : Inst) {as : List Nat} (hf : Feasible i as) (hc : Canonical as) :
    ∃ s, Run env i (env.reset i) as s ∧ env.done i s = true :=
  -- unvisited customers are admitted one after the other; after a run over the customers of `as` the depot rule reads
  -- their prize clause, which is that of `as`
  isTour.run_of_canonical (fun _ _ => True)
    (fun _ _ _ hv0 hvc hc0 _ _ => ⟨(mask_customer_iff hc0).mpr ⟨hvc, hv0⟩, trivial⟩) hc hf.range hf.once
    (fun _ _ => trivial) fun _ _ hmem hr =>
      (mask_depot_iff i _).mpr ((prize_rule_of_run i hr).mpr (prize_congr i hmem hf.prize))

theorem canon_feasible (i : Inst) {as : List Nat} (hf : Feasible i as) : Feasible i (canon as) :=
  ⟨canon_range hf.range, fun j h1 h2 => (count_canon as j h1).symm ▸ hf.once j h1 h2,
    prize_congr i (fun _ hj => (mem_canon hj).symm) hf.prize⟩

theorem canon_objective_le (i : Inst) (h00 : i.D 0 0 = 0) (htri : ∀ a b, i.D a b ≤ i.D a 0 + i.D 0 b)
    (as : List Nat) : objective i (canon as) ≤ objective i as := by
  have h1 := pathLen_canon_le i.D h00 htri as
  have h2 : sumTo i.n (fun k => if k + 1 ∈ canon as then 0 else i.pen (k + 1)) = _ :=
    sumTo_mem_congr (bs := as) (fun _ => mem_canon) i.n _ _
  show _ + sumTo i.n _ ≤ _ + sumTo i.n _
  rw [h2]
  exact Int.add_le_add_right h1 _

/-- **C05 (PCTSP / SPCTSP), optimum reachable.**  For every feasible solution — canonical or not —
there is a finished mask-confined episode whose reward is at least minus the solution's objective.
Together with C01 + C03 (every finished mask-confined episode is feasible and its reward is minus its
objective) the best reward reachable through the mask equals the optimum over feasible solutions. -/
theorem opt_reachable (i : Inst) (h00 : i.D 0 0 = 0) (htri : ∀ a b, i.D a b ≤ i.D a 0 + i.D 0 b)
    {as : List Nat} (hf : Feasible i as) :
    ∃ as' s, Run env i (env.reset i) as' s ∧ env.done i s = true ∧ - objective i as ≤ reward i as' := by
  obtain ⟨s, hr, hd⟩ := run_of_feasible i (canon_feasible i hf) (canon_cases as)
  refine ⟨canon as, s, hr, hd, ?_⟩
  rw [reward_eq_objective i hr hd]
  exact Int.neg_le_neg (canon_objective_le i h00 htri as)

def ReachableReward (i : Inst) (v : Int) : Prop :=
  ∃ as s, Run env i (env.reset i) as s ∧ env.done i s = true ∧ reward i as = v

def FeasibleValue (i : Inst) (v : Int) : Prop := ∃ as, Feasible i as ∧ - objective i as = v

def IsMaxOf (P : Int → Prop) (v : Int) : Prop := P v ∧ ∀ w, P w → w ≤ v

/-- every reward reachable through the mask is the value of a feasible solution (C01 + C03) -/
theorem feasibleValue_of_reachable (i : Inst) {v : Int} (h : ReachableReward i v) : FeasibleValue i v := by
  obtain ⟨as, s, hr, hd, hv⟩ := h
  exact ⟨as, feasible_of_run i hr hd, by rw [← reward_eq_objective i hr hd, hv]⟩

/-- **C05 (PCTSP / SPCTSP), the property text as an equation of optima**: the best reward over finished
mask-confined episodes EQUALS the optimum (best value) over all feasible solutions — `v` is the maximum
of one set iff it is the maximum of the other. -/
theorem opt_eq (i : Inst) (h00 : i.D 0 0 = 0) (htri : ∀ a b, i.D a b ≤ i.D a 0 + i.D 0 b) (v : Int) :
    IsMaxOf (ReachableReward i) v ↔ IsMaxOf (FeasibleValue i) v := by
  -- every feasible value is matched or beaten by a reachable reward
  have hcof : ∀ w, FeasibleValue i w → ∃ w', ReachableReward i w' ∧ w ≤ w' := by
    rintro w ⟨as, hf, rfl⟩
    obtain ⟨as', s, hr, hd, hge⟩ := opt_reachable i h00 htri hf
    exact ⟨_, ⟨as', s, hr, hd, rfl⟩, hge⟩
  constructor
  · rintro ⟨hv, hmax⟩
    refine ⟨feasibleValue_of_reachable i hv, fun w hw => ?_⟩
    obtain ⟨w', hw', hle⟩ := hcof w hw
    exact Int.le_trans hle (hmax w' hw')
  · rintro ⟨hv, hmax⟩
    obtain ⟨w', hw', hle⟩ := hcof v hv
    have : w' = v := Int.le_antisymm (hmax w' (feasibleValue_of_reachable i hw')) hle
    exact ⟨this ▸ hw', fun w hw => hmax w (feasibleValue_of_reachable i hw)⟩

/-- Non-vacuity: `[1, 2, 0]` collects EXACTLY the requirement (2 + 2 = 4) on the example instance,
is Spec-feasible and canonical. -/
example : Feasible exInst [1, 2, 0] := (feasible_iff _ _).mp (by decide)
example : Spec.Pctsp.slack exInst [1, 2, 0] = 0 := by decide
example : Canonical [1, 2, 0] := Or.inr ⟨[1, 2], by simp, by simp, rfl⟩

/-- "collected prize exactly reaching the requirement … is offered": at `cur_total_prize = 1.0` the return to
the depot is admitted, whatever else the state is -/
theorem depot_offered_at_exactly_required (i : Inst) (s : State) (h : s.tot = i.req) :
    env.mask i s 0 = true :=
  (mask_depot_iff i s).mpr (Or.inl (Int.le_of_eq h.symm))

/-- below the requirement, with a customer left, the depot is masked -/
theorem depot_masked_below_required (i : Inst) (s : State) (h : s.tot < i.req)
    (hu : visitedCustomers i s < i.n) : env.mask i s 0 = false := by
  cases hm : env.mask i s 0 with
  | false => rfl
  | true => rcases (mask_depot_iff i s).mp hm with h' | h' <;> omega

/-- **C05, the equality case of the property text**: a canonical solution whose collected (real) prize is
EXACTLY the required prize is a finished mask-confined run. -/
theorem run_of_feasible_exact (i : Inst) {as : List Nat}
    (hr : ∀ a ∈ as, a ≤ i.n) (ho : ∀ j, 1 ≤ j → j ≤ i.n → as.count j ≤ 1)
    (hexact : collected i as = i.req) (hc : Canonical as) :
    ∃ s, Run env i (env.reset i) as s ∧ env.done i s = true :=
  run_of_feasible i ⟨hr, ho, Or.inl (Int.le_of_eq hexact.symm)⟩ hc

/-- Non-vacuity: on the example instance `[1, 2, 0]` collects exactly the requirement (2 + 2 = 4). -/
example : collected exInst [1, 2, 0] = exInst.req := by decide

end Rl4co.Pctsp
