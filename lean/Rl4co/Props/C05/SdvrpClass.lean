/-
C05 for SDVRP, exact form.  `complete_iff`: on an instance with positive capacity, non-negative demands and
at least one positive demand, the action lists of finished mask-confined episodes (the decoding loop stops
at `done`) are EXACTLY the non-empty visit sequences whose greedy split is valid
(`Spec.Sdvrp.greedyFeasible`), that are canonical (no leading depot visit, no two consecutive depot visits,
every customer visit hands over a positive amount) and that end with a customer visit.  Hence
(`best_through_mask_eq_greedy_optimum`) the best reward through the mask equals minus the least objective
over that class.  Whether that class always contains an optimum of the existential specification (all
valid splits) is a statement about the problem (it needs a route-exchange argument under the triangle
inequality) and is NOT proved here; the harness samples it on tiny instances.
-/
import Rl4co.Props.C01.Sdvrp
import Rl4co.Props.C03.Sdvrp
import Rl4co.Props.C05.Sdvrp

namespace Rl4co.Sdvrp
open Rl4co.Spec.Sdvrp

theorem flagOK_reset (i : Inst) (hpos : ∃ j, 1 ≤ j ∧ j ≤ i.n ∧ 0 < i.demand j) : FlagOK i (env.reset i) := by
  obtain ⟨j, h1, h2, h3⟩ := hpos
  have hany : anyRem i.n (env.reset i).rem ≠ false := fun h => by
    have := anyRem_eq_false.mp h j h2
    rw [reset_rem i h1] at this
    exact Int.not_lt.mpr this h3
  show false = !(anyRem i.n (env.reset i).rem)
  rw [(Bool.not_eq_false _).mp hany]
  rfl

theorem positive_of_run (i : Inst) {s s' : State} {as : List Nat} (h : Run env i s as s') (hi : Inv i s) :
    allPositive (as.zip (greedy i s.rem s.used as)) = true := by
  induction h with
  | nil s => rfl
  | @cons s s' a as ha hm _ ih =>
    rw [greedy_step hi, List.zip_cons_cons, allPositive_cons]
    exact ⟨Decidable.or_iff_not_imp_left.mpr (fun h0 => (mask_customer_iff hi h0).mp hm), ih (inv_step i s a hi)⟩

theorem noDoubleDepot_of_runND (i : Inst) (hw : WFpos i) {s s' : State} {as : List Nat} (h : RunND env i s as s')
    (hi : Inv i s) (hf : FlagOK i s) :
    noDoubleDepot as = true ∧ (s.cur = 0 → as.head? ≠ some 0) := by
  induction h with
  | nil s => exact ⟨rfl, fun _ h => nomatch h⟩
  | @cons s s' a as hd ha hm _ ih =>
    obtain ⟨ih1, ih2⟩ := ih (inv_step i s a hi) (flagOK_step i s a)
    -- depot → depot is admitted only when nothing remains: then the state is finished
    have hhead : s.cur = 0 → a ≠ 0 := fun hc h0 => by
      subst h0
      have hdone := done_of_rem_zero hi hf (rem_zero_of_mask_depot hw.cap hi hc hm)
      exact Bool.false_ne_true ((show s.done = false from hd).symm.trans hdone)
    exact ⟨(noDoubleDepot_cons a as).mpr ⟨fun h0 => ih2 h0, ih1⟩,
      fun hc h => hhead hc (Option.some.inj h)⟩

/-- "The episode stops at the first `done`" (no proper prefix leads to a finished state, `runND_iff_prefix`) reads
for SDVRP: the last action is a customer.  A depot visit delivers nothing, so it never finishes an episode
(`last_of_runND`), and a finished state offers the depot only (`all_depot_of_done`), so an episode that went on after
`done` ends at the depot (`runND_of_last_customer`). -/
theorem last_of_runND (i : Inst) {s s' : State} {as : List Nat} (h : RunND env i s as s') (hi : Inv i s)
    (hf : FlagOK i s) (hd' : s'.done = true) : as.getLast? ≠ some 0 := by
  obtain rfl | ⟨as0, a, s0, rfl, h0, hd0, _, _, rfl⟩ := h.snoc_inv
  · exact nofun
  · rw [List.getLast?_concat]
    intro hl
    rw [Option.some.inj hl, flagOK_step, step_rem_depot (hi.of_run h0.run), ← flagOK_of_run h0.run (Or.inl hf)] at hd'
    exact Bool.false_ne_true (hd0.symm.trans hd')

theorem all_depot_of_done (i : Inst) {s s' : State} {as : List Nat} (h : Run env i s as s') (hi : Inv i s)
    (hd : s.done = true) : ∀ a ∈ as, a = 0 := by
  induction h with
  | nil s => intro a ha; cases ha
  | @cons s s' a as ha hm _ ih =>
    have h0 : a = 0 := of_decide_eq_true ((mask_of_done i s hi hd a ha).symm.trans hm)
    subst h0
    have hd1 : (env.step i s 0).done = true := by
      rw [flagOK_step, step_rem_depot hi, anyRem_eq_false.mpr (hi.flag hd)]; rfl
    intro b hb
    rcases List.mem_cons.mp hb with rfl | hb
    · rfl
    · exact ih (inv_step i s 0 hi) hd1 b hb

theorem runND_of_last_customer (i : Inst) {s s' : State} {as : List Nat} (h : Run env i s as s') (hi : Inv i s)
    (hl : as.getLast? ≠ some 0) : RunND env i s as s' := by
  induction h with
  | nil s => exact RunND.nil s
  | @cons s s' a as ha hm hrest ih =>
    have hd : env.done i s = false := by
      refine (Bool.not_eq_true _).mp (fun hd => hl ?_)
      rw [List.getLast?_eq_some_getLast (List.cons_ne_nil a as),
        all_depot_of_done i (Run.cons ha hm hrest) hi hd _ (List.getLast_mem _)]
    refine RunND.cons hd ha hm ?_
    cases as with
    | nil => cases hrest; exact RunND.nil _
    | cons b r => exact ih (inv_step i s a hi) (by rwa [List.getLast?_cons_cons] at hl)

/-- **C05 (SDVRP), exact characterisation of what the mask reaches.** -/
theorem complete_iff (i : Inst) (hw : WFpos i) (hpos : ∃ j, 1 ≤ j ∧ j ≤ i.n ∧ 0 < i.demand j) (as : List Nat) :
    (∃ s, RunND env i (env.reset i) as s ∧ env.done i s = true) ↔
      as ≠ [] ∧ greedyFeasible i as = true ∧ canonical i as = true ∧ as.getLast? ≠ some 0 := by
  have hi0 := inv_reset i hw.wf
  constructor
  · rintro ⟨s, hr, hd⟩
    have hne : as ≠ [] := by
      rintro rfl
      cases hr
      exact Bool.false_ne_true hd
    have hpp := positive_of_run i hr.run hi0
    rw [greedy_reset] at hpp
    obtain ⟨hnd, hhead⟩ := noDoubleDepot_of_runND i hw hr hi0 (flagOK_reset i hpos)
    exact ⟨hne, greedyFeasible_of_run i hw.wf hr.run hd, (canonical_iff i as).mpr ⟨hhead rfl, hnd, hpp⟩,
      last_of_runND i hr hi0 (flagOK_reset i hpos) hd⟩
  · rintro ⟨hne, hgf, hcan, hl⟩
    obtain ⟨s, hr, hd⟩ := run_of_feasible i hw as hne hgf hcan
    exact ⟨s, runND_of_last_customer i hr hi0 hl, hd⟩

/-- **best reward through the mask = −(least objective over the greedy-canonical class)** -/
theorem best_through_mask_eq_greedy_optimum (i : Inst) (hw : WFpos i) (h00 : i.D 0 0 = 0)
    (hpos : ∃ j, 1 ≤ j ∧ j ≤ i.n ∧ 0 < i.demand j)
    (opt : List Nat) (hne : opt ≠ []) (hgf : greedyFeasible i opt = true) (hcan : canonical i opt = true)
    (hmin : ∀ bs, greedyFeasible i bs = true → canonical i bs = true → objective i opt ≤ objective i bs) :
    (∃ s, Run env i (env.reset i) opt s ∧ env.done i s = true ∧ reward i opt = - objective i opt) ∧
    (∀ bs s, RunND env i (env.reset i) bs s → env.done i s = true → reward i bs ≤ - objective i opt) := by
  constructor
  · obtain ⟨s, hr, hd⟩ := run_of_feasible i hw opt hne hgf hcan
    exact ⟨s, hr, hd, reward_eq_objective i h00 opt⟩
  · intro bs s hr hd
    obtain ⟨_, h1, h2, _⟩ := (complete_iff i hw hpos bs).1 ⟨s, hr, hd⟩
    rw [reward_eq_objective i h00]
    exact Int.neg_le_neg (hmin bs h1 h2)

/-- Non-vacuity: the C01 example. -/
example : greedyFeasible exInst [1, 2, 0, 2] = true ∧ canonical exInst [1, 2, 0, 2] = true ∧
    [1, 2, 0, 2].getLast? ≠ some 0 := by decide

end Rl4co.Sdvrp
