/-
C05 for SVRP, exact form.  `complete_iff`: the action lists of finished mask-confined episodes (the decoding
loop stops at `done`) are EXACTLY the feasible solutions that are canonical — no technician is sent home
without a customer while he could serve one of the customers still to come — and tight (no proper prefix
already visits every node).  Hence (`best_through_mask_eq_canonical_optimum`) the best reward through the
mask equals minus the least objective over the canonical feasible solutions; that this can be strictly
worse than the true optimum is the known finding (`skipped_technician_better`).
-/
import Rl4co.Props.C01.Svrp
import Rl4co.Props.C03.Svrp
import Rl4co.Props.C05.Svrp

namespace Rl4co.Svrp
open Rl4co.Spec.Svrp

def Complete (i : Inst) (p : List Nat) : Prop := ∀ j, j ≤ i.n → j ∈ p
def Tight (i : Inst) (as : List Nat) : Prop := ∀ k, k < as.length → ¬ Complete i (as.take k)

theorem done_exec_reset (i : Inst) (p : List Nat) :
    env.done i (exec env i (env.reset i) p) = true ↔ Complete i p :=
  routing.done_exec_iff (fun _ => rfl) p

theorem canon_of_run (i : Inst) {s s' : State} {as : List Nat} (h : Run env i s as s') :
    canonFrom i s.tech (s.cur == 0) as := by
  induction h with
  | nil s => trivial
  | @cons s s' a as ha hm hrest ih =>
    rw [canonFrom]
    refine ⟨fun h0 hdep j hj hj0 => ?_, (canonFrom_step i s a as).mpr ih⟩
    subst h0
    -- `j` occurs later, so it is not yet visited
    refine ((mask_zero_iff i s).mp hm (Or.inl (beq_iff_eq.mp hdep)) j (Nat.pos_of_ne_zero hj0)
      (Nat.le_of_lt_succ (hrest.lt_nAct j hj))).resolve_left (fun hv => ?_)
    exact (routing.unmarked_of_run hrest).not_mem hj0 (vis_step_mono i s 0 hv) hj

/-- **C05 (SVRP), exact characterisation of what the mask reaches.** -/
theorem complete_iff (i : Inst) (hw : WF i) (as : List Nat) :
    (∃ s, RunND env i (env.reset i) as s ∧ env.done i s = true) ↔
      Feasible i as ∧ Canonical i as ∧ Tight i as := by
  have htight : ∀ {s}, Run env i (env.reset i) as s → (RunND env i (env.reset i) as s ↔ Tight i as) := fun h =>
    (runND_iff_prefix h).trans (forall_congr' (fun k => imp_congr_right (fun _ =>
      Bool.eq_false_iff.trans (not_congr (done_exec_reset i _)))))
  constructor
  · rintro ⟨s, hr, hd⟩
    exact ⟨feasible_of_run i hw hr.run hd,
      ⟨canon_of_run i hr.run, (done_exec_reset i as).mp (hr.run.exec_eq.symm ▸ hd) 0 (Nat.zero_le _)⟩, (htight hr.run).mp hr⟩
  · rintro ⟨hf, hc, ht⟩
    obtain ⟨s, hr, hd⟩ := run_of_feasible i as hf hc
    exact ⟨s, (htight hr).mpr ht, hd⟩

/-- **best reward through the mask = −(least objective over the canonical feasible solutions)** -/
theorem best_through_mask_eq_canonical_optimum (i : Inst) (hw : WF i) (h00 : i.D 0 0 = 0)
    (opt : List Nat) (hopt : Feasible i opt) (hcan : Canonical i opt)
    (hmin : ∀ bs, Feasible i bs → Canonical i bs → objective i opt ≤ objective i bs) :
    (∃ s, Run env i (env.reset i) opt s ∧ env.done i s = true ∧ reward i opt = - objective i opt) ∧
    (∀ bs s, RunND env i (env.reset i) bs s → env.done i s = true → reward i bs ≤ - objective i opt) := by
  constructor
  · obtain ⟨s, hr, hd⟩ := run_of_feasible i opt hopt hcan
    exact ⟨s, hr, hd, reward_eq_objective i h00 opt⟩
  · intro bs s hr hd
    obtain ⟨hf, hc, _⟩ := (complete_iff i hw bs).1 ⟨s, hr, hd⟩
    rw [reward_eq_objective i h00]
    exact Int.neg_le_neg (hmin bs hf hc)

/-- Non-vacuity: `[1,0,2]` on the C01 instance is feasible, canonical and tight. -/
example : Feasible exInst [1, 0, 2] ∧ Canonical exInst [1, 0, 2] ∧ Tight exInst [1, 0, 2] := by
  refine ⟨(feasible_iff _ _).1 (by decide), (canonical_iff _ _).1 (by decide), ?_⟩
  have h : ∀ k, k < 3 → 2 ∉ [1, 0, 2].take k := by decide
  exact fun k hk hc => h k hk (hc 2 (Nat.le_refl 2))

end Rl4co.Svrp
