/-
C05 for mTSP: the mask hides no feasible solution.  Every Spec-feasible solution in canonical form
(no pointless depot visits: it starts with a customer, never visits the depot twice in a row and ends
with a customer) is a mask-confined run of the environment that ends finished — for every instance
and every such solution, in particular for the ones that use all `m` agents (`#tours = m`, the
boundary of the agent constraint).  Every feasible solution has a canonical form with the same tours
(`canonize_spec`).  `opt_reachable` states the two inclusions for both cost types: every feasible solution is matched
by a finished mask-confined episode of the same value, and every such episode is a feasible solution with that value
(no optimum is named in it).
-/
import Rl4co.Proofs.VrpCanon
import Rl4co.Props.C01.Mtsp
import Rl4co.Props.C03.Mtsp

namespace Rl4co.Mtsp
open Rl4co.Spec.Mtsp

/-- canonical form relative to the previously visited node `p`: no depot visit directly after the
depot, the list ends on a customer -/
def canon : Nat → List Nat → Bool
  | p, [] => decide (p ≠ 0)
  | p, a :: as => (decide (a ≠ 0) || decide (p ≠ 0)) && canon a as

def Canonical (as : List Nat) : Prop := canon 0 as = true

theorem canon_cons {p a : Nat} {as : List Nat} :
    canon p (a :: as) = true ↔ (a ≠ 0 ∨ p ≠ 0) ∧ canon a as = true := by
  rw [canon, Bool.and_eq_true, Bool.or_eq_true, decide_eq_true_eq, decide_eq_true_eq]

theorem canon_zero {as : List Nat} (h : canon 0 as = true) : ∃ b bs, as = b :: bs ∧ b ≠ 0 := by
  cases as with
  | nil => cases h
  | cons b bs => exact ⟨b, bs, rfl, (canon_cons.mp h).1.resolve_right (fun h => h rfl)⟩

theorem starts_pos_of_canon_zero {as : List Nat} (h : canon 0 as = true) : 1 ≤ starts 0 as := by
  obtain ⟨b, bs, rfl, hb⟩ := canon_zero h
  rw [starts, if_pos ⟨hb, rfl⟩]
  exact Nat.le_add_right 1 _

/-- `as` can be played from `s`.  `budget`: departures to come + agents used + the one on its way (`starts_cons`). -/
structure Ready (i : Inst) (s : State) (as : List Nat) : Prop where
  range  : ∀ a ∈ as, a ≤ i.n
  nodup  : ∀ j, 1 ≤ j → as.count j ≤ 1
  avail  : ∀ j, 1 ≤ j → j ≤ i.n → (s.avail j = true ↔ j ∈ as)
  canon  : canon s.cur as = true
  depot  : s.done = false → s.avail 0 = (decide (s.cur ≠ 0) && decide (s.agent + 1 < i.m))
  budget : starts s.cur as + s.agent + (if s.cur ≠ 0 then 1 else 0) ≤ i.m
  doneEq : s.done = !(anyCust i.n s.avail)

theorem Ready.avail_of_mem {i : Inst} {s : State} {as : List Nat} (hr : Ready i s as) {c : Nat}
    (hc : c ∈ as) (h0 : c ≠ 0) : s.avail c = true :=
  (hr.avail c (Nat.pos_of_ne_zero h0) (hr.range c hc)).mpr hc

theorem Ready.not_done {i : Inst} {s : State} {a : Nat} {rest : List Nat}
    (hr : Ready i s (a :: rest)) : s.done = false := by
  obtain ⟨c, hc, h0⟩ : ∃ c ∈ a :: rest, c ≠ 0 := by
    by_cases h0 : a = 0
    · subst h0
      obtain ⟨b, bs, rfl, hb⟩ := canon_zero (canon_cons.mp hr.canon).2
      exact ⟨b, List.mem_cons_of_mem _ (List.mem_cons_self ..), hb⟩
    · exact ⟨a, List.mem_cons_self .., h0⟩
  rw [hr.doneEq, anyCust_eq_true.mpr ⟨c, Nat.pos_of_ne_zero h0, hr.range c hc, hr.avail_of_mem hc h0⟩]
  rfl

/-- the next action is offered: a customer because it is still to come, the depot because the
salesman is away from it and the departures to come need a further agent -/
theorem Ready.mask {i : Inst} {s : State} {a : Nat} {rest : List Nat}
    (hr : Ready i s (a :: rest)) : s.avail a = true := by
  by_cases h0 : a = 0
  · subst h0
    obtain ⟨hc1, hc2⟩ := canon_cons.mp hr.canon
    have hc : s.cur ≠ 0 := hc1.resolve_left (fun h => h rfl)
    have hb := hr.budget
    rw [starts_cons_zero, if_pos hc] at hb
    have := starts_pos_of_canon_zero hc2
    rw [hr.depot hr.not_done, decide_eq_true hc, decide_eq_true (show s.agent + 1 < i.m by omega)]
    rfl
  · exact hr.avail_of_mem (List.mem_cons_self ..) h0

theorem Ready.next {i : Inst} {s : State} {a : Nat} {rest : List Nat}
    (hr : Ready i s (a :: rest)) : Ready i (step i s a) rest where
  range b hb := hr.range b (List.mem_cons_of_mem _ hb)
  nodup j hj := Nat.le_trans List.count_le_count_cons (hr.nodup j hj)
  avail j h1 h2 := by
    rw [step_avail_cust i s a j (Nat.ne_of_gt h1)]
    by_cases hja : j = a
    · subst hja
      -- visited now, and at most once in all: not to come again
      have hc := hr.nodup j h1
      rw [List.count_cons_self] at hc
      rw [if_pos rfl]
      exact iff_of_false Bool.false_ne_true (List.count_eq_zero.mp (Nat.le_zero.mp (Nat.le_of_succ_le_succ hc)))
    · rw [if_neg hja, hr.avail j h1 h2, List.mem_cons]
      exact or_iff_right hja
  canon := (canon_cons.mp hr.canon).2
  depot hd := by
    rw [step_avail_depot, hd, step_cur, step_agent]
    by_cases h0 : a = 0
    · subst h0; rfl
    · rw [if_neg h0]; rfl
  budget := by
    rw [step_cur, Nat.add_assoc, step_used, ← starts_cons (canon_cons.mp hr.canon).1 rest]
    exact hr.budget
  doneEq := step_done i s a

theorem run_of_ready (i : Inst) {as : List Nat} : ∀ {s : State}, Ready i s as →
    ∃ s', RunND env i s as s' ∧ s'.done = true := by
  induction as with
  | nil =>
    intro s hr
    refine ⟨s, RunND.nil _, ?_⟩
    have : anyCust i.n s.avail = false := anyCust_eq_false.mpr fun j h1 h2 => by
      cases hj : s.avail j with
      | false => rfl
      | true => cases (hr.avail j h1 h2).mp hj
    rw [hr.doneEq, this]
    rfl
  | cons a rest ih =>
    intro s hr
    obtain ⟨s', hrun, hdone⟩ := ih hr.next
    exact ⟨s', RunND.cons hr.not_done (Nat.lt_succ_of_le (hr.range a (List.mem_cons_self ..))) hr.mask
      hrun, hdone⟩

/-- **C05 (mTSP).** Every canonical feasible solution is admitted by the mask step by step and ends
in a finished state (the run never steps a finished state, so it is also the run a decoding loop makes). -/
theorem run_of_feasible (i : Inst) {as : List Nat} (hf : Feasible i as) (hc : Canonical as) :
    ∃ s, RunND env i (env.reset i) as s ∧ env.done i s = true := by
  apply run_of_ready i
  refine ⟨hf.range, fun j hj => Routing.unmarked_of_once (v := fun _ => false) hf.range hf.once (fun _ => rfl) j
    (Nat.ne_of_gt hj), ?_, hc, fun _ => rfl, ?_, ?_⟩
  · intro j h1 h2
    exact iff_of_true (decide_eq_true (Nat.ne_of_gt h1)) (mem_of_count_eq_one (hf.once j h1 h2))
  · have := hf.agents
    rwa [tours_length_eq_starts] at this
  · obtain ⟨b, bs, rfl, hb⟩ := canon_zero hc
    have hbn := hf.range b (List.mem_cons_self ..)
    have : anyCust i.n (reset i).avail = true :=
      anyCust_eq_true.mpr ⟨b, Nat.pos_of_ne_zero hb, hbn, decide_eq_true hb⟩
    show false = !(anyCust i.n (reset i).avail)
    rw [this]
    rfl

/-- a canonical feasible solution that uses all agents (3 customers, 2 agents, 2 tours) -/
example : Feasible ⟨3, 2, fun _ _ => 1⟩ [2, 0, 3, 1] ∧ Canonical [2, 0, 3, 1] :=
  ⟨(feasible_iff _ _).mp (by decide), by unfold Canonical; decide⟩


/-- the tours joined by single depot visits -/
def join0 : List (List Nat) → List Nat
  | [] => []
  | [t] => t
  | t :: t' :: ts => t ++ 0 :: join0 (t' :: ts)

theorem routes_join0 (ts : List (List Nat)) (h : ∀ t ∈ ts, 0 ∉ t) (hne : ts ≠ []) :
    routes (join0 ts) = ts := by
  induction ts with
  | nil => exact absurd rfl hne
  | cons t ts ih =>
    cases ts with
    | nil => exact routes_of_zero_free t (h t (List.mem_cons_self ..))
    | cons t' ts =>
      rw [join0, routes_append_zero_free t (h t (List.mem_cons_self ..)),
        ih (fun u hu => h u (List.mem_cons_of_mem _ hu)) (List.cons_ne_nil _ _)]

/-- a list without empty routes is canonical (after a customer the route in progress may be empty) -/
theorem canon_of_routes (as : List Nat) : ∀ p, (p ≠ 0 ∨ firstRoute as ≠ []) →
    (∀ t ∈ restRoutes as, t ≠ []) → canon p as = true := by
  induction as with
  | nil =>
    intro p hp _
    exact decide_eq_true (hp.resolve_right (fun h => h rfl))
  | cons a as ih =>
    intro p hp hrs
    by_cases h0 : a = 0
    · subst h0
      obtain ⟨h1, h2⟩ := forall_mem_routes.mp hrs
      exact canon_cons.mpr ⟨Or.inr (hp.resolve_right (fun h => h rfl)), ih 0 (Or.inr h1) h2⟩
    · rw [restRoutes_cons h0] at hrs
      exact canon_cons.mpr ⟨Or.inl h0, ih a (Or.inl h0) hrs⟩

theorem canonical_of_routes {as : List Nat} (h : ∀ t ∈ routes as, t ≠ []) : Canonical as :=
  canon_of_routes as 0 (Or.inr (forall_mem_routes.mp h).1) (forall_mem_routes.mp h).2

theorem maxList_tours (D : Nat → Nat → Int) (l : List (List Nat)) :
    maxList ((l.filter (fun r => !r.isEmpty)).map (routeLen D)) = maxList (l.map (routeLen D)) := by
  induction l with
  | nil => rfl
  | cons r l ih =>
    cases r with
    | nil =>
      show maxList ((l.filter _).map _) = max 0 (maxList (l.map (routeLen D)))
      rw [ih, Int.max_eq_right (maxList_nonneg _)]
    | cons x r =>
      show max _ (maxList ((l.filter _).map _)) = max _ _
      rw [ih]

/-- the canonical form of a solution: its (non-empty) tours joined by single depot visits -/
def canonize (as : List Nat) : List Nat := join0 (tours as)

/-- A feasible solution and its canonical form have the same tours, hence the same objectives.  `hn`: with no customer the
empty solution is feasible and `Canonical []` is false. -/
theorem canonize_spec (i : Inst) (hn : 1 ≤ i.n) {sol : List Nat} (hf : Feasible i sol) :
    Feasible i (canonize sol) ∧ Canonical (canonize sol) ∧
    objMinmax i (canonize sol) = objMinmax i sol ∧ objSum i (canonize sol) = objSum i sol := by
  have hzf : ∀ t ∈ tours sol, t ≠ [] ∧ 0 ∉ t := mem_filter_nonempty_routes sol
  -- customers are counted tour by tour, in `sol` and (same tours) in its canonical form
  have hsum : ∀ j, j ≠ 0 → sol.count j = ((tours sol).map (List.count j)).sum := by
    intro j hj
    rw [count_eq_sum_routes sol j hj, tours, sum_map_filter_nonempty (List.count j) rfl]
  have hne : tours sol ≠ [] := by
    intro h
    have := hsum 1 Nat.one_ne_zero
    rw [h, hf.once 1 (Nat.le_refl 1) hn] at this
    cases this
  have hroutes : routes (canonize sol) = tours sol := routes_join0 _ (fun t ht => (hzf t ht).2) hne
  have hcount : ∀ j, j ≠ 0 → (canonize sol).count j = sol.count j := by
    intro j hj
    rw [count_eq_sum_routes _ j hj, hroutes, hsum j hj]
  have hcanon : Canonical (canonize sol) :=
    canonical_of_routes (hroutes ▸ fun t ht => (hzf t ht).1)
  have htours : tours (canonize sol) = tours sol := by
    rw [tours, hroutes]
    exact List.filter_eq_self.mpr fun t ht => by simpa using (hzf t ht).1
  refine ⟨⟨?_, ?_, ?_⟩, hcanon, ?_, ?_⟩
  · -- a customer of the canonical form is counted, so it occurs in `sol`
    intro x hx
    by_cases h0 : x = 0
    · exact h0 ▸ Nat.zero_le _
    · have : 0 < sol.count x := by rw [← hcount x h0]; exact List.count_pos_iff.mpr hx
      exact hf.range x (List.count_pos_iff.mp this)
  · intro j h1 h2
    rw [hcount j (Nat.ne_of_gt h1)]
    exact hf.once j h1 h2
  · rw [htours]; exact hf.agents
  · rw [objMinmax, hroutes, tours, maxList_tours]; rfl
  · rw [objSum, routesLen, hroutes, tours,
      sum_map_filter_nonempty (routeLen i.D) rfl]; rfl

/-- **C05 (mTSP), the optimum is reachable — both cost types.**  (∃) every feasible solution is matched
by a mask-confined finished episode with exactly its objective as (negated) reward, for `minmax` and for
`sum`; (∀) every mask-confined finished episode is a feasible solution whose objectives are its rewards.
So the best reward reachable through the mask equals the optimum over all feasible solutions. -/
theorem opt_reachable (i : Inst) (hwf : WFD i) (hn : 1 ≤ i.n) (hm : 1 ≤ i.m) :
    (∀ sol, Feasible i sol → ∃ as s, RunND env i (env.reset i) as s ∧ env.done i s = true ∧
        rewardMinmax s = - objMinmax i sol ∧ rewardSum i as = - objSum i sol) ∧
    (∀ as s, Run env i (env.reset i) as s → env.done i s = true →
        Feasible i as ∧ rewardMinmax s = - objMinmax i as ∧ rewardSum i as = - objSum i as) := by
  constructor
  · intro sol hf
    obtain ⟨hfc, hcan, e1, e2⟩ := canonize_spec i hn hf
    obtain ⟨s, hrun, hd⟩ := run_of_feasible i hfc hcan
    refine ⟨canonize sol, s, hrun, hd, ?_, ?_⟩
    · rw [reward_minmax_eq_objective i hwf hm hrun.run hd, e1]
    · rw [reward_sum_eq_objective i hwf.depot, e2]
  · intro as s hrun hd
    exact ⟨feasible_of_run i hm hrun hd, reward_minmax_eq_objective i hwf hm hrun hd,
      reward_sum_eq_objective i hwf.depot as⟩

/-- a feasible solution with pointless depot visits and its canonical form -/
example : canonize [0, 2, 0, 0, 3, 1, 0] = [2, 0, 3, 1] := by decide

end Rl4co.Mtsp
