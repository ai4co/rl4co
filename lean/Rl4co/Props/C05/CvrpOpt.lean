/-
C05 for CVRP, optimum form: the best reward reachable through the mask EQUALS the optimum over all
feasible solutions (not only the canonical ones): every feasible solution can be brought into
canonical form (`normalize`: pointless depot visits removed, a final depot visit guaranteed) without
changing its objective or its feasibility, and canonical feasible solutions are finished mask-confined
episodes (`run_of_feasible`).  Unbounded in the number of customers; equality cases (load = capacity) included.
-/
import Rl4co.Props.C03.Cvrp
import Rl4co.Props.C05.Cvrp

namespace Rl4co.Cvrp
open Rl4co.Spec.Cvrp

/-- a non-empty depot-free stretch `c :: r` may stand before a depot visit -/
theorem noDoubleDepot_append {c : Nat} (hc : c ≠ 0) {r : List Nat} (h0 : 0 ∉ r) {t : List Nat}
    (ht : noDoubleDepot (0 :: t)) : noDoubleDepot (c :: (r ++ 0 :: t)) := by
  induction r generalizing c with
  | nil => exact ⟨fun h => hc h.1, ht⟩
  | cons a r ih =>
    exact ⟨fun h => hc h.1, ih (fun e => h0 (e ▸ List.mem_cons_self)) fun e => h0 (List.mem_cons_of_mem _ e)⟩

/-- with the depot in front: `rebuild rs` neither starts at the depot nor stays there -/
theorem noDoubleDepot_rebuild (rs : List (List Nat)) (h : ∀ r ∈ rs, r ≠ [] ∧ 0 ∉ r) :
    noDoubleDepot (0 :: rebuild rs) := by
  induction rs with
  | nil => trivial
  | cons r rs ih =>
    obtain ⟨hr, h0⟩ := h r List.mem_cons_self
    cases r with
    | nil => exact absurd rfl hr
    | cons a r =>
      have ha : a ≠ 0 := fun e => h0 (e ▸ List.mem_cons_self)
      exact ⟨fun e => ha e.2, noDoubleDepot_append ha (fun e => h0 (List.mem_cons_of_mem _ e))
        (ih fun r' hr' => h r' (List.mem_cons_of_mem _ hr'))⟩

theorem canonical_canon (i : Inst) (hn : 1 ≤ i.n) (as : List Nat)
    (hf : Feasible i as) : Canonical (normalize as) := by
  obtain ⟨hst, hnd⟩ := (noDoubleDepot_cons 0 _).1 (noDoubleDepot_rebuild _ (mem_filter_nonempty_routes as))
  refine ⟨hst rfl, hnd, zero_mem_normalize Nat.one_ne_zero ?_⟩
  -- customer 1 is visited
  exact List.count_pos_iff.mp (by rw [hf.once 1 (Nat.le_refl 1) hn]; exact Nat.one_pos)

theorem feasible_canon (i : Inst) (hcap : 0 ≤ i.cap) (as : List Nat) (hf : Feasible i as) :
    Feasible i (normalize as) := by
  refine ⟨fun a ha => ?_, fun j h1 h2 => ?_, fun r hr => ?_⟩
  · rcases mem_normalize as a ha with h | h
    · omega
    · exact hf.range a h
  · rw [count_normalize as j (by omega)]
    exact hf.once j h1 h2
  · rcases mem_routes_normalize hr with h | h
    · exact hf.load r h
    · subst h; exact hcap

theorem objective_canon (i : Inst) (as : List Nat) : objective i (normalize as) = objective i as :=
  routesLen_normalize i.D as

/-- **C05 (CVRP), optimum form.** The rewards of finished mask-confined episodes are exactly the
negated objectives of the feasible solutions, canonical or not; hence the best reward reachable through the
mask equals the optimum (in particular when the optimum fills a vehicle exactly).  `hn` is used only to have a
non-empty route (that of customer 1), so that the normal form contains a depot visit (`canonical_canon`). -/
theorem opt_reachable (i : Inst) (hd : ∀ j, 0 ≤ i.demand j) (hcap : 0 ≤ i.cap) (h00 : i.D 0 0 = 0)
    (hn : 1 ≤ i.n) :
    (∀ as s, Run env i (env.reset i) as s → env.done i s = true →
        Feasible i as ∧ reward i as = - objective i as) ∧
    (∀ as, Feasible i as → ∃ as' s, Run env i (env.reset i) as' s ∧ env.done i s = true ∧
        reward i as' = - objective i as) := by
  refine ⟨fun as s hr hdn => ⟨feasible_of_run i hcap hr hdn, reward_eq_objective i h00 as⟩, ?_⟩
  intro as hf
  obtain ⟨s, hrun, hdone⟩ :=
    run_of_feasible i hd (normalize as) (feasible_canon i hcap as hf) (canonical_canon i hn as hf)
  exact ⟨normalize as, s, hrun, hdone, by rw [reward_eq_objective i h00, objective_canon]⟩

/-- the optimum is attained through the mask, and no finished episode has a larger reward -/
theorem best_reward_eq_optimum (i : Inst) (hd : ∀ j, 0 ≤ i.demand j) (hcap : 0 ≤ i.cap)
    (h00 : i.D 0 0 = 0) (hn : 1 ≤ i.n) (opt : List Nat) (hopt : Feasible i opt)
    (hmin : ∀ as, Feasible i as → objective i opt ≤ objective i as) :
    (∃ as s, Run env i (env.reset i) as s ∧ env.done i s = true ∧ reward i as = - objective i opt) ∧
    (∀ as s, Run env i (env.reset i) as s → env.done i s = true → reward i as ≤ - objective i opt) := by
  obtain ⟨h1, h2⟩ := opt_reachable i hd hcap h00 hn
  refine ⟨h2 opt hopt, fun as s hr hdn => ?_⟩
  obtain ⟨hf, hrw⟩ := h1 as s hr hdn
  have := hmin as hf
  omega

/-- the hypotheses are satisfiable, and an exact-fill optimum `[1,2,0]` is reachable -/
example : ∃ as s, Run env ⟨2, 8, fun _ => 4, fun a b => if a = b then 0 else 1⟩
    (env.reset ⟨2, 8, fun _ => 4, fun a b => if a = b then 0 else 1⟩) as s ∧
    env.done ⟨2, 8, fun _ => 4, fun a b => if a = b then 0 else 1⟩ s = true ∧
    reward ⟨2, 8, fun _ => 4, fun a b => if a = b then 0 else 1⟩ as =
      - Spec.Cvrp.objective ⟨2, 8, fun _ => 4, fun a b => if a = b then 0 else 1⟩ [1, 2] :=
  (opt_reachable _ (by intro j; simp) (by decide) (by simp) (by decide)).2 [1, 2]
    ((Spec.Cvrp.feasible_iff _ _).1 (by decide))
end Rl4co.Cvrp
