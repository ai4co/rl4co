/-
C05 for CVRPTW: the mask hides no feasible solution.  Every solution that is feasible by the
independent definition (time windows with `≤`: an arrival exactly at the end of a window is allowed)
and canonical in CVRP's sense (does not start at the depot, never stays at the depot twice in a row,
visits the depot at least once — the pruning the text of property C05 allows) is a mask-confined run that the environment
declares finished.  No well-formedness of the windows is needed for this direction.
-/
import Rl4co.Proofs.CvrptwModel
import Rl4co.Props.C05.Cvrp

namespace Rl4co.Cvrptw
open Rl4co.Spec.Cvrptw

theorem run_lift (i : Inst) {b b' : Cvrp.State} {as : List Nat} (h : Run Cvrp.env i.base b as b') :
    ∀ s : State, s.base = b → CacheOk i s → clockOk i s.time b.cur as = true →
      ∃ s', Run env i s as s' ∧ s'.base = b' := by
  induction h with
  | nil b => intro s hs _ _; exact ⟨s, Run.nil s, hs⟩
  | @cons b b' a as ha hm _ ih =>
    intro s hs hc hk
    subst hs
    rw [clockOk_cons_iff] at hk
    obtain ⟨s', hrun, hb⟩ := ih (env.step i s a) rfl (cacheOk_step i s a) (by rw [step_time, hc a]; exact hk.2)
    exact ⟨s', Run.cons ha ((mask_iff i s a).2 ⟨hm, hk.1⟩) hrun, hb⟩

theorem run_of_feasible (i : Inst) (hd : ∀ j, 0 ≤ i.base.demand j) (as : List Nat)
    (hf : Feasible i as) (hc : Cvrp.Canonical as) :
    ∃ s, Run env i (env.reset i) as s ∧ env.done i s = true := by
  obtain ⟨b, hrun, hdone⟩ := Cvrp.run_of_feasible i.base hd as hf.base hc
  obtain ⟨h1, h2⟩ := forall_mem_routes.1 hf.tw
  obtain ⟨s', hr, hb⟩ := run_lift i hrun (env.reset i) rfl (cacheOk_reset i) (clock_of_routes i as 0 0 h1 h2)
  exact ⟨s', hr, by rw [← hb] at hdone; exact hdone⟩

/-- the boundary instance of C01 (every deadline met with equality) -/
example : Feasible exInst [1, 2, 0] ∧ Cvrp.Canonical [1, 2, 0] := by
  refine ⟨(feasible_iff _ _).1 (by decide), ⟨by decide, ?_, by decide⟩⟩
  simp [Cvrp.noDoubleDepot]

end Rl4co.Cvrptw
