/-
C05 for CVRP: the mask hides no feasible solution.  Every solution that is feasible by the
independent definition and *canonical* (it does not start at the depot, never stays at the depot
twice in a row, and visits the depot at least once — exactly the pruning the text of property C05 allows) is a
mask-confined run that the environment declares finished.  With C01: canonical feasible solutions ⊆ finished
mask-confined runs ⊆ feasible solutions (a finished run padded with depot visits, `[1, 2, 0, 0]`, is not
canonical); that the best reward through the mask is the optimum over ALL feasible solutions is
`opt_reachable` (C05/CvrpOpt), which brings a feasible solution into canonical form first.  Equality cases
(load = capacity) are included because `Feasible` uses `≤`.
-/
import Rl4co.Props.C01.Cvrp

namespace Rl4co.Cvrp
open Rl4co.Spec.Cvrp

/-- no two consecutive depot visits -/
def noDoubleDepot : List Nat → Prop
  | [] => True
  | [_] => True
  | a :: b :: r => ¬(a = 0 ∧ b = 0) ∧ noDoubleDepot (b :: r)

structure Canonical (as : List Nat) : Prop where
  start : as.head? ≠ some 0
  nodouble : noDoubleDepot as
  depot : 0 ∈ as

theorem noDoubleDepot_cons (a : Nat) (as : List Nat) :
    noDoubleDepot (a :: as) ↔ (a = 0 → as.head? ≠ some 0) ∧ noDoubleDepot as := by
  cases as with
  | nil => exact ⟨fun _ => ⟨fun _ => nofun, trivial⟩, fun _ => trivial⟩
  | cons b r =>
    exact and_congr_left' ⟨fun h ha hb => h ⟨ha, Option.some.inj hb⟩, fun h hab => h hab.1 (congrArg some hab.2)⟩

/-- what the mask asks of the actions still to come: the current node counts as the element before them, so that the depot
rule of the mask (no depot visit from the depot) is `noDoubleDepot` itself -/
def Admissible (i : Inst) (s : State) (as : List Nat) : Prop :=
  LoadsOk i.demand i.cap s.used as ∧ noDoubleDepot (s.cur :: as)

theorem admissible_step (i : Inst) (hd : ∀ j, 0 ≤ i.demand j) : routing.StepKeeps i (Admissible i) := by
  intro s a as hr hf ⟨hl, hdep, hnd⟩
  show mask i s a = true ∧ Admissible i (step i s a) as
  cases a with
  | zero => exact ⟨(mask_zero_iff i s).2 (fun h => absurd ⟨h, rfl⟩ hdep), (loadsOk_zero_cons.1 hl).2, hnd⟩
  | succ k =>
    have h0 := Nat.succ_ne_zero k
    have hu := step_used_of_ne i s h0 (Nat.lt_succ_of_le (hr _ List.mem_cons_self))
    rw [loadsOk_cons h0, ← hu] at hl
    refine ⟨(mask_of_ne i s h0).2 ⟨hf.head h0, ?_⟩, hl, hnd⟩
    rw [Int.add_comm, ← hu]
    exact hl.le fun x _ => hd x

theorem run_of_feasible (i : Inst) (hd : ∀ j, 0 ≤ i.demand j) (as : List Nat)
    (hf : Feasible i as) (hc : Canonical as) :
    ∃ s, Run env i (env.reset i) as s ∧ env.done i s = true :=
  routing.run_of_once (admissible_step i hd) hf.range hf.once hc.depot (fun _ => rfl)
    ⟨loadsOk_zero.2 hf.load, (noDoubleDepot_cons 0 as).2 ⟨fun _ => hc.start, hc.nodouble⟩⟩

/-- a boundary instance: the two customers fill the vehicle exactly -/
example : Feasible ⟨2, 8, fun _ => 4, fun _ _ => 1⟩ [1, 2, 0] ∧ Canonical [1, 2, 0] := by
  refine ⟨(feasible_iff _ _).1 (by decide), ⟨by decide, ?_, by decide⟩⟩
  simp [noDoubleDepot]

end Rl4co.Cvrp
