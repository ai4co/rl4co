/-
C05 for FLP and MCP as an EQUATION OF OPTIMA: `Spec.*.optimum` is the brute-force optimum (maximum of
the objective-derived value over an explicit enumeration of all feasible selections); the best reward
over complete mask-confined episodes equals it — there is an episode that attains it and none
exceeds it.  (DPP / MDPP have no such statement: their reward, the impedance simulator, is not
modelled; for them C05 is the set equality `Dpp.complete_iff_feasible`.)  No Mathlib.
-/
import Rl4co.Spec.SelectOpt
import Rl4co.Props.C05.Flp
import Rl4co.Props.C05.Mcp

namespace Rl4co

theorem mem_allSeqs_of_length {n : Nat} {q : Int} {as : List Nat} (hl : (as.length : Int) = q)
    (hr : ∀ a ∈ as, a < n) : as ∈ allSeqs n q.toNat :=
  (mem_allSeqs _ _ as).mpr ⟨by rw [← hl, Int.toNat_natCast], hr⟩

theorem Spec.Flp.mem_candidates (i : Flp.Inst) (as : List Nat) :
    as ∈ Spec.Flp.candidates i ↔ Spec.Flp.Feasible i as := by
  simp only [Spec.Flp.candidates, List.mem_filter, Spec.Flp.feasible_iff]
  exact and_iff_right_of_imp fun h => mem_allSeqs_of_length h.len h.range

namespace Flp
open Spec.Flp

/-- `WF` is there for a feasible selection to exist: `maxList [] = 0`, so `optimum` of an instance without one is `0`
and says nothing. -/
theorem optimum_spec (i : Inst) (hwf : WF i) :
    (∃ as, Feasible i as ∧ optimum i = - objective i as) ∧ ∀ as, Feasible i as → - objective i as ≤ optimum i :=
  maxList_map_spec (mem_candidates i) (fun as => - objective i as) (feasible_exists i hwf)

/-- **C05 (FLP), best reward through the mask = brute-force optimum.** -/
theorem best_reward_eq_optimum (i : Inst) (hwf : WF i) :
    (∃ as s, RunND env i (env.reset i) as s ∧ env.done i s = true ∧ reward i s = optimum i) ∧
    (∀ as s, RunND env i (env.reset i) as s → env.done i s = true → reward i s ≤ optimum i) := by
  refine ⟨(opt_reachable i hwf _).mpr (optimum_spec i hwf).1, fun as s hr hd => ?_⟩
  rw [reward_eq_neg_objective i hr.run]
  exact (optimum_spec i hwf).2 as (feasible_of_run i hwf hr hd)

/-- Non-vacuity / sanity: three collinear locations 0, 1, 3 (distance = |a − b|), one facility: the
optimum is to open location 1 (objective 1 + 0 + 2 = 3). -/
example : optimum ⟨3, 1, fun a b => ((([0, 1, 3] : List Int).getD a 0) - (([0, 1, 3] : List Int).getD b 0)).natAbs,
    fun _ => 9⟩ = -3 := by decide

end Flp

theorem Spec.Mcp.mem_candidates (i : Mcp.Inst) (as : List Nat) :
    as ∈ Spec.Mcp.candidates i ↔ Spec.Mcp.Feasible i as := by
  simp only [Spec.Mcp.candidates, List.mem_filter, Spec.Mcp.feasible_iff]
  exact and_iff_right_of_imp fun h => mem_allSeqs_of_length h.len h.range

namespace Mcp
open Spec.Mcp

theorem optimum_spec (i : Inst) (hwf : WF i) :
    (∃ as, Feasible i as ∧ optimum i = objective i as) ∧ ∀ as, Feasible i as → objective i as ≤ optimum i :=
  maxList_map_spec (mem_candidates i) (objective i) (feasible_exists i hwf)

/-- **C05 (MCP), best reward through the mask = brute-force optimum.** -/
theorem best_reward_eq_optimum (i : Inst) (hwf : WF i) :
    (∃ as s, RunND env i (env.reset i) as s ∧ env.done i s = true ∧ reward i s = optimum i) ∧
    (∀ as s, RunND env i (env.reset i) as s → env.done i s = true → reward i s ≤ optimum i) := by
  refine ⟨(opt_reachable i hwf _).mpr (optimum_spec i hwf).1, fun as s hr hd => ?_⟩
  rw [reward_eq_objective i hr.run]
  exact (optimum_spec i hwf).2 as (feasible_of_run i hwf hr hd)

/-- sets `{1,2}`, `{3}`, `{2,4}`, weights `5,6,7,8`, two sets: `{1,2}` + `{3}` covers 5+6+7 = 18,
`{1,2}` + `{2,4}` 19, `{3}` + `{2,4}` 21. -/
example : optimum ⟨3, 4, 2, 2, fun j k => ([[1, 2], [3, 0], [2, 4]].getD j []).getD k 0, fun x => x + 5⟩ = 21 := by
  decide

end Mcp
end Rl4co
