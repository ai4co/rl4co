/-
C05 for SDVRP.  In the library a split-delivery solution is a visit sequence whose amounts are fixed by
the greedy rule ("deliver as much as possible").  `run_of_feasible`: every non-empty visit sequence whose
greedy split is valid (`Spec.Sdvrp.greedyFeasible`) and that is canonical — it does not start with a
depot visit, never stays at the depot twice in a row and every customer visit hands over a positive
amount (the documented pruning of pointless moves) — is a mask-confined run that the environment
declares finished.  Equality cases are included: a visit that fills the vehicle exactly, and a visit
whose remaining demand equals the remaining capacity, are offered.
Scope: completeness is relative to the greedy split; that the optimum over ALL valid splits is reached by
a greedy-canonical sequence (true under the triangle inequality) is a statement about the problem, not
about the mask, and is only sampled by the harness on tiny instances.
-/
import Rl4co.Proofs.SdvrpModel

namespace Rl4co.Sdvrp
open Rl4co.Spec.Sdvrp

/-- every customer visit of the greedy replay hands over a positive amount -/
def allPositive (zs : List (Nat × Int)) : Bool := zs.all (fun z => z.1 == 0 || decide (0 < z.2))

theorem allPositive_cons (a : Nat) (q : Int) (zs : List (Nat × Int)) :
    allPositive ((a, q) :: zs) = true ↔ (a = 0 ∨ 0 < q) ∧ allPositive zs = true := by
  simp only [allPositive, List.all_cons, Bool.and_eq_true, Bool.or_eq_true, beq_iff_eq, decide_eq_true_eq]

theorem noDoubleDepot_cons (a : Nat) (as : List Nat) :
    noDoubleDepot (a :: as) = true ↔ (a = 0 → as.head? ≠ some 0) ∧ noDoubleDepot as = true := by
  cases as with
  | nil => exact ⟨fun _ => ⟨fun _ h => (nomatch h), rfl⟩, fun _ => rfl⟩
  | cons b r =>
    simp only [noDoubleDepot, Bool.and_eq_true, Bool.not_eq_true', Bool.and_eq_false_iff, beq_eq_false_iff_ne,
      List.head?_cons, ne_eq, Option.some.injEq, Decidable.imp_iff_not_or]

theorem canonical_iff (i : Inst) (as : List Nat) : canonical i as = true ↔
    as.head? ≠ some 0 ∧ noDoubleDepot as = true ∧ allPositive (as.zip (greedy i i.demand 0 as)) = true := by
  simp only [canonical, Bool.and_eq_true, bne_iff_ne, ne_eq, and_assoc]
  rfl

theorem run_of_greedy (i : Inst) (as : List Nat) :
    ∀ s : State, Inv i s → (∀ a ∈ as, a ≤ i.n) →
      allPositive (as.zip (greedy i s.rem s.used as)) = true →
      noDoubleDepot as = true → (s.cur = 0 → as.head? ≠ some 0) →
      ∃ s', Run env i s as s' := by
  induction as with
  | nil => intro s _ _ _ _ _; exact ⟨s, Run.nil s⟩
  | cons a as ih =>
    intro s hi hr hp hnd hst
    rw [greedy_step hi, List.zip_cons_cons, allPositive_cons] at hp
    obtain ⟨hnd1, hnd2⟩ := (noDoubleDepot_cons a as).mp hnd
    have hm : env.mask i s a = true := by
      by_cases h0 : a = 0
      · subst h0
        exact (mask_zero_iff i s).mpr fun hc => absurd rfl (hst hc)
      · exact (mask_customer_iff hi h0).mpr (hp.1.resolve_left h0)
    obtain ⟨s', hrun⟩ := ih (env.step i s a) (inv_step i s a hi) (fun b hb => hr b (List.mem_cons_of_mem _ hb))
      hp.2 hnd2 hnd1
    exact ⟨s', Run.cons (Nat.lt_succ_of_le (hr a List.mem_cons_self)) hm hrun⟩

theorem run_of_feasible (i : Inst) (hw : WFpos i) (as : List Nat) (hne : as ≠ [])
    (hf : greedyFeasible i as = true) (hc : canonical i as = true) :
    ∃ s, Run env i (env.reset i) as s ∧ env.done i s = true := by
  obtain ⟨hrange, hfin⟩ := (greedyFeasible_iff i hw.wf as).mp hf
  obtain ⟨hhead, hnd, hpos⟩ := (canonical_iff i as).mp hc
  have hi0 := inv_reset i hw.wf
  obtain ⟨s, hrun⟩ := run_of_greedy i as (env.reset i) hi0 hrange
    (by rw [greedy_reset]; exact hpos) hnd (fun _ => hhead)
  refine ⟨s, hrun, done_of_rem_zero (hi0.of_run hrun) (flagOK_of_run hrun (Or.inr hne)) (fun j h1 h2 => ?_)⟩
  exact (congrFun (rem_eq_greedyRem i hrun hi0) j).trans (hfin j h1 h2)

/-- Non-vacuity: the C01 example — customer 2 (demand 12 > capacity 8) receives 4 (vehicle exactly full)
and then 8 (a whole load). -/
example : greedyFeasible exInst [1, 2, 0, 2] = true ∧ canonical exInst [1, 2, 0, 2] = true := by decide

end Rl4co.Sdvrp
