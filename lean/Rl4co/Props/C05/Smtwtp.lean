/-
C05 for SMTWTP: every order of the jobs `1..n` is a mask-confined finished episode; with C07 the set
of complete mask-confined episodes IS the set of schedules, so the optimum stays reachable.
-/
import Rl4co.Props.C03.Smtwtp
import Rl4co.Proofs.TspfamOpt
import Rl4co.Props.C07.Smtwtp

namespace Rl4co.Smtwtp
open Rl4co.Tspfam

theorem run_of_feasible (i : Inst) (hpos : 0 < i.n) {as : List Nat}
    (hf : Spec.Smtwtp.Feasible i.n as) : ∃ s, Run env i (env.reset i) as s ∧ env.done i s = true :=
  availEnv.done_run_of_perm mask_eq_avail hpos
    (by rw [initial_eq]; exact (Spec.Smtwtp.feasible_iff_perm i.n as).mp hf)

theorem complete_run_iff_feasible (i : Inst) (hpos : 0 < i.n) (as : List Nat) :
    (∃ s, Run env i (env.reset i) as s ∧ env.done i s = true) ↔ Spec.Smtwtp.Feasible i.n as :=
  ⟨fun ⟨_, h, hd⟩ => perm_of_run i h hd, run_of_feasible i hpos⟩

example : Spec.Smtwtp.Feasible 3 [2, 3, 1] := (Spec.Smtwtp.feasible_iff 3 [2, 3, 1]).mp (by decide)

theorem opt_reachable (i : Inst) (hpos : 0 < i.n) :
    ∃ as s, Run env i (env.reset i) as s ∧ env.done i s = true ∧
      (∀ bs, Spec.Smtwtp.Feasible i.n bs →
        Spec.Smtwtp.objective i.p i.d i.w as ≤ Spec.Smtwtp.objective i.p i.d i.w bs) ∧
      (∀ bs t, Run env i (env.reset i) bs t → env.done i t = true → reward i bs ≤ reward i as) := by
  obtain ⟨as, s, hrun, hd, h1, h2⟩ := availEnv.exists_best_feasible (Spec.Smtwtp.objective i.p i.d i.w) _
    (fun _ => run_of_feasible i hpos) (Spec.Smtwtp.feasible_range' i.n)
  refine ⟨as, s, hrun, hd, h1, fun bs t hr hdt => ?_⟩
  rw [reward_eq_objective, reward_eq_objective]
  exact Int.neg_le_neg (h2 bs t hr hdt)

end Rl4co.Smtwtp
