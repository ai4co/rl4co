/-
C05 for FJSP / JSSP — the classical schedule classes and the optimum of each setting.

  non-delay ∧ valid  ⇒  active  ⇒  semi-active  ⇒  event-aligned

so with `mask_no_ops = false` every valid active (and every semi-active) schedule is reachable, and for both
settings the reachable makespans are characterised exactly: the best reward through the mask is the optimum
over all valid schedules when waiting is allowed, and the optimum of the NON-DELAY class when it is masked —
which can be strictly worse (21 vs 12 on `exDelay`).
-/
import Rl4co.Props.C05.FjspOptimum

namespace Rl4co.Fjsp
open Rl4co.Spec.Fjsp (isReal opOf Sched ValidSchedule)

/-- Semi-active: no operation can start earlier without changing the order on its machine: for every
earlier time `t`, the job predecessor or an operation that precedes it on its machine is still running. -/
def SemiActive (i : Inst) (σ : Sched) : Prop :=
  ∀ o, o < i.N → isReal i o = true → ∀ t : Int, 0 ≤ t → t < σ.start o →
    (∃ j, j < i.J ∧ i.startOp j < o ∧ o ≤ i.endOp j ∧ t < σ.finish (o - 1)) ∨
    (∃ m o', m < i.M ∧ o' < i.N ∧ isReal i o' = true ∧ σ.assign m o = true ∧ σ.assign m o' = true ∧
      σ.start o' < σ.start o ∧ t < σ.finish o')

/-- Active: no operation can start earlier at all (not even by jumping into a gap) while every other
operation keeps its place: starting `o` at `t` would precede its job predecessor's completion or
overlap another operation on its machine. -/
def Active (i : Inst) (σ : Sched) : Prop :=
  ∀ o, o < i.N → isReal i o = true → ∀ t : Int, 0 ≤ t → t < σ.start o →
    (∃ j, j < i.J ∧ i.startOp j < o ∧ o ≤ i.endOp j ∧ t < σ.finish (o - 1)) ∨
    (∃ m o', m < i.M ∧ o' < i.N ∧ isReal i o' = true ∧ o' ≠ o ∧ σ.assign m o = true ∧ σ.assign m o' = true ∧
      σ.start o' < t + (σ.finish o - σ.start o) ∧ t < σ.finish o')

theorem active_semiActive {i : Inst} {σ : Sched} {mk : Int} (hv : ValidSchedule i σ mk) (ha : Active i σ) :
    SemiActive i σ := by
  intro o ho hr t h0 hlt
  rcases ha o ho hr t h0 hlt with h | ⟨m, o', hm, ho', hr', hne, ha1, ha2, hs, hf⟩
  · exact Or.inl h
  · refine Or.inr ⟨m, o', hm, ho', hr', ha1, ha2, ?_, hf⟩
    -- `o'` overlaps the shifted `o`, so on the machine it comes before `o`
    rcases hv.machine m hm o' ho' o ho hr' hr hne ha2 ha1 with h | h
    · exact Int.lt_of_lt_of_le (hv.start_lt_finish ho' hr') h
    · omega

theorem semiActive_eventAligned {i : Inst} {σ : Sched} {mk : Int} (hv : ValidSchedule i σ mk)
    (hsa : SemiActive i σ) : EventAligned i σ := by
  intro o ho hr
  by_cases hz : σ.start o = 0
  · exact Or.inl hz
  · right
    have hpos : 0 < σ.start o := Int.lt_iff_le_and_ne.mpr ⟨(hv.once o ho hr).2.1, Ne.symm hz⟩
    -- times are integers: look at the instant just before the start
    rcases hsa o ho hr (σ.start o - 1) (Int.le_sub_one_of_lt hpos) (Int.sub_one_lt_of_le (Int.le_refl _)) with
      ⟨j, hj, h1, h2, hf⟩ | ⟨m, o', hm, ho', hr', ha1, ha2, hs, hf⟩
    · obtain ⟨p, rfl⟩ := Nat.exists_eq_succ_of_ne_zero (Nat.ne_of_gt (Nat.lt_of_le_of_lt (Nat.zero_le _) h1))
      have hp1 : i.startOp j ≤ p := Nat.le_of_lt_succ h1
      exact ⟨p, Nat.lt_of_succ_lt ho, real_of_job hj hp1 (Nat.le_of_succ_le h2),
        Int.le_antisymm (hv.order j hj p (Nat.lt_of_succ_lt ho) hp1 h2) (Int.le_of_sub_one_lt hf)⟩
    · have hne : o' ≠ o := fun h => by rw [h] at hs; exact absurd hs (Int.lt_irrefl _)
      refine ⟨o', ho', hr', ?_⟩
      rcases hv.machine m hm o' ho' o ho hr' hr hne ha2 ha1 with h | h
      · exact Int.le_antisymm h (Int.le_of_sub_one_lt hf)
      · exact absurd (Int.lt_of_lt_of_le (hv.start_lt_finish ho hr) h) (Int.lt_asymm hs)

theorem nonDelay_active {i : Inst} {σ : Sched} {mk : Int} (hv : ValidSchedule i σ mk) (hnd : NonDelay i σ) :
    Active i σ := by
  intro o ho hr t h0 hlt
  obtain ⟨m, hm, hσm, _, hpm, hfm, _⟩ := hv.machine_of ho hr
  apply Classical.byContradiction
  intro hcon
  -- otherwise `σ`'s machine for `o` is idle at `t` and the job predecessor complete: `o` would start by `t`
  refine absurd (hnd t m o h0 hm ho hr hpm (fun o' ho' hr' ha' hc => ?_) (fun j hj h1 h2 => ?_)) (Int.not_le.mpr hlt)
  · by_cases hne : o' = o
    · subst hne; exact absurd hc.1 (Int.not_le.mpr hlt)
    · exact hcon (Or.inr ⟨m, o', hm, ho', hr', hne, hσm, ha', by omega, hc.2⟩)
  · exact Int.not_lt.mp fun hc => hcon (Or.inl ⟨j, hj, h1, h2, hc⟩)

theorem semiActive_schedule_reachable (i : Inst) (hwf : WF i) (hmno : i.maskNoOps = false) (σ : Sched) (mk : Int)
    (hv : ValidSchedule i σ mk) (hsa : SemiActive i σ) : Reachable i σ :=
  (reachable_iff_wait_allowed i hwf hmno σ).mpr ⟨⟨mk, hv⟩, semiActive_eventAligned hv hsa⟩

/-- **`mask_no_ops = false` reaches every active schedule** (and every semi-active one), exactly. -/
theorem active_schedule_reachable (i : Inst) (hwf : WF i) (hmno : i.maskNoOps = false) (σ : Sched) (mk : Int)
    (hv : ValidSchedule i σ mk) (ha : Active i σ) : Reachable i σ :=
  semiActive_schedule_reachable i hwf hmno σ mk hv (active_semiActive hv ha)

theorem reachable_active_no_wait (i : Inst) (hwf : WF i) (hmno : i.maskNoOps = true) (as : List Nat) (s : State)
    (hrun : Run env i (env.reset i) as s) (hd : s.done = true) : Active i (schedOf s) :=
  nonDelay_active (schedule_valid i hwf as s hrun hd) (reachable_nondelay i hwf hmno as s hrun hd)

theorem reachMk_iff_wait_allowed (i : Inst) (hwf : WF i) (hmno : i.maskNoOps = false) (r : Int) :
    ReachMk i r ↔ ∃ σ, ValidSchedule i σ r ∧ EventAligned i σ := by
  constructor
  · rintro ⟨as, s, hrun, hd, he⟩
    exact ⟨schedOf s, by rw [← he]; exact schedule_valid i hwf as s hrun hd, reachable_eventAligned i hwf as s hrun⟩
  · rintro ⟨σ, hv, hea⟩
    obtain ⟨as, s, hrun, hd, _, he⟩ := schedule_reachable i hwf hmno σ r hv hea
    exact ⟨as, s, hrun, hd, he⟩

theorem reachMk_iff_no_wait (i : Inst) (hwf : WF i) (hmno : i.maskNoOps = true) (r : Int) :
    ReachMk i r ↔ ∃ σ, ValidSchedule i σ r ∧ EventAligned i σ ∧ NonDelay i σ := by
  constructor
  · rintro ⟨as, s, hrun, hd, he⟩
    exact ⟨schedOf s, by rw [← he]; exact schedule_valid i hwf as s hrun hd, reachable_eventAligned i hwf as s hrun,
      reachable_nondelay i hwf hmno as s hrun hd⟩
  · rintro ⟨σ, hv, hea, hnd⟩
    obtain ⟨as, s, hrun, hd, _, he⟩ := nondelay_schedule_reachable i hwf hmno σ r hv hea hnd
    exact ⟨as, s, hrun, hd, he⟩

/-- makespans of the valid non-delay (event-aligned) schedules -/
def NonDelayMk (i : Inst) (r : Int) : Prop := ∃ σ, ValidSchedule i σ r ∧ EventAligned i σ ∧ NonDelay i σ

/-- **the converse optimum statement (`mask_no_ops = true`)**: the best makespan through the default mask
exists and is exactly the optimum of the non-delay class — nothing of that class is hidden, and nothing
better is reachable. -/
theorem best_reachable_eq_nondelay_optimum (i : Inst) (hwf : WF i) (hmno : i.maskNoOps = true) :
    ∃ r, (ReachMk i r ∧ ∀ r', ReachMk i r' → r ≤ r') ∧ (NonDelayMk i r ∧ ∀ r', NonDelayMk i r' → r ≤ r') := by
  obtain ⟨r, hr, hmin⟩ := best_reachable_exists i hwf
  refine ⟨r, ⟨hr, hmin⟩, (reachMk_iff_no_wait i hwf hmno r).mp hr, fun r' h' => ?_⟩
  exact hmin r' ((reachMk_iff_no_wait i hwf hmno r').mpr h')

/-- … and that optimum can be strictly worse than the optimum over all valid schedules:
on `exDelay` the non-delay optimum is 21, the optimum 12. -/
theorem nondelay_optimum_gap :
    (∀ r, NonDelayMk exDelay r → 21 ≤ r) ∧ ValidMk exDelay 12 := by
  refine ⟨fun r h => ?_, exDelayOpt, exDelayOpt_valid⟩
  obtain ⟨as, s, hrun, hd, he⟩ := (reachMk_iff_no_wait exDelay exDelay_wf rfl r).mpr h
  have := reward_le_of_allDone exDelay_best hrun hd
  omega

end Rl4co.Fjsp

namespace Rl4co.Jssp
open Rl4co.Fjsp

theorem active_schedule_reachable (i : Inst) (_ : i.jssp = true) (hwf : WF i) (hmno : i.maskNoOps = false)
    (σ : Spec.Fjsp.Sched) (mk : Int) (hv : Spec.Fjsp.ValidSchedule i σ mk) (ha : Active i σ) : Reachable i σ :=
  Fjsp.active_schedule_reachable i hwf hmno σ mk hv ha

theorem best_reachable_eq_nondelay_optimum (i : Inst) (_ : i.jssp = true) (hwf : WF i) (hmno : i.maskNoOps = true) :
    ∃ r, (ReachMk i r ∧ ∀ r', ReachMk i r' → r ≤ r') ∧ (NonDelayMk i r ∧ ∀ r', NonDelayMk i r' → r ≤ r') :=
  Fjsp.best_reachable_eq_nondelay_optimum i hwf hmno

end Rl4co.Jssp
