/-
C05 for OP: does the mask hide a feasible tour?

KNOWN FINDING (`known_findings.json`: op-margin-hides-equality-C05).  `_reset` subtracts `1e-6` from
the per-node budget and the mask compares with a strict `>`, so a tour whose length equals
`max_length` exactly — feasible by the problem statement, accepted by the env's own checker — is
never offered.  Hence the full completeness statement (every canonical feasible tour is a finished
mask-confined run) is FALSE of the faithful model; it is refuted on the budgets read back from the real
reset state of a two-node instance.  What does hold is stated relative to the margin the budgets keep
below `L − D j 0` (bounded on both sides by the reset-time formula, `Precomp`): tours that keep the margin
unused are offered, the hidden ones are exactly those with less slack, and the best prize reachable
through the mask is the optimum over the tours of length ≤ L − margin.

`Canonical` removes exactly what the mask prunes: the episode ends at the first return to the
depot; the empty tour is `[0, 0]` (the code does not count a depot step at `i = 0` as a return).
-/
import Rl4co.Props.C03.Op

namespace Rl4co.Op
open Rl4co.Spec.Op Rl4co.Prize

/-- canonical complete solutions: customers, then one return; or the empty tour `[0, 0]` (what `Prize.canon_cases`
concludes of `canon as`; the same definition as `Pctsp.Canonical`) -/
def Canonical (as : List Nat) : Prop :=
  as = [0, 0] ∨ ∃ cs, cs ≠ [] ∧ (∀ c ∈ cs, c ≠ 0) ∧ as = cs ++ [0]

/-- triangle inequality towards the depot (Euclidean distances satisfy it) -/
def TriToDepot (i : Inst) : Prop := ∀ a b, i.D a 0 ≤ i.D a b + i.D b 0

/-- the pre-computed budgets are not more than `eps` below `L − D j 0` -/
def MarginLe (i : Inst) (eps : Int) : Prop :=
  ∀ j, 1 ≤ j → j ≤ i.n → i.L - i.D j 0 - eps ≤ i.budget j

def run_of_feasible_statement : Prop :=
  ∀ (i : Inst) (as : List Nat), WF i → TriToDepot i → Feasible i as → Canonical as →
    ∃ s, Run env i (env.reset i) as s ∧ env.done i s = true

/-- the real reset state of: depot (0.5,0.5), one customer at (0.75,0.5), max_length 0.5; unit 2^-26 -/
def cexInst : Inst :=
  { n := 1, L := 33554432, D := fun a b => if a = b then 0 else 16777216, prize := fun _ => 67108864,
    budget := fun j => if j = 0 then 33554364 else 16777149, cbound := fun _ => 33555104 }

theorem cex_wf : WF cexInst :=
  ⟨by decide, by decide, by
    intro j h1 h2
    have : j = 1 := by simp only [cexInst] at h2; omega
    subst this; decide⟩

theorem cex_tri : TriToDepot cexInst := by
  intro a b
  show (if a = 0 then (0 : Int) else 16777216) ≤
    (if a = b then 0 else 16777216) + (if b = 0 then 0 else 16777216)
  by_cases hab : a = b
  · subst hab
    rw [if_pos rfl, Int.zero_add]
    exact Int.le_refl _
  · rw [if_neg hab]
    split <;> split <;> decide

/-- **C05 (OP), counterexample**: the tour `[1, 0]` has length exactly `max_length` and is not offered. -/
theorem run_of_feasible_counterexample : ¬ run_of_feasible_statement := by
  intro h
  exact not_run_of_not_admitted (by decide) <| h cexInst [1, 0] cex_wf cex_tri ((feasible_iff _ _).mp (by decide))
    (Or.inr ⟨[1], by simp, by simp, rfl⟩)

/-- **C05 (OP), partial**: feasible canonical tours that keep `eps` of the budget unused are finished
mask-confined runs, `eps` being any bound on the code's margin. -/
theorem run_of_feasible_partial (i : Inst) (eps : Int) (hd00 : i.D 0 0 = 0) (htri : TriToDepot i)
    (hmar : MarginLe i eps) {as : List Nat} (hf : Feasible i as) (hslack : tourLen i as ≤ i.L - eps) (hc : Canonical as) :
    ∃ s, Run env i (env.reset i) as s ∧ env.done i s = true := by
  -- the customers are admitted one after the other: what is left of the tour, closed at the depot,
  -- keeps `eps` of the budget, and the way home from a customer is not longer than the rest of the tour
  refine isTour.run_of_canonical
    (fun s cs => s.len + pathLen i.D (s.cur :: cs ++ [0]) ≤ i.L - eps)
    (fun s c t hv0 hvc hc0 hcn hq => by
      have hq' : s.len + (i.D s.cur c + pathLen i.D (c :: t ++ [0])) ≤ i.L - eps := hq
      have := dist_le_pathLen i.D htri t c
      have := hmar c (Nat.pos_of_ne_zero hc0) hcn
      exact ⟨(mask_customer_iff hc0).mpr ⟨hvc, hv0, by omega⟩, (Int.add_assoc ..).symm ▸ hq'⟩)
    hc hf.range hf.once (fun cs hcs => ?_) fun _ s _ _ => mask_depot i s
  rw [hcs, tourLen, pathLen_cons_snoc_snoc, hd00, Int.add_zero] at hslack
  show (0 : Int) + pathLen i.D (0 :: cs ++ [0]) ≤ _
  rwa [Int.zero_add]

theorem canon_feasible (i : Inst) (h00 : i.D 0 0 = 0) (htri : ∀ a b, i.D a b ≤ i.D a 0 + i.D 0 b)
    {as : List Nat} (hf : Feasible i as) :
    Feasible i (canon as) ∧ tourLen i (canon as) ≤ tourLen i as := by
  have hlen : tourLen i (canon as) ≤ tourLen i as := pathLen_canon_le i.D h00 htri as
  refine ⟨⟨canon_range hf.range, fun j h1 h2 => ?_, Int.le_trans hlen hf.length⟩, hlen⟩
  rw [count_canon as j h1]
  exact hf.once j h1 h2

/-- **C05 (OP), optimum reachable, partial**: for every feasible tour — canonical or not — that keeps
`eps` of the budget unused there is a finished mask-confined episode collecting the same prize. -/
theorem opt_reachable_partial (i : Inst) (eps : Int) (h00 : i.D 0 0 = 0) (htri0 : TriToDepot i)
    (htri : ∀ a b, i.D a b ≤ i.D a 0 + i.D 0 b) (hmar : MarginLe i eps)
    {as : List Nat} (hf : Feasible i as) (hslack : tourLen i as ≤ i.L - eps) :
    ∃ as' s, Run env i (env.reset i) as' s ∧ env.done i s = true ∧ reward i as' = objective i as := by
  obtain ⟨hf', hle⟩ := canon_feasible i h00 htri hf
  obtain ⟨s, hr, hd⟩ := run_of_feasible_partial i eps h00 htri0 hmar hf' (Int.le_trans hle hslack) (canon_cases as)
  exact ⟨canon as, s, hr, hd, (reward_eq_objective i hr hd).trans (sumTo_mem_congr (fun _ => mem_canon) i.n _ _)⟩

/-- Non-vacuity of the partial theorem: on the real budgets of `cexInst` the margin is at most 67
units (2^-26 each, i.e. 1e-6 rounded), and with `max_length = 0.5 + 2^-19` (budgets read back) the
same tour is offered. -/
example : MarginLe cexInst 67 := by
  intro j h1 h2
  have : j = 1 := by simp only [cexInst] at h2; omega
  subst this; decide
-- OP's `reset` ignores the instance: `env.reset cexInst` is also the reset state of the modified instance (likewise below)
example : ∃ s, Run env { cexInst with L := 33554560, budget := fun j => if j = 0 then 33554492 else 16777276, cbound := fun _ => 33555232 }
    (env.reset cexInst) [1, 0] s ∧ s.done = true :=
  ⟨_, .of_admitted (by decide), by decide⟩

/-- `_reset`'s pre-computation (`Precomp`, Env/Op.lean) bounds the margin from above: at most `1e-6 + rho` below `L − D j 0` -/
theorem marginLe_of_precomp (i : Inst) (U rho eps : Int) (hp : Precomp i U rho)
    (he : U + 1000000 * rho ≤ 1000000 * eps) : MarginLe i eps := by
  intro j h1 h2
  have := (hp j h1 h2).1
  simp only [budgetSpecScaled, Params.opResetMargin] at this
  omega

def ReachablePrize (i : Inst) (v : Int) : Prop :=
  ∃ as s, Run env i (env.reset i) as s ∧ env.done i s = true ∧ reward i as = v

def SlackPrize (i : Inst) (m : Int) (v : Int) : Prop :=
  ∃ as, Feasible i as ∧ tourLen i as ≤ i.L - m ∧ objective i as = v

def IsMaxOf (P : Int → Prop) (v : Int) : Prop := P v ∧ ∀ w, P w → w ≤ v

/-- **C05 (OP), lower half of the sandwich**: whatever a feasible tour with slack `eps` (an upper bound of
the code's margin) collects is collected by some finished mask-confined episode. -/
theorem reachable_of_slack (i : Inst) (eps : Int) (hd : i.D 0 0 = 0) (htri0 : TriToDepot i)
    (htri : ∀ a b, i.D a b ≤ i.D a 0 + i.D 0 b) (hmar : MarginLe i eps) {v : Int}
    (h : SlackPrize i eps v) : ReachablePrize i v := by
  obtain ⟨as, hf, hs, hv⟩ := h
  obtain ⟨as', s, hr, hdn, hrew⟩ := opt_reachable_partial i eps hd htri0 htri hmar hf hs
  exact ⟨as', s, hr, hdn, by rw [hrew, hv]⟩

/-- **C05 (OP), upper half of the sandwich**: whatever a finished mask-confined episode collects is the
prize of a feasible tour with slack `m` (a lower bound of the code's margin). -/
theorem slack_of_reachable (i : Inst) (m : Int) (hd : i.D 0 0 = 0) (hm0 : 0 ≤ m) (hmL : m ≤ i.L)
    (hmg : MarginGe i m) {v : Int} (h : ReachablePrize i v) : SlackPrize i m v := by
  obtain ⟨as, s, hr, hdn, hv⟩ := h
  obtain ⟨hf, hs⟩ := feasible_of_run_margin i m hd hm0 hmL hmg hr
  exact ⟨as, hf, hs, by rw [← reward_eq_objective i hr hdn, hv]⟩

/-- **C05 (OP), the optimum through the mask relative to the margin.**  If the budgets sit exactly `m`
below `L − D j 0` (the code's formula without rounding, `m = 1e-6`), the prizes reachable through the
mask are exactly the prizes of the feasible tours of length `≤ L − m`; in particular the best prize
reachable through the mask EQUALS the optimum over those tours -/
theorem opt_eq_margin (i : Inst) (m : Int) (hd : i.D 0 0 = 0) (htri0 : TriToDepot i)
    (htri : ∀ a b, i.D a b ≤ i.D a 0 + i.D 0 b) (hm0 : 0 ≤ m) (hmL : m ≤ i.L)
    (hle : MarginLe i m) (hge : MarginGe i m) (v : Int) :
    (ReachablePrize i v ↔ SlackPrize i m v) ∧
    (IsMaxOf (ReachablePrize i) v ↔ IsMaxOf (SlackPrize i m) v) := by
  have hiff : ∀ w, ReachablePrize i w ↔ SlackPrize i m w := fun w =>
    ⟨slack_of_reachable i m hd hm0 hmL hge, reachable_of_slack i m hd htri0 htri hle⟩
  refine ⟨hiff v, ?_⟩
  simp only [IsMaxOf, hiff]

/-- a prize reachable through the mask never exceeds the optimum over all feasible tours (length `≤ L`) -/
theorem reachable_le_feasible (i : Inst) (m : Int) (hd : i.D 0 0 = 0) (hm0 : 0 ≤ m) (hmL : m ≤ i.L)
    (hge : MarginGe i m) {v opt : Int} (hv : ReachablePrize i v) (hopt : IsMaxOf (SlackPrize i 0) opt) :
    v ≤ opt := by
  obtain ⟨as, hf, hs, ho⟩ := slack_of_reachable i m hd hm0 hmL hge hv
  exact hopt.2 v ⟨as, hf, Int.le_trans hs (Int.sub_le_sub_left hm0 _), ho⟩

/-- with rounding: the reachable optimum is sandwiched between the optima for the two margins -/
theorem opt_sandwich (i : Inst) (mlo mhi : Int) (hd : i.D 0 0 = 0) (htri0 : TriToDepot i)
    (htri : ∀ a b, i.D a b ≤ i.D a 0 + i.D 0 b) (hm0 : 0 ≤ mlo) (hmL : mlo ≤ i.L)
    (hge : MarginGe i mlo) (hle : MarginLe i mhi) {v vlo vhi : Int}
    (hv : IsMaxOf (ReachablePrize i) v) (hlo : IsMaxOf (SlackPrize i mlo) vlo)
    (hhi : IsMaxOf (SlackPrize i mhi) vhi) : vhi ≤ v ∧ v ≤ vlo :=
  ⟨hv.2 vhi (reachable_of_slack i mhi hd htri0 htri hle hhi.1),
   hlo.2 v (slack_of_reachable i mlo hd hm0 hmL hge hv.1)⟩

/-- Non-vacuity: on the real budgets of `cexInst` (unit 2^-26, `U = 2^26`) the pre-computation holds with a
rounding error of one unit, hence `MarginGe 66` and `MarginLe 69`; the empty tour is always reachable. -/
example : Precomp cexInst 67108864 1 := (precomp_iff _ _ _).mp (by decide)
example : MarginGe cexInst 66 := marginGe_of_precomp cexInst 67108864 1 66 ((precomp_iff _ _ _).mp (by decide)) (by decide)
example : MarginLe cexInst 69 := marginLe_of_precomp cexInst 67108864 1 69 ((precomp_iff _ _ _).mp (by decide)) (by decide)
example : ReachablePrize cexInst 0 :=
  ⟨[0, 0], _, .of_admitted (by decide), by decide, by decide⟩

/-- **C05 (OP), repaired clause**: if `_reset` did not subtract the margin (budgets ≥ `L − D j 0`), the mask —
with its strict `>` — offers every canonical feasible tour, those of length exactly `max_length` included. -/
theorem run_of_feasible_no_margin (i : Inst) (hd00 : i.D 0 0 = 0) (htri : TriToDepot i) (h0 : MarginLe i 0)
    {as : List Nat} (hf : Feasible i as) (hc : Canonical as) :
    ∃ s, Run env i (env.reset i) as s ∧ env.done i s = true :=
  run_of_feasible_partial i 0 hd00 htri h0 hf ((Int.sub_zero i.L).symm ▸ hf.length) hc

/-- **C05 (OP), exact**: with budgets exactly `m` below `L − D j 0` (the code: `m = 1e-6`), a canonical feasible
tour is a finished mask-confined run IFF it keeps `m` of the budget unused. -/
theorem run_iff_slack (i : Inst) (m : Int) (hd00 : i.D 0 0 = 0) (htri : TriToDepot i) (hmL : m ≤ i.L)
    (hle : MarginLe i m) (hge : MarginGe i m) {as : List Nat} (hf : Feasible i as) (hc : Canonical as) :
    (∃ s, Run env i (env.reset i) as s ∧ env.done i s = true) ↔ tourLen i as ≤ i.L - m := by
  constructor
  · rintro ⟨s, hr, _⟩
    exact tourLen_le_of_run i m hd00 hge hmL hr
  · intro hs
    exact run_of_feasible_partial i m hd00 htri hle hf hs hc

/-- **C05 (OP), the hidden set**: the canonical feasible tours the mask does NOT offer are exactly those whose
remaining slack `L − length` lies in `[0, m)`. -/
theorem hidden_iff (i : Inst) (m : Int) (hd00 : i.D 0 0 = 0) (htri : TriToDepot i) (hmL : m ≤ i.L)
    (hle : MarginLe i m) (hge : MarginGe i m) {as : List Nat} (hc : Canonical as) :
    (Feasible i as ∧ ¬ ∃ s, Run env i (env.reset i) as s ∧ env.done i s = true) ↔
      (Feasible i as ∧ 0 ≤ slack i as ∧ slack i as < m) := by
  refine and_congr_right fun hf => ?_
  rw [run_iff_slack i m hd00 htri hmL hle hge hf hc]
  have := hf.length
  show ¬ tourLen i as ≤ i.L - m ↔ 0 ≤ i.L - tourLen i as ∧ i.L - tourLen i as < m
  omega

/-- Non-vacuity: `cexInst` with the margin removed from its budgets offers the tour of length exactly `L`. -/
example : ∃ s, Run env { cexInst with budget := fun j => if j = 0 then 33554432 else 16777216 }
    (env.reset cexInst) [1, 0] s ∧ s.done = true :=
  ⟨_, .of_admitted (by decide), by decide⟩

end Rl4co.Op
