/-
C05 for DPP / MDPP: every list of `max_decaps` distinct allowed cells (offered by the instance, not a
probing port), in every order, is a mask-confined episode that ends finished; the complete episodes
are exactly the feasible placements.  (The objective — the impedance simulator — is not modelled.)
-/
import Rl4co.Props.C08.Dpp

namespace Rl4co.Dpp
open Rl4co.Spec.Dpp

theorem complete_iff_feasible (i : Inst) (hwf : WF i) (as : List Nat) :
    (∃ s, RunND env i (env.reset i) as s ∧ env.done i s = true) ↔ Feasible i as :=
  (Sel.complete_iff view hwf.1 as).trans (feasible_iff_sel i hwf.contract as).symm

theorem run_of_feasible (i : Inst) (hwf : WF i) {as : List Nat} (hf : Feasible i as) :
    ∃ s, RunND env i (env.reset i) as s ∧ env.done i s = true :=
  (complete_iff_feasible i hwf as).mpr hf

example : Feasible exInst [2, 0] := (feasible_iff _ _).mp (by decide)

end Rl4co.Dpp
