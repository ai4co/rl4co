/-
C05 for MDCPDP.  The statement "every feasible solution in canonical form (vehicle of depot 0 first,
every depot's vehicle started) is admitted by the mask" is false of the code: because `current_depot`
never leaves depot 0, (a) a vehicle's return to its OWN depot is never offered — only node 0 is — and (b) a vehicle
whose depot has a larger capacity than depot 0 cannot use it.

What the mask DOES admit is characterised exactly: a visit list is a mask-confined run iff every visit is offered by
`envAdmits`, a predicate on the state of the Spec's own simulation (the mask IS `envAdmits`: `mask_eq_admits` after the
first step, `maskT_eq_admits` with the reset state).  Compared with what the Spec accepts (with depot 0's capacity),
`envAdmits` prunes: the return to a depot other than node 0, the return when no depot is left, and waiting at the depot
before everything is done.
-/
import Rl4co.Props.C03.MdcpdpSim

namespace Rl4co.Mdcpdp
open Rl4co.Spec.Mdcpdp Fixed

/-- canonical form: the vehicle of depot 0 starts, and every depot's vehicle is started -/
def Canonical (p : Problem) (as : List Nat) : Prop :=
  as.head? = some 0 ∧ ∀ d, d < p.K → d ∈ as

def run_of_feasible_statement : Prop :=
  ∀ (i : Inst) (as : List Nat), WF i → (∀ d, d < i.K → 1 ≤ i.cap d) →
    Feasible (problemOf i) as → Canonical (problemOf i) as →
      ∃ s, Run env i (env.reset i) as s ∧ env.done i s = true

/-- 3 depots, one order: `[0,0,1,3,4,1,2]` (the vehicle of depot 1 serves the order and returns to
depot 1) is feasible, but after `…3,4` the mask offers only node 0 as the way home. -/
theorem run_of_feasible_counterexample : ¬ run_of_feasible_statement := by
  intro h
  have := h cexHome [0, 0, 1, 3, 4, 1, 2] (by decide)
    (by intro d _; simp [cexHome]) (by unfold Feasible; decide)
    ⟨rfl, by intro d hd; have : d < 3 := hd; (rcases d with _ | _ | _ | d) <;> simp <;> omega⟩
  exact not_run_of_not_admitted (by decide) this

/-- 2 depots with capacities 1 and 2, two orders -/
def cexCap2 : Inst :=
  { N := 6, K := 2, split0 := 4, KG := 2, cap := fun d => if d = 0 then 1 else 2,
    D := fun _ _ => 1, openMode := false, wNum := 0, wDen := 1 }

/-- The vehicle of depot 1 (capacity 2) may carry both orders at once, but the mask applies depot 0's
capacity 1 and hides the second pickup. -/
theorem run_of_feasible_capacity_counterexample : ¬ run_of_feasible_statement := by
  intro h
  have := h cexCap2 [0, 0, 1, 2, 3, 4, 5] (by decide)
    (by intro d _; simp only [cexCap2]; split <;> omega) (by unfold Feasible; decide)
    ⟨rfl, by intro d hd; have : d < 2 := hd; (rcases d with _ | _ | d) <;> simp <;> omega⟩
  exact not_run_of_not_admitted (by decide) this

/-! Under either `current_depot` rule: what the mask `_step` assembles offers, per node kind, in terms of a simulation state that
has seen the same visits (`Seen`), carries the same orders and has a vehicle out exactly when the environment has
(`σ.veh.isNone = b`). -/

section dictionary
variable {i : Inst} {b : Bool} {s : State} {σ : Sim}

theorem anyIn_K_iff (hs : Seen i s.avail σ.opened σ.served σ.onboard) :
    anyIn i.K s.avail = depLeft (problemOf i) σ := by
  rw [Bool.eq_iff_iff, anyIn_eq_true, depLeft, List.any_eq_true]
  constructor
  · rintro ⟨d, hd, hav⟩
    exact ⟨d, List.mem_range.mpr hd, decide_eq_true fun hm => by rw [(hs.opened d hd).mp hm] at hav; cases hav⟩
  · rintro ⟨d, hd, hno⟩
    have hd' : d < i.K := List.mem_range.mp hd
    refine ⟨d, hd', ?_⟩
    cases hav : s.avail d with
    | true => rfl
    | false => exact absurd ((hs.opened d hd').mpr hav) (of_decide_eq_true hno)

theorem carryFlag_eq (hc : (σ.onboard.length : Int) = s.carry) : (!decide (s.carry > 0)) = σ.onboard.isEmpty := by
  cases ho : σ.onboard with
  | nil => rw [ho] at hc; rw [← hc]; rfl
  | cons x xs =>
    rw [ho, List.length_cons] at hc
    rw [decide_eq_true (by omega)]; rfl

theorem mask_cur (hwf : WF i) (hi : InvX i s) (hmk : s.mask = maskOf i b s.avail s.toDeliver s.carry s.depot s.done)
    (hs : Seen i s.avail σ.opened σ.served σ.onboard) (hc : (σ.onboard.length : Int) = s.carry)
    (hv : σ.veh.isNone = b) :
    s.mask s.depot = ((σ.veh.isSome && σ.onboard.isEmpty && depLeft (problemOf i) σ) || allDone (problemOf i) σ) := by
  have hv' : σ.veh.isSome = !b := by rw [← hv]; cases σ.veh <;> rfl
  rw [hmk, maskOf_cur _ _ _ _ _ _ _ hi.depK, carryFlag_eq hc, anyIn_K_iff hs,
    done_iff_allDone hwf hi hs, hv', Bool.and_right_comm]

theorem mask_depot (hi : InvX i s) (hmk : s.mask = maskOf i b s.avail s.toDeliver s.carry s.depot s.done)
    (hs : Seen i s.avail σ.opened σ.served σ.onboard) (hc : (σ.onboard.length : Int) = s.carry)
    (hv : σ.veh.isNone = b) {a : Nat} (haK : a < i.K) (had : a ≠ s.depot) :
    s.mask a = (decide (a ∉ σ.opened) && σ.veh.isNone && σ.onboard.isEmpty) := by
  rw [hmk, maskOf_depot _ _ _ _ _ _ _ haK had, carryFlag_eq hc, hv,
    hi.tdLow a (Nat.lt_add_right _ haK)]
  cases hav : s.avail a with
  | false => rw [decide_eq_false (fun h => h ((hs.opened a haK).mpr hav))]; rfl
  | true =>
    have hno : a ∉ σ.opened := fun hm => by rw [(hs.opened a haK).mp hm] at hav; cases hav
    rw [anyIn_eq_true.mpr ⟨a, haK, hav⟩, decide_eq_true hno]
    simp only [Bool.true_and, Bool.and_true]

theorem avail_customer (hs : Seen i s.avail σ.opened σ.served σ.onboard) {a : Nat} (h1 : i.K ≤ a) (ha : a < i.N) :
    s.avail a = decide (a ∉ σ.served) := by
  cases hav : s.avail a with
  | false => rw [decide_eq_false (fun h => h ((hs.served a).mpr ⟨h1, ha, hav⟩))]
  | true =>
    have hno : a ∉ σ.served := fun hm => by rw [((hs.served a).mp hm).2.2] at hav; cases hav
    rw [decide_eq_true hno]

theorem mask_pickup (hwf : WF i) (hi : InvX i s)
    (hmk : s.mask = maskOf i b s.avail s.toDeliver s.carry s.depot s.done)
    (hs : Seen i s.avail σ.opened σ.served σ.onboard) (hc : (σ.onboard.length : Int) = s.carry)
    (hv : σ.veh.isNone = b) {a : Nat} (h1 : i.K ≤ a) (h2 : a < i.K + i.h) :
    s.mask a = (σ.veh.isSome && decide (a ∉ σ.served) &&
      decide ((σ.onboard.length : Int) + 1 ≤ i.cap s.depot)) := by
  have hev := hwf.even
  have hv' : σ.veh.isSome = !b := by rw [← hv]; cases σ.veh <;> rfl
  have hcap : (!decide (s.carry ≥ i.cap s.depot)) = decide ((σ.onboard.length : Int) + 1 ≤ i.cap s.depot) := by
    by_cases h : s.carry ≥ i.cap s.depot
    · rw [decide_eq_true h, decide_eq_false (by omega)]; rfl
    · rw [decide_eq_false h, decide_eq_true (by omega)]; rfl
  rw [hmk, maskOf_pickup _ _ _ _ _ _ _ h1 h2, hcap, hv', hi.tdLow a h2, Bool.and_true,
    avail_customer hs h1 (by omega), Bool.and_comm, Bool.and_assoc]

theorem mask_delivery (hwf : WF i) (hi : InvX i s)
    (hmk : s.mask = maskOf i b s.avail s.toDeliver s.carry s.depot s.done)
    (hs : Seen i s.avail σ.opened σ.served σ.onboard) (hv : σ.veh.isNone = b) {a : Nat} (h : i.K + i.h ≤ a)
    (ha : a < i.N) :
    s.mask a = (σ.veh.isSome && decide (a ∉ σ.served) && decide (a - i.h ∈ σ.onboard)) := by
  have hev := hwf.even
  have hv' : σ.veh.isSome = !b := by rw [← hv]; cases σ.veh <;> rfl
  rw [hmk, maskOf_delivery _ _ _ _ _ _ _ h, td_delivery hi h (hev ▸ ha), hv',
    ← avail_customer hs (by omega : i.K ≤ a) ha]
  cases hava : s.avail a with
  | false => simp only [Bool.false_and, Bool.and_false]
  | true =>
    have : decide (a - i.h ∈ σ.onboard) = !s.avail (a - i.h) := by
      have hm := hs.mem_onboard_sub h (hev ▸ ha)
      cases hpk : s.avail (a - i.h) with
      | true => exact decide_eq_false fun h => by rw [(hm.mp h).1] at hpk; cases hpk
      | false => exact decide_eq_true (hm.mpr ⟨hpk, hava⟩)
    rw [this, Bool.true_and, Bool.and_true, Bool.and_comm]

end dictionary

/-- with `exists_run_iff_admitted`: a visit list is a mask-confined run iff every visit is offered (`adm`: the mask as
read off the simulation state, `all`: its iteration along `simStep`) -/
theorem admitted_eq_allT {tok : Bool} {i : Inst} (hwf : WFT tok i) {adm : Sim → Nat → Bool} {all : Sim → List Nat → Bool}
    (hnil : ∀ σ, all σ [] = true)
    (hcons : ∀ σ a as, all σ (a :: as) =
      (decide (a < (problemOf i).N) && adm σ a && all (simStep (problemOf i) (vOf tok) σ a) as))
    (hmask : ∀ {b s σ}, RelT tok i b s σ → ∀ a, a < i.N → s.mask a = adm σ a)
    (as : List Nat) : ∀ {b : Bool} {s : State} {σ : Sim}, RelT tok i b s σ →
      admitted (envF tok) i s as = all σ as := by
  induction as with
  | nil => intro b s σ _; exact (hnil σ).symm
  | cons a as ih =>
    intro b s σ hr
    rw [hcons]
    simp only [problemOf_N hwf.wf]
    show (decide (a < i.N) && s.mask a && admitted (envF tok) i (stepF tok i s a) as) = _
    by_cases ha : a < i.N
    · rw [← hmask hr a ha]
      cases hm : s.mask a with
      | false => rw [Bool.and_false, Bool.false_and, Bool.false_and]
      | true => rw [ih (rel_stepT hwf hr ha hm)]
    · rw [decide_eq_false ha]; rfl

theorem sim_fresh {tok : Bool} {i : Inst} {s : State} {σ : Sim} (hr : RelT tok i true s σ)
    (hav : ∀ j, s.avail j = true) : σ.opened = [] ∧ σ.veh = none ∧ σ.onboard = [] := by
  refine ⟨List.eq_nil_iff_forall_not_mem.mpr fun d hd => ?_, hr.vehNone rfl,
    List.eq_nil_iff_forall_not_mem.mpr fun x hx => ?_⟩
  · have := (hr.seen.opened d (hr.openedK d hd)).mp hd
    rw [hav] at this; cases this
  · have := ((hr.seen.onboard x).mp hx).2.2.1
    rw [hav] at this; cases this

theorem allDone_fresh (p : Problem) (hK : 1 ≤ p.K) {σ : Sim} (ho : σ.opened = []) : allDone p σ = false := by
  rw [allDone, Bool.and_eq_false_iff, List.all_eq_false]
  exact Or.inl ⟨0, List.mem_range.mpr hK, by rw [ho]; simp⟩

/-- **The mask is `envAdmits`** in every state after the first step. -/
theorem mask_eq_admits (i : Inst) (hwf : WF i) {b : Bool} {s : State} {σ : Sim} (hi : Inv i s)
    (hr : Rel i b s σ) (a : Nat) (ha : a < i.N) : s.mask a = envAdmits (problemOf i) σ a := by
  have hk := hwf.kpos
  have hd0 := hi.dep0 (Or.inl rfl)
  have hx := hi.invX
  have hmk : s.mask = maskOf i b s.avail s.toDeliver s.carry s.depot s.done := by rw [hd0]; exact hr.mask
  have hs := hr.seen
  have hv : σ.veh.isNone = b := by
    cases b with
    | true => rw [hr.veh.1 rfl]; rfl
    | false => obtain ⟨d, hd⟩ := hr.veh.2 rfl; rw [hd]; rfl
  have h0open : 0 ∈ σ.opened := (hr.opened 0 hk).mpr hr.zero
  unfold envAdmits
  by_cases haK : a < i.K
  · rw [if_pos (show a < (problemOf i).K from haK)]
    by_cases ha0 : a = 0
    · -- node 0 is the current depot for ever, and it has been visited
      subst ha0
      have e1 : decide (0 ∉ σ.opened) = false := decide_eq_false (fun h => h h0open)
      rw [e1, show decide ((0 : Nat) = 0) = true from rfl, Bool.false_and, Bool.false_and, Bool.false_and,
        Bool.false_or, Bool.true_and, ← hd0]
      exact mask_cur hwf hx hmk hs hr.carry hv
    · have hne : σ.opened.isEmpty = false := by
        cases ho : σ.opened with
        | nil => rw [ho] at h0open; cases h0open
        | cons => rfl
      rw [decide_eq_false ha0, hne, Bool.false_and, Bool.or_false, Bool.not_false, Bool.true_or, Bool.and_true]
      exact mask_depot hx hmk hs hr.carry hv haK (by rw [hd0]; exact ha0)
  · rw [if_neg (show ¬ a < (problemOf i).K from haK)]
    by_cases hp : a < i.K + i.h
    · rw [if_pos (show a < (problemOf i).K + (problemOf i).h from hp), ← hd0]
      exact mask_pickup hwf hx hmk hs hr.carry hv (Nat.le_of_not_lt haK) hp
    · rw [if_neg (show ¬ a < (problemOf i).K + (problemOf i).h from hp)]
      exact mask_delivery hwf hx hmk hs hv (Nat.le_of_not_lt hp) ha

theorem maskT_eq_admits {i : Inst} (hwf : WF i) {b : Bool} {s : State} {σ : Sim}
    (hr : RelT false i b s σ) (a : Nat) (ha : a < i.N) : s.mask a = envAdmits (problemOf i) σ a := by
  rcases hr.inv.phase with ⟨hb, hmk, hav⟩ | hst
  · subst hb
    obtain ⟨ho, hv, hon⟩ := sim_fresh hr hav
    have hk : 1 ≤ (problemOf i).K := hwf.kpos
    rw [hmk]
    unfold envAdmits
    rw [allDone_fresh _ hk ho, ho, hv, hon]
    by_cases haK : a < (problemOf i).K
    · rw [if_pos haK]; show decide (a = 0) = _; simp
    · rw [if_neg haK]
      show decide (a = 0) = _
      rw [decide_eq_false (show ¬ a = 0 by omega)]; rfl
  · exact mask_eq_admits i hwf hr.inv.inv (hr.toRel hst) a ha

/-- **C05 (MDCPDP): the class of visit lists the mask admits, as an iff** (solo row, well-formed
instance, start_mode "order"). -/
theorem run_iff_admitsAll (i : Inst) (hwf : WF i) (as : List Nat) :
    (∃ s, Run env i (env.reset i) as s) ↔ admitsAll (problemOf i) {} as = true := by
  rw [env_eq, exists_run_iff_admitted]
  show admitted (envF false) i (reset i) as = true ↔ _
  rw [admitted_eq_allT hwf.toT (all := admitsAll (problemOf i)) (fun _ => rfl) (fun _ _ _ => rfl) (maskT_eq_admits hwf) as
    (relT_reset false i hwf)]

/-- … and a mask-confined run is finished iff every depot's vehicle was started and every customer served. -/
theorem finished_iff (i : Inst) (hwf : WF i) (as : List Nat) :
    (∃ s, Run env i (env.reset i) as s ∧ env.done i s = true) ↔
      (admitsAll (problemOf i) {} as = true ∧ as ≠ [] ∧ allDone (problemOf i) (simOf i v0 as) = true) := by
  have hdone : ∀ {s}, Run env i (env.reset i) as s → s.done = allDone (problemOf i) (simOf i v0 as) := by
    intro s hrun
    obtain ⟨b, hr, _⟩ := sim_refinesT hwf.toT (env_eq ▸ hrun)
    exact done_iff_allDone hwf hr.invX hr.seen
  constructor
  · rintro ⟨s, hrun, hd⟩
    refine ⟨(run_iff_admitsAll i hwf as).mp ⟨s, hrun⟩, fun he => ?_, by rw [← hdone hrun]; exact hd⟩
    subst he; cases hrun; cases hd
  · rintro ⟨hadm, _, hall⟩
    obtain ⟨s, hrun⟩ := (run_iff_admitsAll i hwf as).mpr hadm
    exact ⟨s, hrun, by show s.done = true; rw [hdone hrun]; exact hall⟩

/-- Non-vacuity: the two-tour episode of `cexMM` is admitted and finished; the feasible solution in which
the vehicle of depot 1 returns to depot 1 (`cexHome`) is not admitted. -/
example : admitsAll (problemOf cexMM) {} [0, 2, 4, 0, 1, 3, 5] = true ∧
    allDone (problemOf cexMM) (simOf cexMM v0 [0, 2, 4, 0, 1, 3, 5]) = true := by decide
example : admitsAll (problemOf cexHome) {} [0, 0, 1, 3, 4, 1, 2] = false := by decide

end Rl4co.Mdcpdp
