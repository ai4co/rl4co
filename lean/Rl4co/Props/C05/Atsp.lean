/-
C05 for ATSP: the mask hides nothing — every permutation of the nodes is a mask-confined episode that
the environment declares finished; together with C01 the set of complete mask-confined episodes IS
the set of feasible tours, so the best reward reachable through the mask is the optimum.
-/
import Rl4co.Props.C03.Atsp
import Rl4co.Proofs.TspfamOpt
import Rl4co.Props.C01.Atsp

namespace Rl4co.Atsp
open Rl4co.Tspfam

theorem run_of_feasible (i : Inst) (hpos : 0 < i.n) {as : List Nat} (hf : Spec.Atsp.Feasible i.n as) :
    ∃ s, Run env i (env.reset i) as s ∧ env.done i s = true :=
  availEnv.done_run_of_perm mask_eq_avail hpos
    (by rw [initial_eq]; exact (Spec.Tsp.feasible_iff_perm i.n as).mp hf)

theorem complete_run_iff_feasible (i : Inst) (hpos : 0 < i.n) (as : List Nat) :
    (∃ s, Run env i (env.reset i) as s ∧ env.done i s = true) ↔ Spec.Atsp.Feasible i.n as :=
  ⟨fun ⟨_, h, hd⟩ => feasible_of_run i h hd, run_of_feasible i hpos⟩

example : Spec.Atsp.Feasible 3 [2, 0, 1] := (Spec.Tsp.feasible_iff 3 [2, 0, 1]).mp (by decide)

theorem opt_reachable (i : Inst) (hpos : 0 < i.n) :
    ∃ as s, Run env i (env.reset i) as s ∧ env.done i s = true ∧
      (∀ bs, Spec.Atsp.Feasible i.n bs → Spec.Atsp.objective i.M as ≤ Spec.Atsp.objective i.M bs) ∧
      (∀ bs t, Run env i (env.reset i) bs t → env.done i t = true → reward i bs ≤ reward i as) := by
  obtain ⟨as, s, hrun, hd, h1, h2⟩ := availEnv.exists_best_feasible (Spec.Atsp.objective i.M) _
    (fun _ => run_of_feasible i hpos) ((Spec.Tsp.feasible_iff_perm i.n _).mpr (List.Perm.refl _))
  refine ⟨as, s, hrun, hd, h1, fun bs t hr hdt => ?_⟩
  rw [reward_eq_objective, reward_eq_objective]
  exact Int.neg_le_neg (h2 bs t hr hdt)

end Rl4co.Atsp
