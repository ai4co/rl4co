/-
C05 for MDCPDP with the INTENDED `current_depot` rule (`envFixed`): the mask is `envAdmitsX` on the state of the Spec's own
simulation, a visit list is a run iff every visit is admitted, and — the completeness statement — every feasible
solution in the canonical form `canonAll` that starts every depot's vehicle is a mask-confined finished run.
-/
import Rl4co.Props.C03.MdcpdpFixed
import Rl4co.Props.C05.Mdcpdp

namespace Rl4co.Mdcpdp.Fixed
open Rl4co.Mdcpdp Rl4co.Spec.Mdcpdp

/-- **The mask is `envAdmitsX`** in every state after the first step (intended rule). -/
theorem mask_eq_admitsX (i : Inst) (hwf : WFX i) {b : Bool} {s : State} {σ : Sim} (hi : InvX i s)
    (hr : RelX i b s σ) (a : Nat) (ha : a < i.N) : s.mask a = envAdmitsX (problemOf i) σ a := by
  have hs := hr.seen
  have hv : σ.veh.isNone = b := by
    cases b with
    | true => rw [hr.veh.1 rfl]; rfl
    | false => rw [hr.veh.2 rfl]; rfl
  have hdopen : s.depot ∈ σ.opened := (hr.opened s.depot hi.depK).mpr hr.zero
  unfold envAdmitsX
  by_cases haK : a < i.K
  · rw [if_pos (show a < (problemOf i).K from haK)]
    by_cases had : a = s.depot
    · -- the current depot has been visited: the way home of its own vehicle, or waiting there once all is done
      subst had
      have e1 : decide (s.depot ∉ σ.opened) = false := decide_eq_false (fun h => h hdopen)
      rw [mask_cur hwf.wf hi hr.mask hs hr.carry hv, e1, Bool.false_and, Bool.false_and, Bool.false_and, Bool.false_or]
      cases b with
      | false => rw [hr.veh.2 rfl]; simp
      | true =>
        have hp : σ.pos = s.depot := by rw [hr.pos, hr.homePos rfl]
        rw [hr.veh.1 rfl, hp]; simp
    · have hne : σ.opened.isEmpty = false := by
        cases ho : σ.opened with
        | nil => rw [ho] at hdopen; cases hdopen
        | cons => rfl
      -- neither its own vehicle's way home, nor the depot the last vehicle stands at
      have hva : (σ.veh == some a) = false := by
        cases b with
        | false => rw [hr.veh.2 rfl]; simpa using fun h => had h.symm
        | true => rw [hr.veh.1 rfl]; rfl
      have hwait : (σ.veh.isNone && decide (a = σ.pos)) = false := by
        cases b with
        | false => rw [hr.veh.2 rfl]; rfl
        | true => rw [hr.pos, hr.homePos rfl, decide_eq_false had, Bool.and_false]
      rw [hva, hwait, hne]
      simp only [Bool.false_and, Bool.and_false, Bool.or_false, Bool.not_false, Bool.true_or, Bool.and_true]
      exact mask_depot hi hr.mask hs hr.carry hv haK had
  · rw [if_neg (show ¬ a < (problemOf i).K from haK)]
    by_cases hp : a < i.K + i.h
    · rw [if_pos (show a < (problemOf i).K + (problemOf i).h from hp),
        mask_pickup hwf.wf hi hr.mask hs hr.carry hv (Nat.le_of_not_lt haK) hp]
      cases b with
      | true => rw [hr.veh.1 rfl]; rfl
      | false =>
        have hvc : vehCap (problemOf i) σ = i.cap s.depot := by unfold vehCap; rw [hr.veh.2 rfl]; rfl
        rw [hvc]
    · rw [if_neg (show ¬ a < (problemOf i).K + (problemOf i).h from hp)]
      exact mask_delivery hwf.wf hi hr.mask hs hv (Nat.le_of_not_lt hp) ha

theorem maskT_eq_admitsX {i : Inst} (hwf : WFX i) {b : Bool} {s : State} {σ : Sim}
    (hr : RelT true i b s σ) (a : Nat) (ha : a < i.N) : s.mask a = envAdmitsX (problemOf i) σ a := by
  rcases hr.inv.phase with ⟨hb, hmk, hav⟩ | hst
  · subst hb
    obtain ⟨ho, hv, hon⟩ := sim_fresh hr hav
    have hk : 1 ≤ (problemOf i).K := hwf.wf.kpos
    rw [hmk]
    unfold envAdmitsX
    rw [allDone_fresh _ hk ho, ho, hv, hon]
    show decide (a = 0) = _
    by_cases haK : a < (problemOf i).K
    · rw [if_pos haK]; simp
    · rw [if_neg haK, decide_eq_false (show ¬ a = 0 by omega)]; rfl
  · exact mask_eq_admitsX i hwf hr.invX (hr.toRelX hst) a ha

theorem run_iff_admitsAllX (i : Inst) (hwf : WFX i) (as : List Nat) :
    (∃ s, Run envFixed i (envFixed.reset i) as s) ↔ admitsAllX (problemOf i) {} as = true := by
  rw [exists_run_iff_admitted]
  show admitted (envF true) i (reset i) as = true ↔ _
  rw [admitted_eq_allT hwf.toT (all := admitsAllX (problemOf i)) (fun _ => rfl) (fun _ _ _ => rfl) (maskT_eq_admitsX hwf) as
    (relT_reset true i hwf.wf)]

/-- what `envAdmitsX` (Spec/MdcpdpAdmits.lean) prunes, on the state of the Spec simulation: the very first visit is depot 0; a vehicle returns only while
some depot's vehicle is still to start; nobody waits at a depot.

`canonAll` with the hypothesis `hstart` of `run_of_feasible` is stronger than the `Canonical` of the statement refuted for the
code as it is (`run_of_feasible_statement`): the first clause is `head? = some 0`, `hstart` is "every depot occurs", the
second clause is extra.  With `Canonical` alone the statement fails under the intended rule too: the Spec accepts waiting at a
depot and no mask offers it (`cexHome`, `[0,3,4,0,0,1,1,2,2]`).  It is also stricter than the mask in one place: the last
vehicle's return after everything is served is offered but not canonical. -/
def canonStep (p : Problem) (σ : Sim) (a : Nat) : Bool :=
  (!σ.opened.isEmpty || decide (a = 0)) &&
  (if a < p.K ∧ a ∈ σ.opened then σ.veh.isSome && depLeft p σ else true)

def canonAll (p : Problem) : Sim → List Nat → Bool
  | _, [] => true
  | σ, a :: as => canonStep p σ a && canonAll p (simStep p v1 σ a) as

/-- at a depot nothing is on board -/
def SimOk (σ : Sim) : Prop := σ.veh = none → σ.onboard = []

/-- a visit the Spec accepts and the pruning allows is offered by the mask -/
theorem admits_of_legal (p : Problem) (σ : Sim) (a : Nat) (hok : SimOk σ) (he : σ.err = 0)
    (he' : (simStep p v1 σ a).err = 0) (hc : canonStep p σ a = true) :
    a < p.N ∧ envAdmitsX p σ a = true ∧ SimOk (simStep p v1 σ a) := by
  simp only [canonStep, Bool.and_eq_true, Bool.or_eq_true, Bool.not_eq_true', decide_eq_true_eq] at hc
  obtain ⟨hc1, hc2⟩ := hc
  -- the simulation did not fail: every branch refuted below is the one on which the Spec sets the error code named in `hfail`
  have hfail : ∀ e, e ≠ 0 → simStep p v1 σ a ≠ σ.fail e := fun e hne h => fail_err σ e he hne (h ▸ he')
  by_cases hN : a ≥ p.N
  · exact absurd (by simp [simStep, he, hN]) (hfail 1 (by decide))
  have hN' : a < p.N := by omega
  refine ⟨hN', ?_⟩
  by_cases haK : a < p.K
  · by_cases hop : a ∈ σ.opened
    · -- a return
      have hc2' : σ.veh.isSome = true ∧ depLeft p σ = true := by simpa [haK, hop] using hc2
      cases hv : σ.veh with
      | none => rw [hv] at hc2'; cases hc2'.1
      | some d =>
        by_cases hon : σ.onboard = []
        · by_cases had : a = d
          · subst had
            rw [simStep_return v1 he hN' haK hop hv hon (fun _ => rfl)]
            exact ⟨by simp [envAdmitsX, haK, hv, hon, hc2'.2], fun _ => hon⟩
          · exact absurd (by simp [simStep, he, hN, haK, hop, hv, hon, v1, had]) (hfail 7 (by decide))
        · exact absurd (by simp [simStep, he, hN, haK, hop, hv, hon]) (hfail 6 (by decide))
    · -- a start
      cases hv : σ.veh with
      | some d => exact absurd (by simp [simStep, he, hN, haK, hop, hv]) (hfail 2 (by decide))
      | none =>
        have h1 : (!σ.opened.isEmpty || decide (a = 0)) = true := by rcases hc1 with h | h <;> simp [h]
        rw [simStep_start v1 he hN' haK hop hv]
        exact ⟨by simp [envAdmitsX, haK, hop, hv, hok hv, h1], fun h => nomatch h⟩
  · -- a customer
    cases hv : σ.veh with
    | none => exact absurd (by simp [simStep, he, hN, haK, hv]) (hfail 2 (by decide))
    | some d =>
      by_cases hs : a ∈ σ.served
      · exact absurd (by simp [simStep, he, hN, haK, hv, hs]) (hfail 3 (by decide))
      by_cases hp : a < p.K + p.h
      · by_cases hcap : (σ.onboard.length : Int) + 1 > p.cap d
        · exact absurd (by simp [simStep, he, hN, haK, hv, hs, hp, hcap, v1]) (hfail 4 (by decide))
        · have hcap' : (σ.onboard.length : Int) + 1 ≤ p.cap d := by omega
          rw [simStep_pickup v1 he (by omega) hp hv hs hcap']
          exact ⟨by simp [envAdmitsX, haK, hv, hs, hp, vehCap, hcap'], fun h => absurd (hv.symm.trans h) (fun h => nomatch h)⟩
      · by_cases hon : (a - p.h) ∈ σ.onboard
        · rw [simStep_deliver v1 he hN' (by omega) hv hs hon]
          exact ⟨by simp [envAdmitsX, haK, hv, hs, hp, hon], fun h => absurd (hv.symm.trans h) (fun h => nomatch h)⟩
        · exact absurd (by simp [simStep, he, hN, haK, hv, hs, hp, hon]) (hfail 5 (by decide))

theorem admitsAllX_of_legal (p : Problem) (as : List Nat) : ∀ σ : Sim, SimOk σ → σ.err = 0 →
    (as.foldl (simStep p v1) σ).err = 0 → canonAll p σ as = true → admitsAllX p σ as = true := by
  induction as with
  | nil => intro _ _ _ _ _; rfl
  | cons a as ih =>
    intro σ hok he hfin hcan
    simp only [canonAll, Bool.and_eq_true] at hcan
    simp only [List.foldl_cons] at hfin
    have he' : (simStep p v1 σ a).err = 0 := by
      apply Classical.byContradiction
      intro hne
      rw [fold_err_sticky p v1 as _ hne] at hfin
      exact hne hfin
    obtain ⟨h1, h2, h3⟩ := admits_of_legal p σ a hok he he' hcan.1
    simp only [admitsAllX, Bool.and_eq_true, decide_eq_true_eq]
    exact ⟨⟨h1, h2⟩, ih _ h3 he' hfin hcan.2⟩

/-- **C05 for the intended `current_depot` rule**: every feasible solution that passes `canonAll` and in which every
depot's vehicle is started is a mask-confined run that ends finished — for any number of depots and any per-depot
capacities (so a larger capacity than depot 0's can be used and the way home is the own depot). -/
theorem run_of_feasible (i : Inst) (hwf : WFX i) {as : List Nat} (hf : Feasible (problemOf i) as)
    (hcan : canonAll (problemOf i) {} as = true) (hne : as ≠ [])
    (hstart : (List.range i.K).all (fun d => decide (d ∈ (simOf i v1 as).opened)) = true) :
    ∃ s, Run envFixed i (envFixed.reset i) as s ∧ envFixed.done i s = true := by
  have e : as.foldl (simStep (problemOf i) {}) {} = simOf i v1 as := rfl
  rw [feasible_iff_err, e] at hf
  have hfold : (simOf i v1 as).err = 0 := by
    apply Classical.byContradiction
    intro hne'
    rw [simEnd_err _ _ hne'] at hf
    exact hne' hf
  have hadm := admitsAllX_of_legal (problemOf i) as {} (fun _ => rfl) rfl hfold hcan
  obtain ⟨s, hrun⟩ := (run_iff_admitsAllX i hwf as).mpr hadm
  obtain ⟨b, hr, _⟩ := sim_refinesT hwf.toT hrun
  refine ⟨s, hrun, ?_⟩
  show s.done = true
  rw [done_iff_allDone hwf.wf hr.invX hr.seen]
  -- every vehicle started (hypothesis) and every customer served (end-of-list check of the Spec)
  simp only [allDone, Bool.and_eq_true]
  exact ⟨hstart, ((simEnd_err_zero_iff _ {} hfold).mp hf).2⟩

/-- Non-vacuity, on the instance whose feasible solution the code as it is hides (`cexHome`, 3 depots): the solution in
which the vehicle of depot 1 returns to depot 1 is feasible, canonical, starts every vehicle — and is a finished run here. -/
example : Feasible (problemOf cexHome) [0, 0, 1, 3, 4, 1, 2] ∧ canonAll (problemOf cexHome) {} [0, 0, 1, 3, 4, 1, 2] = true ∧
    (List.range cexHome.K).all (fun d => decide (d ∈ (simOf cexHome v1 [0, 0, 1, 3, 4, 1, 2]).opened)) = true := by
  refine ⟨by unfold Feasible; decide, by decide, by decide⟩

end Rl4co.Mdcpdp.Fixed
