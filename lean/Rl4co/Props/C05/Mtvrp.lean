/-
C05 for the multi-task VRP environment: the mask hides no feasible solution.

On a well-formed metric instance EVERY canonical solution that is feasible by `Spec.Mtvrp.Feasible` — deadlines,
capacities (both demand kinds) and the distance limit may all be met with equality — is a mask-confined finished run;
one statement over the feature valuation (all 16 variants).  With C01 the mask-reachable complete solutions are exactly
the feasible ones modulo the documented pruning (`Canonical`: no depot→depot move), so the best reward reachable
through the mask is the optimum.  The boundary case matters: before commit 6a508fb of the repository under /repo the
mask compared deadlines with `<` and hid `arrival == deadline` (`dlInst`).
-/
import Rl4co.Proofs.MtvrpComplete
import Rl4co.Props.C01.Mtvrp
import Rl4co.Props.C03.Mtvrp

namespace Rl4co.Mtvrp
open Rl4co.Spec.Mtvrp

/-- **C05 (MTVRP).** Every canonical feasible solution is generated by a mask-confined finished run. -/
theorem run_of_feasible (i : Inst) (hwf : wf i = true) (hm : Metric i) (as : List Nat)
    (hf : Feasible i as) (hc : Canonical as) :
    ∃ s, Run env i (env.reset i) as s ∧ env.done i s = true :=
  routing.run_of_once (cont_step i hwf hm)
    hf.range hf.once hc.2 (fun _ => rfl) ⟨hc.1, routesOk_of_routeOk hwf rfl (fresh_reset i) hf.route⟩

/-- **Every feasible solution has a mask-reachable twin of the same cost**: its canonical form (empty routes dropped,
one depot visit after each route) is a mask-confined finished run with the same objective — whatever the solution
looks like (leading / repeated / missing depot visits).  `hn` only serves to have a non-empty route (that of
customer 1), so that the normal form contains the depot visit `Canonical` asks for. -/
theorem reach_same_objective (i : Inst) (hwf : wf i = true) (hm : Metric i) (hn : 0 < i.n) (bs : List Nat)
    (hf : Feasible i bs) :
    ∃ as s, Run env i (env.reset i) as s ∧ env.done i s = true ∧ Feasible i as ∧ objective i as = objective i bs := by
  obtain ⟨s, hrun, hd⟩ := run_of_feasible i hwf hm (normalize bs) (feasible_normalize hf) (canonical_normalize hn hf)
  exact ⟨normalize bs, s, hrun, hd, feasible_normalize hf, objective_normalize i bs⟩

/-- the reward of every finished mask-confined run is the cost of a feasible solution (C01 + C03), so
the set of rewards reachable through the mask is exactly `{ −objective bs | bs feasible }` -/
theorem reward_set_eq (i : Inst) (hwf : wf i = true) (hm : Metric i) (hn : 0 < i.n)
    (h00 : i.openR = true ∨ i.D 0 0 = 0) (v : Int) :
    (∃ as s, Run env i (env.reset i) as s ∧ env.done i s = true ∧ reward i as = v) ↔
    (∃ bs, Feasible i bs ∧ v = - objective i bs) := by
  constructor
  · rintro ⟨as, s, hrun, hd, hv⟩
    exact ⟨as, feasible_of_run i (excl_of_wf hwf) (wf_cap hwf) hrun hd, by rw [← hv, reward_eq_objective i h00]⟩
  · rintro ⟨bs, hf, hv⟩
    obtain ⟨as, s, hrun, hd, _, hobj⟩ := reach_same_objective i hwf hm hn bs hf
    exact ⟨as, s, hrun, hd, by rw [reward_eq_objective i h00, hobj, hv]⟩

/-- **C05, the optimum is reachable (and nothing better is)**: if `bs` is an optimal feasible solution (minimal
objective among ALL feasible solutions, canonical or not), then some mask-confined finished run attains exactly its
cost as reward, and no mask-confined finished run has a larger reward. -/
theorem opt_reachable (i : Inst) (hwf : wf i = true) (hm : Metric i) (hn : 0 < i.n)
    (h00 : i.openR = true ∨ i.D 0 0 = 0) (bs : List Nat) (hf : Feasible i bs)
    (hopt : ∀ cs, Feasible i cs → objective i bs ≤ objective i cs) :
    ∃ as s, Run env i (env.reset i) as s ∧ env.done i s = true ∧ reward i as = - objective i bs ∧
      ∀ cs s', Run env i (env.reset i) cs s' → env.done i s' = true → reward i cs ≤ reward i as := by
  obtain ⟨as, s, hrun, hd, hr⟩ := (reward_set_eq i hwf hm hn h00 _).2 ⟨bs, hf, rfl⟩
  refine ⟨as, s, hrun, hd, hr, fun cs s' hrun' hd' => ?_⟩
  obtain ⟨cs', hf', hv⟩ := (reward_set_eq i hwf hm hn h00 _).1 ⟨cs, s', hrun', hd', rfl⟩
  rw [hr, hv]
  exact Int.neg_le_neg (hopt cs' hf')

/-- arrival == deadline: two customers on a line (depot 0 — customer 1 at 256 —
customer 2 at 512), VRPTW, service time 64 at customer 1; coming from customer 1 the vehicle reaches customer 2
at time 256 + 64 + 256 = 576 = its deadline. -/
def dlInst : Inst :=
  { n := 2, cap := 4, dL := fun j => if j = 0 then 0 else 1, dB := fun _ => 0, openR := false, limit := none,
    early := fun _ => 0, late := fun j => some (if j = 0 then 2048 else if j = 1 then 1024 else 576),
    service := fun j => if j = 1 then 64 else 0,
    D := fun a b => 256 * ((a : Int) - b).natAbs, T := fun a b => 256 * ((a : Int) - b).natAbs }

/-- non-vacuity on the boundary: `dlInst` is well-formed, `[1, 2, 0]` is canonical and feasible with arrival ==
deadline, and it is a mask-confined finished run -/
example : wf dlInst = true ∧ Feasible dlInst [1, 2, 0] ∧ Canonical [1, 2, 0] :=
  ⟨by decide, (feasible_iff _ _).1 (by decide), by decide, by decide⟩
example : ∃ s, Run env dlInst (env.reset dlInst) [1, 2, 0] s ∧ env.done dlInst s = true :=
  ⟨_, .of_admitted (by decide), by decide⟩
example : Metric dlInst := by
  -- distances and travel times are the same function
  have tri : ∀ a b : Nat, (256 * ((a : Int) - (0 : Nat)).natAbs : Int) ≤
      256 * ((a : Int) - b).natAbs + 256 * ((b : Int) - (0 : Nat)).natAbs := fun a b => by
    have h : (a : Int) - (0 : Nat) = ((a : Int) - b) + ((b : Int) - (0 : Nat)) := by omega
    rw [← Int.mul_add, h]
    exact Int.mul_le_mul_of_nonneg_left (Int.ofNat_le.2 (Int.natAbs_add_le _ _)) (by decide)
  refine ⟨fun a b => ?_, tri, tri, fun a => ?_⟩
  · exact Int.mul_nonneg (by decide) (Int.natCast_nonneg _)
  · show (0 : Int) ≤ if a = 1 then 64 else 0
    split <;> decide

/-- non-vacuity: `exInst` is well-formed and metric, `[1, 2, 0]` is canonical and feasible -/
example : wf exInst = true ∧ Feasible exInst [1, 2, 0] ∧ Canonical [1, 2, 0] :=
  ⟨by decide, (feasible_iff _ _).1 (by decide), by decide, by decide⟩
example : Metric exInst := by
  have bound : ∀ a b : Nat, (0 : Int) ≤ (if a = b then 0 else 2) ∧ (if a = b then (0 : Int) else 2) ≤ 2 :=
    fun a b => by split <;> decide
  -- distances and travel times are the same function; a detour `a → b → 0` with `a ≠ b` costs at least 2
  have tri : ∀ a b : Nat, (if a = 0 then (0 : Int) else 2) ≤ (if a = b then 0 else 2) + (if b = 0 then 0 else 2) := by
    intro a b
    by_cases h : a = b
    · rw [h, if_pos rfl, Int.zero_add]; exact Int.le_refl _
    · rw [if_neg h]; exact Int.le_trans (bound a 0).2 (Int.le_add_of_nonneg_right (bound b 0).1)
  refine ⟨fun a b => (bound a b).1, tri, tri, fun a => ?_⟩
  show (0 : Int) ≤ if a = 0 then 0 else 1
  split <;> decide

end Rl4co.Mtvrp
