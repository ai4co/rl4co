/-
C05 for FJSP / JSSP — which schedules can the action space express, and is the optimum among them?

The full statement `opt_reachable_statement` ("for every valid schedule some mask-confined finished
episode is at least as good") is FALSE for `mask_no_ops = true`, the environments' default
(`optimum_hidden_when_waits_masked`, by exhausting the model's mask on a 2 jobs × 2 machines instance up
to the step bound of C02): with waiting masked the time only advances when nothing is schedulable, so
exactly the non-delay schedules are reachable, and the optimum need not be non-delay.  What holds: one
policy (dispatch on `σ`'s machine, in `σ`'s machine order, whatever the mask offers; otherwise wait), followed
to the end by `run_to_done`, rebuilds any valid schedule `σ` no later than `σ` (`Track`, `track_run`; used with
`ex := False` for `dominating_run` in `FjspOptimum.lean`); with the further guard "not before `σ` starts it"
(`ex := True`) it reproduces exactly every valid `σ` whose operations start at event times — for
`mask_no_ops = false` all of them (hence every semi-active one), for `mask_no_ops = true` the non-delay ones.
The converse (only event-aligned, resp. non-delay, schedules are reachable) is in `FjspClass.lean`.
-/
import Rl4co.Props.C02.Fjsp
import Rl4co.Proofs.RunCheck
import Rl4co.Props.C07.Fjsp

namespace Rl4co.Fjsp
open Rl4co.Spec.Fjsp (isReal opOf Sched ValidSchedule)

/-- a bound on the reward of every finished state, established by exploring the runs (`allDone`), holds for every
finished mask-confined run -/
theorem reward_le_of_allDone {i : Inst} {r : Int} {fuel : Nat}
    (h : allDone env i (fun s => decide (reward i s ≤ r)) fuel (env.reset i) = true) {as : List Nat} {s : State}
    (hrun : Run env i (env.reset i) as s) (hd : s.done = true) : reward i s ≤ r := by
  obtain ⟨as', h'⟩ := runND_of_done_run (e := env) (fun _ a hd => step_of_done hd a) hrun hd
  exact of_decide_eq_true (allDone_sound (e := env) (i := i) h h' hd)

/-- **C05, full strength**: for every well-formed instance, whatever valid schedule exists, some
mask-confined finished episode is at least as good — "the optimum stays reachable through the mask". -/
def opt_reachable_statement : Prop :=
  ∀ i : Inst, WF i → ∀ (σ : Sched) (mk : Int), ValidSchedule i σ mk →
    ∃ as s, Run env i (env.reset i) as s ∧ s.done = true ∧ - reward i s ≤ mk

/-- the instance on which delaying pays: job 0 = one long operation on machine 0; job 1 = short on
machine 1, short on machine 0, long on machine 1; `mask_no_ops = true` (the environments' default) -/
def exDelay : Inst :=
  { J := 2, M := 2, N := 4, startOp := fun j => if j = 0 then 0 else 1, endOp := fun j => if j = 0 then 0 else 3,
    proc := fun m o => if m = 0 then (if o = 0 then 10 else if o = 2 then 1 else 0)
                       else (if o = 1 then 1 else if o = 3 then 10 else 0),
    pad := fun _ => false, maskNoOps := true, jssp := false }

theorem exDelay_wf : WF exDelay := wf_of_wfB (by decide)

/-- the optimal schedule (makespan 12): machine 0 is kept idle during [0,1) -/
def exDelayOpt : Sched :=
  { start := fun o => if o = 0 then 2 else if o = 1 then 0 else if o = 2 then 1 else 2,
    finish := fun o => if o = 0 then 12 else if o = 1 then 1 else if o = 2 then 2 else 12,
    assign := fun m o => if m = 0 then (o == 0 || o == 2) else (o == 1 || o == 3) }

theorem exDelayOpt_valid : ValidSchedule exDelay exDelayOpt 12 :=
  (Spec.Fjsp.valid_iff _ _ _).mp (by decide)

theorem exDelay_best :
    allDone env exDelay (fun s => decide (reward exDelay s ≤ -21)) (2 * nReal exDelay) (env.reset exDelay) = true := by
  decide +kernel

/-- **C05 fails for `mask_no_ops = true`**: on `exDelay` a valid schedule of makespan 12 exists, but
every finished mask-confined episode has makespan ≥ 21. -/
theorem optimum_hidden_when_waits_masked : ¬ opt_reachable_statement := by
  intro h
  obtain ⟨as, s, hrun, hd, hle⟩ := h exDelay exDelay_wf exDelayOpt 12 exDelayOpt_valid
  have := reward_le_of_allDone exDelay_best hrun hd
  omega

/-- every real operation starts at time 0 or at the completion time of some real operation
(true of every semi-active schedule: there an operation starts when its job predecessor or its
machine predecessor completes, or at 0) -/
def EventAligned (i : Inst) (σ : Sched) : Prop :=
  ∀ o, o < i.N → isReal i o = true →
    σ.start o = 0 ∨ ∃ o', o' < i.N ∧ isReal i o' = true ∧ σ.finish o' = σ.start o

/-- Non-delay schedule: at no time `t ≥ 0` is a machine `m` idle while an operation that `m` could
process, and whose job predecessor has completed by `t`, starts only later. -/
def NonDelay (i : Inst) (σ : Sched) : Prop :=
  ∀ (t : Int) (m o : Nat), 0 ≤ t → m < i.M → o < i.N → isReal i o = true → 0 < i.proc m o →
    (∀ o', o' < i.N → isReal i o' = true → σ.assign m o' = true → ¬ (σ.start o' ≤ t ∧ t < σ.finish o')) →
    (∀ j, j < i.J → i.startOp j < o → o ≤ i.endOp j → σ.finish (o - 1) ≤ t) →
    σ.start o ≤ t

/-- two schedules agree on the real operations (and machines) of the instance -/
def SameOn (i : Inst) (σ σ' : Sched) : Prop :=
  ∀ o, o < i.N → isReal i o = true →
    σ.start o = σ'.start o ∧ σ.finish o = σ'.finish o ∧ ∀ m, m < i.M → σ.assign m o = σ'.assign m o

theorem SameOn.symm {i : Inst} {σ σ' : Sched} (h : SameOn i σ σ') : SameOn i σ' σ :=
  fun o ho hr => ⟨(h o ho hr).1.symm, (h o ho hr).2.1.symm, fun m hm => ((h o ho hr).2.2 m hm).symm⟩

theorem valid_congr {i : Inst} (hwf : WF i) {σ σ' : Sched} {mk : Int} (h : SameOn i σ σ')
    (hv : ValidSchedule i σ mk) : ValidSchedule i σ' mk := by
  refine ⟨?_, ?_, ?_, ?_, ?_⟩
  · intro o ho hr
    obtain ⟨e1, e2, e3⟩ := h o ho hr
    obtain ⟨hc, h0, hall⟩ := hv.once o ho hr
    refine ⟨?_, by rw [← e1]; exact h0, fun m hm ha => ?_⟩
    · rw [← hc]; exact cnt_congr (fun m hm => (e3 m hm).symm)
    · rw [← e3 m hm] at ha
      rw [← e1, ← e2]; exact hall m hm ha
  · intro j hj o ho h1 h2
    have hr := real_of_job hj h1 (Nat.le_of_lt h2)
    have hr' := real_of_job hj (Nat.le_succ_of_le h1) h2
    rw [← (h o ho hr).2.1, ← (h (o + 1) (hwf.real_lt hr') hr').1]
    exact hv.order j hj o ho h1 h2
  · intro m hm o1 ho1 o2 ho2 hr1 hr2 hne ha1 ha2
    obtain ⟨a1, a2, a3⟩ := h o1 ho1 hr1
    obtain ⟨b1, b2, b3⟩ := h o2 ho2 hr2
    rw [← a3 m hm] at ha1; rw [← b3 m hm] at ha2
    rw [← a1, ← a2, ← b1, ← b2]
    exact hv.machine m hm o1 ho1 o2 ho2 hr1 hr2 hne ha1 ha2
  · intro o ho hr; rw [← (h o ho hr).2.1]; exact hv.mkUpper o ho hr
  · obtain ⟨o, ho, hr, he⟩ := hv.mkAttained
    exact ⟨o, ho, hr, by rw [← (h o ho hr).2.1]; exact he⟩

/-- the invariant of the policy: the state has built a part of `σ`, nothing later than `σ` does; with `ex`, at `σ`'s
own times -/
structure Track (ex : Prop) (i : Inst) (σ : Sched) (s : State) : Prop where
  sch : ∀ o, o < i.N → isReal i o = true → s.sched o = true →
    (∀ m, m < i.M → s.assign m o = σ.assign m o) ∧ s.start o ≤ σ.start o ∧ s.finish o ≤ σ.finish o
  uns : ∀ o, o < i.N → isReal i o = true → s.sched o = false → s.time ≤ σ.start o
  pre : ∀ m, m < i.M → ∀ o1, o1 < i.N → isReal i o1 = true → ∀ o2, o2 < i.N → isReal i o2 = true →
    σ.assign m o1 = true → σ.assign m o2 = true → s.sched o2 = true → σ.start o1 < σ.start o2 → s.sched o1 = true
  exact : ex → ∀ o, o < i.N → isReal i o = true → s.sched o = true →
    σ.start o ≤ s.start o ∧ σ.finish o ≤ s.finish o

/-- the policy dispatches `next_op j` on `m` now -/
structure Disp (ex : Prop) (i : Inst) (σ : Sched) (s : State) (j m : Nat) : Prop where
  sel : Selectable i s j m
  onM : σ.assign m (s.nextOp j) = true
  ord : ∀ o1, o1 < i.N → isReal i o1 = true → σ.assign m o1 = true → σ.start o1 < σ.start (s.nextOp j) →
    s.sched o1 = true
  now : ex → σ.start (s.nextOp j) ≤ s.time

section
variable {ex : Prop} {i : Inst} {σ : Sched} {mk : Int} {s : State}

theorem track_reset (hv : ValidSchedule i σ mk) : Track ex i σ (reset i) :=
  ⟨fun _ _ _ h => absurd h Bool.false_ne_true, fun o ho hr _ => (hv.once o ho hr).2.1,
    fun _ _ _ _ _ _ _ _ _ _ h => absurd h Bool.false_ne_true, fun _ _ _ _ h => absurd h Bool.false_ne_true⟩

theorem track_makeStepAt (hwf : WF i) (hv : ValidSchedule i σ mk) (hinv : Inv i s) (htr : Track ex i σ s)
    {j m : Nat} (hd : Disp ex i σ s j m) : Track ex i σ (makeStepAt s j (s.nextOp j) m) := by
  have hsel := hd.sel
  obtain ⟨hns, hpe, hpos, hoN⟩ := sel_facts hwf hinv hsel
  have hreal := hinv.real_next hsel.hj
  obtain ⟨m0, hm0, ha0, hu0, hp0, hf0, _⟩ := hv.machine_of hoN hreal
  have hmm : m = m0 := hu0 m hsel.hm hd.onM
  subst hmm
  have hst := htr.uns _ hoN hreal hns
  obtain ⟨n1, n2, n3, n4, n5, _⟩ := makeStepAt_self s j (s.nextOp j) m
  rw [hpe] at n3
  have hback : ∀ o, o ≠ s.nextOp j → (makeStepAt s j (s.nextOp j) m).sched o = true → s.sched o = true :=
    fun o heq hso => (makeStepAt_other s j _ m heq).1 ▸ hso
  refine ⟨fun o ho hro hso => ?_, fun o ho hro hso => ?_,
    fun m' hm' o1 ho1 hr1 o2 ho2 hr2 ha1 ha2 hs2 hlt => ?_, fun hex o ho hro hso => ?_⟩
  · by_cases heq : o = s.nextOp j
    · subst heq
      refine ⟨fun m' hm' => ?_, n2 ▸ hst, by rw [n3, hf0]; exact Int.add_le_add_right hst _⟩
      by_cases hmm : m' = m
      · subst hmm; rw [n4, ha0]
      · rw [n5 m' hmm, hinv.unasg _ hns m']
        cases hσ : σ.assign m' (s.nextOp j) with
        | false => rfl
        | true => exact absurd (hu0 m' hm' hσ) hmm
    · obtain ⟨_, e2, e3, e4, _⟩ := makeStepAt_other s j _ m heq
      have h' := htr.sch o ho hro (hback o heq hso)
      exact ⟨fun m' hm' => (e4 m').trans (h'.1 m' hm'), e2 ▸ h'.2.1, e3 ▸ h'.2.2⟩
  · have heq : o ≠ s.nextOp j := fun e => by rw [e, n1] at hso; cases hso
    exact htr.uns o ho hro ((makeStepAt_other s j _ m heq).1 ▸ hso)
  · have hs1 : s.sched o1 = true := by
      by_cases heq : o2 = s.nextOp j
      · subst heq
        have : m' = m := hu0 m' hm' ha2
        subst this
        exact hd.ord o1 ho1 hr1 ha1 hlt
      · exact htr.pre m' hm' o1 ho1 hr1 o2 ho2 hr2 ha1 ha2 (hback o2 heq hs2) hlt
    by_cases h1 : o1 = s.nextOp j
    · rw [h1]; exact n1
    · rw [(makeStepAt_other s j _ m h1).1]; exact hs1
  · by_cases heq : o = s.nextOp j
    · subst heq
      rw [n2, n3, hf0]
      exact ⟨hd.now hex, Int.add_le_add_right (hd.now hex) _⟩
    · obtain ⟨_, e2, e3, _, _⟩ := makeStepAt_other s j _ m heq
      rw [e2, e3]; exact htr.exact hex o ho hro (hback o heq hso)

/-- If the policy dispatches nothing and no scheduled operation completes strictly between now and `bound`,
no unscheduled operation starts (in `σ`) before `bound`: the one that `σ` starts first would have its job
predecessor complete and `σ`'s machine for it idle — and in exact mode it would start now, at 0 or at the
completion time of an operation that `σ` starts earlier — so the policy would dispatch it. -/
theorem no_start_before (hwf : WF i) (hv : ValidSchedule i σ mk) (hea : ex → EventAligned i σ) (hinv : Inv i s)
    (htr : Track ex i σ s) (hno : ∀ j m, ¬ Disp ex i σ s j m) (bound : Int)
    (hquiet : ∀ o', s.sched o' = true → s.finish o' ≤ s.time ∨ bound ≤ s.finish o')
    {o : Nat} (ho : o < i.N) (hr : isReal i o = true) (hs : s.sched o = false) : bound ≤ σ.start o := by
  -- a scheduled operation that `σ` completes before `bound` is complete
  have hdone : ∀ o', o' < i.N → isReal i o' = true → s.sched o' = true → σ.finish o' < bound →
      s.finish o' ≤ s.time := fun o' ho' hr' hs' hlt => by
    rcases hquiet o' hs' with h | h
    · exact h
    · exact absurd (Int.lt_of_le_of_lt (Int.le_trans h (htr.sch o' ho' hr' hs').2.2) hlt) (Int.lt_irrefl _)
  have key : ∀ (n : Nat) (o : Nat), o < i.N → isReal i o = true → s.sched o = false → σ.start o < n →
      bound ≤ σ.start o := by
    intro n
    induction n with
    | zero =>
      intro o ho hr _ hlt
      exact absurd (Int.lt_of_le_of_lt (hv.once o ho hr).2.1 hlt) (Int.lt_irrefl 0)
    | succ n ih =>
      intro o ho hr hs hlt
      apply Classical.byContradiction
      intro hb
      have hb' := Int.not_le.mp hb
      have hearlier : ∀ o1, o1 < i.N → isReal i o1 = true → σ.start o1 < σ.start o → s.sched o1 = true :=
        fun o1 ho1 hr1 hlt1 => by
          cases hs1 : s.sched o1 with
          | true => rfl
          | false =>
            have := ih o1 ho1 hr1 hs1 (Int.lt_of_lt_of_le hlt1 (Int.lt_add_one_iff.mp hlt))
            exact absurd (Int.lt_of_le_of_lt this (Int.lt_trans hlt1 hb')) (Int.lt_irrefl _)
      obtain ⟨j, hj, h1, h2⟩ := job_of_real hr
      obtain ⟨m, hm, hσm, _, hpm, _, _⟩ := hv.machine_of ho hr
      have hnext := hinv.next_of_pred_finished hj h1 h2 hs (fun p hp hp1 => by
        subst hp
        have hpN : p < i.N := Nat.lt_of_succ_lt ho
        have hrp := real_of_job hj hp1 (Nat.le_of_succ_le h2)
        have hord := hv.order j hj p hpN hp1 h2
        have hsp := hearlier p hpN hrp (Int.lt_of_lt_of_le (hv.start_lt_finish hpN hrp) hord)
        exact ⟨hsp, hdone p hpN hrp hsp (Int.lt_of_le_of_lt hord hb')⟩)
      subst hnext
      have hbusy : s.busy m ≤ s.time := hinv.idle_of_finished fun o2 hs2 ha2 => by
        obtain ⟨ho2, hr2⟩ := hinv.real_of_sched hwf hs2
        have hσ2 : σ.assign m o2 = true := (htr.sch o2 ho2 hr2 hs2).1 m hm ▸ ha2
        have hne : o2 ≠ s.nextOp j := fun h => by rw [h, hs] at hs2; cases hs2
        rcases hv.machine m hm o2 ho2 _ ho hr2 hr hne hσ2 hσm with h | h
        · exact hdone o2 ho2 hr2 hs2 (Int.lt_of_le_of_lt h hb')
        · have := htr.pre m hm _ ho hr o2 ho2 hr2 hσm hσ2 hs2
            (Int.lt_of_lt_of_le (hv.start_lt_finish ho hr) h)
          rw [hs] at this; cases this
      refine hno j m ⟨hinv.sel_of_next hj hm hs hbusy hpm, hσm, fun o1 ho1 hr1 _ hlt1 => hearlier o1 ho1 hr1 hlt1,
        fun hex => ?_⟩
      rcases hea hex _ ho hr with h0 | ⟨o', ho', hr', hf'⟩
      · rw [h0]; exact hinv.time0
      · have hs' := hearlier o' ho' hr' (hf' ▸ hv.start_lt_finish ho' hr')
        rw [← hf']
        exact Int.le_trans (htr.exact hex o' ho' hr' hs').2 (hdone o' ho' hr' hs' (hf' ▸ hb'))
  exact key ((σ.start o).toNat + 1) o ho hr hs (Int.lt_add_one_of_le (Int.self_le_toNat _))

theorem track_transit (hwf : WF i) (hv : ValidSchedule i σ mk) (hea : ex → EventAligned i σ) (hinv : Inv i s)
    (htr : Track ex i σ s) (hno : ∀ j m, ¬ Disp ex i σ s j m) {t' : Int}
    (ht' : nextTime i.M s.busy s.time = some t') : Track ex i σ (transit i s) := by
  -- only the clock moves in what `Track` reads
  rw [transit, advance_some ht']
  refine ⟨htr.sch, fun o ho hr hs => ?_, htr.pre, htr.exact⟩
  refine no_start_before hwf hv hea hinv htr hno t' (fun o' hs' => ?_) ho hr hs
  rcases Int.lt_or_le s.time (s.finish o') with h | h
  · exact Or.inr (next_le_finish_of_running hinv ht' hs' h)
  · exact Or.inl h

/-- the time-advance loop runs only while nothing at all is schedulable -/
theorem track_autoTransit (hwf : WF i) (hv : ValidSchedule i σ mk) (hea : ex → EventAligned i σ)
    (hinv : Inv i s) (htr : Track ex i σ s) : Track ex i σ (autoTransit i (fuel i) s) :=
  autoTransit_preserves hwf (fun _ _ hinv hsc ht' htr =>
    track_transit hwf hv hea hinv htr (fun _ _ hd => not_sel_of_stuck hsc hd.sel) ht') hinv htr

/-- a non-delay `σ` that is being reproduced exactly starts something now whenever the environment can: the next
operation of the selected job on the selected (idle) machine would otherwise be kept waiting -/
theorem starts_now_of_nonDelay (hwf : WF i) (hnd : NonDelay i σ) (hinv : Inv i s) (hex : ex)
    (htr : Track ex i σ s) {j m : Nat} (hsel : Selectable i s j m) :
    ∃ o, o < i.N ∧ isReal i o = true ∧ s.sched o = false ∧ σ.start o = s.time := by
  apply Classical.byContradiction
  intro hnone
  obtain ⟨hns, _, hpos, hoN⟩ := sel_facts hwf hinv hsel
  have hreal := hinv.real_next hsel.hj
  have hge := htr.uns _ hoN hreal hns
  have hle := hnd s.time m (s.nextOp j) hinv.time0 hsel.hm hoN hreal hpos ?_ ?_
  · exact hnone ⟨_, hoN, hreal, hns, Int.le_antisymm hle hge⟩
  · -- machine `m` is idle at `time` in `σ`
    intro o' ho' hr' hσ' hcon
    cases hs' : s.sched o' with
    | true =>
      have hb := hinv.finish_le_busy ((htr.sch o' ho' hr' hs').1 m hsel.hm ▸ hσ')
      exact absurd (Int.le_trans (htr.exact hex o' ho' hr' hs').2 (Int.le_trans hb hsel.idle)) (Int.not_le.mpr hcon.2)
    | false =>
      have h1 := htr.uns o' ho' hr' hs'
      exact hnone ⟨o', ho', hr', hs', Int.le_antisymm hcon.1 h1⟩
  · -- the job predecessor of `next_op j` has completed
    intro j' hj' h1 h2'
    have hr := hinv.nextRng j hsel.hj
    have hjj : j' = j := job_unique hwf hj' hsel.hj (Nat.le_of_lt h1) h2' hr.1 hr.2
    subst hjj
    have hlt : s.nextOp j' - 1 < s.nextOp j' := Nat.sub_one_lt (Nat.ne_of_gt (Nat.lt_of_le_of_lt (Nat.zero_le _) h1))
    have hp1 : i.startOp j' ≤ s.nextOp j' - 1 := Nat.le_sub_one_of_lt h1
    have hsp := hinv.sched_of_lt hj' hp1 hlt
    obtain ⟨hpN, hrp⟩ := hinv.real_of_sched hwf hsp
    exact Int.le_trans (htr.exact hex _ hpN hrp hsp).2
      (hinv.finished j' hj' _ hp1 (Nat.le_trans (Nat.le_of_lt hlt) h2') hsp (Or.inl hlt))

/-- **The policy that rebuilds `σ`**: dispatch whatever `σ`'s machine order allows (exact mode: and `σ` starts
now), otherwise wait — which is open while a job is in process, and with waiting masked is never needed by a
non-delay `σ`. -/
theorem track_step (hwf : WF i) (hv : ValidSchedule i σ mk) (hea : ex → EventAligned i σ)
    (hcls : i.maskNoOps = true → ex ∧ NonDelay i σ) (h2 : Inv2 i s) (htr : Track ex i σ s) (hd : s.done = false) :
    ∃ a, a < nAct i ∧ mask i s a = true ∧ Track ex i σ (step i s a) := by
  have hinv := h2.1
  by_cases hdisp : ∃ j m, Disp ex i σ s j m
  · obtain ⟨j, m, hdp⟩ := hdisp
    have hsel := hdp.sel
    refine ⟨actOf i j m, actOf_lt hsel.hj hsel.hm, mask_actOf hsel, ?_⟩
    rw [step_actOf hwf hinv hd hsel]
    exact track_autoTransit hwf hv hea (inv_makeStepAt hwf hinv hsel) (track_makeStepAt hwf hv hinv htr hdp)
  · have hno : ∀ j m, ¬ Disp ex i σ s j m := fun j m h => hdisp ⟨j, m, h⟩
    cases hmno : i.maskNoOps with
    | false =>
      -- some job is in process: otherwise the next operation of an unfinished job could never start
      obtain ⟨jp, hjp, hipp⟩ : ∃ j, j < i.J ∧ s.inProc j = true := by
        apply Classical.byContradiction
        intro hcon
        have hnone : ∀ j, j < i.J → s.inProc j = false := fun j hj => by
          cases h : s.inProc j with
          | false => rfl
          | true => exact absurd ⟨j, hj, h⟩ hcon
        obtain ⟨j, hj, hjd⟩ := hinv.exists_not_jobDone hd
        have := no_start_before hwf hv hea hinv htr hno (σ.start (s.nextOp j) + 1)
          (fun o' hs' => by
            obtain ⟨j', hj', h1', h2'⟩ := hinv.schedReal o' hs'
            exact Or.inl (hinv.finished j' hj' o' h1' h2' hs' (Or.inr (hnone j' hj'))))
          (hinv.next_lt_N hwf hj) (hinv.real_next hj) ((hinv.unsched_next_iff hj).mpr ⟨hnone j hj, hjd⟩)
        omega
      have hm0 := mask_wait hmno hd hjp hipp
      obtain ⟨_, t', ht'⟩ := wait_busy hinv hd hm0
      refine ⟨0, nAct_pos i, hm0, ?_⟩
      rw [step_wait hd]
      exact track_autoTransit hwf hv hea (inv_transit hinv ht') (track_transit hwf hv hea hinv htr hno ht')
    | true =>
      -- the state is at rest and waiting is masked, so some pair can be dispatched: `σ` starts something now
      obtain ⟨a, ha, hma⟩ := exists_act_of_rest h2.2 hd
      have ha0 : a ≠ 0 := fun h0 =>
        absurd ((mask_wait_iff hd).mp (h0 ▸ hma)).1 (by rw [hmno]; exact Bool.noConfusion)
      obtain ⟨j, m, hsel, _⟩ := sel_of_mask ha0 ha hma
      obtain ⟨hex, hnd⟩ := hcls hmno
      obtain ⟨o, ho, hr, hs, hst⟩ := starts_now_of_nonDelay hwf hnd hinv hex htr hsel
      have := no_start_before hwf hv hea hinv htr hno (s.time + 1) (fun o' _ => by omega) ho hr hs
      omega

theorem track_run (hwf : WF i) (hv : ValidSchedule i σ mk) (hea : ex → EventAligned i σ)
    (hcls : i.maskNoOps = true → ex ∧ NonDelay i σ) :
    ∃ as s, Run env i (env.reset i) as s ∧ s.done = true ∧
      ∀ o, o < i.N → isReal i o = true →
        ((∀ m, m < i.M → s.assign m o = σ.assign m o) ∧ s.start o ≤ σ.start o ∧ s.finish o ≤ σ.finish o) ∧
        (ex → σ.start o ≤ s.start o ∧ σ.finish o ≤ s.finish o) := by
  obtain ⟨as, s, hrun, hd, hinv, htr⟩ := run_to_done hwf (Q := Track ex i σ)
    (fun _ h2 htr hd => track_step hwf hv hea hcls h2 htr hd) (inv2_reset hwf) (track_reset hv)
  refine ⟨as, s, hrun, hd, fun o ho hr => ?_⟩
  obtain ⟨j, hj, h1, h2⟩ := job_of_real hr
  have hs := all_sched_of_done hinv hd j hj o h1 h2
  exact ⟨htr.sch o ho hr hs, fun hex => htr.exact hex o ho hr hs⟩

/-- **C05 (FJSP/JSSP), both settings of `mask_no_ops`**: a valid schedule whose operations start at
event times — and which is non-delay if waiting is masked — is reproduced EXACTLY (same machines, same
start and completion times) by a mask-confined finished episode, whose reward is minus its makespan. -/
theorem schedule_reproduced (hwf : WF i) (hv : ValidSchedule i σ mk) (hea : EventAligned i σ)
    (hcls : i.maskNoOps = true → NonDelay i σ) :
    ∃ as s, Run env i (env.reset i) as s ∧ s.done = true ∧ SameOn i (schedOf s) σ ∧ - reward i s = mk := by
  obtain ⟨as, s, hrun, hd, h⟩ := track_run (ex := True) hwf hv (fun _ => hea) (fun h => ⟨trivial, hcls h⟩)
  have hsame : SameOn i (schedOf s) σ := fun o ho hr =>
    have ⟨⟨ha, h1, h2⟩, h3⟩ := h o ho hr
    ⟨Int.le_antisymm h1 (h3 trivial).1, Int.le_antisymm h2 (h3 trivial).2, ha⟩
  refine ⟨as, s, hrun, hd, hsame, ?_⟩
  exact (valid_congr hwf hsame (schedule_valid i hwf as s hrun hd)).mk_unique hv

end

/-- **C05 (FJSP/JSSP, `mask_no_ops = false`)**: the mask hides no valid schedule whose operations start at
event times (in particular no semi-active one, among which an optimal one is found). -/
theorem schedule_reachable (i : Inst) (hwf : WF i) (hmno : i.maskNoOps = false) (σ : Sched) (mk : Int)
    (hv : ValidSchedule i σ mk) (hea : EventAligned i σ) :
    ∃ as s, Run env i (env.reset i) as s ∧ s.done = true ∧ SameOn i (schedOf s) σ ∧ - reward i s = mk :=
  schedule_reproduced hwf hv hea (fun h => by rw [hmno] at h; cases h)

/-- **a provable part of `opt_reachable_statement`**: with waiting allowed, the best reward through the mask is
at least as good as any event-aligned (semi-active) valid schedule (`dominating_run` in `FjspOptimum.lean` drops
the alignment hypothesis). -/
theorem opt_reachable_partial (i : Inst) (hwf : WF i) (hmno : i.maskNoOps = false) (σ : Sched) (mk : Int)
    (hv : ValidSchedule i σ mk) (hea : EventAligned i σ) :
    ∃ as s, Run env i (env.reset i) as s ∧ s.done = true ∧ - reward i s ≤ mk := by
  obtain ⟨as, s, hrun, hd, _, he⟩ := schedule_reachable i hwf hmno σ mk hv hea
  exact ⟨as, s, hrun, hd, Int.le_of_eq he⟩

/-- **C05 (FJSP/JSSP, `mask_no_ops = true`)**: every valid NON-DELAY schedule (operations starting at
event times) is reproduced exactly by a mask-confined finished episode.  Together with the converse
`reachable_nondelay` (`FjspClass.lean`; the harness compares the reachable schedules of the real env with the
non-delay ones exhaustively) this pins down the class of schedules the default action space expresses. -/
theorem nondelay_schedule_reachable (i : Inst) (hwf : WF i) (_ : i.maskNoOps = true) (σ : Sched) (mk : Int)
    (hv : ValidSchedule i σ mk) (hea : EventAligned i σ) (hnd : NonDelay i σ) :
    ∃ as s, Run env i (env.reset i) as s ∧ s.done = true ∧ SameOn i (schedOf s) σ ∧ - reward i s = mk :=
  schedule_reproduced hwf hv hea (fun _ => hnd)

theorem wf_setMaskNoOps {i : Inst} (h : WF i) (b : Bool) : WF { i with maskNoOps := b } :=
  ⟨h.jpos, h.rng, h.disj, h.procNN, h.elig, h.uniq, h.padIff⟩

theorem exDelayOpt_eventAligned : EventAligned { exDelay with maskNoOps := false } exDelayOpt := by
  intro o ho _
  have : o = 0 ∨ o = 1 ∨ o = 2 ∨ o = 3 := by simp only [exDelay] at ho; omega
  rcases this with h | h | h | h <;> subst h
  · exact Or.inr ⟨2, by decide, by decide, by decide⟩
  · exact Or.inl (by decide)
  · exact Or.inr ⟨1, by decide, by decide, by decide⟩
  · exact Or.inr ⟨2, by decide, by decide, by decide⟩

example : ∃ as s, Run env { exDelay with maskNoOps := false } (env.reset { exDelay with maskNoOps := false }) as s ∧
    s.done = true ∧ - reward { exDelay with maskNoOps := false } s = 12 := by
  obtain ⟨as, s, h1, h2, _, h4⟩ := schedule_reachable { exDelay with maskNoOps := false }
    (wf_setMaskNoOps exDelay_wf false) rfl exDelayOpt 12
    ((Spec.Fjsp.valid_iff _ _ _).mp (by decide)) exDelayOpt_eventAligned
  exact ⟨as, s, h1, h2, h4⟩

/-- … and concretely (wait = 0) -/
example :
    let i : Inst := { exDelay with maskNoOps := false }
    admitted env i (env.reset i) [4, 0, 3, 0, 1, 4, 0] = true ∧
    reward i (exec env i (env.reset i) [4, 0, 3, 0, 1, 4, 0]) = -12 := by decide +kernel

/-- non-vacuity of `nondelay_schedule_reachable`: two single-operation jobs on their own machines,
both started at time 0 (a valid, event-aligned, non-delay schedule) -/
def exTwo : Inst :=
  { J := 2, M := 2, N := 2, startOp := fun j => j, endOp := fun j => j,
    proc := fun m o => if m = o then 3 else 0, pad := fun _ => false, maskNoOps := true, jssp := false }

theorem exTwo_wf : WF exTwo := wf_of_wfB (by decide)

example : ∃ as s, Run env exTwo (env.reset exTwo) as s ∧ s.done = true ∧ - reward exTwo s = 3 := by
  let σ : Sched := ⟨fun _ => 0, fun _ => 3, fun m o => m == o⟩
  have hv : ValidSchedule exTwo σ 3 := (Spec.Fjsp.valid_iff _ _ _).mp (by decide)
  have hea : EventAligned exTwo σ := fun o _ _ => Or.inl rfl
  have hnd : NonDelay exTwo σ := fun t m o ht _ _ _ _ _ _ => ht
  obtain ⟨as, s, h1, h2, _, h4⟩ := nondelay_schedule_reachable exTwo exTwo_wf rfl σ 3 hv hea hnd
  exact ⟨as, s, h1, h2, h4⟩

end Rl4co.Fjsp

namespace Rl4co.Jssp
open Rl4co.Fjsp

theorem schedule_reachable (i : Inst) (_ : i.jssp = true) (hwf : WF i) (hmno : i.maskNoOps = false)
    (σ : Spec.Fjsp.Sched) (mk : Int) (hv : Spec.Fjsp.ValidSchedule i σ mk) (hea : EventAligned i σ) :
    ∃ as s, Run env i (env.reset i) as s ∧ s.done = true ∧
      (∀ o, o < i.N → Spec.Fjsp.isReal i o = true →
        s.start o = σ.start o ∧ s.finish o = σ.finish o ∧ ∀ m, m < i.M → s.assign m o = σ.assign m o) ∧
      - reward i s = mk := Fjsp.schedule_reachable i hwf hmno σ mk hv hea

theorem nondelay_schedule_reachable (i : Inst) (_ : i.jssp = true) (hwf : WF i) (hmno : i.maskNoOps = true)
    (σ : Spec.Fjsp.Sched) (mk : Int) (hv : Spec.Fjsp.ValidSchedule i σ mk) (hea : EventAligned i σ)
    (hnd : NonDelay i σ) :
    ∃ as s, Run env i (env.reset i) as s ∧ s.done = true ∧
      (∀ o, o < i.N → Spec.Fjsp.isReal i o = true →
        s.start o = σ.start o ∧ s.finish o = σ.finish o ∧ ∀ m, m < i.M → s.assign m o = σ.assign m o) ∧
      - reward i s = mk := Fjsp.nondelay_schedule_reachable i hwf hmno σ mk hv hea hnd

/-- the same counterexample in the JSSP action space (every operation of `exDelay` has one machine) -/
theorem optimum_hidden_when_waits_masked :
    ¬ (∀ i : Inst, i.jssp = true → WF i → ∀ (σ : Spec.Fjsp.Sched) (mk : Int), Spec.Fjsp.ValidSchedule i σ mk →
        ∃ as s, Run env i (env.reset i) as s ∧ s.done = true ∧ - reward i s ≤ mk) := by
  intro h
  have hwf : WF { exDelay with jssp := true } := wf_of_wfB (by decide)
  obtain ⟨as, s, hrun, hd, hle⟩ := h { exDelay with jssp := true } rfl hwf exDelayOpt 12
    ((Spec.Fjsp.valid_iff _ _ _).mp (by decide))
  have hb : allDone env { exDelay with jssp := true } (fun s => decide (reward { exDelay with jssp := true } s ≤ -21))
      (2 * nReal { exDelay with jssp := true }) (env.reset { exDelay with jssp := true }) = true := by decide +kernel
  have := reward_le_of_allDone hb hrun hd
  omega

end Rl4co.Jssp
