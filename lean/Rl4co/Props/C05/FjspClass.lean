/-
C05 for FJSP / JSSP: the converse direction (every reachable schedule starts its operations at 0 or
at completion times; with `mask_no_ops = true` it is non-delay) and the resulting characterisation:
      reachable ⇔ valid ∧ event-aligned            (`mask_no_ops = false`)
      reachable ⇔ valid ∧ event-aligned ∧ non-delay (`mask_no_ops = true`)
-/
import Rl4co.Props.C05.Fjsp

namespace Rl4co.Fjsp
open Rl4co.Spec.Fjsp (isReal opOf Sched ValidSchedule)

/-- `t` is an event time of the state: 0 or the completion time of a scheduled operation -/
def IsEvent (s : State) (t : Int) : Prop := t = 0 ∨ ∃ o, s.sched o = true ∧ s.finish o = t

theorem IsEvent.makeStepAt {s : State} {t : Int} {j o m : Nat} (hns : s.sched o = false)
    (h : IsEvent s t) : IsEvent (makeStepAt s j o m) t := by
  rcases h with h | ⟨o', hs', hf'⟩
  · exact Or.inl h
  · have hne : o' ≠ o := fun e => by rw [e, hns] at hs'; cases hs'
    obtain ⟨e1, _, e3, _⟩ := makeStepAt_other s j o m hne
    exact Or.inr ⟨o', e1.trans hs', e3.trans hf'⟩

/-- every reachable state: the clock and every start time is an event time -/
def EAState (s : State) : Prop := IsEvent s s.time ∧ ∀ o, s.sched o = true → IsEvent s (s.start o)

theorem eaState_of_reach {i : Inst} (hwf : WF i) : ∀ s, Reach env i s → EAState s := by
  apply reach_induct hwf EAState
  · exact ⟨Or.inl rfl, fun o h => absurd h Bool.false_ne_true⟩
  · intro s j m hinv ⟨h1, h2⟩ _ hsel
    obtain ⟨hns, _, _, _⟩ := sel_facts hwf hinv hsel
    refine ⟨h1.makeStepAt hns, fun o hs => ?_⟩
    by_cases ho : o = s.nextOp j
    · -- the new operation starts now
      rw [ho, (makeStepAt_self s j _ m).2.1]; exact h1.makeStepAt hns
    · obtain ⟨e1, e2, _⟩ := makeStepAt_other s j _ m ho
      rw [e2]; exact (h2 o (e1 ▸ hs)).makeStepAt hns
  · intro s t' hinv ⟨_, h2⟩ _ ht' _
    -- the schedule is untouched; the clock stops at the completion time of the operation that kept a machine busy
    rw [transit, advance_some ht']
    refine ⟨?_, h2⟩
    obtain ⟨hlt, ⟨m0, _, hb0⟩, _⟩ := nextTime_some ht'
    rcases hinv.busyAtt m0 with h | ⟨o, hs, _, hf⟩
    · have := hinv.time0; omega
    · exact Or.inr ⟨o, hs, hf.trans hb0⟩

/-- **every reachable finished schedule is event-aligned** (both `mask_no_ops` settings) -/
theorem reachable_eventAligned (i : Inst) (hwf : WF i) (as : List Nat) (s : State)
    (hrun : Run env i (env.reset i) as s) : EventAligned i (schedOf s) := by
  have hinv := (inv2_of_reach hwf ⟨as, hrun⟩).1
  intro o _ _
  simp only [schedOf]
  cases hs : s.sched o with
  | false => exact Or.inl (filler_of_reach hwf s ⟨as, hrun⟩ o hs).2
  | true =>
    rcases (eaState_of_reach hwf s ⟨as, hrun⟩).2 o hs with h | ⟨o', hs', hf'⟩
    · exact Or.inl h
    · obtain ⟨ho', hr'⟩ := hinv.real_of_sched hwf hs'
      exact Or.inr ⟨o', ho', hr', hf'⟩

/-- the non-delay property of the part of the schedule that lies before the current time -/
def NDState (i : Inst) (s : State) : Prop :=
  ∀ (t : Int) (m o : Nat), 0 ≤ t → t < s.time → m < i.M → isReal i o = true → 0 < i.proc m o →
    (∀ o', s.sched o' = true → s.assign m o' = true → ¬ (s.start o' ≤ t ∧ t < s.finish o')) →
    (∀ j, j < i.J → i.startOp j < o → o ≤ i.endOp j → s.sched (o - 1) = true ∧ s.finish (o - 1) ≤ t) →
    s.sched o = true ∧ s.start o ≤ t

/-- In a stuck state nothing becomes schedulable before the next event time `t'`: an unscheduled operation
whose job predecessor has completed by `t < t'` would have an idle eligible machine only if one were busy
over `t` — otherwise the pair is schedulable now. -/
theorem stuck_not_startable {i : Inst} {s : State} (hinv : Inv i s)
    (hsc : stepComplete i s = true) {t' : Int} (ht' : nextTime i.M s.busy s.time = some t') {t : Int}
    (h1t : s.time ≤ t) (h2t : t < t') {m o : Nat} (hm : m < i.M) (hr : isReal i o = true)
    (hpos : 0 < i.proc m o) (hs : s.sched o = false)
    (hidle : ∀ o', s.sched o' = true → s.assign m o' = true → ¬ (s.start o' ≤ t ∧ t < s.finish o'))
    (hpred : ∀ j, j < i.J → i.startOp j < o → o ≤ i.endOp j → s.sched (o - 1) = true ∧ s.finish (o - 1) ≤ t) :
    False := by
  -- nothing completes strictly inside `(time, t')`
  have hquiet : ∀ o', s.sched o' = true → s.finish o' ≤ t → s.finish o' ≤ s.time := fun o' hs' hle =>
    Int.not_lt.mp fun hrun =>
      absurd (Int.lt_of_le_of_lt (Int.le_trans (next_le_finish_of_running hinv ht' hs' hrun) hle) h2t) (Int.lt_irrefl _)
  obtain ⟨j, hj, h1, h2⟩ := job_of_real hr
  have hnext := hinv.next_of_pred_finished hj h1 h2 hs (fun p hp hp1 => by
    subst hp
    have := hpred j hj (Nat.lt_succ_of_le hp1) h2
    rw [Nat.add_sub_cancel] at this
    exact ⟨this.1, hquiet p this.1 this.2⟩)
  subst hnext
  have hbusy : s.busy m ≤ s.time := hinv.idle_of_finished fun o2 hs2 ha2 =>
    Int.not_lt.mp fun hrun =>
      hidle o2 hs2 ha2 ⟨Int.le_trans (hinv.startLe o2 hs2) h1t,
        Int.lt_of_lt_of_le h2t (next_le_finish_of_running hinv ht' hs2 hrun)⟩
  exact not_sel_of_stuck hsc (hinv.sel_of_next hj hm hs hbusy hpos)

theorem ndState_of_reach {i : Inst} (hwf : WF i) (hmno : i.maskNoOps = true) :
    ∀ s, Reach env i s → NDState i s := by
  apply reach_induct hwf (NDState i)
  · intro t m o h0 hlt; exact absurd (Int.lt_of_le_of_lt h0 hlt) (Int.lt_irrefl 0)
  · -- `_make_step`: the new operation starts now, later than every `t` in question
    intro s j m hinv hp _ hsel t m' o h0 hlt hm' hr hpos hidle hpred
    obtain ⟨hns, hpe, hpp, _⟩ := sel_facts hwf hinv hsel
    have hne : ∀ o', s.sched o' = true → o' ≠ s.nextOp j := fun o' hs' e => by rw [e, hns] at hs'; cases hs'
    have hold := hp t m' o h0 hlt hm' hr hpos ?_ ?_
    · obtain ⟨e1, e2, _⟩ := makeStepAt_other s j _ m (hne o hold.1)
      rw [e1, e2]; exact hold
    · intro o' hs' ha'
      obtain ⟨e1, e2, e3, e4, _⟩ := makeStepAt_other s j _ m (hne o' hs')
      have := hidle o' (e1.trans hs') ((e4 m').trans ha')
      rwa [e2, e3] at this
    · intro j' hj' h1 h2
      have := hpred j' hj' h1 h2
      by_cases hne' : o - 1 = s.nextOp j
      · -- the predecessor cannot be the new operation, which completes after `time > t`
        exfalso
        have hf := this.2
        rw [hne', (makeStepAt_self s j _ m).2.2.1, hpe] at hf
        have hlt' : t < s.time := hlt
        omega
      · obtain ⟨e1, _, e3, _⟩ := makeStepAt_other s j _ m hne'
        rwa [e1, e3] at this
  · -- the clock advances only from a stuck state (waiting is masked): nothing was schedulable in between
    intro s t' hinv hp hd ht' hcase
    have hsc : stepComplete i s = true := hcase.elim id fun h => by rw [hmno] at h; cases h.1
    rw [transit, advance_some ht']
    intro t m o h0 hlt hm hr hpos hidle hpred
    by_cases hpast : t < s.time
    · exact hp t m o h0 hpast hm hr hpos hidle hpred
    · cases hs : s.sched o with
      | true => exact ⟨hs, Int.le_trans (hinv.startLe o hs) (Int.not_lt.mp hpast)⟩
      | false =>
        exact (stuck_not_startable hinv hsc ht' (Int.not_lt.mp hpast) hlt hm hr hpos hs hidle hpred).elim

/-- **C05 converse (`mask_no_ops = true`)**: every finished mask-confined episode yields a NON-DELAY
schedule — with waiting masked the action space expresses nothing else. -/
theorem reachable_nondelay (i : Inst) (hwf : WF i) (hmno : i.maskNoOps = true) (as : List Nat) (s : State)
    (hrun : Run env i (env.reset i) as s) (hd : s.done = true) : NonDelay i (schedOf s) := by
  have hinv := (inv2_of_reach hwf ⟨as, hrun⟩).1
  have hnd := ndState_of_reach hwf hmno s ⟨as, hrun⟩
  have hall := all_sched_of_done hinv hd
  intro t m o h0 hm ho hr hpos hidle hpred
  obtain ⟨j, hj, h1, h2⟩ := job_of_real hr
  have hso := hall j hj o h1 h2
  simp only [schedOf] at hidle hpred ⊢
  by_cases hpast : t < s.time
  · refine (hnd t m o h0 hpast hm hr hpos ?_ ?_).2
    · intro o' hs' ha'
      obtain ⟨ho', hr'⟩ := hinv.real_of_sched hwf hs'
      exact hidle o' ho' hr' ha'
    · intro j' hj' h1' h2'
      exact ⟨hall j' hj' (o - 1) (Nat.le_sub_one_of_lt h1') (Nat.le_trans (Nat.sub_le o 1) h2'),
        hpred j' hj' h1' h2'⟩
  · exact Int.le_trans (hinv.startLe o hso) (Int.not_lt.mp hpast)

theorem eventAligned_congr {i : Inst} {σ σ' : Sched} (h : SameOn i σ σ') (hea : EventAligned i σ) :
    EventAligned i σ' := by
  intro o ho hr
  rcases hea o ho hr with h0 | ⟨o', ho', hr', hf⟩
  · left; rw [← (h o ho hr).1]; exact h0
  · right; exact ⟨o', ho', hr', by rw [← (h o' ho' hr').2.1, ← (h o ho hr).1]; exact hf⟩

theorem nonDelay_congr {i : Inst} (hwf : WF i) {σ σ' : Sched} (h : SameOn i σ σ') (hnd : NonDelay i σ) :
    NonDelay i σ' := by
  intro t m o h0 hm ho hr hpos hidle hpred
  rw [← (h o ho hr).1]
  apply hnd t m o h0 hm ho hr hpos
  · intro o' ho' hr' ha'
    obtain ⟨e1, e2, e3⟩ := h o' ho' hr'
    rw [e1, e2]
    exact hidle o' ho' hr' (by rw [← e3 m hm]; exact ha')
  · intro j hj h1 h2
    have hrp := real_of_job hj (Nat.le_sub_one_of_lt h1) (Nat.le_trans (Nat.sub_le o 1) h2)
    rw [(h (o - 1) (hwf.real_lt hrp) hrp).2.1]
    exact hpred j hj h1 h2

/-- a schedule is *reachable* if some finished mask-confined episode records it (on the real operations) -/
def Reachable (i : Inst) (σ : Sched) : Prop :=
  ∃ as s, Run env i (env.reset i) as s ∧ s.done = true ∧ SameOn i (schedOf s) σ

/-- **C05, `mask_no_ops = false`: the action space expresses exactly the valid event-aligned schedules**
(every operation starts at 0 or at a completion time — in particular all semi-active schedules). -/
theorem reachable_iff_wait_allowed (i : Inst) (hwf : WF i) (hmno : i.maskNoOps = false) (σ : Sched) :
    Reachable i σ ↔ ((∃ mk, ValidSchedule i σ mk) ∧ EventAligned i σ) := by
  constructor
  · rintro ⟨as, s, hrun, hd, hsame⟩
    exact ⟨⟨_, valid_congr hwf hsame (schedule_valid i hwf as s hrun hd)⟩,
      eventAligned_congr hsame (reachable_eventAligned i hwf as s hrun)⟩
  · rintro ⟨⟨mk, hv⟩, hea⟩
    obtain ⟨as, s, hrun, hd, hsame, _⟩ := schedule_reachable i hwf hmno σ mk hv hea
    exact ⟨as, s, hrun, hd, hsame⟩

/-- **C05, `mask_no_ops = true` (default): the action space expresses exactly the valid event-aligned
NON-DELAY schedules.** -/
theorem reachable_iff_no_wait (i : Inst) (hwf : WF i) (hmno : i.maskNoOps = true) (σ : Sched) :
    Reachable i σ ↔ ((∃ mk, ValidSchedule i σ mk) ∧ EventAligned i σ ∧ NonDelay i σ) := by
  constructor
  · rintro ⟨as, s, hrun, hd, hsame⟩
    exact ⟨⟨_, valid_congr hwf hsame (schedule_valid i hwf as s hrun hd)⟩,
      eventAligned_congr hsame (reachable_eventAligned i hwf as s hrun),
      nonDelay_congr hwf hsame (reachable_nondelay i hwf hmno as s hrun hd)⟩
  · rintro ⟨⟨mk, hv⟩, hea, hnd⟩
    obtain ⟨as, s, hrun, hd, hsame, _⟩ := nondelay_schedule_reachable i hwf hmno σ mk hv hea hnd
    exact ⟨as, s, hrun, hd, hsame⟩

end Rl4co.Fjsp
