/-
C05 for CVRPTW, optimum form: for EVERY feasible solution (canonical or not) there is a mask-confined finished
episode with the same objective — the normalised solution, which drops exactly the pruned moves (leading depot
visits, staying at the depot, never returning).  With C01 (every finished episode is feasible) and C03
(reward = −objective): max reward through the mask = −min objective over feasible solutions.
-/
import Rl4co.Props.C01.Cvrptw
import Rl4co.Props.C03.Cvrptw
import Rl4co.Props.C05.Cvrptw
import Rl4co.Props.C05.CvrpOpt

namespace Rl4co.Cvrptw
open Rl4co.Spec.Cvrptw

/-- normalisation preserves feasibility (null trip in time: `D 0 0 ≤ twE 0`) -/
theorem feasible_normalize (i : Inst) (hcap : 0 ≤ i.base.cap) (h0 : i.base.D 0 0 ≤ i.twE 0) (as : List Nat)
    (hf : Feasible i as) : Feasible i (normalize as) := by
  refine ⟨Cvrp.feasible_canon i.base hcap as hf.base, fun r hr => ?_⟩
  rcases mem_routes_normalize hr with h | h
  · exact hf.tw r h
  · subst h; exact (routeOk_nil_iff i 0 0).2 (by rw [Int.zero_add]; exact h0)

/-- **C05 (CVRPTW), optimum form**: every feasible solution has a finished mask-confined episode with the same
objective (its normal form).  `hn` as in `Cvrp.opt_reachable`: only for a non-empty route, so that the normal form
contains a depot visit. -/
theorem opt_reachable (i : Inst) (hn : 1 ≤ i.base.n) (hd : ∀ j, 0 ≤ i.base.demand j) (hcap : 0 ≤ i.base.cap)
    (h0 : i.base.D 0 0 ≤ i.twE 0) (as : List Nat) (hf : Feasible i as) :
    ∃ as' s, Run env i (env.reset i) as' s ∧ env.done i s = true ∧ objective i as' = objective i as := by
  have hf' := feasible_normalize i hcap h0 as hf
  obtain ⟨s, hr, hdn⟩ := run_of_feasible i hd (normalize as) hf' (Cvrp.canonical_canon i.base hn as hf.base)
  exact ⟨normalize as, s, hr, hdn, routesLen_normalize i.base.D as⟩

/-- **max reward through the mask = −(min objective over feasible solutions)**, as an `∃ … ∧ ∀ …` statement
about a given optimal feasible solution `opt`. -/
theorem best_through_mask_eq_optimum (i : Inst) (hn : 1 ≤ i.base.n) (hd : ∀ j, 0 ≤ i.base.demand j)
    (hcap : 0 ≤ i.base.cap) (h00 : i.base.D 0 0 = 0) (hw : RetOK i)
    (opt : List Nat) (hopt : Feasible i opt) (hmin : ∀ bs, Feasible i bs → objective i opt ≤ objective i bs) :
    (∃ as s, Run env i (env.reset i) as s ∧ env.done i s = true ∧ reward i as = - objective i opt) ∧
    (∀ bs s, Run env i (env.reset i) bs s → env.done i s = true → reward i bs ≤ - objective i opt) := by
  have h0 : i.base.D 0 0 ≤ i.twE 0 := hw.depot
  constructor
  · obtain ⟨as', s, hr, hdn, ho⟩ := opt_reachable i hn hd hcap h0 opt hopt
    exact ⟨as', s, hr, hdn, by rw [reward_eq_objective i h00, ho]⟩
  · intro bs s hr hdn
    have hf := feasible_of_run i hcap hw hr hdn
    have := hmin bs hf
    rw [reward_eq_objective i h00]
    omega

/-- a non-canonical feasible solution (leading depot visit, empty route, no final return) and its normal form on
the boundary instance of C01 -/
example : Feasible exInst [0, 1, 0, 0, 2] ∧ normalize [0, 1, 0, 0, 2] = [1, 0, 2, 0] :=
  ⟨(feasible_iff _ _).1 (by decide), by decide⟩

end Rl4co.Cvrptw
