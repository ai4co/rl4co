/-
C05 for TSP: the mask hides nothing — every permutation of the nodes is a mask-confined episode that
the environment declares finished; together with C01 the set of complete mask-confined episodes IS
the set of feasible tours, so the best reward reachable through the mask is the optimum.
-/
import Rl4co.Props.C03.Tsp
import Rl4co.Proofs.TspfamOpt
import Rl4co.Props.C01.Tsp

namespace Rl4co.Tsp
open Rl4co.Tspfam

theorem run_of_feasible (i : Inst) (hpos : 0 < i.n) {as : List Nat} (hf : Spec.Tsp.Feasible i.n as) :
    ∃ s, Run env i (env.reset i) as s ∧ env.done i s = true :=
  availEnv.done_run_of_perm mask_eq_avail hpos
    (by rw [initial_eq]; exact (Spec.Tsp.feasible_iff_perm i.n as).mp hf)

theorem complete_run_iff_feasible (i : Inst) (hpos : 0 < i.n) (as : List Nat) :
    (∃ s, Run env i (env.reset i) as s ∧ env.done i s = true) ↔ Spec.Tsp.Feasible i.n as :=
  ⟨fun ⟨_, h, hd⟩ => feasible_of_run i h hd, run_of_feasible i hpos⟩

example : Spec.Tsp.Feasible 3 [2, 0, 1] := (Spec.Tsp.feasible_iff 3 [2, 0, 1]).mp (by decide)

theorem opt_reachable (i : Inst) (hpos : 0 < i.n) :
    ∃ as s, Run env i (env.reset i) as s ∧ env.done i s = true ∧
      (∀ bs, Spec.Tsp.Feasible i.n bs → Spec.Tsp.objective i.D as ≤ Spec.Tsp.objective i.D bs) ∧
      (∀ bs t, Run env i (env.reset i) bs t → env.done i t = true →
        Spec.Tsp.objective i.D as ≤ Spec.Tsp.objective i.D bs) :=
  availEnv.exists_best_feasible _ _ (fun _ => run_of_feasible i hpos) (Spec.Tsp.feasible_range i.n)

/-- in terms of the reward (symmetric distances) -/
theorem opt_reachable_reward (i : Inst) (hs : ∀ a b, i.D a b = i.D b a) (hpos : 0 < i.n) :
    ∃ as s, Run env i (env.reset i) as s ∧ env.done i s = true ∧
      (∀ bs t, Run env i (env.reset i) bs t → env.done i t = true → reward i bs ≤ reward i as) ∧
      (∀ bs, Spec.Tsp.Feasible i.n bs → - Spec.Tsp.objective i.D bs ≤ reward i as) := by
  obtain ⟨as, s, hrun, hd, h1, h2⟩ := opt_reachable i hpos
  refine ⟨as, s, hrun, hd, ?_, ?_⟩
  · intro bs t hr hdt
    rw [reward_eq_objective i hs, reward_eq_objective i hs]
    have := h2 bs t hr hdt; omega
  · intro bs hb
    rw [reward_eq_objective i hs]
    have := h1 bs hb; omega

end Rl4co.Tsp
