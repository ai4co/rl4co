/-
C05 for FFSP.  Per decision the mask offers exactly the jobs that are in the current stage and whose previous
operation is completed by the current time (completion exactly at the current time included).  Over whole
episodes, the schedules reachable through the mask are exactly the declarative class `Spec.Ffsp.Expressible`
(at an idle machine with an available job the sweep must start a job unless some job has not yet completed the
previous stage), for all instances with durations ≥ 0 and a bijective machine permutation (true of every
`IndexTables` row); so the best reward through the mask is minus the optimum over that class.
Known finding: the class is a proper subclass of the valid schedules and the optimum can lie outside it — on a
1-stage, 2-machine, 2-job instance every mask-confined episode, under either machine permutation, has makespan 3
while running both jobs on the fast machine gives 2.
-/
import Rl4co.Props.C02.Ffsp
import Rl4co.Props.C03.Ffsp
import Rl4co.Proofs.FfspExpr
import Rl4co.Proofs.FfspComplete
import Rl4co.Proofs.FfspTables
import Rl4co.Proofs.RunCheck
namespace Rl4co.Ffsp
open Rl4co.Spec.Ffsp

/-- 1 stage, 2 machines (machine 0 fast, machine 1 slow), 2 jobs -/
def hid (swap : Bool) : Inst :=
  ⟨1, 2, 2, fun _ m => if m = 0 then 1 else 3, fun p => if swap then 1 - p else p, true⟩

/-- both jobs one after the other on the fast machine: a valid schedule of makespan 2 -/
def hidOpt : List Op := [⟨0, 0, 0⟩, ⟨1, 0, 1⟩]

theorem hidOpt_valid (b : Bool) : valid (hid b) hidOpt = true ∧ makespan (hid b) hidOpt = 2 := by
  cases b <;> decide

/-- every finished mask-confined episode on `hid` has reward −3, under either machine permutation:
both episodes (`[0, 1]` and `[1, 0]`) are explored -/
theorem hid_all_runs (b : Bool) (as : List Nat) (s : State)
    (hr : RunND env (hid b) (env.reset (hid b)) as s) (hd : s.done = true) : s.reward = some (-3) := by
  have hc : allDone env (hid b) (fun s => decide (s.reward = some (-3))) 2 (env.reset (hid b)) = true := by
    cases b
    · decide
    · decide
  have h := allDone_sound hc hr hd
  exact of_decide_eq_true h

/-- The statement one would like (C05): for every valid schedule some mask-confined episode is at
least as good. -/
def opt_reachable_statement : Prop :=
  ∀ (i : Inst), WF i → ∀ ops, Valid i ops →
    ∃ as s r, RunND env i (env.reset i) as s ∧ s.done = true ∧ s.reward = some r ∧ - makespan i ops ≤ r

theorem hid_wf (b : Bool) : WF (hid b) where
  S_pos := Nat.one_pos
  M_pos := Nat.two_pos
  J_pos := Nat.two_pos
  perm_lt := fun p hp => by
    cases b
    · exact hp
    · exact Nat.lt_of_le_of_lt (Nat.sub_le 1 p) Nat.one_lt_two
  dur_lt := fun _ m _ _ => small_lt_unset (by
    show ((if m = 0 then 1 else 3 : Nat) : Int) ≤ 100000
    split <;> decide)

/-- **The mask hides the optimum** (known finding `ffsp-mask-hides-optimum-C05`). -/
theorem not_opt_reachable : ¬ opt_reachable_statement := by
  intro hst
  obtain ⟨as, s, r, hr, hd, hrw, hle⟩ :=
    hst (hid false) (hid_wf false) hidOpt ((valid_iff _ _).mp (hidOpt_valid false).1)
  have := hid_all_runs false as s hr hd
  rw [this] at hrw
  injection hrw with hrw
  rw [(hidOpt_valid false).2] at hle
  omega

/-- … and it stays hidden when the other machine permutation (the other multi-start) is used. -/
theorem optimum_hidden (b : Bool) (as : List Nat) (s : State)
    (hr : RunND env (hid b) (env.reset (hid b)) as s) (hd : s.done = true) :
    s.reward = some (-3) ∧ valid (hid b) hidOpt = true ∧ makespan (hid b) hidOpt = 2 :=
  ⟨hid_all_runs b as s hr hd, hidOpt_valid b⟩

/-- **C05 (FFSP), per decision.**  In every unfinished state of a row the mask offers job `a` iff `a`
is in the stage of the current machine and all its operations so far are completed by the current time
(`≤`: a job whose previous operation ends exactly now is offered). -/
theorem mask_iff_available (i : Inst) (h : WF i) {s : State} (hr : Reach envM i s) (a : Nat) (ha : a < i.J) :
    s.mask a = true ↔
      (s.jloc a = stageOf i s.sub ∧
        ∀ m, s.sched m a ≠ UNSET → s.sched m a + (i.dur a m : Int) ≤ (s.time : Int)) := by
  obtain ⟨l, e⟩ := exact_of_reach i h hr
  rw [mask_job i s l.fresh ha]
  simp only [Bool.and_eq_true, beq_iff_eq]
  constructor
  · rintro ⟨h1, h2⟩
    refine ⟨h1, fun m hs => ?_⟩
    have := l.core.job_busy m a ha hs
    rw [h2, Int.natCast_zero, Int.add_zero] at this; exact this
  · rintro ⟨h1, h2⟩
    refine ⟨h1, Nat.eq_zero_of_not_pos fun hpos => ?_⟩
    -- a job still being processed has an operation that ends after the current time
    have hd : s.done = false := Bool.eq_false_iff.mpr fun hd =>
      Nat.ne_of_lt (stageOf_lt l.core.sub_lt) (h1.symm.trans (jloc_of_done l.core hd a ha))
    obtain ⟨m, hs, he⟩ := (e hd).jx a ha hpos
    have := h2 m hs
    rw [he] at this
    exact absurd this (Int.not_le.mpr (Int.lt_add_of_pos_right _ (Int.natCast_pos.mpr hpos)))

/-- Non-vacuity: on `hid false` both jobs are offered at reset (and the wait action is not). -/
example : (reset (hid false)).mask 0 = true ∧ (reset (hid false)).mask 1 = true ∧
    (reset (hid false)).mask 2 = false := by decide

theorem ofMatrix_congr (i : Inst) {σ τ : Nat → Nat → Int}
    (h : ∀ m j, m < MT i → j < i.J → σ m j = τ m j) : ∀ o, o ∈ ofMatrix i σ ↔ o ∈ ofMatrix i τ := by
  rw [ofMatrix_eq i h]
  exact fun _ => Iff.rfl

/-- **C05 (FFSP), soundness of the class, row of a batch.**  Whatever the batch-mates do: when a row
finishes (with action `a`), its schedule is expressible. -/
theorem finished_row_expressible (i : Inst) (h : WF i) (hi : PermInj i) {s : State}
    (hr : Reach envM i s) (hd : s.done = false) (a : Nat) (ha : a < i.J + 1) (hm : s.mask a = true) :
    Expressible i (ofMatrix i (apply i s a).sched) := by
  obtain ⟨l, hh⟩ := hist_of_reach i h hi hr
  obtain ⟨e, hs⟩ := hh hd
  exact expressible_final i h hi _ (core_apply i h s l a hm) (exact_apply i s l.core a e)
    (hist_apply i h hi s l hd e hs a ha hm)

/-- **C05 (FFSP), soundness of the class.**  The schedule of every finished mask-confined episode is
expressible: the mask only ever produces schedules of the declarative class `Spec.Ffsp.Expressible`. -/
theorem episode_expressible (i : Inst) (h : WF i) (hi : PermInj i) {as : List Nat} {s : State}
    (hr : RunND env i (env.reset i) as s) (hd : s.done = true) :
    Expressible i (ofMatrix i s.sched) := by
  obtain ⟨s0, a, hre, hd0, ha, hm, _, rfl⟩ := solo_last_step i hr hd
  rw [stepG_sched]
  exact finished_row_expressible i h hi hre hd0 a ha hm

/-- **C05 (FFSP), completeness of the class.**  Every schedule matrix `σ` whose operation list is valid
and expressible is the schedule of some finished mask-confined episode. -/
theorem expressible_reachable (i : Inst) (h : WF i) (hi : PermInj i) (hsj : PermSurj i)
    (σ : Nat → Nat → Int) (hv : Valid i (ofMatrix i σ)) (he : Expressible i (ofMatrix i σ)) :
    ∃ as s, RunND env i (env.reset i) as s ∧ s.done = true ∧
      ∀ m j, m < MT i → j < i.J → s.sched m j = σ m j := by
  have ok := sigmaOK_of_spec i h σ hv he
  have s0 : Sim i σ (reset i) (pos i (reset i)) :=
    ⟨fun m j _ hs => absurd rfl hs, upto_reset i _⟩
  -- follow `σ` to the end
  obtain ⟨as, s0, a, hrun, hre, ha, hm, hda, sm1⟩ :=
    finish_by i h (fun s => Sim i σ s (pos i s)) (fun s a => Sim i σ (apply i s a) (pos i s + 1))
      (fun s hre hd sm => follow_step i h hi hsj σ ok s hre hd sm) (s := reset i) ⟨[], Run.nil _⟩ rfl s0
  have hd : (stepG i s0 a true).done = true := (stepG_done i s0 a true).trans hda
  have c := core_stepG i h s0 (live_of_reach i h hre) a hm true
  refine ⟨_, _, hrun, hd, ?_⟩
  -- the final schedule has `σ`'s entries only, and one per job and stage: it is `σ`
  intro m j hm' hj
  by_cases hs : (stepG i s0 a true).sched m j = UNSET
  · rw [hs]
    apply Classical.byContradiction; intro hne
    obtain ⟨m'', h1, h2⟩ := c.stage_has j (m / i.M) hj (by rw [jloc_of_done c hd j hj]; exact stageOf_lt hm')
    have hv'' : (stepG i s0 a true).sched m'' j = σ m'' j := by
      rw [stepG_sched] at h2 ⊢; exact sm1.agree m'' j hj h2
    rw [ok.uniq j m'' m hj (c.set_stage m'' j hj h2).1 hm' (hv'' ▸ h2) (fun hh => hne hh.symm) h1] at h2
    exact h2 hs
  · rw [stepG_sched] at hs ⊢; exact sm1.agree m j hj hs

/-- **C05 (FFSP): the mask reaches exactly the expressible schedules.**  A schedule matrix `σ` is the
schedule of some finished mask-confined episode iff its operation list is valid and expressible. -/
theorem reachable_iff_expressible (i : Inst) (h : WF i) (hb : PermBij i) (σ : Nat → Nat → Int) :
    (∃ as s, RunND env i (env.reset i) as s ∧ s.done = true ∧
        ∀ m j, m < MT i → j < i.J → s.sched m j = σ m j) ↔
    (Valid i (ofMatrix i σ) ∧ Expressible i (ofMatrix i σ)) := by
  constructor
  · rintro ⟨as, s, hr, hd, hag⟩
    have hv := schedule_valid i h hr hd
    have he := episode_expressible i h hb.1 hr hd
    have hlist : ofMatrix i s.sched = ofMatrix i σ := ofMatrix_eq i hag
    rw [← hlist]; exact ⟨hv, he⟩
  · rintro ⟨hv, he⟩
    exact expressible_reachable i h hb.1 hb.2 σ hv he

/-- **The rewards reachable through the mask are exactly the negated makespans of the valid expressible
schedules.** -/
theorem reachable_rewards_eq (i : Inst) (h : WF i) (hb : PermBij i) (v : Int) :
    (∃ as s, RunND env i (env.reset i) as s ∧ s.done = true ∧ s.reward = some (-v)) ↔
    (∃ σ : Nat → Nat → Int, Valid i (ofMatrix i σ) ∧ Expressible i (ofMatrix i σ) ∧
        makespan i (ofMatrix i σ) = v) := by
  constructor
  · rintro ⟨as, s, hr, hd, hrw⟩
    refine ⟨s.sched, schedule_valid i h hr hd, episode_expressible i h hb.1 hr hd, ?_⟩
    have := (reward_eq_makespan i h hr hd).1
    rw [hrw] at this
    exact Int.neg_inj.mp (Option.some.inj this).symm
  · rintro ⟨σ, hv, he, hmk⟩
    obtain ⟨as, s, hr, hd, hag⟩ := expressible_reachable i h hb.1 hb.2 σ hv he
    refine ⟨as, s, hr, hd, ?_⟩
    have hrw := (reward_eq_makespan i h hr hd).1
    have hlist : ofMatrix i s.sched = ofMatrix i σ := ofMatrix_eq i hag
    rw [hrw, hlist, hmk]

/-- **Best reward through the mask = −(optimum over the expressible class)**, as an `∃ … ∧ ∀ …`
statement: `r` is attained by a finished mask-confined episode and no episode does better, iff `−r` is the
makespan of a valid expressible schedule and no valid expressible schedule has a smaller one. -/
theorem best_reward_is_expressible_optimum (i : Inst) (h : WF i) (hb : PermBij i) (r : Int) :
    ((∃ as s, RunND env i (env.reset i) as s ∧ s.done = true ∧ s.reward = some r) ∧
      (∀ as s r', RunND env i (env.reset i) as s → s.done = true → s.reward = some r' → r' ≤ r)) ↔
    ((∃ σ : Nat → Nat → Int, Valid i (ofMatrix i σ) ∧ Expressible i (ofMatrix i σ) ∧
        makespan i (ofMatrix i σ) = -r) ∧
      (∀ σ : Nat → Nat → Int, Valid i (ofMatrix i σ) → Expressible i (ofMatrix i σ) →
        -r ≤ makespan i (ofMatrix i σ))) := by
  have key := reachable_rewards_eq i h hb
  constructor
  · rintro ⟨⟨as, s, hr, hd, hrw⟩, hbest⟩
    refine ⟨(key (-r)).mp ⟨as, s, hr, hd, by simpa using hrw⟩, ?_⟩
    intro σ hv he
    obtain ⟨as', s', hr', hd', hrw'⟩ := (key (makespan i (ofMatrix i σ))).mpr ⟨σ, hv, he, rfl⟩
    have := hbest as' s' _ hr' hd' hrw'
    omega
  · rintro ⟨hex, hall⟩
    obtain ⟨as, s, hr, hd, hrw⟩ := (key (-r)).mpr hex
    refine ⟨⟨as, s, hr, hd, by simpa using hrw⟩, ?_⟩
    intro as' s' r' hr' hd' hrw'
    obtain ⟨σ, hv, he, hmk⟩ := (key (-r')).mp ⟨as', s', hr', hd', by simpa using hrw'⟩
    have := hall σ hv he
    omega

/-- every row of a batch is stepped with a bijective machine permutation (`IndexTables`), so the three
theorems above apply to every row inside the permutation table -/
theorem rowInst_permBij (tb : Tables) (S J : Nat) (flat : Bool) (dur : Nat → Nat → Nat) (row : Nat)
    (hrow : pomoIdx tb.bs row < fact tb.M) : PermBij (rowInst tb S J flat dur row) :=
  ⟨tables_perm_inj tb row hrow, tables_perm_surj tb row hrow⟩

/-- Non-vacuity: on the witness instance the expressible class is non-empty and misses the optimum — the
schedule of the episode `[0, 1]` is valid and expressible with makespan 3, `hidOpt` (makespan 2) is valid
but not expressible. -/
example : valid (hid false) (ofMatrix (hid false) (exec env (hid false) (reset (hid false)) [0, 1]).sched) = true ∧
    expressible (hid false) (ofMatrix (hid false) (exec env (hid false) (reset (hid false)) [0, 1]).sched) = true ∧
    expressible (hid false) hidOpt = false := by decide
example : PermBij (hid false) :=
  ⟨fun _ _ _ _ he => he, fun y hy => ⟨y, hy, rfl⟩⟩

/-- every schedule that is non-delay with the sweep's tie rule is expressible (the premise of the
expressibility condition never arises) -/
theorem expressible_of_strictNonDelay (i : Inst) (ops : List Op) (hs : StrictNonDelay i ops)
    (hnd : ∀ o, o ∈ ops → ∀ o', o' ∈ ops → o ≠ o' → o.machine = o'.machine → o.start ≠ o'.start) :
    Expressible i ops :=
  ⟨fun t ht sub hsub hidle hav => absurd hav (hs t ht sub hsub hidle), hnd⟩

/-- 2 stages × 2 machines, 3 unit jobs -/
def nd3 (swap : Bool) : Inst :=
  ⟨2, 2, 3, fun _ _ => 1, fun p => if swap then 1 - p else p, true⟩

/-- jobs 0,1 start together and job 2 follows, in both stages (a permutation schedule without any
avoidable idling); job 2 takes the *second* machine of stage 0 and the *first* machine of stage 1 -/
def nd3Ops : List Op :=
  [⟨0, 0, 0⟩, ⟨1, 1, 0⟩, ⟨2, 1, 1⟩, ⟨0, 2, 1⟩, ⟨1, 3, 1⟩, ⟨2, 2, 2⟩]

/-- the permutation property with the cheap tests (same stage, started earlier) in front -/
theorem permutationSchedule_of (i : Inst) (ops : List Op)
    (H : ∀ o, o ∈ ops → ∀ o', o' ∈ ops → o.stage i = o'.stage i → o.start < o'.start →
      ∀ p, p ∈ ops → o.job = p.job → ∀ p', p' ∈ ops → o'.job = p'.job → p.stage i = p'.stage i →
        p.start ≤ p'.start) : PermutationSchedule i ops :=
  fun o ho o' ho' p hp p' hp' h1 h2 h3 h4 h5 => H o ho o' ho' h3 h5 p hp h1 p' hp' h2 h4

/-- validity, non-delay and the permutation property of `nd3Ops` (none of them looks at `perm`) -/
theorem nd3_classical : valid (nd3 false) nd3Ops = true ∧ NonDelay (nd3 false) nd3Ops ∧
    PermutationSchedule (nd3 false) nd3Ops :=
  ⟨by decide +kernel, by decide +kernel, permutationSchedule_of _ _ (by decide +kernel)⟩

/-- **Not every non-delay permutation schedule is expressible** — under either machine permutation:
the machine order of the sweep is the same in every stage, so "second machine first" in stage 0 and
"first machine first" in stage 1 cannot both be met.  (The makespan 3 of this schedule is nevertheless
reachable; `expressible` ⊊ `valid` costs optimality only on instances like `hid`.) -/
theorem nondelay_permutation_not_expressible (b : Bool) :
    valid (nd3 b) nd3Ops = true ∧ NonDelay (nd3 b) nd3Ops ∧ PermutationSchedule (nd3 b) nd3Ops ∧
    ¬ Expressible (nd3 b) nd3Ops := by
  have h : ∀ b, ¬ Expressible (nd3 b) nd3Ops := by decide +kernel
  -- a trap: `nd3_classical` speaks of `nd3 false`.  It is accepted for `nd3 b` because `nd3 b` and `nd3 false` differ
  -- in `perm` only and evaluating `valid`, `NonDelay`, `PermutationSchedule` never unfolds `perm`; a change to one of
  -- these definitions that looks at `perm` fails here, not at `nd3_classical`.
  exact ⟨nd3_classical.1, nd3_classical.2.1, nd3_classical.2.2, h b⟩

/-- an expressible schedule that is not non-delay (waiting while a job is still in the previous stage):
on `ex` (`Props/C07`) the episode `[0, 1, wait, 0, 1]` — the classes are incomparable with plain
non-delay, and strict non-delay is a proper subclass -/
example : Expressible ex (ofMatrix ex (exec env ex (reset ex) [0, 1, 2, 0, 1]).sched) ∧
    ¬ StrictNonDelay ex (ofMatrix ex (exec env ex (reset ex) [0, 1, 2, 0, 1]).sched) := by decide

/-- one machine, two jobs of duration 0 -/
def zz : Inst := ⟨1, 1, 2, fun _ _ => 0, fun p => p, true⟩
/-- both jobs at time 0 on the one machine: a *valid* schedule (empty intervals do not overlap) that
satisfies the idle-machine clause of expressibility — and is not reachable: the sweep visits a machine
once per time unit -/
def zzOps : List Op := [⟨0, 0, 0⟩, ⟨1, 0, 0⟩]
def zzSigma : Nat → Nat → Int := fun m j => if m = 0 ∧ j < 2 then 0 else UNSET

/-- zero durations: why `Expressible` has its second clause -/
theorem double_start_clause_needed :
    valid zz zzOps = true ∧ ofMatrix zz zzSigma = zzOps ∧
    (∀ t, t ≤ horizon zzOps → ∀ sub, sub < MT zz → Idle zz zzOps (machineOf zz sub) t →
      (∃ j, j < zz.J ∧ Avail zz zzOps j t sub) → SkipOK zz zzOps (sub / zz.M) t) ∧
    ¬ ∃ as s, RunND env zz (env.reset zz) as s ∧ s.done = true ∧
        ∀ m j, m < MT zz → j < zz.J → s.sched m j = zzSigma m j := by
  have he : ofMatrix zz zzSigma = zzOps := by decide
  refine ⟨by decide, he, by decide, ?_⟩
  intro hex
  have hw : WF zz := ⟨by decide, by decide, by decide, fun p hp => hp, fun j m _ _ => small_lt_unset (by simp [zz])⟩
  have hb : PermBij zz := ⟨fun _ _ _ _ he => he, fun y hy => ⟨y, hy, rfl⟩⟩
  have := ((reachable_iff_expressible zz hw hb zzSigma).mp hex).2
  rw [he] at this
  revert this
  decide

end Rl4co.Ffsp
