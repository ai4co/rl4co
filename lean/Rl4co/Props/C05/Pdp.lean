/-
C05 for PDP (both `force_start_at_depot` values): the mask hides nothing — every customer sequence
that visits each pickup and delivery once with every pickup before its delivery is a mask-confined
finished episode (prefixed by the depot under the forced start).  With C01 the complete mask-confined
episodes ARE the feasible solutions, so the optimum stays reachable.
-/
import Rl4co.Props.C03.Pdp
import Rl4co.Proofs.TspfamOpt
import Rl4co.Props.C01.Pdp
import Rl4co.Props.C02.Pdp

namespace Rl4co.Pdp
open Rl4co.Tspfam

theorem run_of_prec (i : Inst) :
    ∀ (cs : List Nat) (s : State), Main i s → cs.Nodup →
      (∀ a ∈ cs, a ≤ i.n ∧ s.avail a = true) →
      OpenPrec i s cs →
      Run env i s cs (exec env i s cs) := by
  intro cs
  induction cs with
  | nil => intro s _ _ _ _; exact Run.nil _
  | cons a cs ih =>
    intro s hm hnd hin hprec
    obtain ⟨ha2, hav⟩ := hin a List.mem_cons_self
    obtain ⟨hnot, hnd'⟩ := List.nodup_cons.mp hnd
    have halt : a < env.nAct i := Nat.lt_succ_of_le ha2
    -- `a` is offered: available, and if it is a delivery its pickup is no longer open
    have hmask : env.mask i s a = true := by
      by_cases hah : a ≤ i.h
      · exact (hm.amask_pickup hah).trans hav
      · obtain ⟨p, rfl, hp1, hp2⟩ := exists_pickup i hah halt
        rw [env_mask, hm.amask_delivery hp1 hp2, hav, hprec.head hp1 hp2]
        rfl
    refine Run.cons halt hmask (ih _ (main_step i s a hm halt hmask) hnd' (fun b hb => ?_) (hprec.tail hnot))
    obtain ⟨hb2, hbav⟩ := hin b (List.mem_cons_of_mem _ hb)
    refine ⟨hb2, ?_⟩
    rw [env_step, step_avail, upd_other _ _ _ _ (fun (h : b = a) => hnot (h ▸ hb))]
    exact hbav

theorem run_of_feasible (i : Inst) (hf : i.force = false) (hpos : 0 < i.h) {cs : List Nat}
    (hfe : Spec.Pdp.Feasible i.h cs) : ∃ s, Run env i (env.reset i) cs s ∧ env.done i s = true := by
  have hrun := run_of_prec i cs (env.reset i) (main_reset i hf) (spec_nodup hfe)
    (fun a ha => ⟨(hfe.range a ha).2, (reset_avail i hf a).trans (decide_eq_true (Nat.ne_of_gt (hfe.range a ha).1))⟩)
    (fun p hp1 hp2 _ _ => hfe.prec p hp1 hp2)
  refine ⟨_, hrun, (run_length i ?_ hrun).mpr ?_⟩
  · rw [WF, len_of_not_force hf]; exact Nat.mul_pos (by decide) hpos
  · rw [len_of_not_force hf]; exact spec_length hfe

theorem run_of_feasible_force (i : Inst) (hf : i.force = true) {as : List Nat}
    (hfe : Spec.Pdp.FeasibleF i.h as) : ∃ s, Run env i (env.reset i) as s ∧ env.done i s = true := by
  obtain ⟨cs, rfl, hfe⟩ := hfe
  have hrun' := run_of_prec i cs (env.step i (env.reset i) 0) (main_forced_first i hf) (spec_nodup hfe)
    (fun a ha => ⟨(hfe.range a ha).2, by
      rw [env_step, step_avail, upd_other _ _ _ _ (Nat.ne_of_gt (hfe.range a ha).1)]
      exact reset_avail_force i hf a⟩)
    (fun p hp1 hp2 _ _ => hfe.prec p hp1 hp2)
  have hrun : Run env i (env.reset i) (0 :: cs) _ :=
    Run.cons (Nat.succ_pos _) ((forced_mask i hf 0).trans rfl) hrun'
  refine ⟨_, hrun, (run_length i ?_ hrun).mpr ?_⟩
  · rw [WF, len_of_force hf]; exact Nat.succ_pos _
  · rw [len_of_force hf, List.length_cons, spec_length hfe]; rfl

theorem complete_run_iff_feasible (i : Inst) (hf : i.force = false) (hpos : 0 < i.h) (cs : List Nat) :
    (∃ s, Run env i (env.reset i) cs s ∧ env.done i s = true) ↔ Spec.Pdp.Feasible i.h cs :=
  ⟨fun ⟨_, h, hd⟩ => feasible_of_run i hf h hd, run_of_feasible i hf hpos⟩

theorem complete_run_iff_feasible_force (i : Inst) (hf : i.force = true) (as : List Nat) :
    (∃ s, Run env i (env.reset i) as s ∧ env.done i s = true) ↔ Spec.Pdp.FeasibleF i.h as :=
  ⟨fun ⟨_, h, hd⟩ => feasible_of_run_force i hf h hd, run_of_feasible_force i hf⟩

example : Spec.Pdp.Feasible 2 [2, 1, 4, 3] := (Spec.Pdp.feasible_iff 2 _).mp (by decide)

/-- all pickups in index order, then all deliveries -/
theorem feasible_range' (h : Nat) : Spec.Pdp.Feasible h (List.range' 1 (2 * h)) := by
  obtain ⟨hr, ho⟩ := (once_iff_perm (2 * h) _).mpr (List.Perm.refl _)
  refine ⟨hr, ho, fun p hp1 hp2 => ?_⟩
  obtain ⟨h1, h2, h3⟩ := pair_bounds hp1 hp2
  rw [idxOf_range' _ p hp1 h1, idxOf_range' _ (p + h) h2 h3]
  exact Nat.sub_lt_sub_right hp1 (Nat.lt_add_of_pos_right (Nat.lt_of_lt_of_le hp1 hp2))

theorem opt_reachable (i : Inst) (hf : i.force = false) (hpos : 0 < i.h) :
    ∃ cs s, Run env i (env.reset i) cs s ∧ env.done i s = true ∧
      (∀ bs, Spec.Pdp.Feasible i.h bs → Spec.Pdp.objective i.D cs ≤ Spec.Pdp.objective i.D bs) ∧
      (∀ bs t, Run env i (env.reset i) bs t → env.done i t = true →
        Spec.Pdp.objective i.D cs ≤ Spec.Pdp.objective i.D bs) :=
  availEnv.exists_best_feasible _ _ (fun _ => run_of_feasible i hf hpos) (feasible_range' i.h)

/-- episodes are `0 :: customers` -/
theorem opt_reachable_force (i : Inst) (hf : i.force = true) :
    ∃ as s, Run env i (env.reset i) as s ∧ env.done i s = true ∧
      (∀ bs, Spec.Pdp.FeasibleF i.h bs → Spec.Pdp.objective i.D as ≤ Spec.Pdp.objective i.D bs) ∧
      (∀ bs t, Run env i (env.reset i) bs t → env.done i t = true →
        Spec.Pdp.objective i.D as ≤ Spec.Pdp.objective i.D bs) :=
  availEnv.exists_best_feasible _ _ (fun _ => run_of_feasible_force i hf) ⟨_, rfl, feasible_range' i.h⟩

/-- reward form (symmetric distances, no forced start) -/
theorem opt_reachable_reward (i : Inst) (hf : i.force = false) (hs : ∀ a b, i.D a b = i.D b a)
    (hpos : 0 < i.h) :
    ∃ cs s, Run env i (env.reset i) cs s ∧ env.done i s = true ∧
      (∀ bs t, Run env i (env.reset i) bs t → env.done i t = true → reward i bs ≤ reward i cs) := by
  obtain ⟨cs, s, hrun, hd, _, h2⟩ := opt_reachable i hf hpos
  refine ⟨cs, s, hrun, hd, fun bs t hr hdt => ?_⟩
  rw [reward_eq_objective i hs (zero_not_mem_of_feasible (feasible_of_run i hf hr hdt)),
    reward_eq_objective i hs (zero_not_mem_of_feasible (feasible_of_run i hf hrun hd))]
  exact Int.neg_le_neg (h2 bs t hr hdt)

end Rl4co.Pdp
