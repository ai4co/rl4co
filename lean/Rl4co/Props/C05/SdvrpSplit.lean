/-
C05 for SDVRP at the level of split solutions (visit sequence + amounts).  Among the valid splits of the
independent Spec, the environment reaches exactly the SATURATING ones: every customer visit either completes
the customer's remaining demand or fills the vehicle (the analogue of the non-delay class of a scheduling
problem) — in canonical shape (no leading / repeated depot visit, positive amounts, ending at a customer).
A split is saturating iff its amounts are those of the greedy rule.
-/
import Rl4co.Props.C05.SdvrpClass

namespace Rl4co.Sdvrp
open Rl4co.Spec.Sdvrp

/-- every customer visit completes the customer or fills the vehicle (amounts within both limits) -/
def saturating (i : Inst) : (Nat → Int) → Int → List (Nat × Int) → Prop
  | _, _, [] => True
  | rem, used, (a, q) :: r =>
    if a = 0 then q = 0 ∧ saturating i rem 0 r
    else q ≤ rem a ∧ used + q ≤ i.cap ∧ (q = rem a ∨ used + q = i.cap) ∧
         saturating i (upd rem a (rem a - q)) (used + q) r

theorem saturating_iff_greedy (i : Inst) (as : List Nat) : ∀ (qs : List Int) rem used, qs.length = as.length →
    (saturating i rem used (as.zip qs) ↔ qs = greedy i rem used as) := by
  induction as with
  | nil =>
    intro qs rem used hl
    rw [List.length_eq_zero_iff.mp hl]
    exact ⟨fun _ => rfl, fun _ => trivial⟩
  | cons a as ih =>
    intro qs rem used hl
    cases qs with
    | nil => cases hl
    | cons q qs =>
      have hl' : qs.length = as.length := Nat.succ.inj hl
      by_cases h0 : a = 0
      · subst h0
        rw [List.zip_cons_cons, saturating, if_pos rfl, greedy_zero, List.cons.injEq, ih qs rem 0 hl']
      · -- the three clauses on the amount, grouped, say that it is the greedy one
        rw [List.zip_cons_cons, saturating, if_neg h0, greedy_ne i rem used h0, List.cons.injEq, ← and_assoc, ← and_assoc,
          and_assoc (b := _ ≤ _), greedy_amount_iff]
        exact and_congr_right fun hq => by rw [← hq]; exact ih qs _ _ hl'

/-- **which split solutions the mask reaches** -/
theorem split_reachable_iff (i : Inst) (hw : WFpos i) (hpos : ∃ j, 1 ≤ j ∧ j ≤ i.n ∧ 0 < i.demand j)
    (as : List Nat) (qs : List Int) (hl : qs.length = as.length) :
    ((∃ s, RunND env i (env.reset i) as s ∧ env.done i s = true) ∧ qs = greedy i i.demand 0 as) ↔
      (as ≠ [] ∧ ValidSplit i (as.zip qs) ∧ saturating i i.demand 0 (as.zip qs) ∧
        allPositive (as.zip qs) = true ∧ as.head? ≠ some 0 ∧ noDoubleDepot as = true ∧ as.getLast? ≠ some 0) := by
  rw [complete_iff i hw hpos as, saturating_iff_greedy i as qs i.demand 0 hl]
  constructor
  · rintro ⟨⟨hne, hgf, hcan, hlast⟩, hq⟩
    subst hq
    obtain ⟨hh, hnd, hp⟩ := (canonical_iff i as).mp hcan
    exact ⟨hne, (validSplit_iff i _).1 hgf, rfl, hp, hh, hnd, hlast⟩
  · rintro ⟨hne, hv, hq, hp, hh, hnd, hlast⟩
    subst hq
    exact ⟨⟨hne, (validSplit_iff i _).2 hv, (canonical_iff i as).mpr ⟨hh, hnd, hp⟩, hlast⟩, rfl⟩

/-- Non-vacuity: the C01 example with its amounts 4, 4, –, 8 (customer 2 split: the first visit fills the vehicle) -/
example : saturating exInst exInst.demand 0 ([1, 2, 0, 2].zip [4, 4, 0, 8]) := by
  simp [saturating, exInst, upd]
/-- … and amounts that are NOT saturating (customer 2 first receives only 3 although 4 fit): never produced by
the environment -/
example : ¬ saturating exInst exInst.demand 0 ([1, 2, 0, 2].zip [4, 3, 0, 9]) := by
  simp [saturating, exInst, upd]

end Rl4co.Sdvrp
