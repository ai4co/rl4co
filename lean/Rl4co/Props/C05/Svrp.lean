/-
C05 for SVRP.  `run_of_feasible`: every solution that is feasible by the independent definition, visits
the depot at least once and is *canonical* — a technician is sent home without a customer (depot→depot
move, also at the very start) only when he can serve none of the customers still to be served — is a
mask-confined run that the environment declares finished.  Skill requirements met with equality are
included (`≤`).

`run_of_feasible_counterexample`: without the canonicity clause the statement is FALSE, and the pruning is
not harmless: the mask never lets an able technician stay at home, although skipping a cheap but weak
technician can be strictly better (`skipped_technician_better`).  Known finding
`svrp-skipped-technician-C05`.
-/
import Rl4co.Proofs.SvrpModel

namespace Rl4co.Svrp
open Rl4co.Spec.Svrp

/-- canonicity from technician `k`, `atDepot` = the vehicle is at the depot (start or just returned) -/
def canonFrom (i : Inst) : Nat → Bool → List Nat → Prop
  | _, _, [] => True
  | k, atDepot, a :: as =>
    (a = 0 → atDepot = true → ∀ j ∈ as, j ≠ 0 → ¬ (i.skills j ≤ i.techs k)) ∧
    canonFrom i (if a = 0 then k + 1 else k) (decide (a = 0)) as

structure Canonical (i : Inst) (as : List Nat) : Prop where
  prune : canonFrom i 0 true as
  depot : 0 ∈ as

theorem canonFrom_step (i : Inst) (s : State) (a : Nat) (as : List Nat) :
    canonFrom i (if a = 0 then s.tech + 1 else s.tech) (decide (a = 0)) as ↔
      canonFrom i (env.step i s a).tech ((env.step i s a).cur == 0) as := by
  by_cases h0 : a = 0
  · subst h0; rw [if_pos rfl, step_tech_zero]; exact Iff.rfl
  · rw [if_neg h0, step_tech_ne i s h0, decide_eq_false h0,
      show ((env.step i s a).cur == 0) = false from beq_eq_false_iff_ne.mpr h0]

theorem skillsFrom_ge (i : Inst) (as : List Nat) : ∀ k, i.T ≤ k → SkillsFrom i k as → ∀ a ∈ as, a = 0 := by
  induction as with
  | nil => intro _ _ _ a ha; cases ha
  | cons b as ih =>
    intro k hk h a ha
    by_cases hb : b = 0
    · subst hb
      rcases List.mem_cons.mp ha with rfl | ha
      · rfl
      · exact ih (k + 1) (Nat.le_succ_of_le hk) ((skillsFrom_zero_cons i k as).mp h) a ha
    · exact absurd ((skillsFrom_cons i k hb as).mp h).1.1 (Nat.not_lt.mpr hk)

/-- what the mask asks of the actions still to come.  The first clause is SVRP's own: its depot rule speaks of the
customers not yet visited, `canonFrom` of those still listed, and `StepKeeps` hands over only that no listed customer is
marked. -/
def Admissible (i : Inst) (s : State) (as : List Nat) : Prop :=
  (∀ j, 1 ≤ j → j ≤ i.n → s.vis j = false → j ∈ as) ∧ SkillsFrom i s.tech as ∧ canonFrom i s.tech (s.cur == 0) as

theorem admissible_step (i : Inst) : routing.StepKeeps i (Admissible i) := by
  intro s a as _ hf ⟨hcov, hsk, hcan⟩
  rw [canonFrom] at hcan
  have hcan' := (canonFrom_step i s a as).mp hcan.2
  have hcov' : ∀ j, 1 ≤ j → j ≤ i.n → (env.step i s a).vis j = false → j ∈ as := fun j h1 h2 hv => by
    rw [step_vis, upd_apply] at hv
    by_cases hja : j = a
    · rw [if_pos hja] at hv; cases hv
    · rw [if_neg hja] at hv
      exact (List.mem_cons.mp (hcov j h1 h2 hv)).resolve_left hja
  by_cases h0 : a = 0
  · subst h0
    rw [skillsFrom_zero_cons] at hsk
    refine ⟨(mask_zero_iff i s).mpr fun hor j h1 h2 => ?_, hcov',
      by rw [step_tech_zero]; exact hsk, hcan'⟩
    -- no customer is free whenever the depot rule would close the depot
    refine Decidable.or_iff_not_imp_left.mpr fun hvj => ?_
    have hmem : j ∈ as := (List.mem_cons.mp (hcov j h1 h2 ((Bool.not_eq_true _).mp hvj))).resolve_left (Nat.ne_of_gt h1)
    rcases hor with hcur | hlast
    · exact hcan.1 rfl (by rw [hcur]; rfl) j hmem (Nat.ne_of_gt h1)
    · exact absurd (skillsFrom_ge i as (s.tech + 1) (Nat.le_succ_of_pred_le (Nat.le_of_eq hlast.symm)) hsk j hmem)
        (Nat.ne_of_gt h1)
  · rw [skillsFrom_cons i _ h0] at hsk
    exact ⟨(mask_ne i s h0).trans ((locOk_iff i s a).mpr ⟨hf.head h0, hsk.1.2⟩), hcov',
      by rw [step_tech_ne i s h0]; exact hsk.2, hcan'⟩

theorem run_of_feasible (i : Inst) (as : List Nat) (hf : Feasible i as) (hc : Canonical i as) :
    ∃ s, Run env i (env.reset i) as s ∧ env.done i s = true :=
  routing.run_of_once (admissible_step i) hf.range hf.once hc.depot (fun _ => rfl)
    ⟨fun j h1 h2 _ => mem_of_count_eq_one (hf.once j h1 h2),
      (routesOk_routes i as 0).mp hf.skill, hc.prune⟩

/-- the executable canonicity test of the Spec (used by the harness to tell the known pruning from any
other blocked solution) decides `Canonical` -/
theorem canonFromB_iff (i : Inst) (as : List Nat) : ∀ k b, canonFromB i k b as = true ↔ canonFrom i k b as := by
  induction as with
  | nil => intro k b; exact ⟨fun _ => trivial, fun _ => rfl⟩
  | cons a as ih =>
    intro k b
    have hdec : decide (a = 0) = (a == 0) := (Bool.beq_eq_decide_eq a 0).symm
    simp only [canonFromB, canonFrom, Bool.and_eq_true, Bool.or_eq_true, Bool.not_eq_true',
      Bool.and_eq_false_iff, beq_eq_false_iff_ne, List.all_eq_true, beq_iff_eq, decide_eq_false_iff_not, ih, hdec,
      ne_eq, Decidable.imp_iff_not_or, Decidable.not_not, Bool.not_eq_true, or_assoc]

theorem canonical_iff (i : Inst) (as : List Nat) : canonical i as = true ↔ Canonical i as := by
  simp only [canonical, Bool.and_eq_true, canonFromB_iff, List.contains_iff_mem]
  exact ⟨fun ⟨h1, h2⟩ => ⟨h1, h2⟩, fun h => ⟨h.prune, h.depot⟩⟩

/-- the statement without the canonicity clause -/
def run_of_feasible_statement : Prop :=
  ∀ (i : Inst) (as : List Nat), WF i → Feasible i as → 0 ∈ as →
    ∃ s, Run env i (env.reset i) as s ∧ env.done i s = true

/-- depot at 0, customers at 4 and 6 on a line (ticks), technician 0 (level 1, cost 1) can serve customer 1
only, technician 1 (level 2, cost 2) both. -/
def skipInst : Inst :=
  { n := 2, T := 2, techs := fun k => if k = 0 then 1 else 2, skills := fun j => if j = 1 then 1 else 2,
    costs := fun k => (k : Int) + 1,
    D := fun a b => if a = b then 0 else if (a = 0 ∧ b = 1) ∨ (a = 1 ∧ b = 0) then 4
      else if (a = 0 ∧ b = 2) ∨ (a = 2 ∧ b = 0) then 6 else 2 }

theorem skipInst_wf : WF skipInst :=
  ⟨by decide, forall_customers (n := 2) (P := fun j => skipInst.skills j ≤ skipInst.techs 1) (by decide)⟩

/-- `[0,1,2]` (technician 0 stays at home) is feasible but its first move is not offered. -/
theorem run_of_feasible_counterexample : ¬ run_of_feasible_statement := by
  intro h
  exact not_run_of_not_admitted (by decide) <|
    h skipInst [0, 1, 2] skipInst_wf ((feasible_iff _ _).1 (by decide)) (by decide)

/-- … and it is strictly better (cost 24) than the only mask-confined complete episodes `[1,0,2]` and
`[1,0,2]`-with-padding (cost 8·1 + 12·2 = 32): every admitted run starts with customer 1 followed by the
depot. -/
theorem skipped_technician_better :
    objective skipInst [0, 1, 2] = 24 ∧ objective skipInst [1, 0, 2] = 32 ∧
    (∀ a, a < env.nAct skipInst → env.mask skipInst (env.reset skipInst) a = true → a = 1) ∧
    (∀ a, a < env.nAct skipInst →
      env.mask skipInst (env.step skipInst (env.reset skipInst) 1) a = true → a = 0) := by
  refine ⟨by decide, by decide, ?_, ?_⟩
  · show ∀ a, a < 3 → _
    decide
  · show ∀ a, a < 3 → _
    decide

/-- Non-vacuity: the instance of C01 (skill exactly = technician level; the last technician). -/
example : Feasible exInst [1, 0, 2] ∧ Canonical exInst [1, 0, 2] :=
  ⟨(feasible_iff _ _).1 (by decide), (canonical_iff _ _).1 (by decide)⟩

end Rl4co.Svrp
