/-
C05 for MCP: the mask hides no solution.  Every list of `n_sets_to_choose` distinct sets — every
k-subset in every order — is a mask-confined episode (stepped only while unfinished) that ends
finished; together with C08 the complete episodes are *exactly* the feasible selections, and the
reward of each is its objective, so the best reward reachable through the mask equals the
optimum over all feasible selections (no size bound).
-/
import Rl4co.Props.C08.Mcp
import Rl4co.Props.C03.Mcp

namespace Rl4co.Mcp
open Rl4co.Spec.Mcp

theorem complete_iff_feasible (i : Inst) (hwf : WF i) (as : List Nat) :
    (∃ s, RunND env i (env.reset i) as s ∧ env.done i s = true) ↔ Feasible i as :=
  (Sel.complete_iff view hwf.1 as).trans (feasible_iff_sel i as).symm

/-- **C05 (MCP)**: every feasible selection, in every order, is admitted and recognised as finished. -/
theorem run_of_feasible (i : Inst) (hwf : WF i) {as : List Nat} (hf : Feasible i as) :
    ∃ s, RunND env i (env.reset i) as s ∧ env.done i s = true :=
  (complete_iff_feasible i hwf as).mpr hf

/-- **optimum reachable**: for every feasible selection there is a complete mask-confined episode with
reward its objective, and every complete episode is such a selection — the set of reachable
rewards is `{objective as | Feasible as}`. -/
theorem opt_reachable (i : Inst) (hwf : WF i) (r : Int) :
    (∃ as s, RunND env i (env.reset i) as s ∧ env.done i s = true ∧ reward i s = r) ↔
    (∃ as, Feasible i as ∧ r = objective i as) :=
  Sel.reward_reachable_iff view hwf.1 (feasible_iff_sel i) (fun _ _ h => reward_eq_objective i h) r

example : Feasible ⟨3, 2, 1, 2, fun j _ => j + 1, fun _ => 1⟩ [2, 0] :=
  (feasible_iff _ _).mp (by decide)

end Rl4co.Mcp
