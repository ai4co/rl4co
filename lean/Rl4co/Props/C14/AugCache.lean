/-
C14 — `PrecomputedCache.batchify` of the AM decoder (multi-start decoding with a dynamic embedding:
the cache is expanded to `S·B` rows at every step while the state was expanded by `batchify(td, S)` in
`pre_decoder_hook`).  Row `s·B + b` of every expanded cache field is instance `b`'s cache — the same instance as state
row `s·B + b` — because both use `ops.batchify` (start-major; `Params.augCacheStartMajor`, extracted);
`repeat_interleave` (instance-major) would pair state row `r` (instance `r % B`) with the cache of instance `r / S`.
That the decoder keeps no expanded cache between calls (no per-call state on the module) is covered by the
correspondence only: the C14 sweep decodes several batches of equal shape with ONE policy object.
Uses `Rl4co.Ops.batchify_singleton_get` (Props/C12/Batchify).  No Mathlib.
-/
import Rl4co.Props.C12.Batchify
import Rl4co.Train.Eval
namespace Rl4co.Eval
open Rl4co.Ops

variable {α : Type}

theorem start_major : Params.augCacheStartMajor = true := by decide

/-- **C14 cache replication**: row `s·B + b` of an expanded cache field is row `b` of the field. -/
theorem cacheReplicate_row (x : Tens α) (B S : Nat) (rest : List Nat) (hx : x.shape = B :: rest) (hS : 0 < S)
    (s b : Nat) (hs : s < S) (hb : b < B) (t : List Nat) :
    (cacheReplicate Params.augCacheStartMajor x S).get ((s * B + b) :: t) = x.get (b :: t) := by
  rw [cacheReplicate, start_major, if_pos rfl]
  exact batchify_singleton_get x B S rest hx hs hb t

/-- every tensor field of `PrecomputedCache.batchify(S)`, and the state expanded by `batchify(td, S)`, hold instance `b`
at row `s·B + b`: the decoder scores each state row against its own instance's embeddings -/
theorem cache_state_aligned (fields : List (Option (Tens α))) (td : Tens α) (B S : Nat) (rest : List Nat)
    (hS : 0 < S) (htd : td.shape = B :: rest)
    (hf : ∀ x, some x ∈ fields → ∃ r, x.shape = B :: r)
    (s b : Nat) (hs : s < S) (hb : b < B) (t : List Nat) :
    (Ops.batchify td [S]).get ((s * B + b) :: t) = td.get (b :: t)
    ∧ ∀ y, some y ∈ cacheBatchify fields S → ∃ x, some x ∈ fields ∧ y.get ((s * B + b) :: t) = x.get (b :: t) := by
  refine ⟨batchify_singleton_get td B S rest htd hs hb t, fun y hy => ?_⟩
  obtain ⟨ox, hox, hxy⟩ := List.mem_map.mp hy
  cases ox with
  | none => cases hxy
  | some x =>
    obtain ⟨r, hr⟩ := hf x hox
    exact ⟨x, hox, Option.some.inj hxy ▸ cacheReplicate_row x B S r hr hS s b hs hb t⟩

theorem repeatInterleave_get (x : Tens α) (n S : Nat) (rest : List Nat) (hx : x.shape = n :: rest) (r : Nat) (t : List Nat) :
    (repeatInterleave x S).get (r :: t) = x.get ((r / S) :: t) := by
  rw [repeatInterleave, hx]

/-- the instance-major alternative is misaligned with the start-major state: `B = 2` instances, `S = 2` starts, state
row 1 is instance 1 but `repeat_interleave` hands it instance 0's embeddings -/
theorem repeatInterleave_misaligned :
    ∃ (x : Tens Nat) (S r : Nat), (cacheReplicate false x S).get [r] ≠ (Ops.batchify x [S]).get [r] := by
  refine ⟨{ shape := [2], get := fun idx => idx.headD 0 }, 2, 1, ?_⟩
  decide

/-- non-vacuity: B = 3, S = 2 — expanded rows 0..5 hold instances 0,1,2,0,1,2 -/
example : (List.range 6).map (fun r => (cacheReplicate true ({ shape := [3], get := fun idx => 10 + idx.headD 0 } : Tens Nat) 2).get [r])
    = [10, 11, 12, 10, 11, 12] := by decide
example : (List.range 6).map (fun r => (cacheReplicate false ({ shape := [3], get := fun idx => 10 + idx.headD 0 } : Tens Nat) 2).get [r])
    = [10, 10, 11, 11, 12, 12] := by decide

end Rl4co.Eval
