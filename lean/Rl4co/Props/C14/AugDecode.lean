/-
C14: the LOOP and the REGROUPING of greedy decoding are per-row.

`batch_eq_map_solo`: if the batched network is row-wise (`RowWise πB π1` — embeddings, attention and
normalisation do not mix rows in eval mode; for the real PyTorch modules this is CHECKED ON
SAMPLES by harness/units/aug.py; for the layer models of `AugLayers`/`AugRowWise` it is derived, `rowWise_of_rowLocal`), then greedy decoding of a batch is, row by row, the solo run of
the same row for the same number of steps; the batch stops at the first step where all rows are done; the
solo decoding of a row is a prefix of its batch row, the remaining steps being taken on a finished row — and
the reward is the same IF `done` is absorbing (`habs`) and a step on a finished state does not change the reward
(`hidle`).  These two are hypotheses about the `StepEnv`; they have the shape of the families' C02 `done_stable` and
C04 `pad_noop`, but no `StepEnv` is built from a family's `Env` here, so they are discharged only for `toyEnv` below.
Everything numerical about the network is inside the hypothesis `RowWise`.  No Mathlib.
-/
import Rl4co.Proofs.EvalLayout
namespace Rl4co.Eval

variable {I S : Type}

/-- one greedy step of one row under the per-row policy -/
def stepRow (e : StepEnv I S) (π1 : I × S → Nat) (r : I × S) : I × S := (r.1, e.step r.1 r.2 (π1 r))

def allDone (e : StepEnv I S) (rows : List (I × S)) : Bool := rows.all fun r => e.done r.1 r.2

theorem runN_succ (e : StepEnv I S) (π1 : I × S → Nat) (n : Nat) (r : I × S) :
    runN e π1 (n + 1) r = (π1 r :: (runN e π1 n (stepRow e π1 r)).1, (runN e π1 n (stepRow e π1 r)).2) := rfl

theorem runN_length (e : StepEnv I S) (π1 : I × S → Nat) (n : Nat) (r : I × S) : (runN e π1 n r).1.length = n := by
  induction n generalizing r with
  | zero => rfl
  | succ n ih => rw [runN_succ, List.length_cons, ih]

theorem rowActions_cons (as : List Nat) (steps : List (List Nat)) (b : Nat) :
    rowActions (as :: steps) b = as.getD b 0 :: rowActions steps b := rfl

theorem batchLoop_succ (e : StepEnv I S) (πB : List (I × S) → List Nat) (π1 : I × S → Nat) (hrw : RowWise πB π1)
    (fuel : Nat) (rows : List (I × S)) :
    batchLoop e πB (fuel + 1) rows = if allDone e rows then ([], rows) else
      (rows.map π1 :: (batchLoop e πB fuel (rows.map (stepRow e π1))).1,
        (batchLoop e πB fuel (rows.map (stepRow e π1))).2) := by
  have hstep : stepRows e rows (rows.map π1) = rows.map (stepRow e π1) := by
    rw [stepRows, List.zipWith_map_right, List.zipWith_self]; rfl
  simp only [batchLoop, hrw rows, hstep]
  rfl

theorem map_runN_zero (e : StepEnv I S) (π1 : I × S → Nat) (rows : List (I × S)) :
    rows.map (fun r => (runN e π1 0 r).2) = rows := List.map_id' rows

theorem map_runN_succ (e : StepEnv I S) (π1 : I × S → Nat) (t : Nat) (rows : List (I × S)) :
    rows.map (fun r => (runN e π1 (t + 1) r).2) = (rows.map (stepRow e π1)).map fun r => (runN e π1 t r).2 := by
  rw [List.map_map]; rfl

/-- core: under a row-wise network the batched loop is `runN` on every row, for the number `T` of steps the
loop made; `T` is the first step count at which all rows are done (or the fuel). -/
theorem batchLoop_rowwise (e : StepEnv I S) (πB : List (I × S) → List Nat) (π1 : I × S → Nat) (hrw : RowWise πB π1)
    (fuel : Nat) (rows : List (I × S)) :
    ∃ T, (batchLoop e πB fuel rows).1.length = T ∧ T ≤ fuel
      ∧ (batchLoop e πB fuel rows).2 = rows.map (fun r => (runN e π1 T r).2)
      ∧ (∀ b (hb : b < rows.length), rowActions (batchLoop e πB fuel rows).1 b = (runN e π1 T rows[b]).1)
      ∧ (T < fuel → allDone e (rows.map fun r => (runN e π1 T r).2) = true)
      ∧ (∀ t, t < T → allDone e (rows.map fun r => (runN e π1 t r).2) = false) := by
  induction fuel generalizing rows with
  | zero =>
    exact ⟨0, rfl, Nat.le_refl 0, (map_runN_zero e π1 rows).symm, fun _ _ => rfl,
      fun h => absurd h (Nat.lt_irrefl 0), fun t ht => absurd ht (Nat.not_lt_zero t)⟩
  | succ fuel ih =>
    rw [batchLoop_succ e πB π1 hrw]
    cases hd : allDone e rows with
    | true =>
      exact ⟨0, rfl, Nat.zero_le _, (map_runN_zero e π1 rows).symm, fun _ _ => rfl,
        fun _ => by rw [map_runN_zero]; exact hd, fun t ht => absurd ht (Nat.not_lt_zero t)⟩
    | false =>
      obtain ⟨T, hT, hle, h1, h2, h3, h4⟩ := ih (rows.map (stepRow e π1))
      refine ⟨T + 1, congrArg Nat.succ hT, Nat.succ_le_succ hle, h1.trans (map_runN_succ e π1 T rows).symm,
        fun b hb => ?_, fun hlt => ?_, fun t ht => ?_⟩
      · have := h2 b (by rw [List.length_map]; exact hb)
        rw [List.getElem_map] at this
        rw [if_neg Bool.false_ne_true, rowActions_cons, runN_succ, this, getD_eq_getElem _ _ (by rw [List.length_map]; exact hb),
          List.getElem_map]
      · rw [map_runN_succ]; exact h3 (Nat.lt_of_succ_lt_succ hlt)
      · cases t with
        | zero => rw [map_runN_zero]; exact hd
        | succ t => rw [map_runN_succ]; exact h4 t (Nat.lt_of_succ_lt_succ ht)

/-- **C14 `batch_eq_map_solo`**: with a row-wise network, greedy decoding of a batch is the map of the per-row
runs: for the `T` steps the loop made, row `b`'s actions and final state are those of `runN … T` started from
that row alone — whatever the other rows are, wherever row `b` sits, whatever the batch size. -/
theorem batch_eq_map_solo (e : StepEnv I S) (πB : List (I × S) → List Nat) (π1 : I × S → Nat) (hrw : RowWise πB π1)
    (fuel : Nat) (insts : List I) :
    (decodeBatch e πB fuel insts).2
        = insts.map (fun i => (runN e π1 (decodeBatch e πB fuel insts).1.length (i, e.reset i)).2)
    ∧ ∀ b (hb : b < insts.length),
        rowActions (decodeBatch e πB fuel insts).1 b
          = (runN e π1 (decodeBatch e πB fuel insts).1.length (insts[b], e.reset insts[b])).1 := by
  obtain ⟨T, hT, _, h1, h2, _⟩ := batchLoop_rowwise e πB π1 hrw fuel (insts.map fun i => (i, e.reset i))
  rw [decodeBatch, hT]
  refine ⟨h1.trans List.map_map, fun b hb => ?_⟩
  have := h2 b (by rw [List.length_map]; exact hb)
  rwa [List.getElem_map] at this

/-- decoding one instance alone: the same loop on a batch of size one -/
def decodeSolo (e : StepEnv I S) (π1 : I × S → Nat) (fuel : Nat) (i : I) : List (List Nat) × List (I × S) :=
  decodeBatch e (fun rows => rows.map π1) fuel [i]

theorem runN_snoc (e : StepEnv I S) (π1 : I × S → Nat) (n : Nat) (r : I × S) :
    (runN e π1 (n + 1) r).1 = (runN e π1 n r).1 ++ [π1 (runN e π1 n r).2]
    ∧ (runN e π1 (n + 1) r).2 = stepRow e π1 (runN e π1 n r).2 := by
  induction n generalizing r with
  | zero => exact ⟨rfl, rfl⟩
  | succ n ih =>
    have := ih (stepRow e π1 r)
    rw [runN_succ e π1 (n + 1) r, this.1, this.2, runN_succ e π1 n r]
    exact ⟨rfl, rfl⟩

theorem runN_take (e : StepEnv I S) (π1 : I × S → Nat) (m n : Nat) (h : m ≤ n) (r : I × S) :
    (runN e π1 n r).1.take m = (runN e π1 m r).1 := by
  induction m generalizing n r with
  | zero => rfl
  | succ m ih =>
    cases n with
    | zero => exact absurd h (Nat.not_succ_le_zero m)
    | succ n => rw [runN_succ, runN_succ, List.take_succ_cons, ih n (Nat.le_of_succ_le_succ h)]

theorem runN_inst (e : StepEnv I S) (π1 : I × S → Nat) (n : Nat) (r : I × S) : (runN e π1 n r).2.1 = r.1 := by
  induction n with
  | zero => rfl
  | succ n ih => rw [(runN_snoc e π1 n r).2]; exact ih

theorem runN_state (e : StepEnv I S) (π1 : I × S → Nat) (n : Nat) (r : I × S) :
    (runN e π1 n r).2.2 = (runN e π1 n r).1.foldl (e.step r.1) r.2 := by
  induction n with
  | zero => rfl
  | succ n ih =>
    rw [(runN_snoc e π1 n r).2, (runN_snoc e π1 n r).1, List.foldl_append, ← ih, stepRow, runN_inst]
    rfl

theorem done_mono (e : StepEnv I S) (π1 : I × S → Nat) (habs : ∀ i s a, e.done i s = true → e.done i (e.step i s a) = true)
    (r : I × S) (m k : Nat) (h : e.done (runN e π1 m r).2.1 (runN e π1 m r).2.2 = true) :
    e.done (runN e π1 (m + k) r).2.1 (runN e π1 (m + k) r).2.2 = true := by
  induction k with
  | zero => exact h
  | succ k ih =>
    rw [← Nat.add_assoc, (runN_snoc e π1 (m + k) r).2]
    exact habs _ _ _ ih

/-- the rows of a batch keep being stepped after they are done; if a step on a done state does not change the reward
(`hidle`, the shape of C04's `pad_noop`) those extra steps are invisible -/
theorem reward_after_done (e : StepEnv I S) (π1 : I × S → Nat) (rew : I → List Nat → Int)
    (habs : ∀ i s a, e.done i s = true → e.done i (e.step i s a) = true)
    (hidle : ∀ i (as : List Nat) (a : Nat), e.done i (as.foldl (e.step i) (e.reset i)) = true → rew i (as ++ [a]) = rew i as)
    (i : I) {m n : Nat} (hmn : m ≤ n) (h : e.done (runN e π1 m (i, e.reset i)).2.1 (runN e π1 m (i, e.reset i)).2.2 = true) :
    rew i (runN e π1 n (i, e.reset i)).1 = rew i (runN e π1 m (i, e.reset i)).1 := by
  obtain ⟨k, rfl⟩ := Nat.le.dest hmn
  clear hmn
  induction k with
  | zero => rfl
  | succ k ih =>
    rw [← Nat.add_assoc, (runN_snoc e π1 (m + k) (i, e.reset i)).1, hidle, ih]
    have := done_mono e π1 habs (i, e.reset i) m k h
    rwa [runN_inst, runN_state] at this

theorem allDone_singleton (e : StepEnv I S) (r : I × S) : allDone e [r] = e.done r.1 r.2 := Bool.and_true _

/-- **C14**: the solo decoding of row `b` is a prefix of its row in the batch (`T_solo ≤ T_batch`; the batch
runs until its slowest row is done), the solo run ends in a done state, and with the idle-step law the reward
of the batch row equals the reward of the solo decoding. -/
theorem solo_prefix_of_batch (e : StepEnv I S) (πB : List (I × S) → List Nat) (π1 : I × S → Nat) (hrw : RowWise πB π1)
    (fuel : Nat) (insts : List I) (b : Nat) (hb : b < insts.length)
    (hfuel : (decodeBatch e πB fuel insts).1.length < fuel) :
    (decodeSolo e π1 fuel insts[b]).1.length ≤ (decodeBatch e πB fuel insts).1.length
    ∧ rowActions (decodeSolo e π1 fuel insts[b]).1 0
        = (rowActions (decodeBatch e πB fuel insts).1 b).take (decodeSolo e π1 fuel insts[b]).1.length
    ∧ rowActions (decodeSolo e π1 fuel insts[b]).1 0
        = (runN e π1 (decodeSolo e π1 fuel insts[b]).1.length (insts[b], e.reset insts[b])).1
    ∧ e.done insts[b] (runN e π1 (decodeSolo e π1 fuel insts[b]).1.length (insts[b], e.reset insts[b])).2.2 = true := by
  obtain ⟨T, hT, _, g1, g2, g4, _⟩ := batchLoop_rowwise e πB π1 hrw fuel (insts.map fun i => (i, e.reset i))
  obtain ⟨Ts, hTs, hsle, _, s2, s4, s5⟩ :=
    batchLoop_rowwise e (fun rows => rows.map π1) π1 (fun _ => rfl) fuel [(insts[b], e.reset insts[b])]
  have hrow := g2 b (by rw [List.length_map]; exact hb)
  rw [List.getElem_map] at hrow
  rw [decodeBatch, hT] at hfuel
  rw [decodeSolo, decodeBatch, decodeBatch, hT, List.map_singleton, hTs, hrow]
  simp only [List.map_singleton, allDone_singleton, runN_inst] at s4 s5
  -- row `b` is done when the batch stops …
  have hdoneT : e.done insts[b] (runN e π1 T (insts[b], e.reset insts[b])).2.2 = true := by
    have hall := List.all_eq_true.mp (g4 hfuel) _
      (List.mem_map.mpr ⟨_, List.mem_map.mpr ⟨_, List.getElem_mem hb, rfl⟩, rfl⟩)
    rwa [runN_inst] at hall
  -- … so its solo run, which stops at the first done state, is not longer
  have hle : Ts ≤ T := Nat.le_of_not_lt fun hlt => Bool.false_ne_true ((s5 T hlt).symm.trans hdoneT)
  exact ⟨hle, (runN_take e π1 Ts T hle _).symm ▸ s2 0 Nat.zero_lt_one, s2 0 Nat.zero_lt_one,
    s4 (Nat.lt_of_le_of_lt hle hfuel)⟩

theorem batch_reward_eq_solo (e : StepEnv I S) (πB : List (I × S) → List Nat) (π1 : I × S → Nat) (hrw : RowWise πB π1)
    (rew : I → List Nat → Int)
    (habs : ∀ i s a, e.done i s = true → e.done i (e.step i s a) = true)
    (hidle : ∀ i (as : List Nat) (a : Nat), e.done i (as.foldl (e.step i) (e.reset i)) = true → rew i (as ++ [a]) = rew i as)
    (fuel : Nat) (insts : List I) (b : Nat) (hb : b < insts.length)
    (hfuel : (decodeBatch e πB fuel insts).1.length < fuel) :
    rew insts[b] (rowActions (decodeBatch e πB fuel insts).1 b) = rew insts[b] (rowActions (decodeSolo e π1 fuel insts[b]).1 0) := by
  obtain ⟨hle, _, hact, hdone⟩ := solo_prefix_of_batch e πB π1 hrw fuel insts b hb hfuel
  rw [hact, (batch_eq_map_solo e πB π1 hrw fuel insts).2 b hb]
  exact reward_after_done e π1 rew habs hidle insts[b] hle (by rw [runN_inst]; exact hdone)

/-- **decoder cache regrouping**: computing on the `[B, S]` view `unbatchify(td, S)` and flattening the result
with `rearrange "b s l -> (s b) l"` puts every row back where it came from — for every factorisation
`len = S * B`.  (The per-row computation in between is part of `RowWise`.) -/
theorem regroup_unbatch {β : Type} [Inhabited β] (S B : Nat) (hS : 0 < S) (xs : List β) (hlen : xs.length = S * B) :
    regroupSB S (unbatch S xs) = xs := by
  have hg : ∀ s, s < S → ((unbatch S xs).map fun row => row.getD s default).length = B := fun s _ => by
    rw [List.length_map, unbatch_length S B hS xs hlen]
  apply List.ext_getElem?
  intro i
  by_cases hi : i < S * B
  · -- position `s * B + b` of the flattened result is entry `s` of row `b` of the view, i.e. `xs[s * B + b]`
    obtain ⟨s, b, hs, hb, rfl⟩ := idx_split hi
    have hx : s * B + b < xs.length := hlen ▸ hi
    rw [regroupSB, getElem?_flatMap_range hg hs hb, List.getElem?_map, unbatch_getElem? S B hS xs hlen b hb,
      Option.map_some, getD_map_range _ hs, getD_eq_getElem xs _ hx, List.getElem?_eq_getElem hx]
  · have h1 : (regroupSB S (unbatch S xs)).length = S * B := length_flatMap_range hg
    rw [List.getElem?_eq_none (by omega), List.getElem?_eq_none (by omega)]

/-- toy environment: instance `n` needs `n` steps; the row-wise "network" plays `n + t` at step `t` -/
def toyEnv : StepEnv Nat Nat := { reset := fun _ => 0, step := fun _ t _ => t + 1, done := fun n t => decide (n ≤ t) }
def toyπ : Nat × Nat → Nat := fun r => r.1 + r.2
def toyRew (n : Nat) (as : List Nat) : Int := - ((as.take n).map Int.ofNat).sum

example : RowWise (fun rows => rows.map toyπ) toyπ := fun _ => rfl

example : ∀ i s a, toyEnv.done i s = true → toyEnv.done i (toyEnv.step i s a) = true := by
  intro i s a h; simp [toyEnv] at h ⊢; omega

theorem toy_state (n : Nat) (as : List Nat) : as.foldl (toyEnv.step n) (toyEnv.reset n) = as.length := by
  have : ∀ (as : List Nat) (s : Nat), as.foldl (toyEnv.step n) s = s + as.length := by
    intro as
    induction as with
    | nil => simp
    | cons a as ih => intro s; rw [List.foldl_cons, ih]; simp [toyEnv]; omega
  have h0 := this as 0
  simp [toyEnv] at h0 ⊢

example : ∀ i (as : List Nat) (a : Nat), toyEnv.done i (as.foldl (toyEnv.step i) (toyEnv.reset i)) = true →
    toyRew i (as ++ [a]) = toyRew i as := by
  intro i as a h
  rw [toy_state] at h
  simp [toyEnv] at h
  simp [toyRew, List.take_append_of_le_length h]

/-- rows needing 2, 3 and 1 steps: the batch makes 3 steps; row 0 = solo(2 steps) ++ one idle action, … -/
example : decodeBatch toyEnv (fun rows => rows.map toyπ) 10 [2, 3, 1]
    = ([[2, 3, 1], [3, 4, 2], [4, 5, 3]], [(2, 3), (3, 3), (1, 3)]) := by decide
example : (decodeSolo toyEnv toyπ 10 2).1 = [[2], [3]] := by decide
example : rowActions (decodeBatch toyEnv (fun rows => rows.map toyπ) 10 [2, 3, 1]).1 0 = [2, 3, 4] := by decide
example : toyRew 2 [2, 3, 4] = toyRew 2 [2, 3] := by decide
example : regroupSB 2 (unbatch 2 [10, 11, 12, 20, 21, 22]) = [10, 11, 12, 20, 21, 22] := by decide
example : unbatch 2 [10, 11, 12, 20, 21, 22] = [[10, 20], [11, 21], [12, 22]] := by decide
end Rl4co.Eval
