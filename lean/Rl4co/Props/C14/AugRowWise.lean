/-
C14 — `RowWise` derived layer by layer instead of assumed of the whole network.  The attention-model forward
pass is modelled at the level of index algebra (Train/Eval.lean: `Layer`, `RowLocal`, the layer kinds and their
composition).  Row-local layers compose (`compL`, `zipL`, `stackL`) and a kind written as `perRow φ` is row-local whatever
`φ` is (`perRow_rowLocal`: the per-row formulas `linearRow`, `attnRow`, … of Train/Eval.lean are not inspected by the
positive theorems, only by the counterexamples), so the AM encoder stack + graph context + context gather is row-local
for every depth unless the normalisation uses batch statistics, and a row-local network followed by a per-row decision
is `RowWise`.  The kinds that cannot be written as `perRow` (batch statistics, a gate from the batch mean, a parameter
read from row 0, random draws in row-major order, a squeeze that drops the batch dimension at B = 1) each come with a
counterexample.
What stays sampled (harness/units/aug.py): that each concrete PyTorch module is an instance of its kind (e.g. that
`nn.Linear`, `scaled_dot_product_attention`, `nn.InstanceNorm1d` compute the per-row formulas), float rounding.
No Mathlib.
-/
import Rl4co.Props.C14.AugDecode
namespace Rl4co.Eval
open Lean.Grind (CommRing)

variable {X Y Z Y' : Type}

theorem perRow_rowLocal (φ : X → Y) : RowLocal (perRow φ) := by
  intro B B' x x' b b' _ _ h; simp [perRow, h]

theorem compL_rowLocal (G : Layer Y Z) (F : Layer X Y) (hG : RowLocal G) (hF : RowLocal F) : RowLocal (compL G F) := by
  intro B B' x x' b b' hb hb' h
  exact hG B B' _ _ b b' hb hb' (hF B B' x x' b b' hb hb' h)

theorem zipL_rowLocal (op : Y → Y' → Z) (F : Layer X Y) (G : Layer X Y') (hF : RowLocal F) (hG : RowLocal G) :
    RowLocal (zipL op F G) := by
  intro B B' x x' b b' hb hb' h
  simp only [zipL, hF B B' x x' b b' hb hb' h, hG B B' x x' b b' hb hb' h]

def stackL (F : Layer X X) : Nat → Layer X X
  | 0 => perRow id
  | n + 1 => compL F (stackL F n)

theorem stackL_rowLocal (F : Layer X X) (hF : RowLocal F) (n : Nat) : RowLocal (stackL F n) := by
  induction n with
  | zero => exact perRow_rowLocal id
  | succ n ih => exact compL_rowLocal F _ hF ih

section
variable {α : Type} [CommRing α]

/-- every normalisation kind except batch statistics is row-local -/
theorem normLayer_rowLocal (kind : NormKind) (hk : kind ≠ .batchTrain) (N : Nat) (μ ρ : Nat → α)
    (istat : (Nat → α) → α × α) (lstat : Row α → α × α) : RowLocal (normLayer kind N μ ρ istat lstat) := by
  cases kind with
  | batchEval => exact perRow_rowLocal _
  | instNorm => exact perRow_rowLocal _
  | layerNorm => exact perRow_rowLocal _
  | batchTrain => exact absurd rfl hk

/-- **C14** one AM encoder layer (`norm(x + MHA(x))`, `norm(h + FF(h))`) is row-local whenever its normalisation is;
linear maps, per-instance attention and residual additions never mix rows. -/
theorem encoderLayer_rowLocal (N D : Nat) (w : (Nat → α) → Nat → α) (W : Nat → Nat → α) (bias : Nat → α)
    (norm : Layer (Row α) (Row α)) (hn : RowLocal norm) : RowLocal (encoderLayer N D w W bias norm) := by
  unfold encoderLayer
  apply compL_rowLocal
  · exact compL_rowLocal _ _ hn (zipL_rowLocal _ _ _ (perRow_rowLocal _) (perRow_rowLocal _))
  · exact compL_rowLocal _ _ hn (zipL_rowLocal _ _ _ (perRow_rowLocal _) (perRow_rowLocal _))

/-- **C14** the encoder stack followed by context gather + graph context (mean pool), for every depth: row-local as
soon as the configured normalisation kind is not batch statistics (pointer logits: `amPolicyStep_rowLocal`). -/
theorem amNetwork_rowLocal (L N D cur : Nat) (w : (Nat → α) → Nat → α) (W : Nat → Nat → α) (bias : Nat → α)
    (kind : NormKind) (hk : kind ≠ .batchTrain) (μ ρ : Nat → α) (istat : (Nat → α) → α × α) (lstat : Row α → α × α) :
    RowLocal (compL (zipL (fun (q g : Row α) n d => q n d + g n d) (perRow (gatherRow cur)) (perRow (meanPoolRow N)))
      (stackL (encoderLayer N D w W bias (normLayer kind N μ ρ istat lstat)) L)) := by
  apply compL_rowLocal
  · exact zipL_rowLocal _ _ _ (perRow_rowLocal _) (perRow_rowLocal _)
  · exact stackL_rowLocal _ (encoderLayer_rowLocal N D w W bias _ (normLayer_rowLocal kind hk N μ ρ istat lstat)) L
end

theorem batchNormTrain_not_rowLocal : ¬ RowLocal (batchNormTrain (α := Int) 1) := by
  intro h
  have := h 1 2 (fun _ _ _ => 1) (fun b _ _ => if b = 0 then 1 else 3) 0 0 (by decide) (by decide) (by funext n d; simp)
  have e := congrFun (congrFun this 0) 0
  revert e
  decide

theorem batchMeanGate_not_rowLocal : ¬ RowLocal (batchMeanGate (α := Int)) := by
  intro h
  have := h 1 2 (fun _ _ _ => 1) (fun b _ _ => if b = 0 then 1 else 3) 0 0 (by decide) (by decide) (by funext n d; simp)
  have e := congrFun (congrFun this 0) 0
  revert e
  decide

/-- reading a per-instance parameter from row 0: the same row at position 1 behind a different row 0 sees the other value -/
theorem readsRowZero_not_rowLocal : ¬ RowLocal (readsRowZero (α := Int)) := by
  intro h
  have := h 1 2 (fun _ _ _ => 1) (fun b _ _ => if b = 0 then 5 else 1) 0 1 (by decide) (by decide) (by funext n d; simp)
  have e := congrFun (congrFun this 0) 0
  revert e
  decide

/-- random draws in row-major order: the same row at another batch position gets other numbers (unless the stream is
periodic) — and decoding alone twice gives different answers as soon as the stream moves on -/
theorem rngLayer_not_rowLocal (C : Nat) (draw : Nat → Int) (hd : draw 0 ≠ draw C) : ¬ RowLocal (rngLayer C draw) := by
  intro h
  have := h 1 2 (fun _ _ _ => 0) (fun _ _ _ => 0) 0 1 (by decide) (by decide) rfl
  have e := congrFun (congrFun this 0) 0
  simp [rngLayer] at e
  exact hd e

theorem squeezeAll_not_rowLocal (φ : X → Y) (x0 : X) : ¬ RowLocal (squeezeAll φ) := by
  intro h
  have := h 1 2 (fun _ => x0) (fun _ => x0) 0 0 (by decide) (by decide) rfl
  simp [squeezeAll] at this

/-- outside eval mode, or without running statistics, batch normalisation is of the one kind that is not row-local -/
theorem normKind_batch_train (tr : Bool) : normKindOf 0 tr false = .batchTrain := by simp [normKindOf]
theorem normKind_batch_no_running (ev : Bool) : normKindOf 0 false ev = .batchTrain := by simp [normKindOf]

/-- obligations on the extracted `Normalization` table: in EVAL mode none of the configured kinds uses batch statistics,
and the `"layer"` branch reduces over non-batch dims only -/
theorem configured_norms_rowLocal_in_eval :
    ∀ c ∈ Params.augNormKinds, normKindOf c Params.augNormTracksRunning true ≠ .batchTrain := by decide
theorem layerNorm_dims_exclude_batch : 0 ∉ Params.augLayerNormDims := by decide

/-- **C14** a row-local network followed by a per-row decision is `RowWise`: the hypothesis of the decoding theorems
is one per LAYER KIND -/
theorem rowWise_of_rowLocal {I S L : Type} (dflt : I × S) (net : Layer (I × S) L) (pick : L → Nat) (h : RowLocal net) :
    RowWise (policyOf dflt net pick) (fun r => pick (net 1 (fun _ => r) 0)) := by
  intro rows
  conv => rhs; rw [← map_getD_range rows dflt, List.map_map]
  exact List.map_congr_left fun b hb => congrArg pick (h _ 1 _ _ b 0 (List.mem_range.mp hb) Nat.one_pos rfl)

/-- **C14 (composition form)**: greedy decoding with a network made of row-local layers is per-instance -/
theorem batch_eq_map_solo_of_rowLocal {I S L : Type} (e : StepEnv I S) (dflt : I × S) (net : Layer (I × S) L) (pick : L → Nat)
    (h : RowLocal net) (fuel : Nat) (insts : List I) (b : Nat) (hb : b < insts.length) :
    rowActions (decodeBatch e (policyOf dflt net pick) fuel insts).1 b
      = (runN e (fun r => pick (net 1 (fun _ => r) 0)) (decodeBatch e (policyOf dflt net pick) fuel insts).1.length
          (insts[b], e.reset insts[b])).1 :=
  (batch_eq_map_solo e _ _ (rowWise_of_rowLocal dflt net pick h) fuel insts).2 b hb

/-- non-vacuity: a concrete 1-layer network over `Int` (all attention weight on node 0, eval-mode batch norm with constant
statistics): the same row gives the same output alone and at position 1 of a batch of two -/
example : encoderLayer (α := Int) 2 1 (fun _ m => if m = 0 then 1 else 0) (fun _ _ => 2) (fun _ => 1)
      (perRow (batchNormEvalRow (fun _ => 0) (fun _ => 1))) 1 (fun _ n _ => (n : Int) + 1) 0 1 0
    = encoderLayer (α := Int) 2 1 (fun _ m => if m = 0 then 1 else 0) (fun _ _ => 2) (fun _ => 1)
      (perRow (batchNormEvalRow (fun _ => 0) (fun _ => 1))) 2 (fun b n _ => if b = 1 then (n : Int) + 1 else 7) 1 1 0 := by
  decide

end Rl4co.Eval
