/-
C14 — the feed-forward block and one whole decoding step of the AM decoder (`amDecoderRow`: masked attention,
`PointerAttention` and the SDVRP dynamic embedding inside one per-row function) are per-row kinds, hence row-local by
`perRow_rowLocal`, and so is encoder ∘ state ∘ decoder (`amPolicyStep_rowLocal`, by composition); a decoder context that takes a state field from row 0 is refuted
(`decoderReadsRowZero_not_rowLocal`); obligations on the extracted scans of the nn modules
(`batch_dim_reductions_known`: every reduction over dim 0 is a known one; `forced_train_sites_known`).  No Mathlib.
-/
import Rl4co.Props.C14.AugRowWise
namespace Rl4co.Eval
open Lean.Grind (CommRing)

section
variable {α : Type} [CommRing α]

theorem mlp_rowLocal (D H : Nat) (W1 : Nat → Nat → α) (b1 : Nat → α) (g : α → α) (W2 : Nat → Nat → α) (b2 : Nat → α) :
    RowLocal (perRow (mlpRow D H W1 b1 g W2 b2)) := perRow_rowLocal _

/-- **C14** one decoding step of the AM decoder (context gather + graph context, dynamic keys / values, masked pointer
attention, mask and current node taken from the row's own state) is row-local -/
theorem amDecoder_rowLocal (N D : Nat) (w : (Nat → α) → Nat → α) (neg : α) (Wq Wk Wv Wl Wout : Nat → Nat → α) (Wdyn : Nat → α) :
    RowLocal (perRow (amDecoderRow N D w neg Wq Wk Wv Wl Wout Wdyn)) := perRow_rowLocal _

/-- **C14** encoder (any depth, any non-batch-statistics normalisation) followed by the decoder step: the per-step logits
of a row depend on that row only -/
theorem amPolicyStep_rowLocal (L N D : Nat) (w : (Nat → α) → Nat → α) (neg : α) (W : Nat → Nat → α) (bias : Nat → α)
    (Wq Wk Wv Wl Wout : Nat → Nat → α) (Wdyn : Nat → α) (kind : NormKind) (hk : kind ≠ .batchTrain) (μ ρ : Nat → α)
    (istat : (Nat → α) → α × α) (lstat : Row α → α × α)
    (state : Layer (StepIn α) (StepIn α)) (hstate : RowLocal state) :
    RowLocal (compL (perRow (amDecoderRow N D w neg Wq Wk Wv Wl Wout Wdyn))
      (compL state (zipL (fun (e : Row α) (x : StepIn α) => { x with emb := e })
        (compL (stackL (encoderLayer N D w W bias (normLayer kind N μ ρ istat lstat)) L) (perRow (fun x : StepIn α => x.emb)))
        (perRow id)))) := by
  apply compL_rowLocal _ _ (perRow_rowLocal _)
  apply compL_rowLocal _ _ hstate
  apply zipL_rowLocal
  · exact compL_rowLocal _ _ (stackL_rowLocal _ (encoderLayer_rowLocal N D w W bias _ (normLayer_rowLocal kind hk N μ ρ istat lstat)) L)
      (perRow_rowLocal _)
  · exact perRow_rowLocal _
end

/-- a decoder context that takes a state field from row 0 is not row-local -/
theorem decoderReadsRowZero_not_rowLocal :
    ¬ RowLocal (decoderReadsRowZero (α := Int) 1 1 (fun _ _ => 1) 0 (fun _ _ => 1) (fun _ _ => 1) (fun _ _ => 1)
      (fun _ _ => 1) (fun _ _ => 1) (fun _ => 1)) := by
  intro h
  let r : StepIn Int := { emb := fun _ _ => 1, cur := 0, mask := fun _ => true, demand := fun _ => 1 }
  let r0 : StepIn Int := { emb := fun _ _ => 1, cur := 0, mask := fun _ => true, demand := fun _ => 5 }
  have := h 1 2 (fun _ => r) (fun b => if b = 0 then r0 else r) 0 1 (by decide) (by decide) (by simp)
  have e := congrFun this 0
  revert e
  decide

/-- obligations on the extracted scans of the nn modules: every reduction over the batch dimension and every site that forces
training behaviour is one of the known, accounted-for ones -/
theorem batch_dim_reductions_known : ∀ s ∈ Params.augBatchDimReductions, s ∈ knownBatchReductions := by
  -- `simp` compares the string literals syntactically; kernel evaluation of `String` equality is far slower
  simp [Params.augBatchDimReductions, knownBatchReductions]
theorem forced_train_sites_known : ∀ s ∈ Params.augForcedTrainMode, s ∈ knownForcedTrain := by
  simp [Params.augForcedTrainMode, knownForcedTrain]

end Rl4co.Eval
