/-
C14 — non-autoregressive (heatmap) decoding.  `NonAutoregressiveDecoder.heatmap_to_logits` scores decoded row `r`
against heatmap row `_multistart_batched_index(B, S)[r]`.  Proved: that index is `r ↦ r mod B` for every `B, S`
(`narIndex_getElem?`: the row→instance map `batch_eq_map_solo` and the C12 layout need), so a decoded row reads its own
instance's heatmap (`narLogitsRow_own_instance`); with the memoisation keyed by BOTH arguments (`Params.augNarIndexKeyHasBoth`,
extracted: `@lru_cache` on `(batch_size, num_starts)`) the cached index of a call equals the fresh one after EVERY history of
calls (`narCachedIndex_eq`); keyed by the number of decoded rows only, `(4,2)` followed by `(8,1)` hands rows 4..7 the heatmaps
of instances 0..3 (`narCachedIndex_rowsKey_counterexample`).  Obligation on the extracted list of caches in the decoding path:
`decode_caches_known`.  No Mathlib.
-/
import Rl4co.Proofs.EvalLayout
namespace Rl4co.Eval

theorem nar_start_major : Params.augNarIndexStartMajor = true := by decide
theorem nar_key_has_both : Params.augNarIndexKeyHasBoth = true := by decide

/-- without multi-start (`S ≤ 1`) the index is the one-copy case of the same tiling -/
theorem narIndex_eq (B S : Nat) : narIndex B S = tile (max S 1) (List.range B) := by
  rw [narIndex, narIndexWith, nar_start_major, if_pos rfl]
  split
  · rename_i h; rw [Nat.max_eq_right h]; exact (List.append_nil _).symm
  · rename_i h; rw [Nat.max_eq_left (Nat.le_of_not_le h)]

theorem narIndex_length (B S : Nat) : (narIndex B S).length = B * max S 1 := by
  rw [narIndex_eq, tile_length, List.length_range, Nat.mul_comm]

/-- **C14 / C12 (NAR index)** for every batch size and every number of starts, decoded row `r` is mapped to instance
`r mod B` -/
theorem narIndex_getElem? (B S r : Nat) (hr : r < B * max S 1) : (narIndex B S)[r]? = some (r % B) := by
  rw [Nat.mul_comm] at hr
  obtain ⟨s, b, hs, hb, rfl⟩ := idx_split hr
  have := tile_getElem? (max S 1) (List.range B) s b hs (by rw [List.length_range]; exact hb)
  rw [List.length_range] at this
  rw [narIndex_eq, this, List.getElem?_range hb, idx_mod hb]

/-- a decoded row is scored against the heatmap of its own instance -/
theorem narLogitsRow_own_instance {H : Type} (heat : Nat → Nat → H) (cur : Nat → Nat) (B S r : Nat) (hr : r < B * max S 1) :
    narLogitsRow heat (narIndex B S) cur r = heat (r % B) (cur r) := by
  simp [narLogitsRow, List.getD_eq_getElem?_getD, narIndex_getElem? B S r hr]

/-- **C14 (history)** with the memoisation keyed by both arguments, whatever was decoded before in the process, a call
`(B, S)` gets exactly the index `narIndex B S` -/
theorem narCachedIndex_eq (hist : List (Nat × Nat)) (B S : Nat) :
    narCachedIndex Params.augNarIndexKeyHasBoth hist B S = narIndex B S := by
  simp only [narCachedIndex, nar_key_has_both, narKey, if_true]
  cases hf : hist.find? (fun c => (c.1, c.2) == (B, S)) with
  | none => rfl
  | some c =>
    have := List.find?_some hf
    simp only [beq_iff_eq, Prod.mk.injEq] at this
    simp [this.1, this.2]

/-- keyed by the number of decoded rows only: after a `(4, 2)` multi-start call, plain greedy on 8 instances reuses the stale
index and row 4 reads instance 0 -/
theorem narCachedIndex_rowsKey_counterexample :
    narCachedIndex false [(4, 2)] 8 1 = [0, 1, 2, 3, 0, 1, 2, 3] ∧ narIndex 8 1 = [0, 1, 2, 3, 4, 5, 6, 7] := by decide

/-- caches in the decoding path that are known and keyed by all their arguments -/
def knownDecodeCaches : List String :=
  ["models/common/constructive/nonautoregressive/decoder.py:_multistart_batched_index:lru_cache",
   "utils/ops.py:get_full_graph_edge_index:lru_cache"]

theorem decode_caches_known : ∀ s ∈ Params.augDecodeCaches, s ∈ knownDecodeCaches := by
  simp [Params.augDecodeCaches, knownDecodeCaches]

example : narIndex 3 2 = [0, 1, 2, 0, 1, 2] := by decide
example : narIndex 4 0 = [0, 1, 2, 3] := by decide
example : narCachedIndex true [(4, 2), (2, 4)] 8 1 = narIndex 8 1 := by decide

end Rl4co.Eval
