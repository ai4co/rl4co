/-
C14 — masked attention is PADDING-local — the output on a real row does not depend on the number or the content of the
masked (padded) columns (`maskedAttn_padding_local`); "softmax over all columns, then multiply by the mask" is not
(`maskAfterSoftmax_not_padding_local`); `HetGNNLayer` uses the masked form (`Params.augHgnnMasksBeforeSoftmax`, extracted) and is
therefore padding-local (`hgnnAttn_padding_local`).  No Mathlib.
-/
import Rl4co.Train.Eval
namespace Rl4co.Eval
open Lean.Grind (CommRing)

section
variable {α : Type} [CommRing α]

theorem sumRange_succ (n : Nat) (f : Nat → α) : sumRange (n + 1) f = sumRange n f + f n := by
  simp [sumRange, List.range_succ, List.foldl_append]

theorem sumRange_congr (n : Nat) (f g : Nat → α) (h : ∀ m, m < n → f m = g m) : sumRange n f = sumRange n g := by
  induction n with
  | zero => rfl
  | succ n ih =>
    rw [sumRange_succ, sumRange_succ, ih (fun m hm => h m (Nat.lt_succ_of_lt hm)), h n (Nat.lt_succ_self n)]

/-- appending columns whose terms vanish does not change a sum -/
theorem sumRange_pad (n k : Nat) (f : Nat → α) (h : ∀ m, n ≤ m → f m = 0) : sumRange (n + k) f = sumRange n f := by
  induction k with
  | zero => rfl
  | succ k ih => rw [← Nat.add_assoc, sumRange_succ, ih, h (n + k) (Nat.le_add_right n k), Lean.Grind.Semiring.add_zero]

theorem maskedSum_padding_local (N k : Nat) (mask mask' : Nat → Bool) (f f' : Nat → α)
    (hm : ∀ m, m < N → mask' m = mask m) (hpad : ∀ m, N ≤ m → mask' m = false)
    (hf : ∀ m, m < N → mask m = true → f' m = f m) :
    sumRange (N + k) (fun m => if mask' m then f' m else 0) = sumRange N (fun m => if mask m then f m else 0) := by
  rw [sumRange_pad N k _ (fun m hmN => by rw [hpad m hmN]; rfl)]
  refine sumRange_congr N _ _ fun m hmN => ?_
  rw [hm m hmN]
  cases hmask : mask m with
  | false => rfl
  | true => rw [if_pos rfl, if_pos rfl, hf m hmN hmask]

/-- **C14 (padding-locality)** masked attention on `N` columns and on `N + k` columns agree as soon as the masks and the data
agree on the unmasked columns of the first `N` and the `k` extra columns are masked — whatever their content, and whatever
the content of masked columns among the first `N`. -/
theorem maskedAttn_padding_local (N k : Nat) (ex : α → α) (mask mask' : Nat → Bool) (score score' val val' : Nat → α)
    (hm : ∀ m, m < N → mask' m = mask m) (hpad : ∀ m, N ≤ m → mask' m = false)
    (hs : ∀ m, m < N → mask m = true → score' m = score m) (hv : ∀ m, m < N → mask m = true → val' m = val m) :
    maskedAttn (N + k) ex mask' score' val' = maskedAttn N ex mask score val := by
  rw [maskedAttn, maskedAttn,
    maskedSum_padding_local N k mask mask' (fun m => ex (score m) * val m) _ hm hpad
      (fun m hmN hmask => by rw [hs m hmN hmask, hv m hmN hmask]),
    maskedSum_padding_local N k mask mask' (fun m => ex (score m)) _ hm hpad
      (fun m hmN hmask => by rw [hs m hmN hmask])]

theorem hgnn_masks_first : Params.augHgnnMasksBeforeSoftmax = true := by decide

/-- `HetGNNLayer`'s attention (as extracted from the source) is padding-local -/
theorem hgnnAttn_padding_local (N k : Nat) (ex : α → α) (mask mask' : Nat → Bool) (score score' val val' : Nat → α)
    (hm : ∀ m, m < N → mask' m = mask m) (hpad : ∀ m, N ≤ m → mask' m = false)
    (hs : ∀ m, m < N → mask m = true → score' m = score m) (hv : ∀ m, m < N → mask m = true → val' m = val m) :
    hgnnAttn (N + k) ex mask' score' val' = hgnnAttn N ex mask score val := by
  rw [hgnnAttn, hgnnAttn, hgnn_masks_first, if_pos rfl, if_pos rfl]
  exact maskedAttn_padding_local N k ex mask mask' score score' val val' hm hpad hs hv
end

/-- un-renormalised "softmax, then multiply by the mask": one extra padded column (score 0, `ex 0 = 1`) changes the
denominator from 1 to 2 although the real column is untouched -/
theorem maskAfterSoftmax_not_padding_local :
    maskAfterSoftmax (α := Int) (1 + 1) (fun _ => 1) (fun m => decide (m < 1)) (fun _ => 0) (fun _ => 5)
      ≠ maskAfterSoftmax (α := Int) 1 (fun _ => 1) (fun m => decide (m < 1)) (fun _ => 0) (fun _ => 5) := by decide

example : maskedAttn (α := Int) 3 (fun x => x + 1) (fun m => decide (m < 2)) (fun m => m) (fun m => 10 * m) = (20, 3) := by decide
example : maskedAttn (α := Int) 2 (fun x => x + 1) (fun m => decide (m < 2)) (fun m => m) (fun m => 10 * m) = (20, 3) := by decide

end Rl4co.Eval
