/-
C04 / C08 for FLP and MCP at the level of the BATCH: the decoding loop `while not done.all()` over rows with
their own quotas (`Bat.Loop`, `Rl4co/Env/SelectBatch.lean`), the batched `_step` of FLP with its batch-wide
`nonzero().view(B, -1)`, MCP's `[B,B]` `done` matrix, the positive theorem for equal quotas and the mixed-quota
FINDING as a theorem about the loop.  No Mathlib.
-/
import Rl4co.Env.SelectBatch
import Rl4co.Props.C08.Flp
import Rl4co.Props.C08.Mcp
import Rl4co.Props.C03.Flp
import Rl4co.Props.C03.Mcp
import Rl4co.Core.Lists

namespace Rl4co

namespace Bat
variable {I S : Type} {e : Env I S}

theorem allDone_iff (b : Bat I S) : allDone e b = true ↔ ∀ r, r < b.B → e.done (b.inst r) (b.st r) = true := by
  simp [allDone, List.all_eq_true, List.mem_range]

theorem Loop.rows {b b' : Bat I S} {steps : List (Nat → Nat)} (h : Loop e b steps b') :
    b'.B = b.B ∧ ∀ r, r < b.B → b'.inst r = b.inst r ∧
      Run e (b.inst r) (b.st r) (rowActs steps r) (b'.st r) := by
  induction h with
  | stop _ => exact ⟨rfl, fun r _ => ⟨rfl, Run.nil _⟩⟩
  | @step b b' acts steps _ ha _ ih =>
    refine ⟨ih.1, fun r hr => ?_⟩
    obtain ⟨h1, h2⟩ := ih.2 r hr
    exact ⟨h1, Run.cons (ha r hr).1 (ha r hr).2 h2⟩

theorem Loop.allDone_end {b b' : Bat I S} {steps : List (Nat → Nat)} (h : Loop e b steps b') :
    allDone e b' = true := by
  induction h with
  | stop hd => exact hd
  | step _ _ _ ih => exact ih

theorem Loop.running {b b' : Bat I S} {steps : List (Nat → Nat)} (h : Loop e b steps b') :
    ∀ k, k < steps.length → ∃ r, r < b.B ∧
      e.done (b.inst r) (exec e (b.inst r) (b.st r) ((rowActs steps r).take k)) = false := by
  induction h with
  | stop _ => intro k hk; exact absurd hk (Nat.not_lt_zero k)
  | @step b b' acts steps hnd _ _ ih =>
    intro k hk
    cases k with
    | zero =>
      obtain ⟨r, hr, hd⟩ := List.all_eq_false.mp hnd
      exact ⟨r, List.mem_range.mp hr, Bool.not_eq_true _ ▸ hd⟩
    -- `rowActs`, `take` and `exec` unfold on a cons, so the goal at `k + 1` is the induction hypothesis at `k`
    | succ k => exact ih k (Nat.lt_of_succ_lt_succ hk)

theorem rowActs_length (steps : List (Nat → Nat)) (r : Nat) : (rowActs steps r).length = steps.length := by
  simp [rowActs]

end Bat

namespace Sel
open Bat
variable {I S : Type} {e : Env I S} (v : View e)

theorem loop_length {B : Nat} {inst : Nat → I} (hq : ∀ r, r < B → 1 ≤ v.quota (inst r))
    {steps : List (Nat → Nat)} {b' : Bat I S} (h : Loop e (Bat.reset e B inst) steps b') :
    (∀ r, r < B → v.quota (inst r) ≤ steps.length) ∧
    (steps ≠ [] → ∃ r, r < B ∧ v.quota (inst r) = steps.length) := by
  have hrows := h.rows
  have hge : ∀ r, r < B → v.quota (inst r) ≤ steps.length := by
    intro r hr
    obtain ⟨h1, h2⟩ := hrows.2 r hr
    have hd := (allDone_iff b').mp h.allDone_end r (hrows.1 ▸ hr)
    rw [h1] at hd
    rw [← rowActs_length steps r]
    exact (done_iff v (hq r hr) h2).mp hd
  refine ⟨hge, fun hne => ?_⟩
  -- before its last step (number `k`) the loop still saw an unfinished row
  obtain ⟨k, hk⟩ := Nat.exists_eq_succ_of_ne_zero (mt List.length_eq_zero_iff.mp hne)
  obtain ⟨r, hr, hd⟩ := h.running k (hk ▸ Nat.lt_succ_self k)
  obtain ⟨_, h2⟩ := hrows.2 r hr
  have hlt := (not_done_iff v (hq r hr) (h2.take k)).mp hd
  rw [List.length_take, rowActs_length, hk, Nat.min_eq_left (Nat.le_succ k)] at hlt
  refine ⟨r, hr, ?_⟩
  rw [hk]
  exact Int.le_antisymm (hk ▸ hge r hr) (Int.add_one_le_of_lt hlt)

/-- rows with one common quota `q ≥ 1`: the batched loop makes `q` steps and every row ends feasible -/
theorem loop_equal_quota {B : Nat} {inst : Nat → I} {q : Int} (hq1 : ∀ r, r < B → 1 ≤ v.quota (inst r))
    (hq : ∀ r, r < B → v.quota (inst r) = q) (hB : 0 < B)
    {steps : List (Nat → Nat)} {b' : Bat I S} (h : Loop e (Bat.reset e B inst) steps b') :
    (steps.length : Int) = q ∧ ∀ r, r < B → Feasible v (inst r) (rowActs steps r) := by
  have hl := loop_length v hq1 h
  obtain ⟨r, hr, he⟩ :=
    hl.2 (List.ne_nil_of_length_pos (Int.natCast_pos.mp (Int.le_trans (hq1 0 hB) (hl.1 0 hB))))
  rw [hq r hr] at he
  refine ⟨he.symm, fun r hr => ?_⟩
  have hi := inv_of_run v (h.rows.2 r hr).2
  exact ⟨by rw [rowActs_length, hq r hr, he], hi.nodup, hi.ok⟩

end Sel

theorem forall_lt_two {P : Nat → Prop} (h0 : P 0) (h1 : P 1) (r : Nat) (hr : r < 2) : P r := by
  rcases Nat.lt_succ_iff_lt_or_eq.mp hr with h | rfl
  · exact Nat.lt_one_iff.mp h ▸ h0
  · exact h1

namespace Flp
open Bat

theorem chosen_count {i : Inst} {s : State} {as : List Nat} (h : Run env i (env.reset i) as s) :
    (chosenIdx i.n s.chosen).length = as.length :=
  ((List.perm_ext_iff_of_nodup (List.nodup_range.filter _) (Sel.inv_of_run view h).nodup).mpr
    (mem_chosenIdx h)).length_eq

theorem viewRow_flatIdx {B w : Nat} {n : Nat → Nat} {chosen : Nat → Nat → Bool}
    (hw : ∀ r, r < B → (chosenIdx (n r) (chosen r)).length = w) {r : Nat} (hr : r < B) :
    viewRow B (flatIdx B n chosen) r = chosenIdx (n r) (chosen r) := by
  unfold viewRow flatIdx
  rw [length_flatMap_range hw, Nat.mul_div_cancel_left _ (Nat.zero_lt_of_lt hr)]
  exact flatMap_range_piece B w _ hw r hr

/-- **batchStep_eq_map (FLP)**: when the rows of the batch are mask-confined runs of one common length
(which is what the decoding loop produces, `Bat.Loop.rows`), the batched `_step` — with its batch-wide
`nonzero().view(B, -1)` — is the row-wise map of the per-instance step.  A statement about ONE step: `Bat.Loop` is defined
with the row-wise `stepRows`, and no theorem runs a loop with `batchStep` in its place (likewise `Mcp.batchAllDone_eq` for the
loop guard); the theorems about the loop below are about the row-wise loop. -/
theorem batchStep_eq_map (b : Bat Inst State) (acts : Nat → Nat) (t : Nat) (hist : Nat → List Nat)
    (hrun : ∀ r, r < b.B → Run env (b.inst r) (env.reset (b.inst r)) (hist r) (b.st r) ∧ (hist r).length = t)
    (hadm : Admitted env b acts) :
    ∀ r, r < b.B → (batchStep b acts).st r = env.step (b.inst r) (b.st r) (acts r) := by
  intro r hr
  -- every row holds t+1 chosen locations after this step
  have hw : ∀ r, r < b.B →
      (chosenIdx (b.inst r).n (upd (b.st r).chosen (acts r) true)).length = t + 1 := fun r hr => by
    have := chosen_count ((hrun r hr).1.snoc (hadm r hr).1 (hadm r hr).2)
    rwa [List.length_append, (hrun r hr).2] at this
  simp only [batchStep, env, step]
  rw [viewRow_flatIdx hw hr]
  -- with `Params.flpStepMinDim = 1`, `curMinDist` is this minimum over the row's own index list
  rfl

/-- outside that regime the `view` really mixes rows: row 0 holds one chosen location, row 1 three
(not reachable through the masks in lock-step) — row 0 is handed `[0, 0]`, i.e. one of row 1's indices -/
example : viewRow 2 (flatIdx 2 (fun _ => 3) (fun r j => if r = 0 then j = 0 else true)) 0 = [0, 0] := by decide

/-- Full batch statement of C08: every row of every batch the loop decodes selects exactly its own quota. -/
def batch_quota_statement : Prop :=
  ∀ (B : Nat) (inst : Nat → Inst) (steps : List (Nat → Nat)) (b' : Bat Inst State),
    (∀ r, r < B → WF (inst r)) → Loop env (Bat.reset env B inst) steps b' →
    ∀ r, r < B → ((rowActs steps r).length : Int) = (inst r).quota

/-- witness: the same two locations in both rows, quotas 1 and 2; both rows select 0 then 1 -/
def cexBatch (r : Nat) : Inst := if r = 0 then cexInst else { cexInst with quota := 2 }

theorem cexBatch_loop : Loop env (Bat.reset env 2 cexBatch) [fun _ => 0, fun _ => 1]
    (stepRows env (stepRows env (Bat.reset env 2 cexBatch) (fun _ => 0)) (fun _ => 1)) := by
  refine Loop.step (by decide) ?_ (Loop.step (by decide) ?_ (Loop.stop (by decide)))
  · exact forall_lt_two (by decide) (by decide)
  · exact forall_lt_two (by decide) (by decide)

theorem batch_quota_counterexample : ¬ batch_quota_statement := by
  intro h
  have hwf : ∀ r, r < 2 → WF (cexBatch r) := forall_lt_two ⟨by decide, by decide⟩ ⟨by decide, by decide⟩
  exact absurd (h 2 cexBatch _ _ hwf cexBatch_loop 0 (by decide)) (by decide)

/-- … and its reward in the batch (0) is not the reward of its own one-location selection (−512) -/
example : reward (cexBatch 0) ((stepRows env (stepRows env (Bat.reset env 2 cexBatch) (fun _ => 0)) (fun _ => 1)).st 0) = 0 ∧
    reward (cexBatch 0) (env.step (cexBatch 0) (env.reset (cexBatch 0)) 0) = -512 := by decide

/-- **C08/C04 (FLP), positive batch theorem**: in a batch whose rows share the quota `q` (all the
bundled generator produces) the loop takes exactly `q` steps, every row's selection is feasible by
the independent specification, and its reward is minus the objective of exactly that selection. -/
theorem batch_equal_quota {B : Nat} {inst : Nat → Inst} {q : Int} (hB : 0 < B)
    (hwf : ∀ r, r < B → WF (inst r)) (hq : ∀ r, r < B → (inst r).quota = q)
    {steps : List (Nat → Nat)} {b' : Bat Inst State} (h : Loop env (Bat.reset env B inst) steps b') :
    (steps.length : Int) = q ∧ ∀ r, r < B →
      Spec.Flp.Feasible (inst r) (rowActs steps r) ∧
      reward (inst r) (b'.st r) = - Spec.Flp.objective (inst r) (rowActs steps r) := by
  obtain ⟨hlen, hrows⟩ := Sel.loop_equal_quota view (fun r hr => (hwf r hr).1) hq hB h
  exact ⟨hlen, fun r hr => ⟨(feasible_iff_sel _ _).mpr (hrows r hr),
    reward_eq_neg_objective (inst r) (h.rows.2 r hr).2⟩⟩

theorem batch_length {B : Nat} {inst : Nat → Inst} (hwf : ∀ r, r < B → WF (inst r))
    {steps : List (Nat → Nat)} {b' : Bat Inst State} (h : Loop env (Bat.reset env B inst) steps b') :
    (∀ r, r < B → (inst r).quota ≤ steps.length) ∧
    (steps ≠ [] → ∃ r, r < B ∧ (inst r).quota = steps.length) :=
  Sel.loop_length view (fun r hr => (hwf r hr).1) h

end Flp

namespace Mcp
open Bat

theorem ctr_eq {i : Inst} {s : State} {as : List Nat} (h : Run env i (env.reset i) as s) : s.i = as.length :=
  (Sel.inv_of_run view h).ctr

/-- **MCP `done` of shape `[B,B]`**: when the rows are runs of one common length, every entry of row `r`
of the matrix equals the per-instance `done` of row `r` after the step -/
theorem batchDone_eq_row (b : Bat Inst State) (acts : Nat → Nat) (t : Nat) (hist : Nat → List Nat)
    (hrun : ∀ r, r < b.B → Run env (b.inst r) (env.reset (b.inst r)) (hist r) (b.st r) ∧ (hist r).length = t)
    (r c : Nat) (hr : r < b.B) (hc : c < b.B) :
    batchDone b r c = env.done (b.inst r) (env.step (b.inst r) (b.st r) (acts r)) := by
  have h1 := ctr_eq (hrun r hr).1
  have h2 := ctr_eq (hrun c hc).1
  simp only [batchDone, env, done, step]
  rw [h1, h2, (hrun r hr).2, (hrun c hc).2]

/-- under the same assumption the loop guard `.all()` over the `[B,B]` matrix is the guard over the per-row flags -/
theorem batchAllDone_eq (b : Bat Inst State) (acts : Nat → Nat) (t : Nat) (hist : Nat → List Nat)
    (hrun : ∀ r, r < b.B → Run env (b.inst r) (env.reset (b.inst r)) (hist r) (b.st r) ∧ (hist r).length = t) :
    batchAllDone b = allDone env (stepRows env b acts) := by
  rw [Bool.eq_iff_iff, allDone_iff]
  simp only [batchAllDone, List.all_eq_true, List.mem_range, stepRows]
  constructor
  · intro h r hr
    rw [← batchDone_eq_row b acts t hist hrun r r hr hr]; exact h r hr r hr
  · intro h r hr c hc
    rw [batchDone_eq_row b acts t hist hrun r c hr hc]; exact h r hr

def batch_quota_statement : Prop :=
  ∀ (B : Nat) (inst : Nat → Inst) (steps : List (Nat → Nat)) (b' : Bat Inst State),
    (∀ r, r < B → WF (inst r)) → Loop env (Bat.reset env B inst) steps b' →
    ∀ r, r < B → ((rowActs steps r).length : Int) = (inst r).quota

def cexBatch (r : Nat) : Inst := if r = 0 then cexInst else { cexInst with quota := 2 }

theorem cexBatch_loop : Loop env (Bat.reset env 2 cexBatch) [fun _ => 0, fun _ => 1]
    (stepRows env (stepRows env (Bat.reset env 2 cexBatch) (fun _ => 0)) (fun _ => 1)) := by
  refine Loop.step (by decide) ?_ (Loop.step (by decide) ?_ (Loop.stop (by decide)))
  · exact forall_lt_two (by decide) (by decide)
  · exact forall_lt_two (by decide) (by decide)

theorem batch_quota_counterexample : ¬ batch_quota_statement := by
  intro h
  have hwf : ∀ r, r < 2 → WF (cexBatch r) := forall_lt_two ⟨by decide, by decide⟩ ⟨by decide, by decide⟩
  exact absurd (h 2 cexBatch _ _ hwf cexBatch_loop 0 (by decide)) (by decide)

example : reward (cexBatch 0) ((stepRows env (stepRows env (Bat.reset env 2 cexBatch) (fun _ => 0)) (fun _ => 1)).st 0) = 3 ∧
    reward (cexBatch 0) (env.step (cexBatch 0) (env.reset (cexBatch 0)) 0) = 1 := by decide

theorem batch_equal_quota {B : Nat} {inst : Nat → Inst} {q : Int} (hB : 0 < B)
    (hwf : ∀ r, r < B → WF (inst r)) (hq : ∀ r, r < B → (inst r).quota = q)
    {steps : List (Nat → Nat)} {b' : Bat Inst State} (h : Loop env (Bat.reset env B inst) steps b') :
    (steps.length : Int) = q ∧ ∀ r, r < B →
      Spec.Mcp.Feasible (inst r) (rowActs steps r) ∧
      reward (inst r) (b'.st r) = Spec.Mcp.objective (inst r) (rowActs steps r) := by
  obtain ⟨hlen, hrows⟩ := Sel.loop_equal_quota view (fun r hr => (hwf r hr).1) hq hB h
  exact ⟨hlen, fun r hr => ⟨(feasible_iff_sel _ _).mpr (hrows r hr),
    reward_eq_objective (inst r) (h.rows.2 r hr).2⟩⟩

theorem batch_length {B : Nat} {inst : Nat → Inst} (hwf : ∀ r, r < B → WF (inst r))
    {steps : List (Nat → Nat)} {b' : Bat Inst State} (h : Loop env (Bat.reset env B inst) steps b') :
    (∀ r, r < B → (inst r).quota ≤ steps.length) ∧
    (steps ≠ [] → ∃ r, r < B ∧ (inst r).quota = steps.length) :=
  Sel.loop_length view (fun r hr => (hwf r hr).1) h

end Mcp
end Rl4co
