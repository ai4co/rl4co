/-
C04 for SVRP (padding part): once an instance is finished the only action its mask offers is the depot,
and stepping it again (as happens while slower batch-mates are still running) changes neither `done`,
nor the advertised mask, nor the reward — although `_step` keeps incrementing `current_tech` on those
padding steps: in a finished state no customer is free, so the mask does not depend on the technician,
and a trailing depot visit only appends an empty route.  (The real code additionally needs the index to
stay below T, which C02 `tech_lt_of_run` guarantees inside a batch loop.)  The batch part of C04 is
carried by the correspondence (per-instance model vs every row of the batched code, including the
row-by-row Python loop of `_get_reward`).
-/
import Rl4co.Proofs.SvrpModel
import Rl4co.Props.C03.Svrp

namespace Rl4co.Svrp
open Rl4co.Spec.Svrp

theorem weighted_append_empty (i : Inst) (rs : List (List Nat)) : ∀ k,
    weighted i k (rs ++ [[]]) = weighted i k rs := by
  induction rs with
  | nil => intro k; simp [weighted, routeLen_nil]
  | cons r rs ih => intro k; simp [weighted, ih]

theorem pad_noop (i : Inst) (h00 : i.D 0 0 = 0) (s : State) (as : List Nat)
    (hd : env.done i s = true) (a : Nat) (ha : a < env.nAct i) (hm : env.mask i s a = true) :
    a = 0 ∧
    env.done i (env.step i s a) = true ∧
    (∀ b, b < env.nAct i → env.mask i (env.step i s a) b = env.mask i s b) ∧
    reward i (as ++ [a]) = reward i as := by
  obtain ⟨ha0, hd', hmask⟩ := routing.pad hd ha hm
  refine ⟨ha0, hd', hmask, ?_⟩
  subst ha0
  rw [reward_eq_objective i h00, reward_eq_objective i h00]
  simp only [objective, routes_append_zero, weighted_append_empty]

end Rl4co.Svrp
