/-
C04 for SMTWTP: the batched `_step` contains no batch-global construct (no step counter is read, the
processing time is gathered with the row's own index), so it is the row-wise map of the solo step by
definition; stated so that a mutation introducing a cross-row read breaks the correspondence with
this model.
-/
import Rl4co.Env.Smtwtp
import Rl4co.Proofs.TspfamBatch

namespace Rl4co.Smtwtp

def batchExec (rows : List (Inst × State)) (cols : List (List Nat)) : List (Inst × State) :=
  cols.foldl batchStep rows

theorem batch_row_eq_solo (insts : List Inst) (cols : List (List Nat)) (r : Nat) (i : Inst)
    (hi : insts[r]? = some i) (hc : ∀ c ∈ cols, r < c.length) :
    (batchExec (insts.map (fun i => (i, reset i))) cols)[r]? =
      some (i, exec env i (env.reset i) (cols.map (fun c => c.getD r 0))) :=
  Tspfam.rowExec_reset_getElem? env insts cols r i hi hc

example : (batchExec ([⟨2, fun _ => 1, fun _ => 1, fun _ => 1⟩, ⟨2, fun _ => 2, fun _ => 1, fun _ => 1⟩].map
    (fun i => (i, reset i))) [[1, 2], [2, 1]]).map (fun r => (r.2.cur, r.2.time, r.2.done)) =
    [(2, 2, true), (1, 4, true)] := by decide

end Rl4co.Smtwtp
