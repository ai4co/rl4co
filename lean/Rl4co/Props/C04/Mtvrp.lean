/-
C04 for the multi-task VRP environment (padding part): once an instance is finished, the only action its
mask offers is the depot, and stepping it again (as happens while slower batch-mates are still running)
changes neither `done`, nor the advertised mask, nor the reward of the episode — for every feature
valuation (open or closed routes, any limit, any windows).  The batch part of C04 is carried by the
correspondence: the model is per-instance by construction, and every row of the real batched environment
(mixed variants, unequal capacities and speeds side by side) is compared with it; the batched checker is the
conjunction of the row-wise ones (`checkBatch_eq_all`, C06).
-/
import Rl4co.Proofs.MtvrpRun
import Rl4co.Props.C03.Mtvrp

namespace Rl4co.Mtvrp
open Rl4co.Spec.Mtvrp

theorem pad_noop (i : Inst) (h00 : i.openR = true ∨ i.D 0 0 = 0) (s : State) (as : List Nat)
    (hd : env.done i s = true) (a : Nat) (ha : a < env.nAct i) (hm : env.mask i s a = true) :
    a = 0 ∧
    env.done i (env.step i s a) = true ∧
    (∀ b, b < env.nAct i → env.mask i (env.step i s a) b = env.mask i s b) ∧
    reward i (as ++ [a]) = reward i as := by
  obtain ⟨ha0, hd', hmask⟩ := routing.pad hd ha hm
  refine ⟨ha0, hd', hmask, ?_⟩
  rw [ha0, reward_eq_objective i h00, reward_eq_objective i h00, objective_snoc_zero]

/-- Non-vacuity: `exInst` is finished after `[1, 2, 0]` and is then offered the depot. -/
example : env.done exInst (exec env exInst (env.reset exInst) [1, 2, 0]) = true ∧
    env.mask exInst (exec env exInst (env.reset exInst) [1, 2, 0]) 0 = true := by decide

end Rl4co.Mtvrp
