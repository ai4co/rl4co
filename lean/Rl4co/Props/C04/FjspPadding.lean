/-
C04 for FJSP / JSSP: the CONTENT of the padded operation columns is irrelevant.
`JSSPGenerator` leaves non-zero processing times in the padded operation columns (`FJSPGenerator` zeroes
them).  Padded columns are never read: an instance and any variant of it that differs in width, `pad_mask`
and in the processing times outside the job ranges run in lock step — same masks, same clock, same
`done`, same recorded schedule — and, when both are well-formed, have the same reward.  The instance's own
fields `N`, `pad`, `proc` are not read at all by mask and step (`revar_step`); what is left is a fact about ONE
instance: mask and step read the state's table `s.proc` on the real columns only (`*_withProc`); `run_withProc` puts
the two together along a run.
-/
import Rl4co.Props.C04.Fjsp

namespace Rl4co.Fjsp
open Rl4co.Spec.Fjsp (isReal opOf)

def withProc (s : State) (p : Nat → Nat → Int) : State := { s with proc := p }

/-- `p` agrees with the state's table on the real operations -/
def AgreeReal (i : Inst) (s : State) (p : Nat → Nat → Int) : Prop :=
  ∀ m o, isReal i o = true → p m o = s.proc m o

section
variable {i : Inst} {s : State} {p : Nat → Nat → Int}

theorem sel_withProc (hinv : Inv i s) (hp : AgreeReal i s p) {j m : Nat} :
    Selectable i (withProc s p) j m ↔ Selectable i s j m :=
  have he : j < i.J → p m (s.nextOp j) = s.proc m (s.nextOp j) := fun h => hp m _ (hinv.real_next h)
  ⟨fun h => { h with elig := he h.hj ▸ h.elig },
    fun h => { h with elig := show p m (s.nextOp j) ≠ 0 from (he h.hj).symm ▸ h.elig }⟩

theorem mask_withProc (hinv : Inv i s) (hp : AgreeReal i s p) {a : Nat} (ha : a < nAct i) :
    mask i (withProc s p) a = mask i s a := by
  by_cases ha0 : a = 0
  · subst ha0; rfl
  · rw [Bool.eq_iff_iff, mask_iff_sel ha0 ha, mask_iff_sel ha0 ha]
    exact exists_congr fun j => exists_congr fun m => and_congr_left' (sel_withProc hinv hp)

theorem transit_withProc (i : Inst) (s : State) (p : Nat → Nat → Int) :
    transit i (withProc s p) = withProc (transit i s) p := by
  simp only [transit, advance, withProc]
  cases nextTime i.M s.busy s.time <;> rfl

theorem agreeReal_transit (hp : AgreeReal i s p) : AgreeReal i (transit i s) p := by
  rw [AgreeReal, (transit_frame i s).2.2.2.2.2]; exact hp

theorem autoTransit_withProc (hwf : WF i) (f : Nat) (hinv : Inv i s) (hp : AgreeReal i s p) :
    autoTransit i f (withProc s p) = withProc (autoTransit i f s) p ∧ AgreeReal i (autoTransit i f s) p := by
  rw [autoTransit_eq_sWhile, autoTransit_eq_sWhile]
  refine (sWhile_rel (fun s1 s2 => s1 = withProc s2 p ∧ Inv i s2 ∧ AgreeReal i s2 p) ?_ f _ s ⟨rfl, hinv, hp⟩).imp_right
    And.right
  rintro _ s2 ⟨rfl, hinv2, hp2⟩
  have he : stepComplete i (withProc s2 p) = stepComplete i s2 :=
    congrArg (fun b => !b && !s2.done) (anyUpTo_congr fun a ha => mask_withProc hinv2 hp2 ha)
  refine ⟨he, fun hsc => ?_⟩
  obtain ⟨_, _, hinv', _⟩ := transit_of_stuck hwf hinv2 (he ▸ hsc)
  exact ⟨transit_withProc i s2 p, hinv', agreeReal_transit hp2⟩

theorem makeStepAt_withProc (hwf : WF i) (hinv : Inv i s) (hp : AgreeReal i s p) {j m : Nat} (hsel : Selectable i s j m) :
    ∃ p', makeStep i (withProc s p) (actOf i j m - 1) = withProc (makeStepAt s j (s.nextOp j) m) p' ∧
      AgreeReal i (makeStepAt s j (s.nextOp j) m) p' := by
  have hreal := hinv.real_next hsel.hj
  have htr : translate i (withProc s p) (actOf i j m - 1) = (j, s.nextOp j, m) := by
    rw [← translate_actOf hwf hinv hsel, translate_eq, translate_eq]
    show (if i.jssp = true then (_, _, findMa i.M fun m' => p m' _) else _) = _
    split
    · rename_i hjs
      rw [actOf_pred, hjs, if_pos rfl]
      exact congrArg (fun x => (j, s.nextOp j, x)) (findMa_congr fun m' _ => hp m' _ hreal)
    · rfl
  refine ⟨fun m' o' => if o' = s.nextOp j then 0 else p m' o', ?_, fun m' o' hr => ?_⟩
  · unfold makeStep
    rw [htr]
    simp only [makeStepAt, withProc]
    rw [hp m _ hreal]
    rfl
  · show (if o' = s.nextOp j then 0 else p m' o') = if o' = s.nextOp j then 0 else s.proc m' o'
    split
    · rfl
    · exact hp m' o' hr

theorem step_withProc (hwf : WF i) (h2 : Inv2 i s) (hp : AgreeReal i s p) {a : Nat}
    (ha : a < nAct i) (hm : mask i s a = true) :
    ∃ p', step i (withProc s p) a = withProc (step i s a) p' ∧ AgreeReal i (step i s a) p' := by
  obtain ⟨hinv, _⟩ := h2
  cases hd : s.done with
  | true => rw [step_of_done hd, step_of_done (s := withProc s p) hd]; exact ⟨p, rfl, hp⟩
  | false =>
    rw [step_eq_pre i s]
    rcases pre_cases hwf hinv hd ha hm with ⟨rfl, _, t', ht', he⟩ | ⟨j, m, hsel, rfl, he⟩
    · rw [he, step_wait (s := withProc s p) hd, transit_withProc]
      exact ⟨p, autoTransit_withProc hwf _ (inv_transit hinv ht') (agreeReal_transit hp)⟩
    · obtain ⟨p', e1, hag1⟩ := makeStepAt_withProc hwf hinv hp hsel
      rw [he, step_eq, show (withProc s p).done = false from hd, if_neg Bool.false_ne_true,
        if_neg (actOf_ne_zero i j m), e1]
      exact ⟨p', autoTransit_withProc hwf _ (inv_makeStepAt hwf hinv hsel) hag1⟩

end

section
variable (i : Inst) (N' : Nat) (pad' : Nat → Bool) (proc' : Nat → Nat → Int)

theorem run_withProc (hwf : WF i) {as : List Nat} {s0 s : State} (hr : Run env i s0 as s) :
    ∀ (p0 : Nat → Nat → Int), Inv2 i s0 → AgreeReal i s0 p0 →
      ∃ p, Run env (revar i N' pad' proc') (withProc s0 p0) as (withProc s p) ∧ AgreeReal i s p ∧ Inv i s := by
  induction hr with
  | nil s0 => intro p0 h2 hp; exact ⟨p0, Run.nil _, hp, h2.1⟩
  | @cons s0 s1 a as ha hm _ ih =>
    intro p0 h2 hp
    simp only [env] at ha hm
    obtain ⟨p', e, hag⟩ := step_withProc hwf h2 hp ha hm
    obtain ⟨p'', hrun', hag', hinv'⟩ := ih p' (inv2_step hwf h2 ha hm) hag
    refine ⟨p'', Run.cons (e := env) (i := revar i N' pad' proc') ha ((mask_withProc h2.1 hp ha).trans hm) ?_, hag', hinv'⟩
    rw [(revar_step i N' pad' proc' _ a).2.2.trans e]; exact hrun'

/-- **C04, content of padded columns**: every mask-confined run of `i` is, action by action, a
mask-confined run of the variant, ending in the same state up to the processing-time table (which
still agrees on the real operations): same clock, `next_op`, flags, `busy_until`, recorded schedule,
`done`; in particular the masks offered along the way coincide. -/
theorem revar_run (hwf : WF i) (hproc : ∀ m o, isReal i o = true → proc' m o = i.proc m o)
    {as : List Nat} {s : State} (hrun : Run env i (env.reset i) as s) :
    ∃ p, Run env (revar i N' pad' proc') (env.reset (revar i N' pad' proc')) as (withProc s p) ∧ AgreeReal i s p ∧
      ∀ a, a < nAct i → mask (revar i N' pad' proc') (withProc s p) a = mask i s a := by
  obtain ⟨p, hr, hag, hinv⟩ := run_withProc i N' pad' proc' hwf hrun proc' (inv2_reset hwf) (fun m o hr => hproc m o hr)
  exact ⟨p, hr, hag, fun a ha => mask_withProc hinv hag ha⟩

/-- … and the reward is the same whenever the variant is well-formed too -/
theorem revar_reward (hwf : WF i) (hwf' : WF (revar i N' pad' proc')) (s : State) (p : Nat → Nat → Int) :
    reward (revar i N' pad' proc') (withProc s p) = reward i s :=
  reward_revar i N' pad' proc' hwf hwf' (withProc s p)

end

/-- non-vacuity: `exFjsp` next to a wider variant whose padded columns carry processing times (as
`JSSPGenerator` produces them): the finished run of `Props/C02` is a run of both, with the same reward -/
example :
    let v := revar exFjsp 7 (fun o => decide (4 ≤ o)) (fun m o => if o < 4 then 3 else 5 + m)
    admitted env v (env.reset v) [1, 4, 0, 1, 4, 0] = true ∧
    reward v (exec env v (env.reset v) [1, 4, 0, 1, 4, 0]) = reward exFjsp (exec env exFjsp (env.reset exFjsp) [1, 4, 0, 1, 4, 0]) := by
  decide +kernel

end Rl4co.Fjsp
