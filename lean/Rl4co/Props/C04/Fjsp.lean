/-
C04 for FJSP / JSSP.  The batched `_step` contains three batch-global constructs:
  * `if no_op.any(): _transit_to_next_time(no_op, td)`   — entered when ANY row waits;
  * inside `_transit_to_next_time` the release half (job release, `next_op`, `job_done`, `done`) is
    applied to EVERY row, only the clock is confined to the selected rows;
  * `while step_complete.any(): _transit_to_next_time(step_complete, td)` — iterated while ANY row is stuck.
`Fjsp.stepBatch` models exactly that.  On rows satisfying the state invariant the batched step equals the
row-wise solo step, whatever the batch-mates are and do (through `bWhile_eq_map_sWhile` of `Proofs/FjspWhile.lean`,
a lemma on masked per-row updates iterated "while any row needs it"); stepping a finished row is the identity; the
number of padded operation columns influences neither mask, step, done, schedule nor reward.
-/
import Rl4co.Props.C02.Fjsp
import Rl4co.Props.C03.Fjsp

namespace Rl4co.Fjsp
open Rl4co.Spec.Fjsp (isReal)

section Generic
variable {σ : Type} (sel : σ → Bool) (f g : σ → σ)

/-- `bWhile_eq_map_sWhile` with a measure `μ` that `f` strictly decreases and that is below the fuel (so that the
solo loops have come to rest); the equation itself does not depend on it -/
theorem batchedWhile_eq_map_soloWhile (P : σ → Prop) (μ : σ → Nat)
    (hP : ∀ s, P s → sel s = true → P (f s))
    (hg : ∀ s, P s → sel s = false → g s = s)
    (hμ : ∀ s, P s → sel s = true → μ (f s) < μ s) :
    ∀ (k : Nat) (rows : List σ), (∀ s, s ∈ rows → P s ∧ (sel s = true → μ s < k)) →
      bWhile sel f g k rows = rows.map (sWhile sel f k) :=
  fun k rows h => bWhile_eq_map_sWhile sel f g P hP hg k rows fun s hs => (h s hs).1

end Generic

def RowOK (r : Row) : Prop := WF r.1 ∧ Inv2 r.1 r.2

theorem autoTransitBatch_eq_bWhile (k : Nat) (rows : List Row) :
    autoTransitBatch k rows =
      bWhile (fun r : Row => stepComplete r.1 r.2) (fun r => (r.1, transit r.1 r.2))
        (fun r => (r.1, release r.1 r.2)) k rows := by
  induction k generalizing rows with
  | zero => rfl
  | succ k ih =>
    simp only [autoTransitBatch, bWhile]
    cases hany : rows.any (fun r : Row => stepComplete r.1 r.2) with
    | false => simp
    | true =>
      simp only [if_true]
      rw [ih]
      congr 1
      simp only [transitBatch]
      apply List.map_congr_left
      intro r _
      by_cases hsc : stepComplete r.1 r.2 = true
      · simp [hsc, transit]
      · simp [hsc]

theorem sWhile_eq_autoTransit (k : Nat) (r : Row) :
    sWhile (fun r : Row => stepComplete r.1 r.2) (fun r => (r.1, transit r.1 r.2)) k r =
      (r.1, autoTransit r.1 k r.2) := by
  rw [autoTransit_eq_sWhile]
  exact sWhile_rel (fun (r' : Row) s => r' = (r.1, s)) (fun _ _ e => e ▸ ⟨rfl, fun _ => rfl⟩) k r r.2 rfl

/-- the time-advance loop of the batch = the per-row loops (rows with a common number `M` of machines) -/
theorem autoTransitBatch_eq_map (M : Nat) (rows : List Row)
    (h : ∀ r, r ∈ rows → WF r.1 ∧ Inv r.1 r.2 ∧ r.1.M = M) :
    autoTransitBatch (M + 1) rows = rows.map (fun r => (r.1, autoTransit r.1 (fuel r.1) r.2)) := by
  rw [autoTransitBatch_eq_bWhile, bWhile_eq_map_sWhile _ _ _ (fun r => WF r.1 ∧ Inv r.1 r.2)]
  · refine List.map_congr_left fun r hr => ?_
    rw [sWhile_eq_autoTransit, fuel, (h r hr).2.2]
  · intro r ⟨hwf, hinv⟩ hsc
    obtain ⟨_, _, hinv', _⟩ := transit_of_stuck hwf hinv hsc
    exact ⟨hwf, hinv'⟩
  · intro r ⟨_, hinv⟩ _
    simp only [release_id hinv]
  · exact fun r hr => ⟨(h r hr).1, (h r hr).2.1⟩

/-- **C04 (FJSP/JSSP): batched step = row-wise solo step.**  For any batch of rows satisfying the
state invariant (`RowOK`; each with its own well-formed instance; only the number of machines is shared, as the tensor
shape demands) and any mask-admitted actions, the batched `_step` — with its `no_op.any()` branch, its
release applied to all rows and its `while step_complete.any()` loop — computes for every row exactly
what stepping that row alone computes. -/
theorem stepBatch_eq_map_step (M : Nat) (ra : List (Row × Nat))
    (hok : ∀ x, x ∈ ra → RowOK x.1 ∧ x.1.1.M = M)
    (hadm : ∀ x, x ∈ ra → x.2 < nAct x.1.1 ∧ mask x.1.1 x.1.2 x.2 = true) :
    stepBatch (M + 1) ra = ra.map (fun x => (x.1.1, step x.1.1 x.1.2 x.2)) := by
  -- phases 1+2 compute `pre` for every row
  have hpre : ∀ (anyNo : Bool), (anyNo = false → ∀ x, x ∈ ra → noOpSel x = false) →
      ((if anyNo then
          ra.map (fun x => ((x.1.1, release x.1.1 (if noOpSel x then advance x.1.1 x.1.2 else x.1.2)), x.2, reqSel x))
        else ra.map (fun x => (x.1, x.2, reqSel x))).map
        (fun x : Row × Nat × Bool => if x.2.2 then (x.1.1, makeStep x.1.1 x.1.2 (x.2.1 - 1)) else x.1))
      = ra.map (fun x => (x.1.1, pre x.1.1 x.1.2 x.2)) := by
    intro anyNo hno
    cases anyNo with
    | true =>
      simp only [if_true, List.map_map]
      apply List.map_congr_left
      intro x hx
      obtain ⟨⟨hwf, hinv, _⟩, _⟩ := hok x hx
      simp only [Function.comp, noOpSel_eq, reqSel_eq]
      cases hd : x.1.2.done with
      | true => simp [pre_of_done hd, release_id hinv]
      | false =>
        rw [pre_of_not_done hd]
        by_cases ha0 : x.2 = 0
        · simp [ha0, transit]
        · simp [ha0, release_id hinv]
    | false =>
      simp only [Bool.false_eq_true, if_false, List.map_map]
      apply List.map_congr_left
      intro x hx
      simp only [Function.comp, reqSel_eq]
      cases hd : x.1.2.done with
      | true => simp [pre_of_done hd]
      | false =>
        have hn := hno rfl x hx
        simp only [noOpSel_eq, hd, Bool.not_false, Bool.and_true, beq_eq_false_iff_ne] at hn
        simp [pre_of_not_done hd, hn]
  unfold stepBatch
  simp only [shifted_eq]
  rw [hpre (ra.any noOpSel) (fun h x hx => by
    have := List.any_eq_false.mp h x hx; simpa using this)]
  rw [autoTransitBatch_eq_map M]
  · rw [List.map_map]
    apply List.map_congr_left
    intro x hx
    simp only [Function.comp, step_eq_pre]
  · intro r hr
    obtain ⟨x, hx, rfl⟩ := List.mem_map.mp hr
    obtain ⟨hrow, hM⟩ := hok x hx
    obtain ⟨ha, hm⟩ := hadm x hx
    exact ⟨hrow.1, inv_pre hrow.1 hrow.2.1 ha hm, hM⟩

/-- **C04, padding**: a finished row that keeps being stepped while batch-mates run is offered only
the wait action, and taking it changes nothing — state, mask, done, recorded schedule and reward. -/
theorem pad_noop (i : Inst) (hwf : WF i) (s : State) (h : Reach env i s) (hd : env.done i s = true)
    (a : Nat) (ha : a < env.nAct i) (hm : env.mask i s a = true) :
    a = 0 ∧ env.step i s a = s ∧ reward i (env.step i s a) = reward i s := by
  have h0 : a = 0 := by
    have := mask_of_done i hwf s h hd a ha
    rw [hm] at this
    simpa using this.symm
  have : env.step i s a = s := step_of_done hd a
  exact ⟨h0, this, by rw [this]⟩

/-- a variant of `i`: other width, other `pad_mask`, other processing times -/
def revar (i : Inst) (N' : Nat) (pad' : Nat → Bool) (proc' : Nat → Nat → Int) : Inst :=
  { i with N := N', pad := pad', proc := proc' }

/-- the same instance embedded in a wider (or narrower) padded tensor -/
def repad (i : Inst) (N' : Nat) (pad' : Nat → Bool) : Inst := { i with N := N', pad := pad' }

section
variable (i : Inst) (N' : Nat) (pad' : Nat → Bool) (proc' : Nat → Nat → Int)

/-- mask and step read neither `N`, `pad_mask` nor the instance's `proc_times` (`_reset` copies the table into
the state, and that copy is what is read) -/
theorem revar_step (s : State) (a : Nat) :
    env.nAct (revar i N' pad' proc') = env.nAct i ∧ env.mask (revar i N' pad' proc') s a = env.mask i s a ∧
    env.step (revar i N' pad' proc') s a = env.step i s a := by
  refine ⟨rfl, rfl, ?_⟩
  show step (revar i N' pad' proc') s a = step i s a
  -- as it stands `rfl` is stuck on the recursion of `autoTransit`; after the rewrite both sides are the same `sWhile`
  -- of a closed test and body, which do not mention `N`, `pad`, `proc`
  rw [step_eq_pre, step_eq_pre, autoTransit_eq_sWhile, autoTransit_eq_sWhile]
  rfl

/-- mask, step, done and the recorded schedule do not read `N` or `pad_mask` at all -/
theorem repad_step (i : Inst) (N' : Nat) (pad' : Nat → Bool) (s : State) (a : Nat) :
    env.reset (repad i N' pad') = env.reset i ∧ env.nAct (repad i N' pad') = env.nAct i ∧
    env.mask (repad i N' pad') s a = env.mask i s a ∧ env.step (repad i N' pad') s a = env.step i s a :=
  ⟨rfl, revar_step i N' pad' i.proc s a⟩

theorem reward_revar (hwf : WF i) (hwf' : WF (revar i N' pad' proc')) (s : State) :
    reward (revar i N' pad' proc') s = reward i s := by
  rw [reward_eq_makespan _ hwf' s, reward_eq_makespan _ hwf s, makespan_width hwf hwf' rfl]

end

/-- … and the reward, which does, is the same for both paddings of a well-formed instance -/
theorem repad_reward (i : Inst) (N' : Nat) (pad' : Nat → Bool) (hwf : WF i) (hwf' : WF (repad i N' pad'))
    (s : State) : reward (repad i N' pad') s = reward i s :=
  reward_revar i N' pad' i.proc hwf hwf' s

/-- non-vacuity of `stepBatch_eq_map_step`: a mixed batch — a finished row, a waiting row and a scheduling row of two
different instances — stepped together equals the three solo steps (mask, done, time and schedule
compared on the operations) -/
example :
    let r0 : Row := (exFjsp, exec env exFjsp (reset exFjsp) [1, 4, 0, 1, 4, 0])   -- finished
    let r1 : Row := (exFjsp, exec env exFjsp (reset exFjsp) [1])                   -- job 0 in process: may wait
    let r2 : Row := ({ exFjsp with proc := fun m o => if o < 4 then (if m = 0 then 2 else 5) else 0 },
                     reset { exFjsp with proc := fun m o => if o < 4 then (if m = 0 then 2 else 5) else 0 })
    let out := stepBatch 3 [(r0, 0), (r1, 0), (r2, 2)]
    let solo := [(r0, 0), (r1, 0), (r2, 2)].map (fun x : Row × Nat => (x.1.1, step x.1.1 x.1.2 x.2))
    out.map (fun r => (r.2.time, r.2.done, (List.range 4).map r.2.finish, (List.range 5).map (mask r.1 r.2))) =
    solo.map (fun r => (r.2.time, r.2.done, (List.range 4).map r.2.finish, (List.range 5).map (mask r.1 r.2))) ∧
    out.map (fun r => r.2.time) = [6, 3, 0] := by decide +kernel

end Rl4co.Fjsp

namespace Rl4co.Jssp
open Rl4co.Fjsp

theorem stepBatch_eq_map_step (M : Nat) (ra : List (Row × Nat))
    (_ : ∀ x, x ∈ ra → x.1.1.jssp = true)
    (hok : ∀ x, x ∈ ra → RowOK x.1 ∧ x.1.1.M = M)
    (hadm : ∀ x, x ∈ ra → x.2 < nAct x.1.1 ∧ mask x.1.1 x.1.2 x.2 = true) :
    stepBatch (M + 1) ra = ra.map (fun x => (x.1.1, step x.1.1 x.1.2 x.2)) :=
  Fjsp.stepBatch_eq_map_step M ra hok hadm

end Rl4co.Jssp
