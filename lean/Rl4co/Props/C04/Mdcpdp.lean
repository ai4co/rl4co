/-
C04 for MDCPDP (upstream commit 476fa34 made the step length and `done` per-row tensors).

Batch part.  No statement of `_step` reads another row (the step length and the `done` flag
are `[B, 1]` tensors), so the batched step is the row-wise step, at every position of any batch.

Padding part.  In open mode a step taken after `done` (only node 0 is offered) changes neither `done`,
nor the mask, nor the `minsum` reward.  In close mode it adds the last vehicle's way
back — a leg that is missing from the unpadded reward (see C03; not fixed upstream).
-/
import Rl4co.Props.C03.Mdcpdp

namespace Rl4co.Mdcpdp
open Rl4co.Spec.Mdcpdp

/-- **C04 (MDCPDP), batch part: the batched step is the per-row step.** -/
theorem batchStep_eq_map (rows : List (Inst × State)) (acts : List Nat) :
    batchStep rows acts = List.zipWith (fun r a => (r.1, step r.1 r.2 a)) rows acts := rfl

/-- every row of the batched step, at any position and next to any batch-mates, is the row stepped on
its own -/
theorem batch_rows (rows : List (Inst × State)) (acts : List Nat) (k : Nat) (r0 : Inst × State)
    (a : Nat) (hr : rows[k]? = some r0) (ha : acts[k]? = some a) :
    (batchStep rows acts)[k]? = some (r0.1, step r0.1 r0.2 a) := by
  simp [batchStep, List.getElem?_zipWith, hr, ha]

theorem mask_of_done {i : Inst} (hwf : WF i) {s : State} (hi : Fixed.InvX i s) (hd : s.done = true)
    (j : Nat) (hj : j < i.N) : s.mask j = decide (j = s.depot) := by
  have hdK := hi.depK
  have hall := avail_of_done hi hd
  obtain ⟨b, hp⟩ := hi.exists_phase
  rcases hp with ⟨_, _, hav⟩ | hst
  · have := hall 0 (hwf.depot_lt hwf.kpos); rw [hav 0] at this; cases this
  rw [hst.mask]
  by_cases hjd : j = s.depot
  · rw [hjd, maskOf_cur _ _ _ _ _ _ _ hdK, hd, decide_eq_true rfl]; exact Bool.or_true _
  · rw [decide_eq_false hjd]
    by_cases hjK : j < i.K
    · rw [maskOf_depot _ _ _ _ _ _ _ hjK hjd, hall j hj]; rfl
    · by_cases hjp : j < i.K + i.h
      · rw [maskOf_pickup _ _ _ _ _ _ _ (Nat.le_of_not_lt hjK) hjp, hall j hj]; rfl
      · rw [maskOf_delivery _ _ _ _ _ _ _ (Nat.le_of_not_lt hjp), hall j hj]; rfl

theorem openLength_snoc_depot (p : Problem) (l : List Nat) (prev : Nat) {x : Nat} (hx : x < p.K) :
    openLength p prev (l ++ [x]) = openLength p prev l := by
  induction l generalizing prev with
  | nil => simp [openLength, hx]
  | cons y ys ih => simp [openLength, ih y]

/-- **C04 (MDCPDP), padding in open mode.** -/
theorem pad_noop_open (i : Inst) (hwf : WF i) (hopen : i.openMode = true) {s : State}
    (h : Reach env i s) (hd : env.done i s = true) (a : Nat) (ha : a < env.nAct i)
    (hm : env.mask i s a = true) :
    a = 0 ∧
    env.done i (env.step i s a) = true ∧
    (∀ b, b < env.nAct i → env.mask i (env.step i s a) b = env.mask i s b) ∧
    reward .minsum i (env.step i s a) = reward .minsum i s := by
  have hi := inv_of_reach hwf h
  have hi' := inv_step hwf hi ha hm
  have hd0 := hi.dep0 (Or.inl rfl)
  have ha0 : a = 0 := by
    have := mask_of_done hwf hi.invX hd a ha
    rw [show s.mask a = true from hm, hd0] at this
    exact of_decide_eq_true this.symm
  have hds : (step i s a).done = true := by rw [step_eq]; exact done_stepF hi.invX hd a
  refine ⟨ha0, hds, ?_, ?_⟩
  · intro b hb
    show (step i s a).mask b = s.mask b
    rw [mask_of_done hwf hi'.invX hds b hb, mask_of_done hwf hi.invX hd b hb, hi'.dep0 (Or.inl rfl), hd0]
  · obtain ⟨as, hr⟩ := h
    rw [reward_minsum_open i hwf hopen hr, reward_minsum_open i hwf hopen (hr.snoc ha hm)]
    rw [openLength_snoc_depot (problemOf i) as 0 (show a < i.K by rw [ha0]; exact hwf.kpos)]

def pad_noop_statement : Prop :=
  ∀ (i : Inst) (s : State) (a : Nat), WF i → Reach env i s → env.done i s = true →
    a < env.nAct i → env.mask i s a = true →
      reward .minsum i (env.step i s a) = reward .minsum i s

/-- Close mode: `[0,1,2]` has reward −2, after one more step with node 0 it is −3. -/
theorem pad_noop_counterexample : ¬ pad_noop_statement := by
  intro h
  have := h cexClose (exec env cexClose (env.reset cexClose) [0, 1, 2]) 0
    (by decide)
    ⟨[0, 1, 2], .of_admitted (by decide)⟩ (by decide) (by decide) (by decide)
  revert this; decide

/-- Non-vacuity of `pad_noop_open`: a finished reachable state of an open-mode instance. -/
example : Reach env cexMM (exec env cexMM (env.reset cexMM) [0, 2, 4, 0, 1, 3, 5]) ∧
    env.done cexMM (exec env cexMM (env.reset cexMM) [0, 2, 4, 0, 1, 3, 5]) = true :=
  ⟨⟨_, .of_admitted (by decide)⟩, by decide⟩

end Rl4co.Mdcpdp
