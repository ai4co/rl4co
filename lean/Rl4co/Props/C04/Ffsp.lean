/-
C04 for FFSP: a row's outcome does not depend on its batch-mates, its position, or on being padded
with wait actions after it finished.

The only batch-global constructs of the code are (a) `td["done"].all()` in `_step` — modelled as the
flag `g` of `stepG`, computed over the whole batch in `batchStep` —, (b) `IndexTables.bs`
(`pomo_idx = row // bs`, the machine permutation of a row under the k-major multi-start layout:
`pomoIdx_layout`, `Proofs/FfspTables.lean`), and
(c) `_move_to_next_machine` loops "while any row is not ready" over a shrinking index set — modelled as
`batchMoveLoop`, proved equal to the per-row loops `moveNext` (`batchMove_eq_moveNext`); the real loop
is compared with the per-row model on every run (clock of every row of every batch).

What is batch-dependent *by construction*: the reward is written, and the mask refreshed or not, at the
step where `done.all()` becomes true.  Theorems: the masks of all states in which the row still acts,
the clock, the schedule (`step_eq_stepM`, `Proofs/FfspModel.lean`), the finishing step and the value of the
reward once written are those of the solo run; the mask of the row's *terminal* state is not (`terminal_mask_batch_dependent`, known finding).
The end of the file repairs that one line of `_step` (`stepGR`, `envR`: the shortcut under `done.all()` removed) and
shows that the finding, and the scope restriction of `Props/C02/Ffsp.lean`, then go away (`repaired_*`).
-/
import Rl4co.Props.C02.Ffsp
namespace Rl4co.Ffsp

/-- `td["done"].all()` after the bookkeeping half of the batched `_step` -/
def allDoneAfter (rows : List (Inst × State)) (acts : List Nat) : Bool :=
  (List.zipWith (fun (r : Inst × State) a => (r.1, apply r.1 r.2 a)) rows acts).all (fun r => r.2.done)

/-- **The batched `_step` is the per-row step with one common flag.** -/
theorem batchStep_eq (rows : List (Inst × State)) (acts : List Nat) :
    batchStep rows acts =
      List.zipWith (fun (r : Inst × State) a => (r.1, stepG r.1 r.2 a (allDoneAfter rows acts))) rows acts := by
  simp [batchStep, allDoneAfter, List.map_zipWith, stepG]

/-- at the step that finishes the row, the solo step and the step next to running batch-mates agree on
everything except the mask and the reward field -/
theorem finishing_step_agree (i : Inst) (s : State) (a : Nat) (hd : (apply i s a).done = true) :
    (step i s a).sched = (stepM i s a).sched ∧ (step i s a).done = (stepM i s a).done ∧
    (step i s a).time = (stepM i s a).time ∧ (step i s a).sub = (stepM i s a).sub ∧
    (step i s a).jloc = (stepM i s a).jloc ∧ (step i s a).midx = (stepM i s a).midx ∧
    (step i s a).mwait = (stepM i s a).mwait ∧ (step i s a).jwait = (stepM i s a).jwait := by
  simp [step_of_apply_done i s a hd, stepM, stepG, finish_true, finish_false, moveNext_of_done hd, updateMask_frame]

theorem rewardVal_congr (i : Inst) {s s' : State}
    (h : ∀ m j, j < i.J → s.sched m j = s'.sched m j) : rewardVal i s = rewardVal i s' := by
  unfold rewardVal endMax
  congr 2
  apply List.map_congr_left
  intro m _
  congr 1
  apply List.map_congr_left
  intro j hj
  rw [h m j (List.mem_range.mp hj)]

/-- **Padding is a no-op.**  A finished row next to running batch-mates can only be stepped with
the wait action; that changes neither `done`, nor its mask, clock, real-job schedule or reward value. -/
theorem pad_noop (i : Inst) (h : WF i) {s : State} (hr : Reach envM i s) (hd : s.done = true)
    (a : Nat) (hm : s.mask a = true) (g : Bool) :
    a = i.J ∧ (stepG i s a g).done = true ∧
    (∀ b, (stepM i s a).mask b = s.mask b) ∧
    (∀ m j, j < i.J → (stepG i s a g).sched m j = s.sched m j) ∧
    rewardVal i (stepG i s a g) = rewardVal i s ∧
    (stepG i s a g).time = s.time ∧ (stepG i s a g).sub = s.sub := by
  have l := live_of_reach i h hr
  have haJ : a = i.J := of_decide_eq_true ((mask_of_done i s l hd a).symm.trans hm)
  have hdone := done_stable i h hr hd a hm
  have hap : (apply i s a).done = true := (stepG_done i s a g).symm.trans (hdone g)
  have hsched : ∀ m j, j < i.J → (stepG i s a g).sched m j = s.sched m j := by
    intro m j hj
    rw [stepG_sched, haJ]; exact apply_wait_sched i s m hj
  -- the finished row is not moved on
  have hstay : (stepG i s a g).time = s.time ∧ (stepG i s a g).sub = s.sub := by
    cases g
    · rw [stepG, finish_false, moveNext_of_done hap]; exact ⟨rfl, rfl⟩
    · exact ⟨rfl, rfl⟩
  refine ⟨haJ, hdone g, fun b => ?_, hsched, rewardVal_congr i hsched, hstay⟩
  rw [mask_of_done i _ (live_stepM i h s l a hm) (hdone false) b,
    mask_of_done i s l hd b]

theorem pads_keep (i : Inst) (h : WF i) {pads : List Nat} {s1 s2 : State} (hr : Reach envM i s1)
    (hd : s1.done = true) (hrun : Run envM i s1 pads s2) :
    Reach envM i s2 ∧ s2.done = true ∧ ∀ m j, j < i.J → s2.sched m j = s1.sched m j :=
  hrun.inv (Inv := fun s => Reach envM i s ∧ s.done = true ∧ ∀ m j, j < i.J → s.sched m j = s1.sched m j)
    (fun s a hs ha hm => by
      obtain ⟨_, hd', _, hsch, _⟩ := pad_noop i h hs.1 hs.2.1 a hm false
      exact ⟨reach_stepM hs.1 ha hm, hd', fun m j hj => (hsch m j hj).trans (hs.2.2 m j hj)⟩)
    ⟨hr, hd, fun _ _ _ => rfl⟩

/-- **The reward does not depend on the batch-mates.**  A row that finishes with action `a` while
batch-mates run, is then padded arbitrarily long, and receives its reward at the batch's last step, gets
exactly the reward of the solo run with the same actions. -/
theorem reward_batch_invariant (i : Inst) (h : WF i) {s : State} (hr : Reach envM i s) (a : Nat)
    (ha : a < i.J + 1) (hm : s.mask a = true) (hfin : (apply i s a).done = true)
    {pads : List Nat} {s2 : State} (hp : Run envM i (stepM i s a) pads s2) (b : Nat)
    (hb : s2.mask b = true) : (stepG i s2 b true).reward = (step i s a).reward := by
  have hd1 : (stepM i s a).done = true := (stepM_done i s a).trans hfin
  obtain ⟨r2, d2, e2⟩ := pads_keep i h (reach_stepM hr ha hm) hd1 hp
  obtain ⟨_, _, _, hs, _⟩ := pad_noop i h r2 d2 b hb true
  rw [step_of_apply_done i s a hfin]
  show some (rewardVal i (apply i s2 b)) = some (rewardVal i (apply i s a))
  congr 1
  apply rewardVal_congr
  intro m j hj
  rw [← stepG_sched i s2 b true, hs m j hj, e2 m j hj, stepM, stepG_sched]

/-- The full statement one would like — "the mask of the state a row ends in is the same alone and next
to running batch-mates"; refuted below on instance `one`. -/
def terminal_mask_independent_statement : Prop :=
  ∀ (i : Inst) (s : State) (a : Nat), WF i → Reach envM i s → s.mask a = true →
    (apply i s a).done = true → ∀ b, (step i s a).mask b = (stepM i s a).mask b

theorem terminal_mask_batch_dependent : ¬ terminal_mask_independent_statement := by
  intro hst
  have := hst one (reset one) 0 one_wf ⟨[], Run.nil _⟩ (by decide) (by decide) 0
  revert this
  decide

/-- Non-vacuity of `reward_batch_invariant`: instance `one`, finishing action 0, two wait paddings. -/
example : (apply one (reset one) 0).done = true := by decide
example : Run envM one (stepM one (reset one) 0) [1, 1] (exec envM one (stepM one (reset one) 0) [1, 1]) :=
  .of_admitted (by decide)
example : (stepG one (exec envM one (stepM one (reset one) 0) [1, 1]) 1 true).reward = some (-1) := by decide

/-! `_move_to_next_machine` keeps an index set `idx` of the rows that are not yet ready, applies the loop
body to exactly those rows, and drops the rows that became ready (`idx = idx[~ready]`) until the set is
empty.  `batchMoveLoop` models this over rows tagged with "still selected"; the theorem says every row
ends exactly where its own loop `moveLoop` ends, independently of the other rows (and of how long they
keep the batch looping). -/

/-- one row of the batched loop: instance, state, still in `idx` -/
abbrev MRow := Inst × State × Bool

/-- loop body applied to the selected rows; rows that became ready leave `idx` -/
def batchMoveBody (rows : List MRow) : List MRow :=
  rows.map (fun r => if r.2.2 then (r.1, advance r.1 r.2.1, !ready r.1 (advance r.1 r.2.1)) else r)

/-- `while ~ready.all()` over the shrinking index set, with global fuel -/
def batchMoveLoop : Nat → List MRow → List MRow
  | 0, rows => rows
  | f + 1, rows => if rows.all (fun r => !r.2.2) then rows else batchMoveLoop f (batchMoveBody rows)

/-- what the batched loop does to one row, seen in isolation -/
def rowMove : Nat → MRow → MRow
  | 0, r => r
  | f + 1, r => if r.2.2 then rowMove f (r.1, advance r.1 r.2.1, !ready r.1 (advance r.1 r.2.1)) else r

theorem rowMove_inactive (f : Nat) (r : MRow) (h : r.2.2 = false) : rowMove f r = r := by
  cases f with
  | zero => rfl
  | succ f => simp [rowMove, h]

/-- **rows do not influence each other in the batched loop** -/
theorem batchMoveLoop_eq_map (f : Nat) (rows : List MRow) :
    batchMoveLoop f rows = rows.map (rowMove f) := by
  induction f generalizing rows with
  | zero => simp [batchMoveLoop, rowMove]
  | succ f ih =>
    simp only [batchMoveLoop]
    split
    · rename_i hall
      symm
      rw [List.map_congr_left (g := id)]
      · simp
      · intro r hr
        have := List.all_eq_true.mp hall r hr
        exact rowMove_inactive _ r (by simpa using this)
    · rw [ih, batchMoveBody, List.map_map]
      apply List.map_congr_left
      intro r _
      by_cases hact : r.2.2 = true
      · simp [rowMove, hact]
      · have hf : r.2.2 = false := by simpa using hact
        simp [rowMove, hf, rowMove_inactive]

/-- a selected row runs its own `moveLoop`; fuel beyond what that loop needs to stop on a ready state changes nothing -/
theorem rowMove_active (i : Inst) : ∀ (F f : Nat) (s : State), f < F →
    ready i (moveLoop i (f + 1) s) = true → rowMove F (i, s, true) = (i, moveLoop i (f + 1) s, false) := by
  intro F
  induction F with
  | zero => intro f s hF; exact absurd hF (Nat.not_lt_zero _)
  | succ F ih =>
    intro f s hF hr
    cases h1 : ready i (advance i s)
    · rw [moveLoop_succ_not_ready f h1] at hr ⊢
      cases f with
      | zero => exact absurd (h1.symm.trans hr) Bool.false_ne_true
      | succ f =>
        simp only [rowMove, if_true, h1, Bool.not_false]
        exact ih f (advance i s) (Nat.lt_of_succ_lt_succ hF) hr
    · rw [moveLoop_succ_ready f h1]
      simp [rowMove, h1, rowMove_inactive]

/-- **`_move_to_next_machine` on a batch = `moveNext` on every row**: with the rows that are not done
selected (`idx = idx[~done]`) and any global fuel covering each row's own fuel, the batched loop leaves
every row in the state its own `moveNext` produces — whatever the other rows are and however long they
keep the batch looping.  (`hready` is what `move_terminates` provides for rows of reachable states.) -/
theorem batchMove_eq_moveNext (rows : List (Inst × State)) (F : Nat)
    (hF : ∀ r ∈ rows, moveFuel r.1 r.2 ≤ F)
    (hready : ∀ r ∈ rows, r.2.done = false →
      1 ≤ moveFuel r.1 r.2 ∧ ready r.1 (moveLoop r.1 (moveFuel r.1 r.2) r.2) = true) :
    (batchMoveLoop F (rows.map (fun r => (r.1, r.2, !r.2.done)))).map (fun r => (r.1, r.2.1)) =
      rows.map (fun r => (r.1, moveNext r.1 r.2)) := by
  rw [batchMoveLoop_eq_map, List.map_map, List.map_map]
  apply List.map_congr_left
  intro r hr
  obtain ⟨i, s⟩ := r
  simp only [Function.comp]
  cases hd : s.done with
  | true =>
    simp [rowMove_inactive, moveNext_of_done hd]
  | false =>
    obtain ⟨h1, h2⟩ := hready (i, s) hr hd
    simp only at h1
    obtain ⟨f, hf⟩ : ∃ f, moveFuel i s = f + 1 := ⟨moveFuel i s - 1, (Nat.sub_add_cancel h1).symm⟩
    have hFle := hF (i, s) hr
    simp only at hFle h2
    rw [hf] at h2 hFle
    rw [Bool.not_false, moveNext_eq_moveLoop hd, hf, rowMove_active i F f s hFle h2]

/-- Non-vacuity: a batch of two rows, one finished (not selected) and one selected. -/
example : batchMoveLoop 10 [(one, apply one (reset one) 0, false), (one, reset one, true)] =
    [(one, apply one (reset one) 0, false), (one, reset one, true)].map (rowMove 10) :=
  batchMoveLoop_eq_map _ _

/-! `terminal_mask_batch_dependent` is caused by one line: `_step` skips `_move_to_next_machine` /
`_update_step_state` when `done.all()`.  `stepGR` is the step with that shortcut removed (both always run —
`_move_to_next_machine` already leaves finished rows alone — and the reward is written when `done.all()`).
For it the full statements hold with no scope restriction: the terminal mask (indeed the whole state but
the reward field) does not depend on the batch-mates, every state reachable by *any* mask-confined run —
also beyond the point where everything is finished — offers an action, and `done` is absorbing.  On
everything the bundled loops observe, the repaired step agrees with the real one. -/

/-- second half of the repaired `_step` -/
def finishR (i : Inst) (s : State) (g : Bool) : State :=
  let s1 := updateMask i (moveNext i s)
  if g then { s1 with reward := some (rewardVal i s1) } else s1

def stepGR (i : Inst) (s : State) (a : Nat) (g : Bool) : State := finishR i (apply i s a) g

/-- the repaired environment stepped alone -/
def envR : Env Inst State where
  reset := reset
  nAct i := i.J + 1
  mask _ s a := s.mask a
  step i s a := stepGR i s a (apply i s a).done
  done _ s := s.done

/-- **repaired clause (C04)**: with the shortcut removed the state a row ends in — its mask in
particular — is the same alone and next to running batch-mates, up to the reward field -/
theorem repaired_state_batch_independent (i : Inst) (s : State) (a : Nat) (g : Bool) :
    stepGR i s a g = { stepM i s a with reward := (stepGR i s a g).reward } := by
  cases g <;> simp [stepGR, finishR, stepM, stepG, finish_false]

theorem repaired_terminal_mask_independent (i : Inst) (s : State) (a : Nat) (g g' : Bool) :
    (stepGR i s a g).mask = (stepGR i s a g').mask := by
  cases g <;> cases g' <;> simp [stepGR, finishR]

/-- the repaired step agrees with the real one wherever the real one is used: identical while a
batch-mate runs, and at the batch's last step identical schedule, clock, `done` and reward value -/
theorem repaired_agrees (i : Inst) (s : State) (a : Nat) :
    stepGR i s a false = stepG i s a false ∧
    ((apply i s a).done = true →
      (stepGR i s a true).sched = (stepG i s a true).sched ∧
      (stepGR i s a true).done = (stepG i s a true).done ∧
      (stepGR i s a true).time = (stepG i s a true).time ∧
      (stepGR i s a true).sub = (stepG i s a true).sub ∧
      (stepGR i s a true).reward = (stepG i s a true).reward) := by
  refine ⟨by simp [stepGR, finishR, stepG, finish_false], ?_⟩
  intro hd
  have hmv : moveNext i (apply i s a) = apply i s a := moveNext_of_done hd
  simp only [stepGR, finishR, stepG, finish_true, if_true, hmv]
  refine ⟨rfl, rfl, rfl, rfl, ?_⟩
  congr 1

theorem live_setReward (i : Inst) (s : State) (l : Live i s) (r : Option Int) :
    Live i { s with reward := r } :=
  ⟨core_setReward i s l.core r, l.fresh, l.rdy⟩

theorem repaired_live (i : Inst) (h : WF i) {s : State} (hr : Reach envR i s) : Live i s :=
  inv_of_reach (e := envR) (Inv := Live i) (live_reset i h)
    (fun s a hl _ hm => by
      show Live i (stepGR i s a (apply i s a).done)
      rw [repaired_state_batch_independent]
      exact live_setReward i _ (live_stepM i h s hl a hm) _) hr

/-- **repaired clause (C02)**: no scope restriction — every reachable state offers an action … -/
theorem repaired_mask_nonempty (i : Inst) (h : WF i) {s : State} (hr : Reach envR i s) :
    ∃ a, a < envR.nAct i ∧ envR.mask i s a = true :=
  mask_nonempty_live i s (repaired_live i h hr)

/-- … and `done` is absorbing under every admitted step, also after the whole batch is finished -/
theorem repaired_done_absorbing (i : Inst) (h : WF i) {s : State} (hr : Reach envR i s)
    (hd : s.done = true) (a : Nat) (hm : s.mask a = true) : (envR.step i s a).done = true := by
  have l := repaired_live i h hr
  show (stepGR i s a (apply i s a).done).done = true
  rw [repaired_state_batch_independent]
  exact done_stable_live i s l hd a hm false

/-- Non-vacuity: on `one` the real solo step leaves the stale mask `10`, the repaired one `01` — and
stepping on with the wait action keeps the repaired row finished. -/
example : (step one (reset one) 0).mask 0 = true ∧ (envR.step one (reset one) 0).mask 0 = false ∧
    (envR.step one (reset one) 0).mask 1 = true ∧
    (envR.step one (envR.step one (reset one) 0) 1).done = true ∧
    (envR.step one (reset one) 0).reward = (step one (reset one) 0).reward := by decide

end Rl4co.Ffsp
