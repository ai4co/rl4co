/-
C04 for CVRP (padding part): once an instance is finished, the only action its mask offers is the
depot, and stepping it again (as happens while slower batch-mates are still running) changes neither
`done`, nor the advertised mask, nor the reward of any action list it is appended to.  The batch part of C04 is carried by
the correspondence: the model is per-instance by construction, and every row of the real batched
environment is compared with it.
-/
import Rl4co.Proofs.CvrpModel
import Rl4co.Props.C03.Cvrp

namespace Rl4co.Cvrp

theorem mask_of_done (i : Inst) (s : State) (hd : env.done i s = true) (a : Nat) (ha : a < env.nAct i) :
    env.mask i s a = decide (a = 0) :=
  routing.mask_of_done hd ha

theorem pad_noop (i : Inst) (h00 : i.D 0 0 = 0) (s : State) (as : List Nat)
    (hd : env.done i s = true) (a : Nat) (ha : a < env.nAct i) (hm : env.mask i s a = true) :
    a = 0 ∧
    env.done i (env.step i s a) = true ∧
    (∀ b, b < env.nAct i → env.mask i (env.step i s a) b = env.mask i s b) ∧
    reward i (as ++ [a]) = reward i as := by
  obtain ⟨ha0, hd', hmask⟩ := routing.pad hd ha hm
  exact ⟨ha0, hd', hmask, ha0 ▸ reward_append_zero i h00 as⟩

end Rl4co.Cvrp
