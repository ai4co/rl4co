/-
C04 for CVRPTW (padding part): once an instance is finished the only action its mask can offer is the
depot, and stepping it again (as happens while slower batch-mates are still running) changes neither
`done`, nor the advertised mask, nor the reward.  (That the depot IS offered in a finished state is
C02's `mask_nonempty`.)  The batch part of C04 is carried by the correspondence: the model is
per-instance by construction and every row of the real batched environment is compared with it.
-/
import Rl4co.Props.C04.Cvrp
import Rl4co.Proofs.CvrptwModel

namespace Rl4co.Cvrptw

theorem pad_noop (i : Inst) (h00 : i.base.D 0 0 = 0) (hE : 0 ≤ i.twE 0) (s : State) (as : List Nat)
    (hd : env.done i s = true) (a : Nat) (ha : a < env.nAct i) (hm : env.mask i s a = true) :
    a = 0 ∧
    env.done i (env.step i s a) = true ∧
    (∀ b, b < env.nAct i → env.mask i (env.step i s a) b = env.mask i s b) ∧
    reward i (as ++ [a]) = reward i as := by
  obtain ⟨hcm, hreach⟩ := (mask_iff i s a).1 hm
  obtain ⟨ha0, hd', hmask, hrew⟩ := Cvrp.pad_noop i.base h00 s.base as hd a ha hcm
  refine ⟨ha0, hd', fun b hb => ?_, hrew⟩
  subst ha0
  -- CVRP's part of the mask is unchanged and offers the depot only; the depot stays reachable in time
  rw [Bool.eq_iff_iff, mask_iff, mask_iff, show Cvrp.mask i.base (env.step i s 0).base b = _ from hmask b hb]
  refine and_congr_right (fun hb0 => ?_)
  rw [Cvrp.mask_of_done i.base s.base hd b hb, decide_eq_true_iff] at hb0
  subst hb0
  refine iff_of_true ?_ hreach
  rw [step_time, if_neg (fun h => h rfl), Int.zero_add, show (env.step i s 0).base.cur = 0 from rfl, h00]
  exact hE

end Rl4co.Cvrptw
