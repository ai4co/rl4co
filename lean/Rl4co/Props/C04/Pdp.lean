/-
C04 for PDP: the batched `_step` contains no batch-global construct (the pairing offset is computed from the common
`num_loc`, scatter/gather use the row's own index), so it is the row-wise map of the solo step by definition; stated so
that a mutation introducing a cross-row read breaks the correspondence with this model.  No post-finish padding exists
(C02: all rows finish at the same step).
-/
import Rl4co.Env.Pdp
import Rl4co.Proofs.TspfamBatch

namespace Rl4co.Pdp

def batchExec (rows : List (Inst × State)) (cols : List (List Nat)) : List (Inst × State) :=
  cols.foldl batchStep rows

theorem batch_row_eq_solo (insts : List Inst) (cols : List (List Nat)) (r : Nat) (i : Inst)
    (hi : insts[r]? = some i) (hc : ∀ c ∈ cols, r < c.length) :
    (batchExec (insts.map (fun i => (i, reset i))) cols)[r]? =
      some (i, exec env i (env.reset i) (cols.map (fun c => c.getD r 0))) :=
  Tspfam.rowExec_reset_getElem? env insts cols r i hi hc

example : (batchExec ([⟨1, false, fun _ _ => 1⟩, ⟨1, true, fun _ _ => 1⟩].map
    (fun i => (i, reset i))) [[1, 0], [2, 1]]).map (fun r => (r.2.cur, r.2.i, r.2.done)) =
    [(2, 2, true), (1, 2, false)] := by decide

end Rl4co.Pdp
