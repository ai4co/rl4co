/-
C04 for mTSP (code after the repair 0b6c547 in /repo, DESIGN §8.1).

Batch part: the only batch-global read of `_step` is the first-step flag `batch_to_scalar(td["i"]) == 0`
(row 0's counter).  All rows of a batch carry the same counter (`LockStep`, preserved by every step),
so the batched step equals the row-wise step (`batchStep_eq_map`).

Padding part (`pad_noop`): a finished row only offers the depot; stepping it — any number of times,
while slower batch-mates are still running — changes neither `done`, nor the mask, nor the reward.
-/
import Rl4co.Proofs.Mtsp
import Rl4co.Proofs.TspfamBatch
import Rl4co.Core.Lists

namespace Rl4co.Mtsp


/-- `Tspfam.LockStep State.i c rows`, with the arguments the other way round -/
def LockStep (rows : List (Inst × State)) (c : Nat) : Prop := ∀ r ∈ rows, r.2.i = c

theorem batchStep_eq_map (rows : List (Inst × State)) (acts : List Nat) (c : Nat)
    (h : LockStep rows c) :
    batchStep rows acts = List.zipWith (fun r a => (r.1, step r.1 r.2 a)) rows acts := by
  cases rows with
  | nil => simp [batchStep]
  | cons r rs =>
    simp only [batchStep]
    apply zipWith_congr_of_mem
    intro x hx b
    have h1 := h x hx
    have h2 := h r (by simp)
    simp only [step, h1, h2]

theorem batch_rows (rows : List (Inst × State)) (acts : List Nat) (c : Nat) (h : LockStep rows c)
    (k : Nat) (r0 : Inst × State) (a : Nat) (hr : rows[k]? = some r0) (ha : acts[k]? = some a) :
    (batchStep rows acts)[k]? = some (r0.1, step r0.1 r0.2 a) := by
  rw [batchStep_eq_map rows acts c h]
  simp [List.getElem?_zipWith, hr, ha]

/-- the batched episode: all rows are stepped in lock step with the columns of an action matrix -/
def batchExec (rows : List (Inst × State)) : List (List Nat) → List (Inst × State)
  | [] => rows
  | acts :: rest => batchExec (batchStep rows acts) rest

def rowsExec (rows : List (Inst × State)) : List (List Nat) → List (Inst × State)
  | [] => rows
  | acts :: rest => rowsExec (List.zipWith (fun r a => (r.1, step r.1 r.2 a)) rows acts) rest

theorem batchExec_eq_foldl (actss : List (List Nat)) :
    ∀ rows, batchExec rows actss = actss.foldl batchStep rows := by
  induction actss with
  | nil => intro _; rfl
  | cons _ _ ih => intro _; exact ih _

theorem rowsExec_eq_rowExec (actss : List (List Nat)) :
    ∀ rows, rowsExec rows actss = Tspfam.rowExec env rows actss := by
  induction actss with
  | nil => intro _; rfl
  | cons _ _ ih => intro _; exact ih _

/-- **a batched episode is the family of its rows' own episodes**, for every batch composition (mixed
`num_agents`, sizes of the other rows' remaining work, any amount of padding). -/
theorem batchExec_eq_rows (actss : List (List Nat)) : ∀ (rows : List (Inst × State)) (c : Nat),
    LockStep rows c → batchExec rows actss = rowsExec rows actss := by
  intro rows c h
  rw [batchExec_eq_foldl, rowsExec_eq_rowExec]
  exact (Tspfam.foldl_eq_rowExec env (ctr := State.i) (fun _ _ _ => rfl)
    (fun k rows acts h => batchStep_eq_map rows acts k h) actss c rows h).1

theorem lockStep_reset (insts : List Inst) : LockStep (insts.map (fun i => (i, reset i))) 0 := by
  intro r hr
  simp only [List.mem_map] at hr
  obtain ⟨i, _, rfl⟩ := hr
  rfl


theorem pad_noop (i : Inst) (hwf : WFD i) (hn : 1 ≤ i.n) (hm : 1 ≤ i.m) {s : State}
    (h : Reach env i s) (hd : env.done i s = true) (a : Nat) (ha : a < env.nAct i)
    (hmask : env.mask i s a = true) :
    a = 0 ∧
    env.done i (env.step i s a) = true ∧
    (∀ b, b < env.nAct i → env.mask i (env.step i s a) b = env.mask i s b) ∧
    rewardMinmax (env.step i s a) = rewardMinmax s := by
  have hi := inv_of_reach hn hm h
  have hp := invLen_of_reach hwf.depot h
  have hd' : s.done = true := hd
  have h0 := depot_of_none_left (hi.doneNo hd') ha hmask
  subst h0
  have hds := done_step_of_none_left (hi.doneNo hd') 0
  have hi' := inv_step hi hmask
  refine ⟨rfl, hds, ?_, ?_⟩
  · intro b hb
    show (step i s 0).avail b = s.avail b
    cases b with
    | zero => rw [hi'.doneDep hds, hi.doneDep hd']
    | succ k =>
      have hk : k + 1 ≤ i.n := Nat.le_of_lt_succ hb
      rw [hi'.doneNo hds (k + 1) (Nat.succ_pos k) hk, hi.doneNo hd' (k + 1) (Nat.succ_pos k) hk]
  · show - (step i s 0).maxLen = - s.maxLen
    rw [maxLen_pad hwf.depot (hi.doneNo hd') hp hd']

/-- Non-vacuity: the finished state after `[1,2]` (2 customers, 1 agent) is reachable and offers the depot. -/
example : Reach env ⟨2, 1, fun _ _ => 1⟩ (exec env ⟨2, 1, fun _ _ => 1⟩ (env.reset ⟨2, 1, fun _ _ => 1⟩) [1, 2]) :=
  ⟨[1, 2], .of_admitted (by decide)⟩
example : env.done ⟨2, 1, fun _ _ => 1⟩ (exec env ⟨2, 1, fun _ _ => 1⟩ (env.reset ⟨2, 1, fun _ _ => 1⟩) [1, 2]) = true ∧
    env.mask ⟨2, 1, fun _ _ => 1⟩ (exec env ⟨2, 1, fun _ _ => 1⟩ (env.reset ⟨2, 1, fun _ _ => 1⟩) [1, 2]) 0 = true := by
  decide

end Rl4co.Mtsp
