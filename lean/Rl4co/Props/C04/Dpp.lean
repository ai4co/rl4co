/-
C04 for DPP / MDPP.  The model is per-instance by construction; the correspondence compares every row
of the real batched environment with it.  `max_decaps` is one number per environment object, so all
rows of a batch are finished at the same step: no row is ever stepped after it finished and the
padding clause of C04 is vacuous (`done_lockstep`).  The reward (impedance simulator) is not modelled.
-/
import Rl4co.Props.C08.Dpp

namespace Rl4co.Dpp

/-- **C04 (DPP/MDPP)**: rows of one batch (same environment, hence same `max_decaps`), stepped equally
often, are both finished or both unfinished. -/
theorem done_lockstep (i i' : Inst) (hq : 1 ≤ i.quota) (hqq : i.quota = i'.quota)
    {as as' : List Nat} {s s' : State} (h : Run env i (env.reset i) as s)
    (h' : Run env i' (env.reset i') as' s') (hlen : as.length = as'.length) :
    env.done i s = env.done i' s' :=
  Sel.done_lockstep view hq hqq h h' hlen

theorem outcome_row_local (i : Inst) (hq : 1 ≤ i.quota) {as : List Nat} {s : State}
    (h : Run env i (env.reset i) as s) :
    (∀ j, env.mask i s j = (allowed0 i j && !decide (j ∈ as))) ∧
    (env.done i s = true ↔ i.quota ≤ as.length) :=
  ⟨mask_eq_history i h, done_iff_quota i hq h⟩

example : env.done exInst (exec env exInst (env.reset exInst) [2]) = false := by decide

end Rl4co.Dpp
