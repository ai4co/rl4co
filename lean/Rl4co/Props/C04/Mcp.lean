/-
C04 for MCP.  The model is per-instance by construction; the correspondence compares every row of the
real batched environment with it, at every position and next to arbitrary batch-mates.  (In the real
code `done` comes out with shape `[B, B]` when `n_sets_to_choose` has the generator's shape `[B, 1]`:
entry `[r][c]` compares the counter of row `c` with the quota of row `r`; the counters move in
lock-step, so each row of that matrix is constant and is the per-row flag modelled here.)

Padding part — FINDING (DESIGN §8), as for FLP: a row whose quota is reached keeps selecting sets
while a batch-mate with a larger quota runs, and its reward changes.
-/
import Rl4co.Props.C08.Mcp
import Rl4co.Props.C03.Mcp

namespace Rl4co.Mcp

def pad_noop_statement : Prop :=
  ∀ (i : Inst) (as : List Nat) (s : State) (a : Nat), WF i → Run env i (env.reset i) as s →
    env.done i s = true → a < env.nAct i → env.mask i s a = true →
    reward i (env.step i s a) = reward i s

/-- witness: sets `{1}`, `{2}`, weights 1 and 2, quota 1: reward 1 after selecting set 0; the padding
step must select set 1, reward 3. -/
theorem pad_noop_counterexample : ¬ pad_noop_statement := by
  intro h
  have hrun : Run env cexInst (env.reset cexInst) [0] (exec env cexInst (env.reset cexInst) [0]) :=
    Run.of_admitted (by decide)
  have := h cexInst [0] _ 1 ⟨by decide, by decide⟩ hrun (by decide) (by decide) (by decide)
  exact absurd this (by decide)

theorem no_padding_of_equal_quota (i i' : Inst) (hwf : WF i) (hq : i.quota = i'.quota)
    {as as' : List Nat} {s s' : State} (h : Run env i (env.reset i) as s)
    (h' : Run env i' (env.reset i') as' s') (hlen : as.length = as'.length) :
    env.done i s = env.done i' s' :=
  Sel.done_lockstep view hwf.1 hq h h' hlen

theorem padded_only_if_larger_quota (i i' : Inst) (hwf : WF i) (hwf' : WF i')
    {as as' : List Nat} {s s' : State} (h : Run env i (env.reset i) as s)
    (h' : Run env i' (env.reset i') as' s') (hlen : as.length = as'.length)
    (hd : env.done i s = true) (hd' : env.done i' s' = false) : i.quota < i'.quota :=
  Sel.padded_only_if_larger_quota view hwf.1 hwf'.1 h h' hlen hd hd'

theorem pad_effect (i : Inst) {as : List Nat} {s : State} (h : Run env i (env.reset i) as s)
    (hd : env.done i s = true) (a : Nat) (ha : a < env.nAct i) (hm : env.mask i s a = true) :
    a ∉ as ∧ env.done i (env.step i s a) = true ∧
    reward i (env.step i s a) = Spec.Mcp.objective i (as ++ [a]) :=
  ⟨Sel.not_mem_of_mask view h hm, Sel.done_stable view h a hd, reward_eq_objective i (h.snoc ha hm)⟩

end Rl4co.Mcp
