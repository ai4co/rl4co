/-
C04 for PCTSP / SPCTSP (padding part): once an instance is finished, the only action its mask
offers is the depot, and stepping it again (as happens while slower batch-mates are still running)
changes neither `done`, nor the advertised mask, nor the reward of the episode.  The batch part of
C04 is carried by the correspondence: the model is per-instance by construction, every row of the
real batched environment is compared with it, and the only batch-global construct of the code (the
single-column test `actions.size(-1) == 1` in `_get_reward`) cannot apply to a finished batch
(`IsTour.two_le_length_of_done`).
-/
import Rl4co.Props.C03.Pctsp

namespace Rl4co.Pctsp
open Rl4co.Prize

theorem pad_noop (i : Inst) (h00 : i.D 0 0 = 0) {as : List Nat} {s : State}
    (h : Run env i (env.reset i) as s) (hd : env.done i s = true) (a : Nat)
    (hm : env.mask i s a = true) :
    a = 0 ∧
    env.done i (env.step i s a) = true ∧
    (∀ b, env.mask i (env.step i s a) b = env.mask i s b) ∧
    reward i (as ++ [a]) = reward i as := by
  obtain ⟨rfl, hd', hmask⟩ := isTour.pad ⟨as, h⟩ hd hm
  refine ⟨rfl, hd', fun b => ?_, ?_⟩
  · by_cases hb : b = 0
    · subst hb
      exact mask_depot_step_depot i s
    · exact hmask b hb
  · have h2 := isTour.two_le_length_of_done h hd
    rw [reward_eq, reward_eq, List.length_append, List.length_singleton, if_neg (by omega),
      if_neg (by omega), gatherSum_append, gatherSum_zero, Int.add_zero, pathLen_cons_snoc_snoc, h00,
      Int.add_zero]

/-- Non-vacuity: the finished episode `[1, 2, 0]` of the example instance offers exactly the depot. -/
example : env.done exInst (exec env exInst (env.reset exInst) [1, 2, 0]) = true ∧
    env.mask exInst (exec env exInst (env.reset exInst) [1, 2, 0]) 0 = true ∧
    env.mask exInst (exec env exInst (env.reset exInst) [1, 2, 0]) 3 = false := by decide

end Rl4co.Pctsp
