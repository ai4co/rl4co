/-
C04 for FLP.  The model is per-instance by construction (every quantity `_step` computes for a row is
a function of that row's instance, state and action); the correspondence compares every row of the
real batched environment with it, at every position and next to arbitrary batch-mates.

Padding part — FINDING (DESIGN §8).  A row is stepped after its own `done` exactly when a batch-mate
has a larger `to_choose`.  Such a step is *not* a no-op: the mask of a finished row is `~chosen`, the
row must select a further location, `chosen` grows and the reward (computed from `chosen`) changes.
What does hold: rows with equal quotas finish at the same step, so with the bundled generator (one
`to_choose` per batch) no row is ever stepped after it finished; the finishing step of a row and `done`
staying set do not depend on batch-mates or padding; the reward of a padded row is still minus the objective
of everything it selected.
-/
import Rl4co.Props.C08.Flp
import Rl4co.Props.C03.Flp

namespace Rl4co.Flp

/-- Full statement: a step taken after the row finished changes nothing that matters. -/
def pad_noop_statement : Prop :=
  ∀ (i : Inst) (as : List Nat) (s : State) (a : Nat), WF i → Run env i (env.reset i) as s →
    env.done i s = true → a < env.nAct i → env.mask i s a = true →
    reward i (env.step i s a) = reward i s

/-- witness: locations at distance 512 ticks, quota 1; after selecting 0 the row is done with reward
−512; the only offered action is 1, after which the reward is 0. -/
theorem pad_noop_counterexample : ¬ pad_noop_statement := by
  intro h
  have hrun : Run env cexInst (env.reset cexInst) [0] (exec env cexInst (env.reset cexInst) [0]) :=
    Run.of_admitted (by decide)
  have := h cexInst [0] _ 1 ⟨by decide, by decide⟩ hrun (by decide) (by decide) (by decide)
  exact absurd this (by decide)

/-- **C04 (FLP), partial**: two rows with the same quota, stepped equally often, are both finished or
both unfinished — in a batch of equal quotas no row is stepped after it finished. -/
theorem no_padding_of_equal_quota (i i' : Inst) (hwf : WF i) (hq : i.quota = i'.quota)
    {as as' : List Nat} {s s' : State} (h : Run env i (env.reset i) as s)
    (h' : Run env i' (env.reset i') as' s') (hlen : as.length = as'.length) :
    env.done i s = env.done i' s' :=
  Sel.done_lockstep view hwf.1 hq h h' hlen

theorem padded_only_if_larger_quota (i i' : Inst) (hwf : WF i) (hwf' : WF i')
    {as as' : List Nat} {s s' : State} (h : Run env i (env.reset i) as s)
    (h' : Run env i' (env.reset i') as' s') (hlen : as.length = as'.length)
    (hd : env.done i s = true) (hd' : env.done i' s' = false) : i.quota < i'.quota :=
  Sel.padded_only_if_larger_quota view hwf.1 hwf'.1 h h' hlen hd hd'

/-- what a padding step does: it adds one more distinct location to `chosen` (never a no-op), keeps
`done`, and the reward stays minus the objective of everything selected so far. -/
theorem pad_effect (i : Inst) {as : List Nat} {s : State} (h : Run env i (env.reset i) as s)
    (hd : env.done i s = true) (a : Nat) (ha : a < env.nAct i) (hm : env.mask i s a = true) :
    a ∉ as ∧ env.done i (env.step i s a) = true ∧
    reward i (env.step i s a) = - Spec.Flp.objective i (as ++ [a]) :=
  ⟨Sel.not_mem_of_mask view h hm, Sel.done_stable view h a hd, reward_eq_neg_objective i (h.snoc ha hm)⟩

end Rl4co.Flp
