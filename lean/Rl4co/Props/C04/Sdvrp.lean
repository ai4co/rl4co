/-
C04 for SDVRP (padding part): once a reachable instance is finished (nothing left to deliver) the only
action its mask offers is the depot, and stepping it again (as happens while slower batch-mates are
still running) changes neither `done`, nor the advertised mask, nor the remaining demands, nor the
reward.  The batch part of C04 is carried by the correspondence (per-instance model vs every row of
the batched code).
-/
import Rl4co.Props.C02.Sdvrp
import Rl4co.Props.C03.Sdvrp

namespace Rl4co.Sdvrp

theorem pad_noop (i : Inst) (hw : WF i) (h00 : i.D 0 0 = 0) {s : State} (hr : Reach env i s) (as : List Nat)
    (hd : env.done i s = true) (a : Nat) (ha : a < env.nAct i) (hm : env.mask i s a = true) :
    a = 0 ∧
    env.done i (env.step i s a) = true ∧
    (∀ b, b < env.nAct i → env.mask i (env.step i s a) b = env.mask i s b) ∧
    (∀ j, (env.step i s a).rem j = s.rem j) ∧
    reward i (as ++ [a]) = reward i as := by
  have hi := Inv.of_reach hw hr
  have ha0 : a = 0 := of_decide_eq_true ((mask_of_done i s hi hd a ha).symm.trans hm)
  subst ha0
  have hd' := done_stable i hw hr 0 hd
  refine ⟨rfl, hd', fun b hb => ?_, fun j => by rw [step_rem_depot hi], ?_⟩
  · rw [mask_of_done i s hi hd b hb, mask_of_done i _ (inv_step i s 0 hi) hd' b hb]
  · rw [reward_eq_objective i h00, reward_eq_objective i h00, Spec.Sdvrp.objective, Spec.Sdvrp.objective,
      routesLen_append_zero]

end Rl4co.Sdvrp
