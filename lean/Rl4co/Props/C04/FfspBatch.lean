/-
FFSP: the per-row theorems in their `∀ batch, ∀ row` form.  `BatchRun` are the states of a whole batch
(rows may be different instances of the same shape, any batch size, any mixture of finished and
unfinished rows) reached from a batched reset by the batched `_step` (`batchStep`, with the code's global
`done.all()`) under mask-admitted action vectors, as long as the batch is not finished.  Every row of every
such batch state is offered an action; and at the step that finishes the batch every row carries a valid
schedule whose makespan is the reward written for it.
-/
import Rl4co.Props.C04.Ffsp
import Rl4co.Props.C03.Ffsp
namespace Rl4co.Ffsp
open Rl4co.Spec.Ffsp

inductive All2 {α β : Type} (P : α → β → Prop) : List α → List β → Prop
  | nil : All2 P [] []
  | cons {a b l1 l2} : P a b → All2 P l1 l2 → All2 P (a :: l1) (b :: l2)

def Admitted (rows : List (Inst × State)) (acts : List Nat) : Prop :=
  All2 (fun (r : Inst × State) a => a < r.1.J + 1 ∧ r.2.mask a = true) rows acts

/-- batch states reachable while the batch is running -/
inductive BatchRun : List (Inst × State) → Prop
  | reset (is : List Inst) : BatchRun (is.map (fun i => (i, reset i)))
  | step {rows : List (Inst × State)} {acts : List Nat} : BatchRun rows → Admitted rows acts →
      allDoneAfter rows acts = false → BatchRun (batchStep rows acts)

theorem zipWith_mem {α β γ : Type} {P : α → β → Prop} {l1 : List α} {l2 : List β}
    (hf : All2 P l1 l2) (f : α → β → γ) :
    ∀ x, x ∈ List.zipWith f l1 l2 → ∃ a b, a ∈ l1 ∧ P a b ∧ x = f a b ∧
      ∀ {δ : Type} (g : α → β → δ), g a b ∈ List.zipWith g l1 l2 := by
  induction hf with
  | nil => intro x hx; simp at hx
  | cons hab _ ih =>
    intro x hx
    simp only [List.zipWith_cons_cons, List.mem_cons] at hx
    rcases hx with rfl | hx
    · exact ⟨_, _, List.mem_cons_self, hab, rfl, fun g => by simp⟩
    · obtain ⟨a, b, ha, hp, he, hg⟩ := ih x hx
      exact ⟨a, b, List.mem_cons_of_mem _ ha, hp, he, fun g => by
        simp only [List.zipWith_cons_cons]; exact List.mem_cons_of_mem _ (hg g)⟩

/-- **∀ batch, ∀ row**: every row of a running batch is in a state of its own per-row machine `envM` -/
theorem batchRun_row_reach {rows : List (Inst × State)} (hb : BatchRun rows) :
    ∀ r, r ∈ rows → Reach envM r.1 r.2 := by
  induction hb with
  | reset is =>
    intro r hr
    obtain ⟨i, _, rfl⟩ := List.mem_map.mp hr
    exact ⟨[], Run.nil _⟩
  | step _ hadm hg ih =>
    intro r hr
    rw [batchStep_eq, hg] at hr
    obtain ⟨r0, a, hr0, ⟨ha, hm⟩, rfl, _⟩ := zipWith_mem hadm _ r hr
    exact (ih r0 hr0).step ha hm

/-- **C02, ∀ batch ∀ row**: in every batch that is still running, every row — finished or not — is
offered at least one action -/
theorem batch_mask_nonempty {rows : List (Inst × State)} (hb : BatchRun rows)
    (hwf : ∀ r, r ∈ rows → WF r.1) : ∀ r, r ∈ rows → ∃ a, a < r.1.J + 1 ∧ r.2.mask a = true :=
  fun r hr => mask_nonempty r.1 (hwf r hr) (batchRun_row_reach hb r hr)

/-- **C07 / C03, ∀ batch ∀ row**: at the step after which the whole batch is finished, every row of
the batch — whenever it finished, however long it was padded — carries a valid schedule, and the reward
written for it is minus that schedule's makespan -/
theorem batch_final (rows : List (Inst × State)) (acts : List Nat) (hb : BatchRun rows)
    (hadm : Admitted rows acts) (hfin : allDoneAfter rows acts = true)
    (hwf : ∀ r, r ∈ rows → WF r.1) :
    ∀ r, r ∈ batchStep rows acts →
      r.2.done = true ∧ Valid r.1 (ofMatrix r.1 r.2.sched) ∧
      r.2.reward = some (- makespan r.1 (ofMatrix r.1 r.2.sched)) := by
  intro r hr
  rw [batchStep_eq, hfin] at hr
  obtain ⟨r0, a, hr0, ⟨_, hm⟩, rfl, hg⟩ := zipWith_mem hadm _ r hr
  have hre := batchRun_row_reach hb r0 hr0
  have h := hwf r0 hr0
  have hd : (apply r0.1 r0.2 a).done = true := by
    have hmem := hg (fun (r : Inst × State) a => (r.1, apply r.1 r.2 a))
    unfold allDoneAfter at hfin
    exact List.all_eq_true.mp hfin _ hmem
  have hdone : (stepG r0.1 r0.2 a true).done = true := (stepG_done _ _ a true).trans hd
  exact ⟨hdone, schedule_valid_row r0.1 h hre a hm true hdone,
    reward_eq_makespan_row r0.1 h hre a hm hd⟩

/-- Non-vacuity: the batch `[one, one]` of shape 1×1×1, both rows finishing at the first step. -/
example : BatchRun ([one, one].map (fun i => (i, reset i))) := BatchRun.reset _
example : allDoneAfter ([one, one].map (fun i => (i, reset i))) [0, 0] = true := by decide
example : Admitted ([one, one].map (fun i => (i, reset i))) [0, 0] :=
  All2.cons ⟨by decide, by decide⟩ (All2.cons ⟨by decide, by decide⟩ All2.nil)
/-- … and a batch that keeps running: `ex` (needs four steps) next to a copy of itself -/
example : BatchRun (batchStep ([ex, ex].map (fun i => (i, reset i))) [0, 1]) :=
  BatchRun.step (BatchRun.reset _) (All2.cons ⟨by decide, by decide⟩ (All2.cons ⟨by decide, by decide⟩ All2.nil))
    (by decide)

end Rl4co.Ffsp
