/-
C04 for ATSP: the batched `_step` decides "is this the first step?" once for the whole batch, from the counter of
ROW 0 (`batch_to_scalar(td["i"]) == 0`).  Rows of a batch that was reset together share the step counter, so the
batch-global flag is every row's own flag and the batched step is the row-wise solo step.  There is no post-finish
padding in this family (C02: all rows finish at step `n`).
-/
import Rl4co.Proofs.TspfamTsp
import Rl4co.Proofs.TspfamBatch
import Rl4co.Core.Lists

namespace Rl4co.Atsp
open Rl4co.Tspfam

theorem firstFlag_of_lockStep {k : Nat} {rows : List (Inst × State)} (h : LockStep State.i k rows)
    {r : Inst × State} (hr : r ∈ rows) : firstFlag (rows.map (·.2)) = firstFlag [r.2] := by
  cases rows with
  | nil => cases hr
  | cons r0 rows => rw [List.map_cons, firstFlag_cons, firstFlag_cons, h r0 List.mem_cons_self, h r hr]

theorem batchStep_eq_rowStep {k : Nat} (rows : List (Inst × State)) (acts : List Nat)
    (h : LockStep State.i k rows) : batchStep rows acts = rowStep env rows acts :=
  zipWith_congr_of_mem (fun r hr a => by rw [firstFlag_of_lockStep h hr]; rfl) acts

/-- one action column per step, one action per row -/
def batchExec (rows : List (Inst × State)) (cols : List (List Nat)) : List (Inst × State) :=
  cols.foldl batchStep rows

theorem batchExec_eq_rowExec (insts : List Inst) (cols : List (List Nat)) :
    batchExec (insts.map (fun i => (i, reset i))) cols = rowExec env (insts.map (fun i => (i, reset i))) cols ∧
    LockStep State.i cols.length (batchExec (insts.map (fun i => (i, reset i))) cols) :=
  foldl_reset_eq_rowExec env (ctr := State.i) (fun _ => rfl) (fun _ _ _ => rfl)
    (fun _ rows acts h => batchStep_eq_rowStep rows acts h) insts cols

theorem batch_row_eq_solo (insts : List Inst) (cols : List (List Nat)) (r : Nat) (i : Inst)
    (hi : insts[r]? = some i) (hc : ∀ c ∈ cols, r < c.length) :
    (batchExec (insts.map (fun i => (i, reset i))) cols)[r]? =
      some (i, exec env i (env.reset i) (cols.map (fun c => c.getD r 0))) := by
  rw [(batchExec_eq_rowExec insts cols).1]
  exact rowExec_reset_getElem? env insts cols r i hi hc

/-- Non-vacuity: two rows, two steps; the flag is `true` at the first and `false` at the second step. -/
example : (batchExec ([⟨2, fun _ _ => 1⟩, ⟨2, fun _ _ => 1⟩].map (fun i => (i, reset i))) [[1, 0], [0, 1]]).map
    (fun r => (r.2.first, r.2.cur, r.2.i, r.2.done)) = [(1, 0, 2, true), (0, 1, 2, true)] := by decide

/-- **C04/C02 (ATSP), `∀ batch, ∀ row`**: all rows finish at the same step (`n` columns played), whatever the batch
size, the other instances and the actions are, and every row carries its solo state. -/
theorem batch_rows_finish_together (n : Nat) (hpos : 0 < n) (insts : List Inst) (cols : List (List Nat))
    (hn : ∀ i ∈ insts, i.n = n) (hc : ∀ c ∈ cols, c.length = insts.length)
    (hadm : ∀ r i, insts[r]? = some i → admitted env i (env.reset i) (cols.map (fun c => c.getD r 0)) = true) :
    ∀ r i, insts[r]? = some i →
      ∃ s, (batchExec (insts.map (fun i => (i, reset i))) cols)[r]? = some (i, s) ∧
        s = exec env i (env.reset i) (cols.map (fun c => c.getD r 0)) ∧
        (s.done = true ↔ cols.length = n) := by
  rw [(batchExec_eq_rowExec insts cols).1]
  exact availEnv.rows_finish_together n hpos insts cols hn hc hadm

end Rl4co.Atsp
