/- C04 for FJSP / JSSP, episode form: the batched `_step` iterated over a table of actions against every row stepped
alone, `stepBatch_eq_map_step` at every step (the rows stay in `RowOK` by `inv2_step`). -/
import Rl4co.Props.C04.Fjsp
namespace Rl4co.Fjsp

/-- a batched episode: `steps[t][k]` is the action of row `k` at step `t` -/
def runBatch (fuel : Nat) : List Row → List (List Nat) → List Row
  | rows, [] => rows
  | rows, acts :: rest => runBatch fuel (stepBatch fuel (rows.zip acts)) rest

def runRows : List Row → List (List Nat) → List Row
  | rows, [] => rows
  | rows, acts :: rest => runRows ((rows.zip acts).map (fun x => (x.1.1, step x.1.1 x.1.2 x.2))) rest

def AdmB : List Row → List (List Nat) → Prop
  | _, [] => True
  | rows, acts :: rest =>
    (∀ x, x ∈ rows.zip acts → x.2 < nAct x.1.1 ∧ mask x.1.1 x.1.2 x.2 = true) ∧
    AdmB ((rows.zip acts).map (fun x => (x.1.1, step x.1.1 x.1.2 x.2))) rest

/-- **C04, episode form (∀ batch, ∀ step, ∀ row)**: a whole mask-confined batched episode — rows of
arbitrary well-formed instances satisfying the state invariant (`RowOK`), finishing at different steps, padded with wait
actions — equals stepping every row alone, at every step. -/
theorem runBatch_eq_runRows (M : Nat) (steps : List (List Nat)) :
    ∀ rows : List Row, (∀ r, r ∈ rows → RowOK r ∧ r.1.M = M) → AdmB rows steps →
      runBatch (M + 1) rows steps = runRows rows steps := by
  induction steps with
  | nil => intro rows _ _; rfl
  | cons acts rest ih =>
    intro rows hok hadm
    obtain ⟨hadm1, hadm2⟩ := hadm
    have hokz : ∀ x, x ∈ rows.zip acts → RowOK x.1 ∧ x.1.1.M = M :=
      fun x hx => hok x.1 (List.of_mem_zip hx).1
    simp only [runBatch, runRows]
    rw [stepBatch_eq_map_step M (rows.zip acts) hokz hadm1]
    apply ih _ _ hadm2
    intro r hr
    obtain ⟨x, hx, rfl⟩ := List.mem_map.mp hr
    obtain ⟨⟨hwf, h2⟩, hM⟩ := hokz x hx
    obtain ⟨ha, hm⟩ := hadm1 x hx
    exact ⟨⟨hwf, inv2_step hwf h2 ha hm⟩, hM⟩

/-- non-vacuity: two different instances, one finishing three steps before the other and padded with waits -/
example :
    let rows : List Row := [(exFjsp, reset exFjsp), ({ exFjsp with endOp := fun j => 2 * j, proc := fun _ o => if o = 0 ∨ o = 2 then 3 else 0 },
                              reset { exFjsp with endOp := fun j => 2 * j, proc := fun _ o => if o = 0 ∨ o = 2 then 3 else 0 })]
    let steps := [[1, 1], [4, 4], [0, 0], [1, 0], [4, 0], [0, 0]]
    (runBatch 3 rows steps).map (fun r => (r.2.time, r.2.done)) = (runRows rows steps).map (fun r => (r.2.time, r.2.done)) ∧
    (runBatch 3 rows steps).map (fun r => (r.2.time, r.2.done)) = [(6, true), (3, true)] := by decide +kernel

end Rl4co.Fjsp
