/-
C13 — beam search (`rl4co/utils/decoding.py:BeamSearch`).  Model: `Rl4co/Decode/Beam.lean`; spec:
`Rl4co/Spec/Loglik.lean`.  Everything is stated for all batch sizes `B`, widths `W`, action-space sizes `N`,
numbers of steps, policies `π` (uninterpreted function of the row's decoding state), additions `plus` (float32
addition in the driver) and every outcome of `torch.topk` / `max` that is valid (`ValidTop`, `ValidArgmax`) —
tie-breaking is not assumed.  Feasibility of complete beams is C01's: every kept action is mask-admitted, so a
beam is a mask-confined run of its environment.
-/
import Rl4co.Proofs.LoglikBeam
import Rl4co.Props.C11.Loglik

namespace Rl4co.Decode
open Rl4co.Spec.Loglik

variable {S : Type}


/-- **C13 `backtrack_consistent`.**  In every reachable beam-search state (any policy, any number of
steps, any valid tie-breaking of `topk`), the action sequence `_backtrack` reconstructs for
final row `i` through the beam parents is exactly the sequence by which the environment state of row
`i` was produced from the reset state of its instance `i % B`. -/
theorem backtrack_consistent (e : DEnv S) (π : S → Row) (c : BeamCfg) (plus : Int → Int → Int)
    (start : Nat → Nat) (s0 : Nat → S) {st : BeamSt S} (h : BeamReach e π c plus start s0 st)
    (i : Nat) :
    st.s i = execD e (s0 (i % c.B)) (btActs c.B st.bufs i) ∧ btActs c.B st.bufs i ≠ [] := by
  have hi := beamInv_of_reach e π c plus start s0 h
  exact ⟨hi.state i, btActs_ne_nil _ _ hi.nonempty i⟩

/-- **C13 `logp_is_policy`.**  The `[T, N]` log-prob rows returned for row `i` are what the policy
assigns along that very sequence (the forced first move being the all-zero row), hence so are the
gathered per-step log-probabilities; and the row's accumulated beam score is their running sum. -/
theorem logp_is_policy (e : DEnv S) (π : S → Row) (c : BeamCfg) (plus : Int → Int → Int)
    (start : Nat → Nat) (s0 : Nat → S) {st : BeamSt S} (h : BeamReach e π c plus start s0 st)
    (i : Nat) :
    btRows c.B st.bufs i = specRows e π c.N (s0 (i % c.B)) true (btActs c.B st.bufs i) ∧
      st.score i = accScore plus (specVals e π (s0 (i % c.B)) true (btActs c.B st.bufs i)) := by
  have hi := beamInv_of_reach e π c plus start s0 h
  exact ⟨hi.rows i, hi.score i⟩

/-- value of the expansion "parent beam `w` of instance `b`, action `j`" -/
def expVal (c : BeamCfg) (plus : Int → Int → Int) (π : S → Row) (st : BeamSt S) (b w j : Nat) : LP :=
  lpAdd plus (gather (π (st.s (w * c.B + b))) j) (st.score (w * c.B + b))

/-- the expansion kept at rank `k` for instance `b`: (parent beam, action) -/
def kept (c : BeamCfg) (top : Nat → List Nat) (b k : Nat) : Nat × Nat :=
  ((top b).getD k 0 / c.N, (top b).getD k 0 % c.N)

theorem hstacked_eq_expVal (c : BeamCfg) (plus : Int → Int → Int) (π : S → Row) (st : BeamSt S) (b p : Nat) :
    hstacked c plus (fun i => π (st.s i)) st.score b p = expVal c plus π st b (p / c.N) (p % c.N) := rfl

/-- **C13 `kept_are_top`.**  One step of beam search, from any state, with any valid outcome of
`topk`: for every instance `b` the `W` new rows `k·B + b` are `W` pairwise distinct expansions
`(parent w, action j)` with `w < W`, `j < N`; the new row's environment state is its parent's state
stepped with that action, its score is the expansion's value; and no expansion that was *not* kept has
a value above any kept one. -/
theorem kept_are_top (e : DEnv S) (π : S → Row) (c : BeamCfg) (plus : Int → Int → Int)
    (st : BeamSt S) (top : Nat → List Nat) (b : Nat) (hb : b < c.B)
    (hv : ValidTop c (hstacked c plus (fun i => π (st.s i)) st.score b) (top b)) :
    let st' := beamStep e c plus (fun i => π (st.s i)) top st
    (∀ k, k < c.W →
        (kept c top b k).1 < c.W ∧ (kept c top b k).2 < c.N ∧
        st'.s (k * c.B + b) = e.step (st.s ((kept c top b k).1 * c.B + b)) (kept c top b k).2 ∧
        st'.score (k * c.B + b) = expVal c plus π st b (kept c top b k).1 (kept c top b k).2) ∧
    (∀ k k', k < c.W → k' < c.W → kept c top b k = kept c top b k' → k = k') ∧
    (∀ w j, w < c.W → j < c.N → (∀ k, k < c.W → kept c top b k ≠ (w, j)) →
        ∀ k, k < c.W →
          lpLe (expVal c plus π st b w j)
            (expVal c plus π st b (kept c top b k).1 (kept c top b k).2) = true) := by
  intro st'
  have hlen := hv.1
  have hnd := hv.2.1
  have hlt := hv.2.2.1
  have hmem : ∀ k, k < c.W → (top b).getD k 0 ∈ top b := fun k hk => getD_mem 0 (hlen ▸ hk)
  refine ⟨fun k hk => ⟨div_lt_of_lt_mul_right (hlt _ (hmem k hk)),
      mod_lt_of_lt_mul (hlt _ (hmem k hk)), beamStep_s_flat hb, beamStep_score_flat hb⟩,
    fun k k' hk hk' heq => ?_, fun w j hw hj hnk k hk => ?_⟩
  · have heq' := Prod.mk.inj heq
    exact (List.getD_inj (hlen ▸ hk) (hlen ▸ hk') hnd).mp (eq_of_div_mod heq'.1 heq'.2)
  · -- the column `w·N + j` of the non-kept expansion is not in `top b`
    have hnot : w * c.N + j ∉ top b := by
      intro hin
      obtain ⟨k0, hk0, hk0e⟩ := exists_getD_of_mem 0 hin
      exact hnk k0 (hlen ▸ hk0) (by rw [kept, hk0e, idx_div hj, idx_mod hj])
    have := validTop_lpLe hv (idx_lt hw hj) hnot (hmem k hk)
    rwa [hstacked_eq_expVal, hstacked_eq_expVal, idx_div hj, idx_mod hj] at this

/-- **C13 `kept_feasible`.**  If every parent beam of instance `b` has at least one expansion of
finite value (a feasible action: C02 `mask_nonempty`, C10 `masked_zero`), every kept expansion has
finite value — `topk` never picks a `-inf` (infeasible) column, so the `infeasible action selected`
assertion of `BeamSearch._step` cannot fire. -/
theorem kept_feasible (π : S → Row) (c : BeamCfg) (plus : Int → Int → Int)
    (st : BeamSt S) (top : Nat → List Nat) (b : Nat)
    (hv : ValidTop c (hstacked c plus (fun i => π (st.s i)) st.score b) (top b))
    (ha : ∀ w, w < c.W → ∃ j, j < c.N ∧ expVal c plus π st b w j ≠ none)
    (k : Nat) (hk : k < c.W) :
    expVal c plus π st b (kept c top b k).1 (kept c top b k).2 ≠ none := by
  refine validTop_finite hv (fun w hw => ?_) (getD_mem 0 (hv.1 ▸ hk))
  obtain ⟨j, hj, hfin⟩ := ha w hw
  refine ⟨w * c.N + j, idx_div hj, idx_lt hw hj, ?_⟩
  rw [hstacked_eq_expVal, idx_div hj, idx_mod hj]
  exact hfin

/-- a kept expansion of finite value is admitted by the mask of its parent's state, provided the
policy gives `-inf` to masked actions (C10 `masked_zero`) -/
theorem kept_admitted (e : DEnv S) (π : S → Row) (c : BeamCfg) (plus : Int → Int → Int)
    (st : BeamSt S) (b w j : Nat)
    (hπ : ∀ s j, gather (π s) j ≠ none → e.mask s j = true)
    (h : expVal c plus π st b w j ≠ none) : e.mask (st.s (w * c.B + b)) j = true := by
  apply hπ
  intro hg
  apply h
  simp [expVal, hg, lpAdd]

/-- **C13 `beams_distinct`.**  If the forced first moves of every instance are pairwise distinct, then
in every reachable state the sequences of the `W` beams of an instance are pairwise distinct. -/
theorem beams_distinct (e : DEnv S) (π : S → Row) (c : BeamCfg) (plus : Int → Int → Int)
    (start : Nat → Nat) (s0 : Nat → S)
    (hstart : ∀ b, b < c.B → ∀ w w', w < c.W → w' < c.W →
      start (w * c.B + b) = start (w' * c.B + b) → w = w')
    {st : BeamSt S} (h : BeamReach e π c plus start s0 st) :
    ∀ b, b < c.B → ∀ w w', w < c.W → w' < c.W →
      btActs c.B st.bufs (w * c.B + b) = btActs c.B st.bufs (w' * c.B + b) → w = w' := by
  induction h with
  | pre =>
    intro b hb w w' hw hw' heq
    exact hstart b hb w w' hw hw' (List.head_eq_of_cons_eq heq)
  | @step st top hreach hvalid ih =>
    intro b hb k k' hk hk' heq
    obtain ⟨hkept, hinj, _⟩ := kept_are_top e π c plus st top b hb (hvalid b hb)
    rw [btActs_beamStep_flat hb, btActs_beamStep_flat hb] at heq
    obtain ⟨hpre, hact⟩ := List.append_inj' heq rfl
    -- equal sequences: same parent beam (induction) and same action, hence the same kept expansion
    exact hinj k k' hk hk'
      (Prod.ext (ih b hb _ _ (hkept k hk).1 (hkept k' hk').1 hpre) (List.head_eq_of_cons_eq hact))

/-- **C13 `best_is_max`.**  `_select_best_beam`: for every valid outcome `arg` of `max(1)`, the row
returned for instance `b` is one of that instance's beams (`arg b · B + b`, `arg b < W`) and its
reward is the maximum of the rewards of the instance's `W` beams (`Spec.bestReward`). -/
theorem best_is_max (c : BeamCfg) (rew : Nat → Int) (arg : Nat → Nat)
    (h : ValidArgmax c.B c.W rew arg) (b : Nat) (hb : b < c.B) :
    selectBestRow c.B arg b % c.B = b ∧ arg b < c.W ∧
      bestReward c.B rew b c.W = some (rew (selectBestRow c.B arg b)) ∧
      ∀ w, w < c.W → rew (w * c.B + b) ≤ rew (selectBestRow c.B arg b) := by
  obtain ⟨h1, _, h2, h3⟩ := select_best_is_max c.B c.W rew arg h b hb
  exact ⟨h1, h2, select_best_reward c.B c.W rew arg h b hb, h3⟩

/-- The decoding loop in beam-search mode only visits reachable states, whenever `tk` is a correct
`topk` (valid on every score row it is applied to). -/
theorem beamLoop_reach (e : DEnv S) (π : S → Row) (c : BeamCfg) (plus : Int → Int → Int)
    (tk : (Nat → LP) → List Nat) (htk : ∀ val, ValidTop c val (tk val))
    (start : Nat → Nat) (s0 : Nat → S) :
    ∀ (f t : Nat) (st : BeamSt S), BeamReach e π c plus start s0 st →
      BeamReach e π c plus start s0 (beamLoop e π c plus tk f t st).1 := by
  intro f t st h
  fun_induction beamLoop e π c plus tk f t st with
  | case1 => exact h
  | case2 => exact h
  | case3 f t st _ lp ih => exact ih (BeamReach.step _ h fun b _ => htk _)

theorem beamDecode_reach (e : DEnv S) (π : S → Row) (c : BeamCfg) (plus : Int → Int → Int)
    (tk : (Nat → LP) → List Nat) (htk : ∀ val, ValidTop c val (tk val)) (maxSteps : Nat)
    (start : Nat → Nat) (s0 : Nat → S) :
    BeamReach e π c plus start s0 (beamDecode e π c plus tk maxSteps start s0).1 :=
  beamLoop_reach e π c plus tk htk start s0 (maxSteps + 1) 0 _ BeamReach.pre


namespace ExampleBeam

/-- a 3-node TSP-like toy: state = visited sequence -/
def toyEnv : DEnv (List Nat) :=
  { step := fun s a => s ++ [a], done := fun s => decide (3 ≤ s.length),
    mask := fun s a => decide (a < 3) && !s.contains a }
def toyπ : List Nat → Row := fun s =>
  (List.range 3).map fun a => if s.contains a then none else some (-(a : Int) - 1)
def cfg : BeamCfg := { B := 1, W := 2, N := 3 }
def st0 : BeamSt (List Nat) := beamPre toyEnv cfg (fun i => i) (fun _ => [])
def top1 : Nat → List Nat := fun _ => [3, 1]
def st1 : BeamSt (List Nat) := beamStep toyEnv cfg (· + ·) (fun i => toyπ (st0.s i)) top1 st0

/-- `BeamReach` (with a genuinely constrained `ValidTop` step) is inhabited beyond the pre hook -/
theorem st1_reach : BeamReach toyEnv toyπ cfg (· + ·) (fun i => i) (fun _ => []) st1 :=
  BeamReach.step top1 BeamReach.pre fun b hb => by
    obtain rfl := Nat.lt_one_iff.mp hb
    exact validTop_sound _ _ _ (by decide)

/-- … and the statements are about non-trivial data: the two beams are `[1,0]` (score −1) and
`[0,1]` (score −2), re-indexed through their parents -/
example : btActs 1 st1.bufs 0 = [1, 0] ∧ btActs 1 st1.bufs 1 = [0, 1] ∧
    st1.score 0 = some (-1) ∧ st1.score 1 = some (-2) ∧ st1.s 0 = [1, 0] := ⟨rfl, rfl, rfl, rfl, rfl⟩

/-- the distinct-starts hypothesis of `beams_distinct` holds here -/
example : ∀ b, b < cfg.B → ∀ w w', w < cfg.W → w' < cfg.W →
    (fun i : Nat => i) (w * cfg.B + b) = (fun i : Nat => i) (w' * cfg.B + b) → w = w' := by
  intro b hb w w' _ _ h
  obtain rfl := Nat.lt_one_iff.mp hb
  exact (Nat.mul_one w).symm.trans (h.trans (Nat.mul_one w'))

/-- the hypothesis of `kept_feasible` (every parent has a finite-valued expansion) holds here -/
example : ∀ w, w < cfg.W →
    (fun w => if w = 0 then 1 else 0) w < cfg.N ∧
      expVal cfg (· + ·) toyπ st0 0 w ((fun w => if w = 0 then 1 else 0) w) ≠ none := by
  intro w hw
  rcases Nat.le_one_iff_eq_zero_or_eq_one.mp (Nat.le_of_lt_succ hw) with rfl | rfl
  · decide
  · decide

/-- `ValidArgmax` (hypothesis of `best_is_max`) with unequal rewards -/
example : ValidArgmax cfg.B cfg.W (fun i => if i = 0 then -7 else -3) (fun _ => 1) :=
  validArgmax_sound (by decide)

end ExampleBeam

end Rl4co.Decode
