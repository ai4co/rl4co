/-
C13 / C11 — which start rule the pre-decoder hooks apply.  `BeamSearch.pre_decoder_hook` and
`DecodingStrategy.pre_decoder_hook` call the *environment's* `env.select_start_nodes` (so per-environment
overrides — PDP: pickups only, OP: feasible nodes, MTVRP … — are honoured), not the generic helper of
`utils/ops.py`; the token is extracted (`Params.beamStartFromEnvRule`, `Params.preStartFromEnvRule`) and the
feasibility / distinctness clauses of C13 are restated on the environment's rule.
-/
import Rl4co.Props.C13.LoglikFindings

namespace Rl4co.Decode
open Rl4co.Spec.Loglik

variable {S : Type}


/-- **obligation (translator tie)**: the beam-search pre-decoder hook takes the forced first moves from the
environment's own start rule `env.select_start_nodes` (extracted), not from the generic helper -/
theorem beamStartRule_eq (envRule generic : Nat → Nat) : beamStartRule envRule generic = envRule := by
  simp [beamStartRule, hookStart, Params.beamStartFromEnvRule]

/-- **C13 `beams_feasible` (beam-search half), stated on the environment's start rule.**  If the
environment's `select_start_nodes` returns, for every instance, nodes its reset mask admits (C12:
`starts_feasible_of_mask`, `op_starts_feasible`, PDP's pickups-only override `Pdp.starts_feasible` …), then —
whatever the generic helper would have returned — every beam of `policy(td, env, decode_type="beam_search")`, forced first
move included, is a mask-confined run from its instance's reset state. -/
theorem beams_mask_confined_env_rule (e : DEnv S) (π : S → Row) (c : BeamCfg) (plus : Int → Int → Int)
    (envRule generic : Nat → Nat) (s0 : Nat → S)
    (hπ : ∀ s j, gather (π s) j ≠ none → e.mask s j = true)
    (hrule : ∀ b, b < c.B → ∀ k, k < c.W → e.mask (s0 b) (envRule (k * c.B + b)) = true)
    {st : BeamSt S} (h : BeamReachF e π c plus (beamStartRule envRule generic) s0 st) :
    ∀ b, b < c.B → ∀ k, k < c.W →
      admittedD e (s0 b) (btActs c.B st.bufs (k * c.B + b)) = true := by
  rw [beamStartRule_eq] at h
  exact beams_mask_confined_full e π c plus envRule s0 hπ hrule h

/-- distinctness likewise only needs the environment's rule to return distinct nodes per instance -/
theorem beams_distinct_env_rule (e : DEnv S) (π : S → Row) (c : BeamCfg) (plus : Int → Int → Int)
    (envRule generic : Nat → Nat) (s0 : Nat → S)
    (hrule : ∀ b, b < c.B → ∀ w w', w < c.W → w' < c.W →
      envRule (w * c.B + b) = envRule (w' * c.B + b) → w = w')
    {st : BeamSt S} (h : BeamReach e π c plus (beamStartRule envRule generic) s0 st) :
    ∀ b, b < c.B → ∀ w w', w < c.W → w' < c.W →
      btActs c.B st.bufs (w * c.B + b) = btActs c.B st.bufs (w' * c.B + b) → w = w' := by
  rw [beamStartRule_eq] at h
  exact beams_distinct e π c plus envRule s0 hrule h


example : beamStartRule (fun i => i) (fun _ => 7) = fun i => i := beamStartRule_eq _ _
example : ExampleBeam.st0 = beamPre ExampleBeam.toyEnv ExampleBeam.cfg (beamStartRule (fun i => i) (fun _ => 7)) (fun _ => []) := by
  rw [beamStartRule_eq]; rfl

end Rl4co.Decode
