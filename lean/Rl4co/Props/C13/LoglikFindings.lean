/-
C13 — the beam-search half of "every returned beam is a feasible solution", and the two places where C13, as
worded, needs a hypothesis the code does not supply by itself (in the form DESIGN §4.3 asks for: statement,
counterexample, partial):
  * forced start nodes are not constrained by beam search itself: the start rule must return feasible
    nodes (`beams_mask_confined_full` under `hstart`).  OP's rule violated this before upstream commit d560d2a
    (finding `C13-op-beam-infeasible-start`); C12 `op_starts_feasible` discharges `hstart` for the code as it is;
  * slot-conditioned policies (PolyNet): beam re-indexing moves partial solutions between strategy slots:
    known finding `C13-polynet-beam-slot-conditioned`.
-/
import Rl4co.Props.C13.Loglik

namespace Rl4co.Decode
open Rl4co.Spec.Loglik

variable {S : Type}


/-- reachable states of a beam search in which, at every step, every parent beam of every instance
has an expansion of finite value (C02 `mask_nonempty` + C10: a feasible action has finite log-prob) -/
inductive BeamReachF (e : DEnv S) (π : S → Row) (c : BeamCfg) (plus : Int → Int → Int)
    (start : Nat → Nat) (s0 : Nat → S) : BeamSt S → Prop
  | pre : BeamReachF e π c plus start s0 (beamPre e c start s0)
  | step {st : BeamSt S} (top : Nat → List Nat) :
      BeamReachF e π c plus start s0 st →
      (∀ b, b < c.B → ValidTop c (hstacked c plus (fun i => π (st.s i)) st.score b) (top b)) →
      (∀ b, b < c.B → ∀ w, w < c.W → ∃ j, j < c.N ∧ expVal c plus π st b w j ≠ none) →
      BeamReachF e π c plus start s0 (beamStep e c plus (fun i => π (st.s i)) top st)

theorem BeamReachF.reach {e : DEnv S} {π : S → Row} {c : BeamCfg} {plus : Int → Int → Int}
    {start : Nat → Nat} {s0 : Nat → S} {st : BeamSt S} (h : BeamReachF e π c plus start s0 st) :
    BeamReach e π c plus start s0 st := by
  induction h with
  | pre => exact BeamReach.pre
  | step top _ hv _ ih => exact BeamReach.step top ih hv

/-- every beam starts with one of its instance's forced start nodes and continues, from the state that move
leads to, as a mask-confined run -/
theorem beams_run (e : DEnv S) (π : S → Row) (c : BeamCfg) (plus : Int → Int → Int)
    (start : Nat → Nat) (s0 : Nat → S)
    (hπ : ∀ s j, gather (π s) j ≠ none → e.mask s j = true)
    {st : BeamSt S} (h : BeamReachF e π c plus start s0 st) :
    ∀ b, b < c.B → ∀ k, k < c.W → ∃ k' rest, k' < c.W ∧
      btActs c.B st.bufs (k * c.B + b) = start (k' * c.B + b) :: rest ∧
      admittedD e (e.step (s0 b) (start (k' * c.B + b))) rest = true := by
  induction h with
  | pre => intro b hb k hk; exact ⟨k, [], hk, rfl, rfl⟩
  | @step st top hreach hvalid hfin ih =>
    intro b hb k hk
    have hv := hvalid b hb
    have hadm := kept_admitted e π c plus st b _ _ hπ (kept_feasible π c plus st top b hv (hfin b hb) k hk)
    obtain ⟨k', rest, hk', hbt, hrest⟩ := ih b hb _ ((kept_are_top e π c plus st top b hb hv).1 k hk).1
    have hst := (beamInv_of_reach e π c plus start s0 hreach.reach).state ((kept c top b k).1 * c.B + b)
    rw [idx_mod hb, hbt] at hst
    refine ⟨k', rest ++ [(kept c top b k).2], hk', ?_, ?_⟩
    · rw [btActs_beamStep_flat hb]
      exact congrArg (· ++ _) hbt
    · rw [admittedD_snoc, hrest, ← execD_cons, ← hst]
      exact hadm

/-- **C13 `beams_mask_confined`** (the beam-search half of `beams_feasible`; C01 turns a mask-confined
finished run into a feasible solution).  If the policy gives `-inf` to masked actions, then in every
state reached through steps in which every parent has a finite-valued expansion, every beam —
its forced first move excepted — is a mask-confined run from its instance's reset state. -/
theorem beams_mask_confined (e : DEnv S) (π : S → Row) (c : BeamCfg) (plus : Int → Int → Int)
    (start : Nat → Nat) (s0 : Nat → S)
    (hπ : ∀ s j, gather (π s) j ≠ none → e.mask s j = true)
    {st : BeamSt S} (h : BeamReachF e π c plus start s0 st) :
    ∀ b, b < c.B → ∀ k, k < c.W → ∀ a0 rest, btActs c.B st.bufs (k * c.B + b) = a0 :: rest →
      admittedD e (e.step (s0 b) a0) rest = true := by
  intro b hb k hk a0 rest hacts
  obtain ⟨k', rest', _, hbt, hrest⟩ := beams_run e π c plus start s0 hπ h b hb k hk
  obtain ⟨rfl, rfl⟩ := List.cons.inj (hbt.symm.trans hacts)
  exact hrest

/-- **C13 `beams_mask_confined_full`** (after upstream fix d560d2a).  Under the interface hypothesis
that the start rule returns, for every instance, nodes its reset mask admits (`hstart`; for OP this is
C12's `op_starts_feasible`, for the other environments C12's `starts_feasible_of_mask`), every beam —
*including* its forced first move — is a mask-confined run from its instance's reset state, so C01
makes every finished beam a feasible solution. -/
theorem beams_mask_confined_full (e : DEnv S) (π : S → Row) (c : BeamCfg) (plus : Int → Int → Int)
    (start : Nat → Nat) (s0 : Nat → S)
    (hπ : ∀ s j, gather (π s) j ≠ none → e.mask s j = true)
    (hstart : ∀ b, b < c.B → ∀ k, k < c.W → e.mask (s0 b) (start (k * c.B + b)) = true)
    {st : BeamSt S} (h : BeamReachF e π c plus start s0 st) :
    ∀ b, b < c.B → ∀ k, k < c.W →
      admittedD e (s0 b) (btActs c.B st.bufs (k * c.B + b)) = true := by
  intro b hb k hk
  obtain ⟨k', rest, hk', hbt, hrest⟩ := beams_run e π c plus start s0 hπ h b hb k hk
  rw [hbt, admittedD, hstart b hb k' hk', hrest]
  rfl

/-- **`beams_feasible`, forced move included, with NO hypothesis on the start rule**: every beam is a
mask-confined run from reset. -/
def beams_mask_confined_statement : Prop :=
  ∀ (S : Type) (e : DEnv S) (π : S → Row) (c : BeamCfg) (plus : Int → Int → Int) (start : Nat → Nat)
    (s0 : Nat → S), (∀ s j, gather (π s) j ≠ none → e.mask s j = true) →
    ∀ st, BeamReachF e π c plus start s0 st → ∀ b, b < c.B → ∀ k, k < c.W →
      admittedD e (s0 b) (btActs c.B st.bufs (k * c.B + b)) = true

/-- It is false: nothing *in beam search* makes the forced start nodes respect the mask — that is the
start rule's obligation (`hstart` of `beams_mask_confined_full`).  OP's `select_start_nodes` violated
it before upstream fix d560d2a (it returned `1..W` even when one of them was masked at reset); since
the fix it is discharged by C12's `op_starts_feasible`. -/
theorem beams_mask_confined_counterexample : ¬ beams_mask_confined_statement := by
  intro h
  -- one instance, one beam, two actions; action 0 is masked, the start-node rule forces it
  let e : DEnv Nat := { step := fun s _ => s + 1, done := fun _ => true, mask := fun _ a => decide (a = 1) }
  have := h Nat e (fun _ => [none, some 0]) { B := 1, W := 1, N := 2 } (· + ·) (fun _ => 0) (fun _ => 0)
    (fun s j hj => match j, hj with
      | 0, h => absurd rfl h
      | 1, _ => rfl
      | j + 2, h => absurd rfl h)
    _ BeamReachF.pre 0 (by decide) 0 (by decide)
  revert this
  decide

/-- beam search with a decoder whose distribution also depends on the *slot* `i / B` a row occupies
among the `W` copies of its instance (PolyNet's strategy vectors) -/
inductive BeamReachSlot (e : DEnv S) (π : Nat → S → Row) (c : BeamCfg) (plus : Int → Int → Int)
    (start : Nat → Nat) (s0 : Nat → S) : BeamSt S → Prop
  | pre : BeamReachSlot e π c plus start s0 (beamPre e c start s0)
  | step {st : BeamSt S} (top : Nat → List Nat) :
      BeamReachSlot e π c plus start s0 st →
      (∀ b, b < c.B →
        ValidTop c (hstacked c plus (fun i => π (i / c.B) (st.s i)) st.score b) (top b)) →
      BeamReachSlot e π c plus start s0
        (beamStep e c plus (fun i => π (i / c.B) (st.s i)) top st)

/-- `logp_is_policy` for slot-conditioned policies: the returned rows of a beam are those of *some*
strategy along its sequence. -/
def logp_is_policy_slot_statement : Prop :=
  ∀ (S : Type) (e : DEnv S) (π : Nat → S → Row) (c : BeamCfg) (plus : Int → Int → Int)
    (start : Nat → Nat) (s0 : Nat → S) (st : BeamSt S), BeamReachSlot e π c plus start s0 st →
    ∀ i, i < c.B * c.W → ∃ k, k < c.W ∧
      btRows c.B st.bufs i = specRows e (π k) c.N (s0 (i % c.B)) true (btActs c.B st.bufs i)

namespace SlotWitness
def e : DEnv Nat := { step := fun s _ => s + 1, done := fun s => decide (3 ≤ s), mask := fun _ _ => true }
def π : Nat → Nat → Row := fun k _ => if k = 0 then [some (-2), some (-6)] else [some (-1), some (-5)]
def c : BeamCfg := { B := 1, W := 2, N := 2 }
def st0 : BeamSt Nat := beamPre e c (fun i => i) (fun _ => 0)
def st1 : BeamSt Nat := beamStep e c (· + ·) (fun i => π (i / c.B) (st0.s i)) (fun _ => [2, 0]) st0
def st2 : BeamSt Nat := beamStep e c (· + ·) (fun i => π (i / c.B) (st1.s i)) (fun _ => [0, 2]) st1

theorem reach2 : BeamReachSlot e π c (· + ·) (fun i => i) (fun _ => 0) st2 := by
  refine BeamReachSlot.step _ (BeamReachSlot.step _ BeamReachSlot.pre fun b hb => ?_) fun b hb => ?_
  · obtain rfl := Nat.lt_one_iff.mp hb
    exact validTop_sound _ _ _ (by decide)
  · obtain rfl := Nat.lt_one_iff.mp hb
    exact validTop_sound _ _ _ (by decide)
end SlotWitness

/-- It is false: the beam in slot 0 after two steps descends from slot 1, so its step-1 row is
strategy 1's and its step-2 row is strategy 0's. -/
theorem logp_is_policy_slot_counterexample : ¬ logp_is_policy_slot_statement := by
  intro h
  obtain ⟨k, hk, hrows⟩ := h Nat SlotWitness.e SlotWitness.π SlotWitness.c (· + ·) (fun i => i) (fun _ => 0)
    SlotWitness.st2 SlotWitness.reach2 0 (by decide)
  -- neither strategy explains both rows
  rcases Nat.le_one_iff_eq_zero_or_eq_one.mp (Nat.le_of_lt_succ hk) with rfl | rfl
  · exact absurd hrows (by decide)
  · exact absurd hrows (by decide)

/-- partial: when the distribution does not depend on the slot, this is `logp_is_policy` -/
theorem logp_is_policy_slot_partial (e : DEnv S) (π : S → Row) (c : BeamCfg) (plus : Int → Int → Int)
    (start : Nat → Nat) (s0 : Nat → S) {st : BeamSt S}
    (h : BeamReachSlot e (fun _ => π) c plus start s0 st) (i : Nat) :
    btRows c.B st.bufs i = specRows e π c.N (s0 (i % c.B)) true (btActs c.B st.bufs i) := by
  have hr : BeamReach e π c plus start s0 st := by
    induction h with
    | pre => exact BeamReach.pre
    | step top _ hv ih => exact BeamReach.step top ih hv
  exact (logp_is_policy e π c plus start s0 hr i).1


end Rl4co.Decode
