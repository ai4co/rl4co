/-
C11 / C02 — termination of the `while not td["done"].all()` loop of `ConstructivePolicy.forward` with its
`max_steps` guard (`Decode.loop_terminates`).
-/
import Rl4co.Proofs.Loglik

namespace Rl4co.Decode
open Rl4co.Spec.Loglik

variable {S : Type}

/-- **C11/C02, decode-loop termination.**  Given C02's facts about the rows (`LoopHyp`, with
`bound ≤ max_steps`) and a selector that only emits mask-admitted actions (C10), the
`while not done.all()` loop of `ConstructivePolicy.forward` — started after the pre-decoder hook —
exits with every row done, after at most `bound` passes (so the `max_steps` `break` is never taken),
and no pass ever looks at a row whose action mask is all `False`. -/
theorem loop_terminates (e : DEnv S) (π : S → Row) (sel : Nat → Nat → Row → Nat) (sA : Bool)
    (B N bound maxSteps : Nat) (start : Option (Nat → Nat)) (s0 : Nat → S)
    (H : LoopHyp e B bound (fun r => (pre e sA N start s0 r).s))
    (hsel : ∀ r t s, (∃ a, e.mask s a = true) → e.mask s (sel r t (π s)) = true)
    (hb : bound ≤ maxSteps) :
    allDone e B (decode e π sel sA B N maxSteps start s0).1 = true ∧
      (decode e π sel sA B N maxSteps start s0).2 ≤ bound ∧
      loopSafe e π sel sA B (maxSteps + 1) 0 (pre e sA N start s0) := by
  rw [decode, loopFuel_eq]
  exact loop_terminates_aux H hsel (maxSteps + 1) 0 _
    (fun r _ => ⟨[], DRun.nil _, rfl⟩) (Nat.zero_le _) (Nat.zero_add _ ▸ Nat.lt_succ_of_le hb)

/-- Without the step bound the loop still stops: it makes at most `max_steps + 1` passes (the
`if step > max_steps: break` is placed after the increment). -/
theorem loop_passes_le (e : DEnv S) (π : S → Row) (sel : Nat → Nat → Row → Nat) (sA : Bool) (B : Nat) :
    ∀ (f t : Nat) (b : Nat → RowSt S), (loop e π sel sA B f t b).2 ≤ t + f := by
  intro f t b
  fun_induction loop e π sel sA B f t b with
  | case1 => exact Nat.le_refl _
  | case2 => exact Nat.le_add_right _ _
  | case3 f t b _ ih => exact Nat.le_trans ih (Nat.le_of_eq (Nat.add_right_comm t 1 f))


namespace ExampleLoop

def toyEnv : DEnv Nat :=
  { step := fun s _ => s + 1, done := fun s => decide (3 ≤ s), mask := fun s a => decide (a < 2) && decide (s < 3) }
def toyπ : Nat → Row := fun s => [some (-(s : Int) - 1), some (-5)]
def toySel : Nat → Nat → Row → Nat := fun r t _ => (r + t) % 2

theorem toy_run {s : Nat} {as : List Nat} (h : DRun toyEnv 0 as s) : s = as.length ∧ s ≤ 3 := by
  induction h with
  | nil => exact ⟨rfl, by decide⟩
  | @snoc s as a _ hm ih =>
    refine ⟨?_, of_decide_eq_true (Bool.and_eq_true_iff.mp hm).2⟩
    show s + 1 = (as ++ [a]).length
    rw [ih.1, List.length_append]
    rfl

/-- `LoopHyp` is satisfiable in its *equal-length* form (the mask of a finished row is all-false,
as in TSP), so the theorem is not vacuous there either -/
theorem toy_hyp : LoopHyp toyEnv 2 3 (fun r => (pre toyEnv false 2 none (fun _ => 0) r).s) := by
  refine ⟨fun r _ as s h hb => ?_, Or.inr ⟨3, fun r _ as s h => ?_⟩⟩
  · exact decide_eq_true ((toy_run h).1 ▸ hb)
  · obtain ⟨h1, h2⟩ := toy_run h
    refine ⟨?_, fun hd => ⟨0, ?_⟩⟩
    · show decide (3 ≤ s) = true ↔ _
      rw [decide_eq_true_iff, h1]
      exact ⟨fun h => Nat.le_antisymm (h1 ▸ h2) h, fun h => Nat.le_of_eq h.symm⟩
    · have : ¬ 3 ≤ s := of_decide_eq_false hd
      exact decide_eq_true (Nat.lt_of_not_le this)

theorem toy_sel : ∀ r t s, (∃ a, toyEnv.mask s a = true) → toyEnv.mask s (toySel r t (toyπ s)) = true := by
  intro r t s ⟨a, ha⟩
  have hs : s < 3 := of_decide_eq_true (Bool.and_eq_true_iff.mp ha).2
  exact Bool.and_eq_true_iff.mpr ⟨decide_eq_true (Nat.mod_lt _ (by decide)), decide_eq_true hs⟩

example : (∀ r t s, (∃ a, toyEnv.mask s a = true) → toyEnv.mask s (toySel r t (toyπ s)) = true) := toy_sel

/-- the theorem applies (bound 3 ≤ max_steps 10) and its conclusion is the observed behaviour -/
example := loop_terminates toyEnv toyπ toySel false 2 2 3 10 none (fun _ => 0) toy_hyp toy_sel (by decide)

example : (decode toyEnv toyπ toySel false 2 2 10 none (fun _ => 0)).2 = 3 := by decide

end ExampleLoop

end Rl4co.Decode
