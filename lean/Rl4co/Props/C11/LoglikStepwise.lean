/-
C11 — the stepwise PPO policies (`L2DPolicy4PPO.act` / `.evaluate`, the entry points of `StepwisePPO`): the
act → evaluate round trip rests on the extracted equality of the option arguments the two call sites hand to
`process_logits`.  Then two further ties to the source (`mask_logits` passed through, the start rule of the multi-start
hook), the property text made literal for the batched loop (forced first move, entropy), and sanity of `Spec.Loglik`
independent of the model.
-/
import Rl4co.Props.C11.Loglik

namespace Rl4co.Decode
open Rl4co.Spec.Loglik

variable {S : Type}


/-- **obligation (translator tie)**: the two `process_logits(logits, mask, …)` calls of
`L2DPolicy4PPO.act` and `L2DPolicy4PPO.evaluate` receive the same option arguments (extracted from the
source on every run).  Stops compiling as soon as one of them gains / loses / changes an option. -/
theorem stepwise_opts_eq : Params.stepwiseActOpts = Params.stepwiseEvalOpts := rfl

/-- `ratios = torch.exp(logprobs - previous_logp)` -/
theorem stepwiseRatio_eq (ex : Int → Int) (a b : Int) :
    stepwiseRatio ex (some a) (some b) = some (ex (a - b)) := by
  simp [stepwiseRatio, Params.stepwiseRatioNewMinusOld]

/-- **C11 for the stepwise policies (`StepwisePPO`'s act / evaluate pair).**  For every network and
`process_logits` (`proc`, any function of the option arguments and the state), every state and every
sampled action: the log-prob `act` stores is the one `evaluate` recomputes for the same action, the
distribution whose entropy `evaluate` returns is the one `act` sampled from, and the probability ratio
`exp(new − old)` of `StepwisePPO.update` is exactly 1 with unchanged weights (only `exp 0 = 1` is used). -/
theorem stepwise_roundtrip (proc : List String → S → Row) (s : S) (a : Nat) :
    (stepwiseEvaluate proc s a).1 = stepwiseAct proc s a ∧
      (stepwiseEvaluate proc s a).2 = stepwiseActRow proc s ∧
      ∀ (ex : Int → Int), ex 0 = 1 → ∀ v, stepwiseAct proc s a = some v →
        stepwiseRatio ex (stepwiseEvaluate proc s a).1 (stepwiseAct proc s a) = some 1 := by
  simp only [stepwiseEvaluate, stepwiseAct, stepwiseActRow, stepwise_opts_eq]
  refine ⟨trivial, trivial, fun ex hex v hv => ?_⟩
  rw [hv, stepwiseRatio_eq]
  simp [hex]

/-- the round trip for call sites with *unrelated* option lists -/
def stepwise_roundtrip_anyopts_statement : Prop :=
  ∀ (S : Type) (proc : List String → S → Row) (o₁ o₂ : List String) (s : S) (a : Nat),
    gather (proc o₂ s) a = gather (proc o₁ s) a

/-- … is false (a temperature passed to one call only changes the distribution): the equality of the
option lists is what the theorem rests on -/
theorem stepwise_roundtrip_anyopts_counterexample : ¬ stepwise_roundtrip_anyopts_statement := by
  intro h
  have := h Unit (fun o _ => if o = [] then [some (-1)] else [some (-2)]) [] ["temperature=self.temperature"] () 0
  revert this
  decide

/-- **obligation (translator tie)**: `AttentionModelPolicy.__init__` passes `mask_logits` (and `temperature`,
`tanh_clipping`) on unchanged — in particular the output logits are masked whenever the user asked for it,
whatever `mask_inner` is -/
theorem policyMaskLogits_eq (ctorArg other : Bool) : policyMaskLogits ctorArg other = ctorArg := by
  simp [policyMaskLogits, Params.amCtorDecodingArgsPassedThrough]

/-- the default (`mask_logits=True`) policy masks its output logits for every value of `mask_inner` -/
theorem policy_masks_by_default (maskInner : Bool) : policyMaskLogits true maskInner = true :=
  policyMaskLogits_eq true maskInner

/-- **obligation (translator tie)**: the multi-start pre-decoder hook takes the forced first moves from the
environment's own start rule `env.select_start_nodes` (extracted), not from the generic helper of utils/ops.py -/
theorem preStartRule_eq (envRule generic : Nat → Nat) : preStartRule envRule generic = envRule := by
  simp [preStartRule, hookStart, Params.preStartFromEnvRule]


/-- **"forced multi-start first moves contribute zero"**: in a multi-start decode the first returned
per-step log-likelihood of every row is `0` (whatever the policy), the first action is the start node,
and the returned log-likelihood is the sum over the remaining steps only. -/
theorem forced_move_contributes_zero (e : DEnv S) (π : S → Row) (sel : Nat → Nat → Row → Nat)
    (storeAll : Bool) (B N maxSteps : Nat) (f : Nat → Nat) (s0 : Nat → S) (hf : ∀ r, f r < N) (r : Nat) :
    let out := (decode e π sel storeAll B N maxSteps (some f) s0).1 r
    ∃ rest, out.acts = f r :: rest ∧
      getLL out.recs out.acts none = some 0 :: tfVals e π (e.step (s0 r) (f r)) rest ∧
      getLLSum out.recs out.acts none = sumLP (tfVals e π (e.step (s0 r) (f r)) rest) := by
  intro out
  have hinv : RowInv e π storeAll N (s0 r) true out :=
    decode_rowInv (start := some f) (fun g hg r => Option.some.inj hg ▸ hf r) r
  -- the action buffer starts with the forced node: the loop only appends
  obtain ⟨rest, hrest⟩ : ∃ rest, out.acts = f r :: rest :=
    loop_acts_prefix (loopFuel maxSteps) 0 _ r
  have hvals : getLL out.recs out.acts none = some 0 :: tfVals e π (e.step (s0 r) (f r)) rest := by
    rw [hinv.vals, hrest]
    rfl
  refine ⟨rest, hrest, hvals, ?_⟩
  rw [getLLSum_eq, lpSum_eq_sumLP, hvals, sumLP]
  cases sumLP (tfVals e π (e.step (s0 r) (f r)) rest) <;> simp

/-- the entropy of the policy along a sequence (independent definition): minus the sum over steps and
actions of `p·log p` of the policy's step distributions -/
def specEntropy (prod : LP → Int) (e : DEnv S) (π : S → Row) (s0 : S) (acts : List Nat) : Int :=
  -(((tfRows e π s0 acts).map (fun row => (row.map prod).foldr (· + ·) 0)).foldr (· + ·) 0)

/-- **entropy clause**: the entropy returned with `return_entropy=True` (rollout or evaluate, any
selector) is the entropy of the policy's step distributions along the returned actions. -/
theorem entropy_is_policy_entropy (prod : LP → Int) (e : DEnv S) (π : S → Row)
    (sel : Nat → Nat → Row → Nat) (B N maxSteps : Nat) (s0 : Nat → S) (r : Nat) :
    let out := (decode e π sel true B N maxSteps none s0).1 r
    (fullRows out.recs).map (calculateEntropy prod) = some (specEntropy prod e π (s0 r) out.acts) := by
  intro out
  rw [(decode_rowInv_none r).rows rfl]
  exact congrArg some (calculateEntropy_eq prod _)

theorem specVals_length (e : DEnv S) (π : S → Row) (s0 : S) (forced : Bool) (acts : List Nat) :
    (specVals e π s0 forced acts).length = acts.length := by
  have htf : ∀ s as, (tfVals e π s as).length = as.length := by
    intro s as
    induction as generalizing s with
    | nil => simp [tfVals]
    | cons a as ih => simp [tfVals, ih]
  cases forced with
  | false => simp [specVals, htf]
  | true =>
    cases acts with
    | nil => simp [specVals]
    | cons a rest => simp [specVals, htf]

/-- **chain rule**: the log-likelihood of a sequence is the log-likelihood of a prefix plus the
log-likelihood of the rest from the state the prefix leads to (so the spec really is "the log of the
product of the step probabilities") -/
theorem specLL_append (e : DEnv S) (π : S → Row) (s0 : S) (as bs : List Nat) :
    specLL e π s0 false (as ++ bs) none
      = lpAdd (· + ·) (specLL e π s0 false as none) (specLL e π (execD e s0 as) false bs none) := by
  simp [specLL, specVals, applyMask, tfVals_append, sumLP_append]

/-- the empty sequence has probability one -/
theorem specLL_nil (e : DEnv S) (π : S → Row) (s0 : S) (forced : Bool) :
    specLL e π s0 forced [] none = some 0 := by
  cases forced <;> simp [specLL, specVals, tfVals, applyMask, sumLP]

/-- a sequence all of whose steps are flagged irrelevant has log-likelihood zero -/
theorem specLL_all_masked (e : DEnv S) (π : S → Row) (s0 : S) (forced : Bool) (acts : List Nat) :
    specLL e π s0 forced acts (some (List.replicate acts.length false)) = some 0 := by
  have hz : ∀ (vs : List LP), sumLP (List.zipWith (fun v keep => if keep = true then v else some 0) vs
      (List.replicate vs.length false)) = some 0 := by
    intro vs
    induction vs with
    | nil => simp [sumLP]
    | cons v vs ih => simp [List.replicate_succ, sumLP, ih]
  have := hz (specVals e π s0 forced acts)
  rw [specVals_length] at this
  simpa [specLL, applyMask] using this

/-- a log-likelihood is `-inf` exactly when some step has probability zero -/
theorem sumLP_eq_none_iff (xs : List LP) : sumLP xs = none ↔ none ∈ xs := by
  induction xs with
  | nil => simp [sumLP]
  | cons x xs ih =>
    cases x with
    | none => simp [sumLP]
    | some a =>
      simp only [sumLP]
      cases h : sumLP xs with
      | none => simp [← ih, h]
      | some b =>
        have : ¬ none ∈ xs := by rw [← ih, h]; simp
        simp [this]


/-- a temperature-like option really changes `proc`, and the theorem is about non-trivial values -/
example :
    let proc : List String → Nat → Row := fun o s => if o = ["tanh_clipping=self.tanh_clipping"] then [some (-1), some (-3)] else [some (-2), some (-2)]
    stepwiseAct proc 0 1 = some (-3) ∧ (stepwiseEvaluate proc 0 1).1 = some (-3) ∧
      stepwiseRatio (fun _ => 1) (stepwiseEvaluate proc 0 1).1 (stepwiseAct proc 0 1) = some 1 := by
  intro proc
  have hA : proc Params.stepwiseActOpts 0 = [some (-1), some (-3)] := if_pos rfl
  have hE : proc Params.stepwiseEvalOpts 0 = [some (-1), some (-3)] := if_pos rfl
  have h1 : stepwiseAct proc 0 1 = some (-3) := by rw [stepwiseAct, hA]; rfl
  have h2 : (stepwiseEvaluate proc 0 1).1 = some (-3) := by rw [stepwiseEvaluate, hE]; rfl
  exact ⟨h1, h2, by rw [h1, h2]; rfl⟩

end Rl4co.Decode
