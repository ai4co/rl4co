/-
C11 — returned log-likelihoods are those of the returned actions; evaluate round trip; PPO ratio.
Model: `Rl4co/Decode/Strategy.lean` (mirrors rl4co/utils/decoding.py, ConstructivePolicy.forward,
ops.calculate_entropy, PPO.shared_step); spec: `Rl4co/Spec/Loglik.lean`.  The policy network (with
`process_logits`, C10) is an uninterpreted function `π` of the row's decoding state, the selection
(argmax tie-breaking, multinomial sampler) an uninterpreted `sel`: every theorem holds for all of them,
for every batch size, action-space size, `max_steps`, `store_all_logp` setting and mask.
-/
import Rl4co.Proofs.Loglik
import Rl4co.Core.Lists
import Rl4co.Props.C12.Select

namespace Rl4co.Decode
open Rl4co.Spec.Loglik

variable {S : Type}

/-- **C11, first clause.**  For every policy `π`, selector (greedy, sampling, …), batch, `store_all_logp`
setting and step bound: the log-likelihood returned for row `r` is the sum over the returned actions of
the log-probability `π` assigns to that action in the state it was taken in — a forced multi-start first
move and steps whose `mask` entry is `False` contributing `0` (`Spec.Loglik.specLL`). -/
theorem ll_eq_sum_gather (e : DEnv S) (π : S → Row) (sel : Nat → Nat → Row → Nat) (storeAll : Bool)
    (B N maxSteps : Nat) (start : Option (Nat → Nat)) (s0 : Nat → S)
    (hstart : ∀ f, start = some f → ∀ r, f r < N) (mask : Option (List Bool)) (r : Nat) :
    let out := (decode e π sel storeAll B N maxSteps start s0).1 r
    getLLSum out.recs out.acts mask = specLL e π (s0 r) start.isSome out.acts mask := by
  intro out
  rw [getLLSum_eq, lpSum_eq_sumLP, (decode_rowInv hstart r).getLL_eq]
  rfl

/-- per-step version (`return_sum_log_likelihood=False`) -/
theorem ll_steps_eq_gather (e : DEnv S) (π : S → Row) (sel : Nat → Nat → Row → Nat) (storeAll : Bool)
    (B N maxSteps : Nat) (start : Option (Nat → Nat)) (s0 : Nat → S)
    (hstart : ∀ f, start = some f → ∀ r, f r < N) (mask : Option (List Bool)) (r : Nat) :
    let out := (decode e π sel storeAll B N maxSteps start s0).1 r
    getLL out.recs out.acts mask = applyMask (specVals e π (s0 r) start.isSome out.acts) mask :=
  (decode_rowInv hstart r).getLL_eq mask

/-- the state the environment is left in is the one reached by the returned actions, and with
`store_all_logp` the returned `[T, N]` log-prob rows are the policy's distributions along them -/
theorem decode_state_rows (e : DEnv S) (π : S → Row) (sel : Nat → Nat → Row → Nat) (storeAll : Bool)
    (B N maxSteps : Nat) (start : Option (Nat → Nat)) (s0 : Nat → S)
    (hstart : ∀ f, start = some f → ∀ r, f r < N) (r : Nat) :
    let out := (decode e π sel storeAll B N maxSteps start s0).1 r
    out.s = execD e (s0 r) out.acts ∧
      (storeAll = true → fullRows out.recs = some (specRows e π N (s0 r) start.isSome out.acts)) := by
  intro out
  have h : RowInv e π storeAll N (s0 r) start.isSome out := decode_rowInv hstart r
  exact ⟨h.state, h.rows⟩

/-- **C11, second clause (evaluate round trip).**  For every policy `π` that is a function of the row's
decoding state (this is built into the type of `π`; no separate hypothesis), every selector and every `store_all_logp` setting
of the two calls: feeding the actions returned by a (non multi-start) rollout back through
`policy(td, env, actions=…)` makes the same number of passes, ends in the same environment states,
returns the same actions and the same per-step log-likelihoods under every `mask`; with
`store_all_logp` the `[T, N]` log-prob rows evaluate returns are the policy's distributions along
the returned actions (so is the entropy: `evaluate_roundtrip_entropy`, whatever `term` is). -/
theorem evaluate_roundtrip (e : DEnv S) (π : S → Row) (sel : Nat → Nat → Row → Nat) (sA sA' : Bool)
    (B N maxSteps : Nat) (s0 : Nat → S) :
    let out := decode e π sel sA B N maxSteps none s0
    let ev := evaluate e π (fun r => (out.1 r).acts) sA' B N maxSteps s0
    ev.2 = out.2 ∧ ∀ r,
      (ev.1 r).s = (out.1 r).s ∧ (ev.1 r).acts = (out.1 r).acts ∧
      (∀ m, getLL (ev.1 r).recs (ev.1 r).acts m = getLL (out.1 r).recs (out.1 r).acts m) ∧
      (sA' = true → fullRows (ev.1 r).recs = some (tfRows e π (s0 r) (out.1 r).acts)) := by
  intro out ev
  have key : ev.2 = out.2 ∧ Sim out.1 ev.1 :=
    loop_eval_replay sA' (fun r => (out.1 r).acts) (loopFuel maxSteps) 0
      (pre e sA N none s0) (pre e sA' N none s0) (fun _ => ⟨rfl, rfl⟩) (fun _ => rfl)
      (fun _ => ⟨[], (List.append_nil _).symm⟩)
  refine ⟨key.1, fun r => ?_⟩
  have hout : RowInv e π sA N (s0 r) false (out.1 r) := decode_rowInv_none r
  have hev : RowInv e π sA' N (s0 r) false (ev.1 r) := decode_rowInv_none r
  have hacts := (key.2 r).2.symm
  refine ⟨(key.2 r).1.symm, hacts, fun m => ?_, fun h => ?_⟩
  · rw [hev.getLL_eq, hacts, hout.getLL_eq]
  · rw [hev.rows h, hacts]
    rfl

/-- the reward (any function of the final environment state and the actions) is reproduced -/
theorem evaluate_roundtrip_reward {α : Type} (rew : S → List Nat → α) (e : DEnv S) (π : S → Row)
    (sel : Nat → Nat → Row → Nat) (sA sA' : Bool) (B N maxSteps : Nat) (s0 : Nat → S) (r : Nat) :
    let out := decode e π sel sA B N maxSteps none s0
    let ev := evaluate e π (fun r => (out.1 r).acts) sA' B N maxSteps s0
    rew (ev.1 r).s (ev.1 r).acts = rew (out.1 r).s (out.1 r).acts := by
  intro out ev
  have h := (evaluate_roundtrip e π sel sA sA' B N maxSteps s0).2 r
  rw [h.1, h.2.1]

/-- the entropy is reproduced (both calls storing all log-probs; `term` = the elementwise `exp x · x`; `calculateEntropy` supplies the sign) -/
theorem evaluate_roundtrip_entropy (term : LP → Int) (e : DEnv S) (π : S → Row)
    (sel : Nat → Nat → Row → Nat) (B N maxSteps : Nat) (s0 : Nat → S) (r : Nat) :
    let out := decode e π sel true B N maxSteps none s0
    let ev := evaluate e π (fun r => (out.1 r).acts) true B N maxSteps s0
    (fullRows (ev.1 r).recs).map (calculateEntropy term) =
      (fullRows (out.1 r).recs).map (calculateEntropy term) := by
  intro out ev
  rw [((evaluate_roundtrip e π sel true true B N maxSteps s0).2 r).2.2.2 rfl]
  exact congrArg _ ((decode_rowInv_none r).rows rfl).symm

/-- **C11, PPO clause.**  `ratio = exp(ll_new.sum(-1) − ll_old)` is exactly `1` at the first PPO epoch
(weights unchanged): `ll_old` is the summed log-likelihood of a sampling rollout (gathered per step),
`ll_new` the per-step log-likelihood of `policy(td, env, actions=…, return_entropy=True)` (all
log-probs stored, gathered at the end); `ex` is `exp`, of which only `exp 0 = 1` is used. -/
theorem ratio_one (ex : Int → Int) (hex : ex 0 = 1) (e : DEnv S) (π : S → Row)
    (sel : Nat → Nat → Row → Nat) (sA sA' : Bool) (B N maxSteps : Nat) (s0 : Nat → S)
    (m : Option (List Bool)) (r : Nat) (v : Int) :
    let out := decode e π sel sA B N maxSteps none s0
    let ev := evaluate e π (fun r => (out.1 r).acts) sA' B N maxSteps s0
    getLLSum (out.1 r).recs (out.1 r).acts m = some v →
    ppoRatio ex (getLL (ev.1 r).recs (ev.1 r).acts m) (getLLSum (out.1 r).recs (out.1 r).acts m)
      = some 1 := by
  intro out ev hv
  have hnew : lpSum (getLL (ev.1 r).recs (ev.1 r).acts m) = some v := by
    rw [((evaluate_roundtrip e π sel sA sA' B N maxSteps s0).2 r).2.2.1 m, ← getLLSum_eq]
    exact hv
  rw [hv, ppoRatio_eq ex _ v v hnew, Int.sub_self, hex]

/-- `_select_best` / `_select_best_beam`: the row kept for instance `b` belongs to instance `b`
(index `≡ b mod B`), and its reward is the maximum over the instance's `K` copies. -/
theorem select_best_is_max (B K : Nat) (rew : Nat → Int) (arg : Nat → Nat)
    (h : ValidArgmax B K rew arg) (b : Nat) (hb : b < B) :
    selectBestRow B arg b % B = b ∧ selectBestRow B arg b / B = arg b ∧ arg b < K ∧
      ∀ k, k < K → rew (k * B + b) ≤ rew (selectBestRow B arg b) := by
  obtain ⟨h1, h2⟩ := validArgmax_le h b hb
  exact ⟨idx_mod hb, idx_div hb, h1, h2⟩

/-- `Spec.bestReward` scans the copies from left to right for a maximum, moving on at a tie -/
theorem bestReward_eq_argmaxLast (B : Nat) (rew : Nat → Int) (b K : Nat) :
    bestReward B rew b (K + 1)
      = some (rew (Ops.argmaxLast (fun k => rew (k * B + b)) (K + 1) * B + b)) := by
  induction K with
  | zero => exact congrArg (fun k => some (rew (k * B + b))) (if_pos (Int.le_refl _)).symm
  | succ K ih =>
    rw [bestReward, ih, Ops.argmaxLast_succ]
    exact congrArg some (apply_ite (fun k => rew (k * B + b)) _ _ _).symm

theorem bestReward_of_argmax (B : Nat) (rew : Nat → Int) (b : Nat) {K k0 : Nat} (hk0 : k0 < K)
    (hmax : ∀ k, k < K → rew (k * B + b) ≤ rew (k0 * B + b)) :
    bestReward B rew b K = some (rew (k0 * B + b)) := by
  cases K with
  | zero => exact absurd hk0 (Nat.not_lt_zero _)
  | succ K =>
    obtain ⟨hlt, hle⟩ := Ops.argmaxLast_isArgmax (fun k => rew (k * B + b)) (K + 1) (Nat.succ_pos K)
    rw [bestReward_eq_argmaxLast, Int.le_antisymm (hmax _ hlt) (hle k0 hk0)]

/-- with `select_best`, the reward of the returned row is `Spec.bestReward` of its instance -/
theorem select_best_reward (B K : Nat) (rew : Nat → Int) (arg : Nat → Nat)
    (h : ValidArgmax B K rew arg) (b : Nat) (hb : b < B) :
    bestReward B rew b K = some (rew (selectBestRow B arg b)) := by
  obtain ⟨h1, h2⟩ := validArgmax_le h b hb
  exact bestReward_of_argmax B rew b h1 h2


/- Where C11, as worded ("every bundled policy"), fails on the unchanged code (DESIGN §4.3):
a network whose forward pass depends on more than the row's state — random draws (MatNet: known finding
`C11-matnet-stochastic-embedding`) or batch statistics (BatchNorm under PPO mini-batching: known finding
`C11-ppo-batchnorm-minibatch-ratio`) -/

/-- **Evaluate round trip for a network whose forward pass depends on a context `ω` beyond the row's
decoding state**: the random numbers it draws (MatNet's random one-hot initial embedding), or the
statistics of the batch it is evaluated in (BatchNorm in train mode: PPO re-evaluates on mini-batches).
The context of the evaluation is not the rollout's. -/
def evaluate_roundtrip_stochastic_statement : Prop :=
  ∀ (Ω S : Type) (e : DEnv S) (π : Ω → S → Row) (sel : Nat → Nat → Row → Nat) (B N maxSteps : Nat)
    (s0 : Nat → S) (ω ω' : Ω) (r : Nat), r < B →
    getLL ((evaluate e (π ω') (fun r => ((decode e (π ω) sel false B N maxSteps none s0).1 r).acts)
        true B N maxSteps s0).1 r).recs
      ((decode e (π ω) sel false B N maxSteps none s0).1 r).acts none
    = getLL ((decode e (π ω) sel false B N maxSteps none s0).1 r).recs
      ((decode e (π ω) sel false B N maxSteps none s0).1 r).acts none

theorem evaluate_roundtrip_stochastic_counterexample : ¬ evaluate_roundtrip_stochastic_statement := by
  intro h
  let e : DEnv Nat := { step := fun s _ => s + 1, done := fun s => decide (1 ≤ s), mask := fun _ _ => true }
  have := h Bool Nat e (fun ω _ => if ω then [some (-1)] else [some (-2)]) (fun _ _ _ => 0) 1 1 5
    (fun _ => 0) true false 0 (by decide)
  revert this
  decide

/-- partial: with the same draw (generator state restored) the round trip holds — this is
`evaluate_roundtrip` for the policy `π ω` -/
theorem evaluate_roundtrip_stochastic_partial {Ω : Type} (e : DEnv S) (π : Ω → S → Row)
    (sel : Nat → Nat → Row → Nat) (B N maxSteps : Nat) (s0 : Nat → S) (ω : Ω) (r : Nat) :
    getLL ((evaluate e (π ω) (fun r => ((decode e (π ω) sel false B N maxSteps none s0).1 r).acts)
        true B N maxSteps s0).1 r).recs
      ((decode e (π ω) sel false B N maxSteps none s0).1 r).acts none
    = getLL ((decode e (π ω) sel false B N maxSteps none s0).1 r).recs
      ((decode e (π ω) sel false B N maxSteps none s0).1 r).acts none := by
  have h := ((evaluate_roundtrip e (π ω) sel false true B N maxSteps s0).2 r)
  have h2 := h.2.2.1 none
  rw [h.2.1] at h2
  exact h2


namespace Example

/-- a three-step toy environment with two actions -/
def toyEnv : DEnv Nat :=
  { step := fun s _ => s + 1, done := fun s => decide (3 ≤ s), mask := fun _ a => decide (a < 2) }
def toyπ : Nat → Row := fun s => [some (-(s : Int) - 1), some (-5)]
def toySel : Nat → Nat → Row → Nat := fun r t _ => (r + t) % 2

/-- the hypothesis of `ll_eq_sum_gather` (start nodes in range) is satisfiable, and the statement is
about non-trivial values: row 1 of a multi-start run takes actions `[1 (forced), 1, 0]` with
log-likelihood `0 + (−5) + (−3)` -/
example : (∀ f, some (fun r : Nat => r % 2) = some f → ∀ r, f r < 2) := by
  intro f hf r; cases hf; exact Nat.mod_lt _ (by decide)

example :
    let out := (decode toyEnv toyπ toySel false 2 2 10 (some (fun r => r % 2)) (fun _ => 0)).1 1
    out.acts = [1, 1, 0] ∧ getLLSum out.recs out.acts none = some (-8) ∧
      specLL toyEnv toyπ 0 true out.acts none = some (-8) := by decide

/-- the finiteness hypothesis of `ratio_one` holds on a concrete rollout (`v = −9`) -/
example :
    let out := decode toyEnv toyπ toySel false 2 2 10 none (fun _ => 0)
    getLLSum (out.1 0).recs (out.1 0).acts none = some (-9) ∧ out.2 = 3 := by decide

/-- `ValidArgmax` is satisfiable with a non-constant reward -/
example : ValidArgmax 2 3 (fun i => [3, 1, 4, 1, 5, 9].getD i 0) (fun b => if b = 0 then 2 else 2) :=
  validArgmax_sound (by decide)

end Example

end Rl4co.Decode
