/-
C20 on the definitions that `harness/pytrans.py` REGENERATES from the Python source on every run
(`Rl4co/Generated/Numeric.lean`: the statements of `RewardScaler.update` / `__call__`,
`ExponentialBaseline.eval`, `WarmupBaseline.epoch_callback` / `eval`, translated operator by operator).

The bridging lemmas `gen_*_eq` say that each generated definition is the hand-written model: for a single formula `rfl`
for the present source, and for an edited source that is still algebraically the same formula (operands commuted, a
difference negated) the `simp only`/`ring` alternative after it (DESIGN B.2); `gen_norm_eq`, `gen_scale_eq` by `simp`, the
runs `genRun_eq`, `genEmaRun_eq` from the step bridges; any other edit the translator can express breaks
them at `lake build`.  The property itself is then restated on the generated definitions, so that C20 is a theorem
about the code's own formulas.
-/
import Rl4co.Generated.Numeric
import Rl4co.Props.C20.TrainWelford
import Rl4co.Props.C20.TrainBaselines

namespace Rl4co.Train.GenBridge
open Rl4co.Spec.Train
variable {K : Type} [Field K]

section scaler
set_option linter.unusedTactic false
set_option linter.unreachableTactic false

theorem gen_update_eq (st : Welford.St K) (b : List K) :
    Numeric.welfordUpdate st.count st.mean st.M2 b
      = ((Welford.update st b).count, (Welford.update st b).mean, (Welford.update st b).M2) := by
  -- here and in the seven bridges of this shape below `rfl` closes the goal for the present source and the second alternative
  -- never runs: whence the two linter options of these sections.  With `delta = -(self.mean - batch)` in the source it is this
  -- `simp only` that proves the bridge, with `(1−β)·m + v·β` the `ring` of `gen_ema_step_eq`.
  first
  | rfl
  -- equal up to associativity / commutativity / double negation, also under the binders of the list maps
  | (simp only [Numeric.welfordUpdate, Welford.update, List.map_map, Function.comp_def, sub_eq_add_neg, neg_add, neg_neg, add_comm, add_left_comm,
      add_assoc, mul_comm, mul_left_comm, mul_assoc])

theorem gen_factor_eq (sq : K → K) (eps : K) (st : Welford.St K) :
    Numeric.scalerFactor sq eps st.count st.M2 = Welford.factor sq eps st := by
  first
  | rfl
  | (simp only [Numeric.scalerFactor, Welford.factor, Welford.variance, sub_eq_add_neg, add_comm])

end scaler

/-- state `(count, mean, M2)` after a history of batches, folding the GENERATED update from
`RewardScaler.__init__`'s `(0, 0, 0)` -/
def genRun (batches : List (List K)) : Nat × K × K :=
  batches.foldl (fun s b => Numeric.welfordUpdate s.1 s.2.1 s.2.2 b) (0, 0, 0)

theorem genRun_eq (batches : List (List K)) :
    genRun batches = ((Welford.run Welford.init batches).count, (Welford.run Welford.init batches).mean,
      (Welford.run Welford.init batches).M2) :=
  List.foldl_hom (g₁ := Welford.update) (init := Welford.init) (fun st : Welford.St K => (st.count, st.mean, st.M2))
    gen_update_eq

/-- **C20 on the generated code, running statistics**, after any list of batches (any sizes, empty ones included). -/
theorem gen_welford_exact [CharZero K] (batches : List (List K)) :
    (genRun batches).1 = batches.flatten.length ∧
    (batches.flatten ≠ [] →
      (genRun batches).2.1 = mean batches.flatten ∧ (genRun batches).2.2 = sumSqDev batches.flatten) := by
  rw [genRun_eq]
  exact Welford.welford_exact (K := K) batches

theorem gen_norm_eq (sq : K → K) (eps : K) (st : Welford.St K) (b : List K) :
    Numeric.scalerNorm (Welford.update st b).mean (Welford.factor sq eps (Welford.update st b)) b
      = (Welford.call sq eps Welford.Mode.norm st b).2 := by
  simp [Numeric.scalerNorm, Welford.call_norm, List.map_map, Function.comp_def]

theorem gen_scale_eq (sq : K → K) (eps : K) (st : Welford.St K) (b : List K) :
    Numeric.scalerScale (Welford.update st b).mean (Welford.factor sq eps (Welford.update st b)) b
      = (Welford.call sq eps Welford.Mode.scale st b).2 := by
  simp [Numeric.scalerScale, Welford.call_scale]

/-- **C20 on the generated code, `scale='norm'`.**  Calling the scaler on scores `b` after any history:
update (generated), factor (generated), normalisation (generated) give
`(x − mean) / (sq(sample variance) + eps)` over ALL values observed so far, `b` included. -/
theorem gen_scale_norm [CharZero K] (sq : K → K) (eps : K) (batches : List (List K)) (b : List K)
    (hN : 2 ≤ (batches.flatten ++ b).length) :
    let s := genRun (batches ++ [b])
    Numeric.scalerNorm s.2.1 (Numeric.scalerFactor sq eps s.1 s.2.2) b
      = b.map (fun x => (x - mean (batches.flatten ++ b)) / (sq (sampleVar (batches.flatten ++ b)) + eps)) := by
  intro s
  rw [show s = _ from genRun_eq (batches ++ [b]), Welford.run_snoc]
  simp only
  rw [gen_factor_eq, gen_norm_eq]
  exact Welford.scale_norm sq eps batches b hN

/-- **C20 on the generated code, `scale='scale'`.** -/
theorem gen_scale_scale [CharZero K] (sq : K → K) (eps : K) (batches : List (List K)) (b : List K)
    (hN : 2 ≤ (batches.flatten ++ b).length) :
    let s := genRun (batches ++ [b])
    Numeric.scalerScale s.2.1 (Numeric.scalerFactor sq eps s.1 s.2.2) b
      = b.map (fun x => x / (sq (sampleVar (batches.flatten ++ b)) + eps)) := by
  intro s
  rw [show s = _ from genRun_eq (batches ++ [b]), Welford.run_snoc]
  simp only
  rw [gen_factor_eq, gen_scale_eq]
  exact Welford.scale_scale sq eps batches b hN

section ema
set_option linter.unusedTactic false
set_option linter.unreachableTactic false

/-- the first evaluation (`self.v is None`) -/
theorem gen_ema_first_eq (beta : K) (reward : List K) :
    Numeric.emaFirst reward = Ema.step beta none (mean reward) := by
  first
  | rfl
  | (simp only [Numeric.emaFirst, Ema.step, mean]; ring)

theorem gen_ema_step_eq (beta v : K) (reward : List K) :
    Numeric.emaStep beta v reward = Ema.step beta (some v) (mean reward) := by
  first
  | rfl
  | (simp only [Numeric.emaStep, Ema.step, mean]; ring)   -- an algebraically equal rewrite of the source keeps the proof

end ema

/-- moving average after a history of reward batches, folding the GENERATED formulas -/
def genEmaRun (beta : K) : Option K → List (List K) → Option K
  | v, [] => v
  | none, r :: rs => genEmaRun beta (some (Numeric.emaFirst r)) rs
  | some v, r :: rs => genEmaRun beta (some (Numeric.emaStep beta v r)) rs

theorem genEmaRun_eq (beta : K) (v : Option K) (rs : List (List K)) :
    genEmaRun beta v rs = Ema.run beta v (rs.map mean) := by
  induction rs generalizing v with
  | nil => cases v <;> rfl
  | cons r rs ih =>
    cases v with
    | none => simp only [genEmaRun, List.map_cons, Ema.run]; rw [ih, gen_ema_first_eq beta]
    | some v => simp only [genEmaRun, List.map_cons, Ema.run]; rw [ih, gen_ema_step_eq]

/-- **C20 on the generated code, exponential baseline.**  After a first batch `r0` and any further batches
`rs`, the regenerated recurrence yields `β^k·m₀ + (1−β)·Σ β^(k−1−i)·mᵢ` over the batch means (the closed
form of the stated recurrence). -/
theorem gen_ema_closed_form (beta : K) (r0 : List K) (rs : List (List K)) :
    genEmaRun beta none (r0 :: rs) = some (emaClosed beta (mean r0) (rs.map mean)) := by
  rw [genEmaRun_eq]
  exact ema_closed_form beta (mean r0) (rs.map mean)

section warmup
set_option linter.unusedTactic false
set_option linter.unreachableTactic false

theorem gen_warmup_alpha_eq [DecidableEq K] (st : Warmup.St K) (epoch : Nat) :
    (Warmup.epochCallback st epoch).alpha
      = if epoch < st.nEpochs then Numeric.warmupAlpha epoch st.nEpochs else st.alpha := by
  unfold Warmup.epochCallback
  split
  · first
    | rfl
    | (simp only [Numeric.warmupAlpha]; push_cast; ring)
  · rfl

/-- **C20 on the generated code, warm-up weight.**  With the callbacks of epochs `0..e` applied in order
the weight is `(e+1)/n` (the regenerated formula) while `e + 1 < n`, it is exactly `1` at `e + 1 = n` and stays `1`. -/
theorem gen_warmup_alpha [DecidableEq K] [CharZero K] (n e : Nat) (hn : 0 < n) :
    (Warmup.afterEpoch n e : Warmup.St K).alpha = if n ≤ e + 1 then 1 else Numeric.warmupAlpha e n := by
  rw [warmup_alpha n e hn]
  unfold warmupAlpha
  split
  · rfl
  · first
    | rfl
    | (simp only [Numeric.warmupAlpha]; push_cast; ring)

theorem gen_warmup_mix_eq (a : K) (x y l m : Dual K) :
    ((Dual.smul a x + Dual.smul (1 - a) y).v, (Dual.smul a l + Dual.smul (1 - a) m).v)
      = Numeric.warmupMix a x.v y.v l.v m.v := by
  first
  | rfl
  | (simp only [Numeric.warmupMix, Dual.add_v, Dual.smul_v, Prod.mk.injEq]; constructor <;> first | trivial | rfl | ring)

/-- **C20 on the generated code, convex combination.**  The regenerated mixture is `α·v_b + (1−α)·v_wb`
(and the same for the losses); its weights `α`, `1−α` sum to one, and for `0 ≤ α ≤ 1` both are
non-negative (`Spec.Train.warmupAlpha_bounds` in `TrainSpecSanity`). -/
theorem gen_warmup_mix (a vb vwb lb lwb : K) :
    Numeric.warmupMix a vb vwb lb lwb = (a * vb + (1 - a) * vwb, a * lb + (1 - a) * lwb) ∧ a + (1 - a) = 1 := by
  refine ⟨?_, by ring⟩
  first
  | rfl
  | (simp only [Numeric.warmupMix, Prod.mk.injEq]; constructor <;> first | trivial | rfl | ring)

end warmup


example : genRun ([[1], [2, 3, 4]] : List (List Rat)) = (4, 5 / 2, 5) := by
  decide +kernel

example : genEmaRun (1 / 2 : Rat) none [[2, 4], [7]] = some 5 := by
  decide +kernel

example : (Numeric.warmupAlpha 1 4 : Rat) = 1 / 2 := by simp [Numeric.warmupAlpha]; norm_num

end Rl4co.Train.GenBridge
