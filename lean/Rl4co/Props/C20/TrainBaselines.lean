/-
C20 (stateful baselines): the exponential-moving-average baseline follows its recurrence exactly (first value
= batch mean; closed form), and the warm-up baseline is the convex combination `alpha·v_b + (1−alpha)·v_wb`
whose weight after the callback of epoch `e` is `min 1 ((e+1)/n)`.
-/
import Rl4co.Train.Baselines
import Rl4co.Spec.Train
import Rl4co.Proofs.TrainSums
import Rl4co.Proofs.TrainWarmup
import Mathlib.Tactic.Ring
import Mathlib.Algebra.BigOperators.Group.List.Basic
import Mathlib.Algebra.Order.Field.Basic

namespace Rl4co.Train
open Rl4co.Spec.Train

section ema
variable {K : Type} [Field K]

theorem ema_first (beta m : K) : Ema.step beta none m = m := rfl

theorem ema_recurrence (beta v m : K) : Ema.step beta (some v) m = beta * v + (1 - beta) * m := rfl

theorem ema_run_snoc (beta : K) (v : Option K) (ms : List K) (m : K) :
    Ema.run beta v (ms ++ [m]) = some (Ema.step beta (Ema.run beta v ms) m) := by
  induction ms generalizing v with
  | nil => rfl
  | cons x xs ih => exact ih _

/-- `ExponentialBaseline.eval` on dual numbers: the value returned (and stored) is the recurrence applied to
the mean of the rewards, and it carries no gradient whatever gradient the rewards carry. -/
theorem ema_eval (beta : K) (v : Option K) (R : Ten (Dual K)) :
    let out := Ema.eval beta v R
    out.2.2 = Ema.step beta v (Ten.meanAll R).v ∧ out.1.sh = Shape.s ∧
      (out.1.f 0 0).v = out.2.2 ∧ (out.1.f 0 0).d = 0 ∧ out.2.1 = 0 := by
  cases v <;> simp [Ema.eval, Ema.step, Ten.scalar]

theorem pw_eq_pow (b : K) (n : Nat) : pw b n = b ^ n := by
  induction n with
  | zero => simp [pw]
  | succ n ih => simp [pw, ih, pow_succ]

theorem emaClosed_cons (beta v m : K) (ms : List K) :
    emaClosed beta v (m :: ms) = emaClosed beta (beta * v + (1 - beta) * m) ms := by
  have h : ∀ k ∈ List.range ms.length,
      ((fun k => pw beta (ms.length - k) * (m :: ms).getD k 0) ∘ Nat.succ) k
        = pw beta (ms.length - 1 - k) * ms.getD k 0 := by
    intro k _
    rw [Function.comp, List.getD_cons_succ, show ms.length - k.succ = ms.length - 1 - k by omega]
  simp only [emaClosed, List.length_cons, List.range_succ_eq_map, List.map_cons, List.map_map, List.sum_cons,
    List.getD_cons_zero, Nat.add_sub_cancel, Nat.sub_zero, pw]
  rw [List.map_congr_left h]
  ring

theorem ema_closed_run (beta v : K) (ms : List K) : Ema.run beta (some v) ms = some (emaClosed beta v ms) := by
  induction ms generalizing v with
  | nil => simp [Ema.run, emaClosed, pw]
  | cons m ms ih => rw [Ema.run, ih, emaClosed_cons]; rfl

/-- closed form of the recurrence: after batch means `m₀, m₁, …, m_t` the stored value is
`β^t m₀ + (1−β) Σ_{k=1..t} β^{t−k} m_k`. -/
theorem ema_closed_form (beta m0 : K) (ms : List K) :
    Ema.run beta none (m0 :: ms) = some (emaClosed beta m0 ms) :=
  ema_closed_run beta m0 ms

end ema

section warmup
variable {K : Type} [Field K] [DecidableEq K]

/-- callbacks of epochs `0, 1, …, e`, in order (what the trainer does) -/
def Warmup.afterEpoch (n e : Nat) : Warmup.St K :=
  (List.range (e + 1)).foldl Warmup.epochCallback (Warmup.init n)

omit [DecidableEq K] in
theorem Warmup.afterEpoch_succ (n e : Nat) :
    (Warmup.afterEpoch n (e + 1) : Warmup.St K) = Warmup.epochCallback (Warmup.afterEpoch n e) (e + 1) := by
  simp [Warmup.afterEpoch, List.range_succ, List.foldl_append]

omit [DecidableEq K] in
/-- one callback sets the weight to `warmupAlpha` of its epoch and leaves the rest of the state, provided the weight was
already `1` if the horizon has passed -/
theorem Warmup.epochCallback_eq [CharZero K] (st : Warmup.St K) (e : Nat) (h : st.nEpochs ≤ e → st.alpha = 1) :
    Warmup.epochCallback st e = { st with alpha := warmupAlpha st.nEpochs e } := by
  unfold Warmup.epochCallback warmupAlpha
  by_cases he : e < st.nEpochs
  · rw [if_pos he]
    by_cases h1 : st.nEpochs ≤ e + 1
    · -- the last epoch of the warm-up: `(e+1)/n = n/n`
      rw [if_pos h1, show st.nEpochs = e + 1 by omega, div_self (Nat.cast_ne_zero.mpr (Nat.succ_ne_zero e))]
    · rw [if_neg h1]
  · rw [if_neg he, if_pos (by omega), ← h (by omega)]

omit [DecidableEq K] in
theorem Warmup.afterEpoch_eq [CharZero K] (n e : Nat) (hn : 0 < n) :
    (Warmup.afterEpoch n e : Warmup.St K) = ⟨warmupAlpha n e, n, none⟩ := by
  induction e with
  | zero => exact Warmup.epochCallback_eq (Warmup.init n) 0 fun h => absurd h (Nat.not_le.mpr hn)
  | succ e ih =>
    rw [Warmup.afterEpoch_succ, ih]
    exact Warmup.epochCallback_eq _ _ fun h => if_pos h

omit [DecidableEq K] in
/-- **C20 `warmup_alpha`** (epochs called in order from 0). -/
theorem warmup_alpha [CharZero K] (n e : Nat) (hn : 0 < n) :
    (Warmup.afterEpoch n e : Warmup.St K).alpha = warmupAlpha n e := by
  rw [Warmup.afterEpoch_eq n e hn]

end warmup

section warmup_ord
variable {K : Type} [Field K] [LinearOrder K] [IsStrictOrderedRing K]

theorem warmupAlpha_eq_min (n e : Nat) (hn : 0 < n) :
    (warmupAlpha n e : K) = min 1 (((e + 1 : Nat) : K) / (n : K)) := by
  have hnK : (0 : K) < (n : K) := Nat.cast_pos.mpr hn
  unfold warmupAlpha
  by_cases h : n ≤ e + 1
  · rw [if_pos h, min_eq_left ((one_le_div₀ hnK).mpr (Nat.cast_le.mpr h))]
  · rw [if_neg h, min_eq_right ((div_le_one₀ hnK).mpr (Nat.cast_le.mpr (Nat.le_of_not_ge h)))]

end warmup_ord

section convex
variable {K : Type} [Field K] [DecidableEq K]

/-- **C20 `warmup_convex`.**  `v_wb` is the warm-up moving average after this evaluation when it is evaluated
(`alpha ≠ 1`), and the wrapped baseline's `(v_b, l_b)` is only used when `alpha ≠ 0`. -/
theorem warmup_convex (beta : K) (st : Warmup.St K) (inner : Ten (Dual K) × Dual K) (R : Ten (Dual K))
    (out : Ten (Dual K) × Dual K × Warmup.St K) (h : Warmup.eval beta st inner R = some out) (i j : Nat) :
    let vwb := (Ema.eval beta st.ema R).2.2
    (out.1.f i j).v = st.alpha * (inner.1.get i j).v + (1 - st.alpha) * vwb
      ∨ (st.alpha = 1 ∧ out.1 = inner.1 ∧ out.2.1 = inner.2)  := by
  intro vwb
  by_cases h1 : st.alpha = 1
  · rw [Warmup.eval_inner h1] at h
    cases h; exact Or.inr ⟨h1, rfl, rfl⟩
  left
  by_cases h0 : st.alpha = 0
  · rw [Warmup.eval_warm h1 h0] at h
    cases h
    rw [h0, zero_mul, zero_add, sub_zero, one_mul]
    rfl
  · rw [Warmup.eval_both h1 h0] at h
    obtain ⟨v, hv, rfl⟩ := Option.map_eq_some_iff.mp h
    show (v.f i j).v = _
    rw [Ten.bop_entry hv]
    rfl

end convex

/-- Non-vacuity: `n = 4`; after the callback of epoch 1 the weight is 1/2; the mixture of an inner value
`[10, 20]` with a first moving-average evaluation on rewards `[2, 4]` (mean 3) is `[13/2, 23/2]`. -/
example :
    (Warmup.afterEpoch 4 1 : Warmup.St Rat).alpha = 1 / 2 ∧
    ((Warmup.eval (1/2 : Rat) (Warmup.afterEpoch 4 1)
        (Ten.vec 2 (fun j => Dual.const (if j = 0 then 10 else 20)), 0)
        (Ten.vec 2 (fun j => Dual.const (if j = 0 then 2 else 4)))).map
      (fun o => ((o.1.f 0 0).v, (o.1.f 0 1).v))) = some (13 / 2, 23 / 2) := by
  constructor
  · rw [warmup_alpha 4 1 (by decide)]
    simp [warmupAlpha]
    norm_num
  · decide +kernel

end Rl4co.Train
