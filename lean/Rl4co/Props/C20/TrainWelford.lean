/-
C20 (running statistics): the batched Welford update of `RewardScaler`, exactly as the code writes it, is
exact for ANY history of batches of any sizes — count, mean and sum of squared deviations of everything
observed — and `__call__` returns the stated transformation of its input.  Over an arbitrary field of
characteristic zero (so in particular over ℚ and ℝ); the square root is an arbitrary function `sq`.
-/
import Rl4co.Train.Welford
import Rl4co.Spec.Train
import Rl4co.Proofs.TrainSums
import Mathlib.Tactic.Ring
import Mathlib.Algebra.BigOperators.Group.List.Basic

namespace Rl4co.Train.Welford
open Rl4co.Spec.Train
variable {K : Type} [Field K]

/-- the invariant carried along a history: `xs` is everything observed so far.  The mean enters as `n·mean = Σ xs`, without
a division, so that the empty history (`0·0 = 0`) needs no case of its own. -/
def Inv (st : St K) (xs : List K) : Prop :=
  st.count = xs.length ∧ (xs.length : K) * st.mean = xs.sum ∧
    st.M2 = (xs.map (fun x => (x - st.mean) * (x - st.mean))).sum

theorem inv_update [CharZero K] (st : St K) (xs b : List K) (h : Inv st xs) :
    Inv (update st b) (xs ++ b) := by
  obtain ⟨hc, hm, hM⟩ := h
  have hD : ((xs.length : K) + b.length) * ((b.sum - b.length * st.mean) / ((xs.length : K) + b.length))
      = b.sum - b.length * st.mean := by
    by_cases hN : (xs.length : K) + b.length = 0
    · -- nothing observed so far and an empty batch
      have hb : b = [] := List.eq_nil_of_length_eq_zero (by
        have := Nat.cast_eq_zero (R := K).mp (by rw [Nat.cast_add]; exact hN)
        omega)
      rw [hN, zero_mul, hb, List.sum_nil, List.length_nil, Nat.cast_zero, zero_mul, sub_zero]
    · exact mul_div_cancel₀ _ hN
  -- with `D` the shift of the mean, `Σb = (n + m)·D + m·μ` and `Σxs = n·μ` make both claims polynomial identities
  refine ⟨by rw [update, hc, List.length_append], ?_, ?_⟩
  · simp only [update, hc, List.length_append, Nat.cast_add, List.sum_append, sum_div_const, sum_sub_const]
    generalize (b.sum - b.length * st.mean) / ((xs.length : K) + b.length) = D at hD ⊢
    rw [← hm, eq_add_of_sub_eq hD.symm]; ring
  · simp only [update, hc, Nat.cast_add, List.sum_append, List.map_append, List.zipWith_map, List.zipWith_self,
      sum_div_const, sum_sub_const, sum_dev_mul, hM]
    generalize (b.sum - b.length * st.mean) / ((xs.length : K) + b.length) = D at hD ⊢
    rw [← hm, eq_add_of_sub_eq hD.symm]; ring

theorem inv_run [CharZero K] (batches : List (List K)) (st : St K) (xs : List K) (h : Inv st xs) :
    Inv (run st batches) (xs ++ batches.flatten) := by
  induction batches generalizing st xs with
  | nil => simpa [run] using h
  | cons b bs ih =>
    have := ih (update st b) (xs ++ b) (inv_update st xs b h)
    simpa [run, List.append_assoc] using this

/-- **C20 `welford_exact`**, after any list of batches (any sizes, empty batches included). -/
theorem welford_exact [CharZero K] (batches : List (List K)) :
    let st := run (init : St K) batches
    let xs := batches.flatten
    st.count = xs.length ∧ (xs ≠ [] → st.mean = mean xs ∧ st.M2 = sumSqDev xs) := by
  intro st xs
  have h : Inv st xs := by simpa using inv_run batches init [] (by simp [Inv, init])
  refine ⟨h.1, fun hne => ?_⟩
  have hN : (xs.length : K) ≠ 0 := Nat.cast_ne_zero.mpr (by simpa using hne)
  have hm : st.mean = mean xs := by rw [mean, ← h.2.1, mul_div_cancel_left₀ _ hN]
  exact ⟨hm, by rw [h.2.2, hm]; rfl⟩

theorem welford_variance [CharZero K] (batches : List (List K)) (hne : batches.flatten ≠ []) :
    variance (run (init : St K) batches) = sampleVar batches.flatten := by
  obtain ⟨hc, h⟩ := welford_exact (K := K) batches
  obtain ⟨_, hM⟩ := h hne
  simp only [variance, sampleVar, hM, hc]

theorem run_snoc (st : St K) (batches : List (List K)) (b : List K) :
    run st (batches ++ [b]) = update (run st batches) b := by
  simp only [run, List.foldl_append, List.foldl_cons, List.foldl_nil]

theorem call_norm (sq : K → K) (eps : K) (st : St K) (b : List K) :
    call sq eps Mode.norm st b
      = (update st b, b.map fun x => (x - (update st b).mean) / factor sq eps (update st b)) := rfl

theorem call_scale (sq : K → K) (eps : K) (st : St K) (b : List K) :
    call sq eps Mode.scale st b = (update st b, b.map fun x => x / factor sq eps (update st b)) := rfl

theorem call_state_norm (sq : K → K) (eps : K) (batches : List (List K)) (b : List K) :
    (call sq eps Mode.norm (run init batches) b).1 = run (init : St K) (batches ++ [b]) := by
  rw [call_norm, run_snoc]

theorem call_state_scale (sq : K → K) (eps : K) (batches : List (List K)) (b : List K) :
    (call sq eps Mode.scale (run init batches) b).1 = run (init : St K) (batches ++ [b]) := by
  rw [call_scale, run_snoc]

theorem stats_snoc [CharZero K] (batches : List (List K)) (b : List K) (hne : batches.flatten ++ b ≠ []) :
    (update (run init batches) b).mean = mean (batches.flatten ++ b) ∧
      variance (update (run (init : St K) batches) b) = sampleVar (batches.flatten ++ b) := by
  have hfl : (batches ++ [b]).flatten = batches.flatten ++ b := by
    rw [List.flatten_append, List.flatten_singleton]
  rw [← run_snoc, ← hfl]
  exact ⟨((welford_exact (batches ++ [b])).2 (hfl ▸ hne)).1, welford_variance _ (hfl ▸ hne)⟩

/-- **C20 `scale_norm`.**  With `scale='norm'`: mean and sample variance are those of ALL values observed so far, the
scores `b` included. -/
theorem scale_norm [CharZero K] (sq : K → K) (eps : K) (batches : List (List K)) (b : List K)
    (hN : 2 ≤ (batches.flatten ++ b).length) :
    (call sq eps Mode.norm (run init batches) b).2
      = b.map (fun x => (x - mean (batches.flatten ++ b)) / (sq (sampleVar (batches.flatten ++ b)) + eps)) := by
  obtain ⟨hm, hv⟩ := stats_snoc batches b (List.ne_nil_of_length_pos (by omega))
  simp only [call_norm, factor, hm, hv]

/-- **C20 `scale_scale`.**  With `scale='scale'`: `x / (sq(sample variance) + eps)`. -/
theorem scale_scale [CharZero K] (sq : K → K) (eps : K) (batches : List (List K)) (b : List K)
    (hN : 2 ≤ (batches.flatten ++ b).length) :
    (call sq eps Mode.scale (run init batches) b).2
      = b.map (fun x => x / (sq (sampleVar (batches.flatten ++ b)) + eps)) := by
  simp only [call_scale, factor, (stats_snoc batches b (List.ne_nil_of_length_pos (by omega))).2]

/-- scaling switched off / integer scale: the statistics are untouched and the output is `x` / `x / c` -/
theorem scale_off (sq : K → K) (eps : K) (st : St K) (b : List K) :
    call sq eps Mode.off st b = (st, b) := rfl
theorem scale_int (sq : K → K) (eps c : K) (st : St K) (b : List K) :
    call sq eps (Mode.divInt c) st b = (st, b.map (fun x => x / c)) := rfl

/-- Non-vacuity: two batches of sizes 1 and 3 over ℚ; count 4, mean 5/2, M2 = 5. -/
example :
    let st := run (init : St Rat) [[1], [2, 3, 4]]
    st.count = 4 ∧ st.mean = 5 / 2 ∧ st.M2 = 5 := by
  decide +kernel

end Rl4co.Train.Welford
