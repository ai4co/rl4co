/-
Spec-level sanity (C20 / C16): lemmas that pin the reference definitions of `Rl4co/Spec/Train.lean` down without going
through the models — a vacuous or mis-stated `Spec` would violate them.  The last one, `ema_const_history`, is the same
kind of check for the model's recurrence `Ema.run`.
-/
import Rl4co.Spec.Train
import Rl4co.Proofs.TrainSums
import Rl4co.Props.C20.TrainBaselines
import Mathlib.Tactic.Ring
import Mathlib.Algebra.Order.Field.Basic

namespace Rl4co.Spec.Train
open Rl4co.Train
variable {K : Type} [Field K]

theorem mean_const [CharZero K] (c : K) (n : Nat) (hn : 0 < n) : mean (List.replicate n c) = c := by
  have hK : (n : K) ≠ 0 := Nat.cast_ne_zero.mpr (by omega)
  rw [mean, List.sum_replicate, List.length_replicate, nsmul_eq_mul, mul_div_cancel_left₀ _ hK]

theorem mean_shift [CharZero K] (xs : List K) (c : K) (hne : xs ≠ []) :
    mean (xs.map (fun x => x + c)) = mean xs + c := by
  have hK : (xs.length : K) ≠ 0 := Nat.cast_ne_zero.mpr (by simpa using hne)
  have hs : (xs.map (fun x => x + c)).sum = xs.sum + (xs.length : K) * c := by
    simpa only [sub_neg_eq_add, mul_neg] using sum_sub_const xs (-c)
  rw [mean, hs, List.length_map, add_div, mul_div_cancel_left₀ _ hK, mean]

/-- the statistics used for scaling do not depend on where the scores are centred -/
theorem sumSqDev_shift [CharZero K] (xs : List K) (c : K) (hne : xs ≠ []) :
    sumSqDev (xs.map (fun x => x + c)) = sumSqDev xs := by
  simp only [sumSqDev, mean_shift xs c hne, List.map_map]
  congr 1
  apply List.map_congr_left
  intro x _
  simp only [Function.comp]
  ring

theorem sampleVar_shift [CharZero K] (xs : List K) (c : K) (hne : xs ≠ []) :
    sampleVar (xs.map (fun x => x + c)) = sampleVar xs := by
  simp only [sampleVar, sumSqDev_shift xs c hne, List.length_map]

theorem sumSqDev_const [CharZero K] (c : K) (n : Nat) (hn : 0 < n) : sumSqDev (List.replicate n c) = 0 := by
  simp [sumSqDev, mean_const c n hn]

/-- linearity in the log-likelihood direction: "gradient of the surrogate" is the surrogate of the gradient -/
theorem surrogate_add (n : Nat) (adv l1 l2 : Nat → K) :
    surrogate n adv (fun i => l1 i + l2 i) = surrogate n adv l1 + surrogate n adv l2 := by
  simp only [surrogate, mul_add, sumTo_add]; ring

theorem surrogate_zero_adv (n : Nat) (ll : Nat → K) : surrogate n (fun _ => 0) ll = 0 := by
  simp [surrogate, sumTo_const_zero]

/-- only reward DIFFERENCES within an instance matter to the shared-baseline surrogate -/
theorem sharedSurrogate_shift [CharZero K] (B S : Nat) (hS : 0 < S) (R ll : Nat → Nat → K) (c : Nat → K) :
    sharedSurrogate B S (fun b s => R b s + c b) ll = sharedSurrogate B S R ll := by
  have hK : (S : K) ≠ 0 := Nat.cast_ne_zero.mpr (by omega)
  simp only [sharedSurrogate]
  congr 2
  apply sumTo_congr; intro b _
  apply sumTo_congr; intro s _
  rw [sumTo_add, sumTo_const, add_div, mul_div_cancel_left₀ _ hK, add_sub_add_right_eq_sub]

section ordered
variable [LinearOrder K] [IsStrictOrderedRing K]

/-- the warm-up weight lies in (0, 1], never decreases, and is 1 from epoch `n − 1` on -/
theorem warmupAlpha_bounds (n e : Nat) (hn : 0 < n) : 0 < (warmupAlpha n e : K) ∧ (warmupAlpha n e : K) ≤ 1 := by
  rw [warmupAlpha_eq_min n e hn]
  exact ⟨lt_min one_pos (div_pos (Nat.cast_pos.mpr (Nat.succ_pos e)) (Nat.cast_pos.mpr hn)), min_le_left _ _⟩

theorem warmupAlpha_mono (n e : Nat) (hn : 0 < n) : (warmupAlpha n e : K) ≤ warmupAlpha n (e + 1) := by
  rw [warmupAlpha_eq_min n e hn, warmupAlpha_eq_min n (e + 1) hn]
  exact min_le_min_left _ (div_le_div_of_nonneg_right (Nat.cast_le.mpr (Nat.le_succ _)) (Nat.cast_nonneg n))

omit [LinearOrder K] [IsStrictOrderedRing K] in
theorem warmupAlpha_one_of_le (n e : Nat) (h : n ≤ e + 1) : (warmupAlpha n e : K) = 1 := by
  simp [warmupAlpha, h]

omit [IsStrictOrderedRing K] in
/-- at ratio 1 (the first inner update) with `lo ≤ 1 ≤ hi` the PPO reference reduces to
`−mean A + vf·mean huber(v − R) − ent·mean h`: the plain policy-gradient surrogate -/
theorem ppo_at_ratio_one (n : Nat) (lo hi vfL entL : K) (hlo : lo ≤ 1) (hhi : 1 ≤ hi) (A v R h : Nat → K) :
    ppo n lo hi vfL entL (fun _ => 1) A v R h
      = -(sumTo n A / (n : K)) + vfL * (sumTo n (fun i => huber (v i - R i)) / (n : K)) - entL * (sumTo n h / (n : K)) := by
  have hc : clip lo hi (1 : K) = 1 := by
    rw [clip, if_neg (not_lt.mpr hlo), if_neg (not_lt.mpr hhi)]
  simp only [ppo, hc, one_mul, minK, lt_irrefl, if_false]

end ordered

theorem ema_const_history (beta m : K) (k : Nat) :
    Ema.run beta none (List.replicate (k + 1) m) = some m := by
  have h : ∀ k, Ema.run beta (some m) (List.replicate k m) = some m := by
    intro k
    induction k with
    | zero => rfl
    | succ k ih => rw [List.replicate_succ, Ema.run, ema_recurrence, show beta * m + (1 - beta) * m = m by ring, ih]
  exact h k

/-- Non-vacuity: mean and sample variance of `[1, 2, 3, 6]` shifted by 10. -/
example : mean ([1, 2, 3, 6].map (fun x : Rat => x + 10)) = 13 ∧ sampleVar ([1, 2, 3, 6].map (fun x : Rat => x + 10)) = 14 / 3 := by
  constructor <;> decide +kernel

end Rl4co.Spec.Train
