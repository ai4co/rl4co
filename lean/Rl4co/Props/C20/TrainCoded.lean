/-
C20 — translator tie.  The driver executes the "as coded" definitions of `Rl4co/Train/Coded.lean`, whose
decision-critical tokens are regenerated from the Python AST on every run (`Rl4co.Generated.Params`,
`harness/probes/train.py`).  The obligations `…C_eq` below hold for the extracted tokens only: a source edit that
changes the flattening order of `RewardScaler.update`, one of Welford's four statements, `count - 1`, the
moving-average recurrence or its first-evaluation test, the warm-up comparison `epoch < n_epochs`, the weight
`(epoch + 1) / n_epochs` or the mixture stops this file from compiling.  The corollaries restate the C20 theorems
for the as-coded definitions (in particular: for score tensors of ANY shape, `lead` being arbitrary).
-/
import Rl4co.Train.Coded
import Rl4co.Props.C20.TrainWelford
import Rl4co.Props.C20.TrainBaselines

namespace Rl4co.Train
open Rl4co.Spec.Train
variable {K : Type} [Field K]

/-- `RewardScaler.update` as coded is the reference batched Welford update, whatever the shape of the tensor
(`lead = len(batch)` is irrelevant because the batch is flattened before it is counted). -/
theorem Welford.updateC_eq (lead : Nat) (st : Welford.St K) (b : List K) :
    Welford.updateC lead st b = Welford.update st b := rfl

theorem Welford.varianceC_eq (st : Welford.St K) : Welford.varianceC st = Welford.variance st := rfl

theorem Welford.callC_eq (sq : K → K) (eps : K) (mode : Welford.Mode K) (lead : Nat) (st : Welford.St K) (b : List K) :
    Welford.callC sq eps mode lead st b = Welford.call sq eps mode st b := by
  cases mode <;> rfl

section dec
variable [DecidableEq K]

theorem Ema.stepC_eq (beta : K) (v : Option K) (m : K) : Ema.stepC beta v m = Ema.step beta v m := by
  cases v <;> rfl

theorem Ema.evalC_eq (beta : K) (v : Option K) (R : Ten (Dual K)) : Ema.evalC beta v R = Ema.eval beta v R := by
  cases v <;> rfl

omit [DecidableEq K] in
theorem Warmup.epochCallbackC_eq (st : Warmup.St K) (e : Nat) :
    Warmup.epochCallbackC st e = Warmup.epochCallback st e := by
  simp [Warmup.epochCallbackC, Warmup.epochCallback, Params.trainWarmupCmp, Params.trainWarmupAlphaTag, Cmp.evalNat]

omit [DecidableEq K] in
/-- the warm-up baseline stores the configured horizon and gives its moving average the configured decay -/
theorem Warmup.configC_eq (n : Nat) (beta d : K) : Warmup.configC n beta d = (n, beta) := rfl

/-- `get_reinforce_baseline('rollout', n_epochs=…, exp_beta=…)` passes both options on to the warm-up baseline -/
theorem rollout_kwargs_passed : Params.trainRolloutKwPassed = true := rfl

theorem Warmup.evalC_eq (beta : K) (st : Warmup.St K) (inner : Ten (Dual K) × Dual K) (R : Ten (Dual K)) :
    Warmup.evalC beta st inner R = Warmup.eval beta st inner R := by
  unfold Warmup.evalC Warmup.eval
  cases Warmup.branch st with
  | inner => rfl
  | warm => simp only [Ema.evalC_eq]
  | both =>
    -- the mixture weights `(a, 1 − a)` and the weighted inner loss are the two tokens
    simp only [Ema.evalC_eq, Params.trainWarmupMixTag, Params.trainWarmupLossMixTag, if_true]
    rfl

end dec

/-- a history of score tensors: each given by `len(tensor)` and its entries in row-major order -/
def Welford.runC (st : Welford.St K) (hist : List (Nat × List K)) : Welford.St K :=
  hist.foldl (fun st p => Welford.updateC p.1 st p.2) st

theorem Welford.runC_eq (st : Welford.St K) (hist : List (Nat × List K)) :
    Welford.runC st hist = Welford.run st (hist.map (·.2)) := by
  simp only [Welford.runC, Welford.run, List.foldl_map, Welford.updateC_eq]

/-- **C20 `welford_exact`, as coded**, for score tensors of any shapes (0-d, `[B]`, `[B,S]`, … — `lead` arbitrary):
the statistics are over every ENTRY observed. -/
theorem Welford.welford_exact_coded [CharZero K] (hist : List (Nat × List K)) :
    let st := Welford.runC (Welford.init : Welford.St K) hist
    let xs := (hist.map (·.2)).flatten
    st.count = xs.length ∧ (xs ≠ [] → st.mean = mean xs ∧ st.M2 = sumSqDev xs) := by
  rw [Welford.runC_eq]; exact Welford.welford_exact (hist.map (·.2))

/-- **C20 `scale_norm` / `scale_scale`, as coded.** -/
theorem Welford.scale_norm_coded [CharZero K] (sq : K → K) (eps : K) (hist : List (Nat × List K)) (lead : Nat)
    (b : List K) (hN : 2 ≤ ((hist.map (·.2)).flatten ++ b).length) :
    (Welford.callC sq eps Welford.Mode.norm lead (Welford.runC Welford.init hist) b).2
      = b.map (fun x => (x - mean ((hist.map (·.2)).flatten ++ b))
                          / (sq (sampleVar ((hist.map (·.2)).flatten ++ b)) + eps)) := by
  rw [Welford.callC_eq, Welford.runC_eq]; exact Welford.scale_norm sq eps _ b hN

theorem Welford.scale_scale_coded [CharZero K] (sq : K → K) (eps : K) (hist : List (Nat × List K)) (lead : Nat)
    (b : List K) (hN : 2 ≤ ((hist.map (·.2)).flatten ++ b).length) :
    (Welford.callC sq eps Welford.Mode.scale lead (Welford.runC Welford.init hist) b).2
      = b.map (fun x => x / (sq (sampleVar ((hist.map (·.2)).flatten ++ b)) + eps)) := by
  rw [Welford.callC_eq, Welford.runC_eq]; exact Welford.scale_scale sq eps _ b hN

section dec2
variable [DecidableEq K]

/-- **C20 `ema_first` / `ema_recurrence`, as coded** — in particular when the stored average is exactly 0 the
recurrence still applies (the first-evaluation test is `is None`, not truthiness). -/
theorem ema_coded (beta m : K) :
    Ema.stepC beta none m = m ∧ ∀ v, Ema.stepC beta (some v) m = beta * v + (1 - beta) * m :=
  ⟨by rw [Ema.stepC_eq]; rfl, fun v => by rw [Ema.stepC_eq]; rfl⟩

/-- callbacks of epochs `0 … e` in order, as coded -/
def Warmup.afterEpochC (n e : Nat) : Warmup.St K :=
  (List.range (e + 1)).foldl Warmup.epochCallbackC (Warmup.init n)

omit [DecidableEq K] in
theorem Warmup.afterEpochC_eq (n e : Nat) : (Warmup.afterEpochC n e : Warmup.St K) = Warmup.afterEpoch n e := by
  have : (Warmup.epochCallbackC : Warmup.St K → Nat → Warmup.St K) = Warmup.epochCallback := by
    funext st e; exact Warmup.epochCallbackC_eq st e
  simp [Warmup.afterEpochC, Warmup.afterEpoch, this]

omit [DecidableEq K] in
/-- **C20 `warmup_alpha`, as coded**: the weight after the callback of epoch `e` is `min 1 ((e+1)/n)` — it reaches
1 at epoch `n - 1` and stays there for every later epoch. -/
theorem warmup_alpha_coded [CharZero K] (n e : Nat) (hn : 0 < n) :
    (Warmup.afterEpochC n e : Warmup.St K).alpha = warmupAlpha n e := by
  rw [Warmup.afterEpochC_eq]; exact warmup_alpha n e hn

/-- **C20 `warmup_convex`, as coded.** -/
theorem warmup_convex_coded (beta : K) (st : Warmup.St K) (inner : Ten (Dual K) × Dual K) (R : Ten (Dual K))
    (out : Ten (Dual K) × Dual K × Warmup.St K) (h : Warmup.evalC beta st inner R = some out) (i j : Nat) :
    (out.1.f i j).v = st.alpha * (inner.1.get i j).v + (1 - st.alpha) * (Ema.evalC beta st.ema R).2.2
      ∨ (st.alpha = 1 ∧ out.1 = inner.1 ∧ out.2.1 = inner.2) := by
  rw [Warmup.evalC_eq] at h
  rw [Ema.evalC_eq]
  exact warmup_convex beta st inner R out h i j

end dec2

/-- Non-vacuity: a `[2,2]` score tensor after a 0-d one (`lead` 2 resp. 1 — never used): count 5. -/
example : (Welford.runC (Welford.init : Welford.St Rat) [(1, [3]), (2, [1, 2, 3, 4])]).count = 5 := by
  decide +kernel

end Rl4co.Train
