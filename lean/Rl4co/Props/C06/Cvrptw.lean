/-
C06 for CVRPTW.  Model of `CVRPTWEnv.check_solution_validity` = CVRP's checker ∧ static assertions on
the instance ∧ a clock simulation that TRUNCATES the arrival time with `.int()`.

* `check_complete`: on an instance passing the static assertions, every Spec-feasible solution is
  accepted (the truncated clock never runs ahead of the true one).
* `check_sound_counterexample`: the full soundness statement is FALSE — a solution that reaches a customer
  1/8 after its deadline (at 13/8, deadline 12/8) is accepted because the checker's clock has fallen behind: it
  truncates the arrival 4/8 at the first customer to 0 and then 0 + 9/8 to 1 (genuine defect, known finding
  `cvrptw-checker-int-clock-C06`).
* `check_sound_partial`: on integral data (all distances, window starts and durations multiples of the
  unit) the truncation is the identity and acceptance implies feasibility up to the load tolerance.
-/
import Rl4co.Proofs.CvrptwModel
import Rl4co.Props.C06.Cvrp

namespace Rl4co.Cvrptw
open Rl4co.Spec.Cvrptw

theorem truncInt_le {unit x : Int} (hu : 0 < unit) (hx : 0 ≤ x) : truncInt unit x ≤ x := by
  unfold truncInt
  rw [Int.tdiv_eq_ediv_of_nonneg hx]
  exact Int.ediv_mul_le x (Int.ne_of_gt hu)

theorem truncInt_of_dvd {unit x : Int} (h : unit ∣ x) : truncInt unit x = x := Int.tdiv_mul_cancel h

theorem checkClock_eq (i : Inst) (unit : Int) (as : List Nat) : ∀ t cur,
    checkClock i unit t cur as = checkClockG Params.cvrptwCheckTruncates i unit t cur as := by
  induction as with
  | nil => intro _ _; rfl
  | cons a as ih => intro t cur; simp only [checkClock, checkClockG, ih]

theorem check_eq_checkG (i : Inst) (tol unit e0 : Int) (as : List Nat) :
    check i tol unit e0 as = checkG Params.cvrptwCheckTruncates Params.cvrptwCheckRow0 i tol unit e0 as := by
  simp only [check, checkG, checkClock_eq]

/-- one step of the checker's clock, the next clock in the shape of `clockOk_cons_iff` -/
theorem checkClockG_cons_iff (trunc : Bool) (i : Inst) (unit t : Int) (cur a : Nat) (as : List Nat) :
    checkClockG trunc i unit t cur (a :: as) = true ↔
      max (if trunc then truncInt unit (t + i.base.D cur a) else t + i.base.D cur a) (i.twS a) ≤ i.twE a ∧
        checkClockG trunc i unit (if a ≠ 0 then
          max (if trunc then truncInt unit (t + i.base.D cur a) else t + i.base.D cur a) (i.twS a) + i.dur a else 0) a as
          = true := by
  simp only [checkClockG, Params.cvrptwCheckTwCmp, Cmp.eval, Bool.and_eq_true, decide_eq_true_eq, ite_not]

/-- what the static assertions give for one node -/
theorem static_node (i : Inst) (e0 : Int) (h : checkStatic i e0 = true) (j : Nat) (hj : j ≤ i.base.n) :
    0 ≤ i.twS j ∧ 0 ≤ i.dur j ∧ i.twS j < i.twE j := by
  simp only [checkStatic, List.all_eq_true, List.mem_range, Bool.and_eq_true, decide_eq_true_eq,
    Params.cvrptwCheckOrderCmp, Params.cvrptwCheckStaticCmp, Cmp.eval] at h
  obtain ⟨⟨⟨⟨⟨_, hS⟩, _⟩, _⟩, hdur⟩, hSE⟩ := h j (by omega)
  exact ⟨hS, hdur, hSE⟩

/-- the checker's clock `tc`, truncated or not, stays at or below the true clock `t`, so it accepts -/
theorem checkClockG_complete (trunc : Bool) (i : Inst) (unit e0 : Int) (hu : 0 < unit)
    (hD : ∀ a b, 0 ≤ i.base.D a b) (hs : checkStatic i e0 = true) (as : List Nat) :
    ∀ t tc cur, (∀ a ∈ as, a ≤ i.base.n) → 0 ≤ tc → tc ≤ t → clockOk i t cur as = true →
      checkClockG trunc i unit tc cur as = true := by
  induction as with
  | nil => intro _ _ _ _ _ _ _; rfl
  | cons a as ih =>
    intro t tc cur hr h0 hle hk
    obtain ⟨hS, hdur, hSE⟩ := static_node i e0 hs a (hr a List.mem_cons_self)
    have harr : (if trunc then truncInt unit (tc + i.base.D cur a) else tc + i.base.D cur a) ≤ t + i.base.D cur a := by
      refine Int.le_trans ?_ (Int.add_le_add_right hle _)
      cases trunc
      · exact Int.le_refl _
      · exact truncInt_le hu (Int.add_nonneg h0 (hD cur a))
    rw [clockOk_cons_iff] at hk
    rw [checkClockG_cons_iff]
    generalize (if trunc then truncInt unit (tc + i.base.D cur a) else tc + i.base.D cur a) = arr at harr ⊢
    refine ⟨Int.max_le.2 ⟨Int.le_trans harr hk.1, Int.le_of_lt hSE⟩,
      ih _ _ a (fun b hb => hr b (List.mem_cons_of_mem _ hb)) ?_ ?_ hk.2⟩
    -- the checker's next clock is non-negative and still at or below the true one
    · split
      · exact Int.add_nonneg (Int.le_trans hS (Int.le_max_right _ _)) hdur
      · exact Int.le_refl 0
    · split
      · exact Int.add_le_add_right (Int.max_le.2 ⟨Int.le_trans harr (Int.le_max_left _ _), Int.le_max_right _ _⟩) _
      · exact Int.le_refl 0

theorem checkG_complete (trunc row0 : Bool) (i : Inst) (hd : ∀ j, 0 ≤ i.base.demand j) (hcap : 0 ≤ i.base.cap)
    (tol unit e0 : Int) (htol : 0 ≤ tol) (hu : 0 < unit) (hD : ∀ a b, 0 ≤ i.base.D a b)
    (hs : checkStatic i (if row0 then e0 else i.twE 0) = true) (as : List Nat) (hf : Feasible i as) :
    checkG trunc row0 i tol unit e0 as = true := by
  obtain ⟨h1, h2⟩ := forall_mem_routes.1 hf.tw
  rw [checkG, Bool.and_eq_true, Bool.and_eq_true]
  exact ⟨⟨Cvrp.check_complete i.base hd hcap tol htol as hf.base, hs⟩,
    checkClockG_complete trunc i unit _ hu hD hs as 0 0 0 hf.base.range (Int.le_refl 0) (Int.le_refl 0)
      (clock_of_routes i as 0 0 h1 h2)⟩

theorem check_complete (i : Inst) (hd : ∀ j, 0 ≤ i.base.demand j) (hcap : 0 ≤ i.base.cap)
    (tol unit e0 : Int) (htol : 0 ≤ tol) (hu : 0 < unit) (hD : ∀ a b, 0 ≤ i.base.D a b)
    (hs : checkStatic i e0 = true) (as : List Nat) (hf : Feasible i as) :
    check i tol unit e0 as = true :=
  (check_eq_checkG i tol unit e0 as).trans (checkG_complete Params.cvrptwCheckTruncates Params.cvrptwCheckRow0 i hd hcap tol unit e0 htol hu hD hs as hf)

/-- the full soundness statement one would like to have -/
def check_sound_statement : Prop :=
  ∀ (i : Inst) (tol unit : Int) (as : List Nat), 0 < unit → (∀ j, 0 ≤ i.base.demand j) →
    0 ≤ i.base.cap + tol → (∀ a b, 0 ≤ i.base.D a b) → RetOK i →
    check i tol unit (i.twE 0) as = true → FeasibleWithin tol i as

/-- unit = 8 ticks; depot 0, customer 1 at distance 4 (deadline 4), customer 2 at distance 12 from the
depot and 9 from customer 1 (deadline 12); `[1,2,0]` reaches customer 2 at 13 > 12, but the checker's
clock reads trunc(4)=0 after customer 1 and trunc(0+9)=8 ≤ 12 at customer 2. -/
def lateInst : Inst :=
  { base := ⟨2, 8, fun _ => 1,
      fun a b => if a = b then 0 else if (a = 0 ∧ b = 1) ∨ (a = 1 ∧ b = 0) then 4
        else if (a = 0 ∧ b = 2) ∨ (a = 2 ∧ b = 0) then 12 else 9⟩
    twS := fun _ => 0, twE := fun j => if j = 0 then 800 else if j = 1 then 4 else 12, dur := fun _ => 0 }

theorem nonneg_ite {c : Prop} [Decidable c] {x y : Int} (hx : 0 ≤ x) (hy : 0 ≤ y) : 0 ≤ if c then x else y := by
  split <;> assumption

theorem lateInst_accepted : check lateInst 0 8 (lateInst.twE 0) [1, 2, 0] = true := by
  rw [check, Bool.and_eq_true, Bool.and_eq_true]
  exact ⟨⟨Cvrp.check_complete lateInst.base (fun _ => (by decide : (0 : Int) ≤ 1)) (by decide) 0 (Int.le_refl 0) _
    ((Spec.Cvrp.feasible_iff _ _).1 (by decide)), by decide⟩, by decide⟩

theorem check_sound_counterexample : ¬ check_sound_statement := by
  intro h
  have := h lateInst 0 8 [1, 2, 0] (by decide) (fun _ => (by decide : (0 : Int) ≤ 1)) (by decide)
    (fun _ _ => nonneg_ite (by decide) (nonneg_ite (by decide) (nonneg_ite (by decide) (by decide))))
    ⟨by decide, forall_customers (by decide)⟩ lateInst_accepted
  exact absurd (this.tw [1, 2] (by decide)) (by decide)

/-- integral data: every distance, window start and duration is a multiple of the unit -/
structure Integral (i : Inst) (unit : Int) : Prop where
  dist : ∀ a b, unit ∣ i.base.D a b
  twS  : ∀ j, unit ∣ i.twS j
  dur  : ∀ j, unit ∣ i.dur j

theorem dvd_max {u a b : Int} (ha : u ∣ a) (hb : u ∣ b) : u ∣ max a b := by
  rcases Int.le_total a b with h | h
  · rw [Int.max_eq_right h]; exact hb
  · rw [Int.max_eq_left h]; exact ha

/-- where truncation is off or the identity (integral data) the checker's clock is the true flat clock -/
theorem clock_of_checkClockG (trunc : Bool) (i : Inst) (unit : Int) (hI : trunc = true → Integral i unit)
    (as : List Nat) :
    ∀ t cur, (trunc = true → unit ∣ t) → checkClockG trunc i unit t cur as = true → clockOk i t cur as = true := by
  induction as with
  | nil => intro _ _ _ _; rfl
  | cons a as ih =>
    intro t cur ht hc
    have harr : (if trunc then truncInt unit (t + i.base.D cur a) else t + i.base.D cur a) = t + i.base.D cur a := by
      cases trunc
      · rfl
      · exact truncInt_of_dvd (Int.dvd_add (ht rfl) ((hI rfl).dist cur a))
    rw [checkClockG_cons_iff, harr] at hc
    refine (clockOk_cons_iff i t cur a as).2 ⟨Int.le_trans (Int.le_max_left _ _) hc.1, ih _ a (fun h => ?_) hc.2⟩
    split
    · exact Int.dvd_add (dvd_max (Int.dvd_add (ht h) ((hI h).dist cur a)) ((hI h).twS a)) ((hI h).dur a)
    · exact Int.dvd_zero unit

theorem checkG_sound (trunc row0 : Bool) (i : Inst) (tol unit e0 : Int)
    (htol : 0 ≤ i.base.cap + tol) (hI : trunc = true → Integral i unit) (hw : RetOK i) (as : List Nat)
    (h : checkG trunc row0 i tol unit e0 as = true) : FeasibleWithin tol i as := by
  rw [checkG, Bool.and_eq_true, Bool.and_eq_true] at h
  have hbs := Cvrp.feasibleWithin_of_check i.base tol htol as h.1.1
  have hk := clock_of_checkClockG trunc i unit hI as 0 0 (fun _ => Int.dvd_zero unit) h.2
  exact ⟨hbs.range, hbs.once, hbs.load, forall_mem_routes.2
    (routes_of_clock i hw as 0 0 hbs.range hk (by rw [Int.zero_add]; exact hw.depot))⟩

/-- **C06 (CVRPTW), soundness on integral data** (loads up to the tolerance, time windows exactly). -/
theorem check_sound_partial (i : Inst) (hd : ∀ j, 0 ≤ i.base.demand j) (tol unit e0 : Int)
    (htol : 0 ≤ i.base.cap + tol) (hI : Integral i unit) (hw : RetOK i) (as : List Nat)
    (h : check i tol unit e0 as = true) : FeasibleWithin tol i as :=
  checkG_sound _ _ i tol unit e0 htol (fun _ => hI) hw as ((check_eq_checkG i tol unit e0 as).symm.trans h)

/-- Non-vacuity: the boundary instance of C01 passes the static assertions, is integral for unit 1, and
its feasible solution `[1,2,0]` (every deadline met with equality) is accepted by `check_complete`;
the late solution of `lateInst` is rejected as soon as the unit is 1 (no truncation). -/
example : checkStatic exInst (exInst.twE 0) = true := by decide
example : Integral exInst 1 := ⟨fun _ _ => Int.one_dvd _, fun _ => Int.one_dvd _, fun _ => Int.one_dvd _⟩
theorem exInst_accepted : check exInst 0 1 (exInst.twE 0) [1, 2, 0] = true :=
  check_complete exInst (fun _ => (by decide : (0 : Int) ≤ 4)) (by decide) 0 1 _ (Int.le_refl 0) (by decide)
    (fun _ _ => nonneg_ite (by decide) (nonneg_ite (by omega) (nonneg_ite (by omega) (by decide))))
    (by decide) _ ((feasible_iff _ _).1 (by decide))
example : check exInst 0 1 (exInst.twE 0) [1, 2, 0] = true := exInst_accepted
example : checkClock lateInst 1 0 0 [1, 2, 0] = false := by decide

/-- The static assertion reads the depot deadline of batch row 0 (`e0`): the same feasible solution of the
same instance is accepted next to itself and rejected when the first row of the batch has the depot
deadline 2 (known finding `cvrptw-checker-row0-depot-deadline-C06`). -/
theorem check_row0_dependence :
    Feasible exInst [1, 2, 0] ∧ check exInst 0 1 (exInst.twE 0) [1, 2, 0] = true ∧
      check exInst 0 1 2 [1, 2, 0] = false := by
  refine ⟨(feasible_iff _ _).1 (by decide), exInst_accepted, ?_⟩
  have : checkStatic exInst 2 = false := by decide
  simp [check, Params.cvrptwCheckRow0, this]

/-- the static assertion `tw_start + dist + duration <= depot deadline` admits equality (customer 2 of the
boundary instance: 0 + 3 + 0 = 3) and rejects one tick less — depends on the extracted operator
`Params.cvrptwCheckStaticCmp = le`. -/
theorem checkStatic_boundary : checkStatic exInst 3 = true ∧ checkStatic exInst 2 = false := by decide

end Rl4co.Cvrptw
