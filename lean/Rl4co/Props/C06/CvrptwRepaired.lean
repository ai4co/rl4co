/-
C06 for CVRPTW, the repaired clauses.  The two defects of `check_solution_validity` (the `.int()` on the
arrival time, known finding `cvrptw-checker-int-clock-C06`; the static assertion reading batch row 0's depot
deadline, `cvrptw-checker-row0-depot-deadline-C06`) are explicit switches of `checkG`.
* `check_eq_checkG` (in `C06/Cvrptw.lean`): the modelled checker is `checkG` at the switch values extracted from the source.
* `checkG_sound_repaired`: WITHOUT the truncation, acceptance implies feasibility (loads up to the tolerance,
  time windows exactly) for ALL data, not only integral ones — so the `.int()` is the only obstacle to soundness.
* `checkG_complete_repaired`: WITHOUT the row-0 read, every feasible solution of an instance passing its own
  static assertions is accepted whatever the first row of the batch is (any `e0`).
* `checkG_repaired_iff`: with both repaired and tolerance 0 the checker decides the Spec exactly.
-/
import Rl4co.Props.C06.Cvrptw

namespace Rl4co.Cvrptw
open Rl4co.Spec.Cvrptw

/-- **soundness of the checker without `.int()`**, for all data -/
theorem checkG_sound_repaired (row0 : Bool) (i : Inst) (tol unit e0 : Int)
    (htol : 0 ≤ i.base.cap + tol) (hw : RetOK i) (as : List Nat)
    (h : checkG false row0 i tol unit e0 as = true) : FeasibleWithin tol i as :=
  checkG_sound false row0 i tol unit e0 htol (fun h => nomatch h) hw as h

/-- **completeness of the checker without the row-0 read**: independent of `e0` (of the batch's first row) -/
theorem checkG_complete_repaired (trunc : Bool) (i : Inst) (hd : ∀ j, 0 ≤ i.base.demand j) (hcap : 0 ≤ i.base.cap)
    (tol unit e0 : Int) (htol : 0 ≤ tol) (hu : 0 < unit) (hD : ∀ a b, 0 ≤ i.base.D a b)
    (hs : checkStatic i (i.twE 0) = true) (as : List Nat) (hf : Feasible i as) :
    checkG trunc false i tol unit e0 as = true :=
  checkG_complete trunc false i hd hcap tol unit e0 htol hu hD hs as hf

/-- **the repaired checker decides the Spec** (tolerance 0, instance passing its own static assertions) -/
theorem checkG_repaired_iff (i : Inst) (hd : ∀ j, 0 ≤ i.base.demand j) (hcap : 0 ≤ i.base.cap) (unit e0 : Int)
    (hu : 0 < unit) (hD : ∀ a b, 0 ≤ i.base.D a b) (hs : checkStatic i (i.twE 0) = true) (hw : RetOK i)
    (as : List Nat) : checkG false false i 0 unit e0 as = true ↔ Feasible i as := by
  constructor
  · intro h
    have := checkG_sound_repaired false i 0 unit e0 (by omega) hw as h
    exact ⟨⟨this.range, this.once, fun r hr => by have := this.load r hr; omega⟩, this.tw⟩
  · exact checkG_complete_repaired false i hd hcap 0 unit e0 (Int.le_refl 0) hu hD hs as

/-- Non-vacuity: the late solution of `lateInst` that the real checker accepts is rejected by the repaired one. -/
example : checkG true true lateInst 0 8 (lateInst.twE 0) [1, 2, 0] = true ∧
    checkClockG false lateInst 8 0 0 [1, 2, 0] = false := by
  refine ⟨?_, by decide⟩
  rw [show checkG true true lateInst 0 8 (lateInst.twE 0) [1, 2, 0] = check lateInst 0 8 (lateInst.twE 0) [1, 2, 0]
    from (check_eq_checkG _ _ _ _ _).symm]
  exact lateInst_accepted

end Rl4co.Cvrptw
