/-
C06 for SDVRP.  Model of `SDVRPEnv.check_solution_validity`: greedy replay over `demands` = [−capacity]
++ demand, the rule "no two consecutive depot visits while anything is non-zero", and the final
`(demands == 0).all()` over ALL columns, the depot column included.

Every accepted visit sequence is feasible (its greedy split is a valid witness), and a finished
mask-confined episode that contains a depot visit is accepted.  The full completeness statement is FALSE,
already for mask-generated solutions: a finished episode WITHOUT a depot visit (all demand fits one
vehicle) is rejected because the depot column still holds −capacity.  Also rejected although feasible: an
empty route in the middle, a sequence that needs a non-greedy split.  Known findings `sdvrp-checker-*-C06`.
-/
import Rl4co.Proofs.SdvrpModel

namespace Rl4co.Sdvrp
open Rl4co.Spec.Sdvrp

theorem allZero_iff (n : Nat) (dem : Nat → Int) : allZero n dem = true ↔ ∀ j, j ≤ n → dem j = 0 := by
  simp only [allZero, List.all_eq_true, List.mem_range, beq_iff_eq]
  exact ⟨fun h j hj => h j (Nat.lt_succ_of_le hj), fun h j hj => h j (Nat.le_of_lt_succ hj)⟩

theorem checkGo_cons (i : Inst) (dem : Nat → Int) (used : Int) (prev : Option Nat) (a : Nat) (as : List Nat) :
    checkGo i dem used prev (a :: as) =
      ((!(prev == some 0 && a == 0) || allZero i.n dem) &&
        checkGo i (upd dem a (dem a - min (dem a) (i.cap - used)))
          (if a = 0 then 0 else used + min (dem a) (i.cap - used)) (some a) as) := rfl

/-- relation between an environment state and the checker's loop state -/
structure CheckRel (i : Inst) (s : State) (dem : Nat → Int) (used : Int) (prev : Option Nat) : Prop where
  custs : ∀ j, 1 ≤ j → dem j = s.rem j
  used  : used = s.used
  d0    : dem 0 ≤ 0
  prev0 : prev = some 0 → s.cur = 0 ∧ dem 0 = 0

theorem checkRel_step (i : Inst) {s : State} {dem : Nat → Int} {used : Int} {prev : Option Nat}
    (hi : Inv i s) (hr : CheckRel i s dem used prev) (a : Nat) :
    CheckRel i (env.step i s a) (upd dem a (dem a - min (dem a) (i.cap - used)))
      (if a = 0 then 0 else used + min (dem a) (i.cap - used)) (some a) := by
  -- a depot visit clears the checker's depot column
  have hd0 : a = 0 → upd dem a (dem a - min (dem a) (i.cap - used)) 0 = 0 := by
    rintro rfl
    rw [upd_same, Int.min_eq_left (Int.le_trans hr.d0 (hr.used ▸ Int.sub_nonneg_of_le hi.usedC)), Int.sub_self]
  refine ⟨fun j hj => ?_, ?_, ?_, fun hp => ?_⟩
  · rw [step_rem]
    by_cases hja : j = a
    · subst hja
      rw [upd_same, upd_same, hr.custs j hj, hr.used, delivered_eq]
    · rw [upd_other _ _ _ _ hja, upd_other _ _ _ _ hja]
      exact hr.custs j hj
  · by_cases h0 : a = 0
    · rw [if_pos h0, h0, step_used_zero]
    · rw [if_neg h0, step_used_ne i s h0, hr.custs a (Nat.pos_of_ne_zero h0), hr.used, delivered_eq]
  · by_cases h0 : a = 0
    · exact Int.le_of_eq (hd0 h0)
    · rw [upd_other _ _ _ _ (Ne.symm h0)]
      exact hr.d0
  · have h0 : a = 0 := Option.some.inj hp
    exact ⟨h0, hd0 h0⟩

theorem checkRel_reset (i : Inst) (hcap : 0 ≤ i.cap) :
    CheckRel i (env.reset i) (fun j => if j = 0 then - i.cap else i.demand j) 0 none :=
  ⟨fun _ hj => (if_neg (Nat.ne_of_gt hj)).trans (reset_rem i hj).symm, rfl, Int.neg_nonpos_of_nonneg hcap, nofun⟩

/-- an accepted list leaves nothing undelivered: the checker's customer columns are the environment's (`CheckRel`, for
every action, admitted or not), and the environment follows the greedy rule -/
theorem checkGo_final (i : Inst) (as : List Nat) : ∀ s dem used prev, Inv i s →
    CheckRel i s dem used prev → checkGo i dem used prev as = true →
    ∀ j, 1 ≤ j → j ≤ i.n → greedyRem i s.rem s.used as j = 0 := by
  induction as with
  | nil => intro s dem _ _ _ hr h j h1 h2; exact (hr.custs j h1).symm.trans ((allZero_iff i.n dem).1 h j h2)
  | cons a as ih =>
    intro s dem used prev hi hr h
    rw [checkGo_cons, Bool.and_eq_true] at h
    rw [greedyRem_step hi]
    exact ih _ _ _ _ (inv_step i s a hi) (checkRel_step i hi hr a) h.2

/-- **C06 (SDVRP), soundness**, strong form: the greedy split of an accepted list is valid. -/
theorem greedyFeasible_of_check (i : Inst) (hw : WF i) (as : List Nat) (h : check i as = true) :
    greedyFeasible i as = true := by
  rw [check, Bool.and_eq_true, List.all_eq_true] at h
  exact (greedyFeasible_iff i hw as).2 ⟨fun a ha => of_decide_eq_true (h.1 a ha),
    checkGo_final i as _ _ _ _ (inv_reset i hw) (checkRel_reset i hw.cap) h.2⟩

theorem check_sound (i : Inst) (hw : WF i) (as : List Nat) (h : check i as = true) : Feasible i as :=
  feasible_of_greedy i as (greedyFeasible_of_check i hw as h)

/-- The checker's loop follows the environment (`CheckRel`) and ends with every column at 0.  The hypothesis
`dem 0 = 0 ∨ 0 ∈ as` is the point: the depot column starts at −capacity and only a depot visit clears it, which is why
a finished episode without a depot visit is rejected (`check_rejects_run`). -/
theorem check_sim (i : Inst) (hw : WFpos i) {s s' : State} {as : List Nat} (h : Run env i s as s') :
    ∀ dem used prev, Inv i s → CheckRel i s dem used prev → s'.done = true → (dem 0 = 0 ∨ 0 ∈ as) →
      checkGo i dem used prev as = true := by
  induction h with
  | nil s =>
    intro dem used prev hi hr hd h0
    refine (allZero_iff i.n dem).2 (fun j hj => ?_)
    by_cases hj0 : j = 0
    · rw [hj0]; exact h0.resolve_right (fun h => nomatch h)
    · rw [hr.custs j (Nat.pos_of_ne_zero hj0)]; exact rem_zero_of_done hi hd j hj
  | @cons s s' a as ha hm _ ih =>
    intro dem used prev hi hr hd h0
    have hr' := checkRel_step i hi hr a
    rw [checkGo_cons, Bool.and_eq_true]
    refine ⟨?_, ih _ _ _ (inv_step i s a hi) hr' hd ?_⟩
    · -- the double-depot assertion: depot → depot is offered only when nothing remains
      by_cases hp : prev = some 0 ∧ a = 0
      · obtain ⟨hp1, rfl⟩ := hp
        obtain ⟨hc, hz0⟩ := hr.prev0 hp1
        have hz := rem_zero_of_mask_depot hw.cap hi hc hm
        rw [(allZero_iff i.n dem).2 (fun j hj => ?_), Bool.or_true]
        by_cases hj0 : j = 0
        · rw [hj0]; exact hz0
        · rw [hr.custs j (Nat.pos_of_ne_zero hj0)]; exact hz j (Nat.pos_of_ne_zero hj0) hj
      · have hb : (prev == some 0 && a == 0) = false :=
          (Bool.not_eq_true _).mp (fun hb => hp (by simpa using hb))
        rw [hb]; rfl
    · by_cases ha0 : a = 0
      · exact Or.inl (hr'.prev0 (congrArg some ha0)).2
      · rw [upd_other _ _ _ _ (Ne.symm ha0)]
        exact h0.imp_right (fun hm => (List.mem_cons.mp hm).resolve_left (Ne.symm ha0))

/-- **C06 (SDVRP), completeness on mask-generated solutions that visit the depot.** -/
theorem check_of_run (i : Inst) (hw : WFpos i) {as : List Nat} {s : State}
    (h : Run env i (env.reset i) as s) (hd : env.done i s = true) (h0 : 0 ∈ as) : check i as = true := by
  rw [check, Bool.and_eq_true, List.all_eq_true]
  refine ⟨fun a ha => decide_eq_true (Nat.le_of_lt_succ (h.lt_nAct a ha)), ?_⟩
  exact check_sim i hw h _ _ _ (inv_reset i hw.wf) (checkRel_reset i hw.wf.cap) hd (Or.inr h0)

def check_complete_statement : Prop :=
  ∀ (i : Inst) (as : List Nat), WFpos i → Feasible i as → check i as = true

/-- one customer with demand 4, capacity 8: the episode `[1]` is mask-confined and finished, hence
feasible, but the checker rejects it (depot column still −8). -/
theorem check_rejects_run :
    ∃ (i : Inst) (as : List Nat) (s : State), WFpos i ∧ Run env i (env.reset i) as s ∧
      env.done i s = true ∧ Feasible i as ∧ check i as = false := by
  refine ⟨⟨1, 8, fun _ => 4, fun _ _ => 0⟩, [1], _, ⟨by decide, fun _ => by show (0 : Int) ≤ 4; decide⟩,
    .of_admitted (by decide), by decide, ?_, by decide⟩
  exact feasible_of_greedy _ _ (by decide)

theorem check_complete_counterexample : ¬ check_complete_statement := by
  intro h
  obtain ⟨i, as, _, hw, _, _, hf, hc⟩ := check_rejects_run
  have := h i as hw hf
  rw [hc] at this
  exact absurd this (by simp)

/-- a feasible solution with an empty route in the middle is rejected -/
theorem check_rejects_double_depot :
    ∃ (i : Inst) (as : List Nat), WFpos i ∧ Feasible i as ∧ 0 ∈ as ∧ check i as = false :=
  ⟨⟨2, 8, fun _ => 4, fun _ _ => 0⟩, [1, 0, 0, 2, 0], ⟨by decide, fun _ => by show (0 : Int) ≤ 4; decide⟩,
    feasible_of_greedy _ _ (by decide), by decide, by decide⟩

/-- a visit sequence that is feasible only with a non-greedy split is rejected: capacity 2, demands 2 and
1, `[1,2,0,1,0]` with amounts 1,1,−,1,− -/
theorem check_rejects_nongreedy :
    ∃ (i : Inst) (as : List Nat), WFpos i ∧ Feasible i as ∧ greedyFeasible i as = false ∧ check i as = false :=
  ⟨⟨2, 2, fun j => if j = 1 then 2 else 1, fun _ _ => 0⟩, [1, 2, 0, 1, 0],
    ⟨by decide, fun j => by show (0 : Int) ≤ if j = 1 then 2 else 1; split <;> omega⟩,
    feasible_of_witness _ _ [1, 1, 0, 1, 0] rfl (by decide), by decide, by decide⟩

/-- Non-vacuity: the C01 example (it visits the depot) is accepted. -/
example : check exInst [1, 2, 0, 2] = true := by decide

end Rl4co.Sdvrp
