/-
C06 for the two improvement-environment checkers (`TSPkoptEnv.check_solution_validity`,
`PDPRuinRepairEnv.check_solution_validity`).  The first tests only that the successor array is a permutation
(`kopt_accepts_iff`), the second that and the pickup-before-delivery order of the `visited_time` stamps (`pdp_accepts_iff`): every
tour passes, but so do sub-tours, so soundness fails (statement, counterexample, what acceptance does give).  Exactly: a tour is an
accepted array whose walk from node 0 meets every node; with that clause added the checkers are sound and complete
(`kopt_repaired_iff`, `pdp_repaired_iff`).  The file ends with facts about the specification itself (a tour exists for every
size, the cost does not depend on the orientation).  Uses Mathlib's `List.subperm_of_subset` (here and in `Proofs/ImproveOracle`).
-/
import Rl4co.Proofs.Sort
import Rl4co.Proofs.ImproveOracle
import Rl4co.Proofs.ImprovePdpOracle
import Rl4co.Props.C09.ImproveCode

namespace Rl4co.Improve.Check
open Rl4co.Spec.Improve

theorem map_perm_of_isTour (r : Rec) (n : Nat) (h : IsTour r n) :
    ((List.range n).map r).Perm (List.range n) := by
  obtain ⟨seq, hperm, hcyc⟩ := h
  exact map_perm_of_cycle n r seq hperm hcyc

/-- **C06 (k-opt TSP checker, exact).** accepted ⟺ the successor array is a permutation of `0..n-1` -/
theorem kopt_accepts_iff (r : Rec) (n : Nat) :
    checkKopt n r = true ↔ ((List.range n).map r).Perm (List.range n) :=
  sortedIsRange_iff n _

/-- **C06 (k-opt TSP checker, completeness).** every single `n`-cycle passes. -/
theorem kopt_complete (r : Rec) (n : Nat) (h : IsTour r n) : checkKopt n r = true :=
  (kopt_accepts_iff r n).mpr (map_perm_of_isTour r n h)

/-- the full soundness claim of the k-opt checker; false, see `kopt_sound_counterexample` -/
def kopt_sound_statement : Prop := ∀ (n : Nat) (r : Rec), checkKopt n r = true → IsTour r n

/-- soundness fails: `rec_best = [1, 0, 3, 2]` (two sub-tours 0↔1 and 2↔3) is accepted. -/
theorem kopt_sound_counterexample : ¬ kopt_sound_statement := by
  intro h
  have h1 := h 4 (fun j => [1, 0, 3, 2].getD j 0) ((kopt_accepts_iff _ 4).mpr (by decide))
  have h2 := (isTourB_iff _ _).mpr h1
  revert h2
  decide

/-- what acceptance does guarantee: every node has exactly one successor and one predecessor
(the successor array is a permutation of `0..n-1`), not that it is ONE cycle. -/
theorem kopt_sound_partial (r : Rec) (n : Nat) (h : checkKopt n r = true) :
    ((List.range n).map r).Perm (List.range n) :=
  (kopt_accepts_iff r n).mp h

theorem checkPdp_iff (r : Rec) (gs : Nat) (hodd : gs % 2 = 1) :
    checkPdp gs r = true ↔ checkKopt gs r = true ∧
      ∀ k, k < gs / 2 → visitedTime gs r (k + 1) < visitedTime gs r (k + 1 + gs / 2) := by
  simp only [checkPdp, Bool.and_eq_true, decide_eq_true_eq, List.all_eq_true, List.mem_range]
  rw [and_iff_left (by omega : gs / 2 = gs - (gs / 2 + 1))]

/-- **C06 (PDP ruin-repair checker, completeness).** every valid PDP tour on an odd number of
nodes (depot + h pickups + h deliveries) passes. -/
theorem pdp_complete (r : Rec) (gs : Nat) (hodd : gs % 2 = 1) (h : PdpValid r gs) :
    checkPdp gs r = true := by
  obtain ⟨rest, hperm, hcyc, hprec⟩ := h
  exact (checkPdp_iff r gs hodd).mpr ⟨kopt_complete r gs ⟨_, hperm, hcyc⟩,
    (prec_iff_vt gs r rest hperm hcyc (gs / 2) (by omega)).mp hprec⟩

def pdp_sound_statement : Prop := ∀ (gs : Nat) (r : Rec), gs % 2 = 1 → checkPdp gs r = true → PdpValid r gs

/-- soundness of the PDP checker fails: `rec_best = [3, 2, 1, 4, 0]` on 5 nodes (depot cycle 0→3→4→0 through both
deliveries, the pickups 1↔2 on a separate sub-tour, never visited from the depot) is accepted. -/
theorem pdp_sound_counterexample : ¬ pdp_sound_statement := by
  intro h
  have hchk : checkPdp 5 (fun j => [3, 2, 1, 4, 0].getD j 0) = true := by
    simp only [checkPdp, checkKopt, Bool.and_eq_true]
    exact ⟨⟨(sortedIsRange_iff 5 _).mpr (by decide), by decide⟩, by decide⟩
  obtain ⟨rest, hperm, hcyc, _⟩ := h 5 (fun j => [3, 2, 1, 4, 0].getD j 0) (by decide) hchk
  have h2 := (isTourB_iff _ 5).mpr ⟨_, hperm, hcyc⟩
  revert h2
  decide

/-- what acceptance does guarantee: IF the accepted array is a single cycle, then every pickup
precedes its delivery. -/
theorem pdp_sound_partial (r : Rec) (gs : Nat) (hodd : gs % 2 = 1) (hc : checkPdp gs r = true)
    (ht : IsTour r gs) : PdpValid r gs := by
  obtain ⟨rest, hperm, hcyc⟩ := isTour_from r gs ht 0 (by omega)
  exact ⟨rest, hperm, hcyc,
    (prec_iff_vt gs r rest hperm hcyc (gs / 2) (by omega)).mpr ((checkPdp_iff r gs hodd).mp hc).2⟩

/-- Non-vacuity of the completeness theorems: the tour 0→1→3→2→4→0 is valid and passes both checkers. -/
example : checkKopt 5 (fun j => [1, 3, 4, 2, 0].getD j 0) = true ∧
    checkPdp 5 (fun j => [1, 3, 4, 2, 0].getD j 0) = true := by
  simp only [checkPdp, checkKopt, Bool.and_eq_true]
  exact ⟨(sortedIsRange_iff 5 _).mpr (by decide), ⟨(sortedIsRange_iff 5 _).mpr (by decide), by decide⟩, by decide⟩

/-- **single cycle = permutation + connected**: `rec` is a tour iff it is a permutation array and the walk of
`n` steps from node 0 meets every node. -/
theorem isTour_iff_perm_connected (r : Rec) (n : Nat) :
    IsTour r n ↔ ((List.range n).map r).Perm (List.range n) ∧ ∀ j, j < n → j ∈ walk r n 0 := by
  constructor
  · intro h
    exact ⟨map_perm_of_isTour r n h, fun j hj => (mem_of_perm_range ((isTour_iff_walk r n).mp h) j).mpr hj⟩
  · rintro ⟨_, hconn⟩
    -- the walk has `n` entries and contains `0..n-1`: it is a permutation of them
    exact (isTour_iff_walk r n).mpr
      ((List.subperm_of_subset List.nodup_range fun j hj => hconn j (List.mem_range.mp hj)).perm_of_length_le
        (by rw [walk_length, List.length_range]; exact Nat.le_refl n)).symm

/-- **C06 (k-opt TSP checker): soundness up to the sub-tour defect.**  A successor array is a valid tour iff
the checker accepts it AND the walk from node 0 meets every node — the checker tests exactly the first half. -/
theorem kopt_valid_iff (r : Rec) (n : Nat) :
    IsTour r n ↔ checkKopt n r = true ∧ ∀ j, j < n → j ∈ walk r n 0 := by
  rw [isTour_iff_perm_connected r n, kopt_accepts_iff]

/-- position (1-based) of the LAST occurrence of `x` in `w`, 0 when it does not occur -/
def lastHit (w : List Nat) (x : Nat) : Nat := if x ∈ w then w.length - w.reverse.idxOf x else 0

theorem lastHit_decomp (A : List Nat) (x : Nat) (B : List Nat) (hx : x ∉ B) :
    lastHit (A ++ x :: B) x = A.length + 1 := by
  have hmem : x ∈ A ++ x :: B := by simp
  simp only [lastHit, hmem, if_true, List.reverse_append, List.reverse_cons, List.append_assoc]
  have : B.reverse ++ ([x] ++ A.reverse) = B.reverse ++ x :: A.reverse := by simp
  rw [this, idxOf_decomp B.reverse x _ (by simpa using hx)]
  simp; omega

theorem visitedTime_eq_lastHit (r : Rec) (n : Nat) (x : Nat) :
    visitedTime n r x = lastHit (walk r n 0) x := by
  unfold visitedTime
  rcases vtLoop_general r n 0 0 (fun _ => 0) x with ⟨hx, hv⟩ | ⟨A, B, hW, hxB, hv⟩
  · rw [hv]; simp [lastHit, hx]
  · rw [hv, hW, lastHit_decomp A x B hxB]; omega

/-- **C06 (PDP ruin-repair checker, exact).**  On `gs = 2h+1` nodes the checker accepts exactly the
permutation arrays in which, along the `gs`-step walk from the depot, the last visit of every delivery comes
after the last visit of its pickup — a pickup that is NEVER visited counts as "before" (stamp 0), which is the
sub-tour defect; a delivery that is never visited is rejected. -/
theorem pdp_accepts_iff (r : Rec) (gs : Nat) (hodd : gs % 2 = 1) :
    checkPdp gs r = true ↔ ((List.range gs).map r).Perm (List.range gs) ∧
      ∀ i, 1 ≤ i → i ≤ gs / 2 → lastHit (walk r gs 0) i < lastHit (walk r gs 0) (i + gs / 2) := by
  rw [checkPdp_iff r gs hodd, kopt_accepts_iff, ← forall_lt_succ_iff]
  simp only [visitedTime_eq_lastHit]

/-- **C06 (PDP checker): soundness up to the sub-tour defect.**  A successor array on `2h+1` nodes is a valid
PDP tour iff the checker accepts it AND the walk from the depot meets every node. -/
theorem pdp_valid_iff (r : Rec) (gs : Nat) (hodd : gs % 2 = 1) :
    PdpValid r gs ↔ checkPdp gs r = true ∧ ∀ j, j < gs → j ∈ walk r gs 0 := by
  constructor
  · intro h
    have ht : IsTour r gs := by obtain ⟨rest, hp, hc, _⟩ := h; exact ⟨_, hp, hc⟩
    exact ⟨pdp_complete r gs hodd h, ((isTour_iff_perm_connected r gs).mp ht).2⟩
  · rintro ⟨hc, hconn⟩
    exact pdp_sound_partial r gs hodd hc
      ((kopt_valid_iff r gs).mpr ⟨((checkPdp_iff r gs hodd).mp hc).1, hconn⟩)

theorem checkKoptC_eq (n : Nat) (r : Rec) : checkKoptC .eq n r = checkKopt n r := by
  simp only [checkKoptC, checkKopt, sortedIsRange, Cmp.evalNat]
  rw [zipWith_eq_all _ _ (by rw [(sortNat_perm _).length_eq]; simp)]

/-- obligations: `arange == sort(rec_best)` in both checkers, `visited_time[pickups] < visited_time[deliveries]`,
stamps `i + 1` over `range(graph_size)` -/
theorem checkParams_ok : Params.improveKoptCheckCmp = .eq ∧ Params.improvePdpCheckCmp = .eq ∧
    Params.improvePdpCheckPrecCmp = .lt ∧ Params.improvePdpCheckVt = (1, 0) := by decide

/-- **tie.** the executed checker models (tokens from the current source) are the ones of the C06 theorems -/
theorem code_checkKopt_eq : Code.checkKopt = checkKopt := by
  funext n r; unfold Code.checkKopt; rw [checkParams_ok.1]; exact checkKoptC_eq n r

theorem code_checkPdp_eq : Code.checkPdp = checkPdp := by
  funext gs r
  unfold Code.checkPdp
  rw [checkParams_ok.2.1, checkParams_ok.2.2.1, checkParams_ok.2.2.2]
  simp only [checkPdpC, checkPdp, checkKoptC_eq, Code.visitedTimeC_std, Cmp.evalNat]

/-- Non-vacuity of the characterisations: the accepted non-tour `[1,0,3,2]` is a permutation whose walk from 0
misses node 2; on the accepted PDP non-tour `[3,2,1,4,0]` the pickups are never hit. -/
example :
    let r : Rec := fun j => [1, 0, 3, 2].getD j 0
    ((List.range 4).map r).Perm (List.range 4) ∧ 2 ∉ walk r 4 0 ∧
    lastHit (walk (fun j => [3, 2, 1, 4, 0].getD j 0) 5 0) 1 = 0 ∧
    lastHit (walk (fun j => [3, 2, 1, 4, 0].getD j 0) 5 0) 3 = 4 := by decide

theorem stamped_iff_mem (r : Rec) (n x : Nat) : 0 < visitedTime n r x ↔ x ∈ walk r n 0 := by
  unfold visitedTime
  rcases vtLoop_general r n 0 0 (fun _ => 0) x with ⟨hx, hv⟩ | ⟨A, B, hW, _, hv⟩
  · simp [hv, hx]
  · simp [hv, hW]

/-- the k-opt checker with the missing clause `(visited_time > 0).all()` added -/
def checkKoptRepaired (n : Nat) (r : Rec) : Bool :=
  checkKopt n r && (List.range n).all (fun j => decide (0 < visitedTime n r j))

/-- the PDP checker with the same clause added -/
def checkPdpRepaired (gs : Nat) (r : Rec) : Bool :=
  checkPdp gs r && (List.range gs).all (fun j => decide (0 < visitedTime gs r j))

/-- **C06 (repaired k-opt checker).** with the clause "every node is met by the walk from node 0" the checker
accepts exactly the single `n`-cycles: sound AND complete. -/
theorem kopt_repaired_iff (r : Rec) (n : Nat) (hn : 0 < n) : checkKoptRepaired n r = true ↔ IsTour r n := by
  rw [kopt_valid_iff r n]
  simp only [checkKoptRepaired, Bool.and_eq_true, List.all_eq_true, List.mem_range, decide_eq_true_eq,
    stamped_iff_mem]

/-- **C06 (repaired PDP checker).** accepts exactly the valid PDP tours. -/
theorem pdp_repaired_iff (r : Rec) (gs : Nat) (hodd : gs % 2 = 1) : checkPdpRepaired gs r = true ↔ PdpValid r gs := by
  rw [pdp_valid_iff r gs hodd]
  simp only [checkPdpRepaired, Bool.and_eq_true, List.all_eq_true, List.mem_range, decide_eq_true_eq,
    stamped_iff_mem]

/-- the two accepted non-tours of the known findings are rejected by the repaired checkers -/
example : checkKoptRepaired 4 (fun j => [1, 0, 3, 2].getD j 0) = false ∧
    checkPdpRepaired 5 (fun j => [3, 2, 1, 4, 0].getD j 0) = false := by
  -- in both, the added clause fails: a node off the depot's cycle is never stamped
  constructor
  · rw [checkKoptRepaired, show (List.range 4).all _ = false by decide, Bool.and_false]
  · rw [checkPdpRepaired, show (List.range 5).all _ = false by decide, Bool.and_false]

/-- a tour exists for every size: the round trip `j ↦ j + 1 mod n` -/
theorem isTour_succ_mod (n : Nat) (hn : 0 < n) : IsTour (fun j => (j + 1) % n) n := by
  -- the nodes in their natural order, each followed by its successor, and `n - 1` by `0`
  have hl : ∀ (k a : Nat), a + (k + 1) = n → Linked (fun j => (j + 1) % n) (List.range' a (k + 1) ++ [0]) := by
    intro k
    induction k with
    | zero => intro a ha; exact ⟨show (a + 1) % n = 0 by rw [show a + 1 = n from ha, Nat.mod_self], trivial⟩
    | succ k ih =>
      intro a ha
      exact ⟨Nat.mod_eq_of_lt (by omega), ih (a + 1) (by omega)⟩
  obtain ⟨m, rfl⟩ : ∃ m, n = m + 1 := ⟨n - 1, by omega⟩
  refine ⟨List.range (m + 1), List.Perm.refl _, ?_⟩
  rw [List.range_eq_range', CycleOf]
  exact hl m 0 (Nat.zero_add _)

theorem before_asymm (l : List Nat) (hnd : l.Nodup) (x y : Nat) (h : Before l x y) : ¬ Before l y x := by
  intro h'
  have h1 := (before_iff_idxOf l hnd x y (h.subset (by simp))).mp h
  have h2 := (before_iff_idxOf l hnd y x (h.subset (by simp))).mp h'
  omega

theorem cost_eq_sum_listing (n : Nat) (D : Nat → Nat → Int) (r : Rec) (seq : List Nat)
    (hp : seq.Perm (List.range n)) :
    cost n D r = (seq.map (fun j => D j (r j))).sum :=
  ((hp.map _).foldr_eq' (fun x _ y _ z => Int.add_left_comm y x z) 0).symm

/-- **the objective does not depend on the orientation of the tour**: for a symmetric distance matrix the
reversed tour (`rec.argsort()`, the predecessor array) has the same length. -/
theorem cost_reverse (n : Nat) (D : Nat → Nat → Int) (hD : ∀ a b, D a b = D b a) (r : Rec) (ht : IsTour r n) :
    cost n D (argsort n r) = cost n D r := by
  have hp := map_perm_of_isTour r n ht
  -- the predecessor array lists `0..n-1`: sum the tour length along this listing
  have hL : (List.range n).map (argsort n r) = argsortL n r := by
    have := map_getD_range (argsortL n r) 0
    rwa [argsortL_length] at this
  have hperm : ((List.range n).map (argsort n r)).Perm (List.range n) := by
    rw [hL]; exact isortBy_perm r (List.range n)
  rw [cost_eq_sum_listing n D r _ hperm, cost, List.map_map]
  refine congrArg List.sum (List.map_congr_left fun j hj => ?_)
  show D j (argsort n r j) = D (argsort n r j) (r (argsort n r j))
  rw [argsort_val n r hp j (List.mem_range.mp hj), hD]

end Rl4co.Improve.Check
