/-
C06 for PDP: `check_solution_validity` (depot prepended unless `force_start_at_depot`; sorted ==
arange(width); no depot strictly inside; `argsort` positions of pickups < deliveries, the split being
derived from the width).
Complete in both modes; sound only for action lists of full width: all sizes come from the width of the action
tensor, so on a 2-pair instance the list `[1, 2]` (both pickups, no delivery ever made) is accepted.
-/
import Rl4co.Proofs.TspfamPdp

namespace Rl4co.Pdp
open Rl4co.Tspfam

theorem bcastLt_same_iff (m : Nat) (g g' : Nat → Nat) :
    bcastLt ((List.range m).map g) ((List.range m).map g') = true ↔ ∀ t, t < m → g t < g' t := by
  simp only [bcastLt, Tspfam.bcastCmp, Cmp.evalNat, List.length_map, if_true, List.zipWith_map,
    List.zipWith_self, List.all_map, List.all_eq_true, List.mem_range, Function.comp, id, decide_eq_true_eq]

def checkActs (acts : List Nat) : Bool :=
  let L := acts.length
  let k := L / 2 + 1
  sortedIsRange L acts &&
  ((acts.drop 1).dropLast).all (fun a => a != 0) &&
  bcastLt ((List.range (k - 1)).map (fun t => acts.idxOf (1 + t)))
    ((List.range (L - k)).map (fun t => acts.idxOf (k + t)))

theorem check_eq (i : Inst) (as : List Nat) :
    check i as = checkActs (if i.force then as else 0 :: as) := by
  rw [check_unfold]; rfl

theorem checkActs_iff_odd (m : Nat) (acts : List Nat) (hlen : acts.length = 2 * m + 1) :
    checkActs acts = true ↔
      acts.Perm (List.range (2 * m + 1)) ∧ (∀ a ∈ (acts.drop 1).dropLast, a ≠ 0) ∧
      ∀ p, 1 ≤ p → p ≤ m → acts.idxOf p < acts.idxOf (p + m) := by
  have h1 : (2 * m + 1) / 2 = m := by
    rw [Nat.add_comm, Nat.add_mul_div_left 1 m (by decide : 0 < 2)]; exact Nat.zero_add m
  have h2 : 2 * m + 1 - (m + 1) = m := by rw [Nat.two_mul, Nat.add_assoc, Nat.add_sub_cancel]
  -- at width `2m+1` both `argsort` slices have length `m`, so the broadcast comparison is pointwise (`bcastLt_same_iff`)
  simp only [checkActs, hlen, h1, Nat.add_sub_cancel, h2, Bool.and_eq_true, sortedIsRange_iff,
    bcastLt_same_iff, List.all_eq_true, bne_iff_ne, ne_eq, and_assoc]
  refine and_congr_right fun _ => and_congr_right fun _ => ⟨fun h p hp1 hp2 => ?_, fun h t ht => ?_⟩
  · have := h (p - 1) (Nat.sub_one_lt_of_le hp1 hp2)
    rwa [Nat.add_sub_cancel' hp1, Nat.add_assoc, Nat.add_sub_cancel' hp1, Nat.add_comm m p] at this
  · have := h (1 + t) (Nat.le_add_right 1 t) (by rw [Nat.add_comm]; exact ht)
    rwa [Nat.add_comm (1 + t) m, ← Nat.add_assoc] at this

/-- a full-width list that is a customer sequence `cs` with the depot written at one end — so that the
position of a customer in it is its position in `cs` shifted by a constant — is accepted exactly when `cs`
is feasible -/
theorem checkActs_iff_of_shift (h c : Nat) {cs acts : List Nat} (hlen : cs.length = 2 * h)
    (hperm : acts.Perm (0 :: cs)) (hmid : ∀ a ∈ (acts.drop 1).dropLast, a ∈ cs)
    (hidx : ∀ v, v ≠ 0 → v ∈ cs → acts.idxOf v = cs.idxOf v + c) :
    checkActs acts = true ↔ Spec.Pdp.Feasible h cs := by
  rw [checkActs_iff_odd h acts (by rw [hperm.length_eq, List.length_cons, hlen]), range_succ_eq_cons]
  have key : cs.Perm (List.range' 1 (2 * h)) →
      ∀ p, 1 ≤ p → p ≤ h → (acts.idxOf p < acts.idxOf (p + h) ↔ cs.idxOf p < cs.idxOf (p + h)) := by
    intro hcs p hp1 hp2
    have hmem : ∀ v, 1 ≤ v → v ≤ 2 * h → v ∈ cs :=
      fun v h1 h2 => hcs.mem_iff.mpr (List.mem_range'_1.mpr ⟨h1, Nat.add_comm _ 1 ▸ Nat.lt_succ_of_le h2⟩)
    obtain ⟨h1, h2, h3⟩ := pair_bounds hp1 hp2
    rw [hidx p (Nat.ne_of_gt hp1) (hmem p hp1 h1), hidx (p + h) (Nat.ne_of_gt h2) (hmem (p + h) h2 h3)]
    exact Nat.add_lt_add_iff_right
  constructor
  · rintro ⟨hp, _, hpr⟩
    have hcs := (hperm.symm.trans hp).cons_inv
    obtain ⟨hr, ho⟩ := (once_iff_perm (2 * h) cs).mpr hcs
    exact ⟨hr, ho, fun p hp1 hp2 => (key hcs p hp1 hp2).mp (hpr p hp1 hp2)⟩
  · intro hf
    exact ⟨hperm.trans (List.Perm.cons 0 (spec_perm hf)),
      fun a ha => Nat.ne_of_gt (hf.range a (hmid a ha)).1,
      fun p hp1 hp2 => (key (spec_perm hf) p hp1 hp2).mpr (hf.prec p hp1 hp2)⟩

theorem checkActs_cons_iff (h : Nat) (cs : List Nat) (hlen : cs.length = 2 * h) :
    checkActs (0 :: cs) = true ↔ Spec.Pdp.Feasible h cs :=
  checkActs_iff_of_shift h 1 hlen (List.Perm.refl _) (fun _ ha => List.dropLast_subset cs ha)
    (fun _ hv _ => by rw [List.idxOf_cons, (beq_eq_false_iff_ne).mpr (Ne.symm hv)]; rfl)

theorem checkActs_snoc_iff (h : Nat) (cs : List Nat) (hlen : cs.length = 2 * h) :
    checkActs (cs ++ [0]) = true ↔ Spec.Pdp.Feasible h cs := by
  refine checkActs_iff_of_shift h 0 hlen (List.perm_append_singleton 0 cs) (fun a ha => ?_)
    (fun v _ hv => by rw [List.idxOf_append, if_pos hv]; rfl)
  cases cs with
  | nil => cases ha
  | cons c rest =>
    rw [List.cons_append, List.drop_succ_cons, List.drop_zero, List.dropLast_concat] at ha
    exact List.mem_cons_of_mem _ ha

theorem check_complete (i : Inst) (hf : i.force = false) {cs : List Nat}
    (hfe : Spec.Pdp.Feasible i.h cs) : check i cs = true := by
  rw [check_eq, hf]
  exact (checkActs_cons_iff i.h cs (spec_length hfe)).mpr hfe

theorem check_complete_force (i : Inst) (hf : i.force = true) {as : List Nat}
    (hfe : Spec.Pdp.FeasibleF i.h as) : check i as = true := by
  obtain ⟨cs, rfl, hfe⟩ := hfe
  rw [check_eq, hf]
  exact (checkActs_cons_iff i.h cs (spec_length hfe)).mpr hfe

/-- soundness as the property demands it -/
def check_sound_statement : Prop :=
  ∀ (i : Inst) (cs : List Nat), i.force = false → check i cs = true → Spec.Pdp.Feasible i.h cs

/-- … is false of the code: two pairs (1→3, 2→4), both pickups made, no delivery: accepted. -/
theorem check_sound_counterexample : ¬ check_sound_statement := by
  intro hs
  have hc : check ⟨2, false, fun _ _ => 0⟩ [1, 2] = true := by
    rw [check_eq]
    refine (checkActs_iff_odd 1 [0, 1, 2] rfl).mpr ⟨List.Perm.refl _, ?_, ?_⟩
    · intro a ha; simp at ha; omega
    · intro p hp1 hp2
      have : p = 1 := Nat.le_antisymm hp2 hp1
      subst this; decide
  have := (hs ⟨2, false, fun _ _ => 0⟩ [1, 2] rfl hc).once 3 (by decide) (by decide)
  simp at this

/-- **C06 (PDP, no forced start), soundness for full-width action lists.** -/
theorem check_sound_partial (i : Inst) (hf : i.force = false) {cs : List Nat}
    (hlen : cs.length = i.n) (hc : check i cs = true) : Spec.Pdp.Feasible i.h cs := by
  rw [check_eq, hf] at hc
  exact (checkActs_cons_iff i.h cs hlen).mp hc

/-- **C06 (PDP, forced start), soundness for full-width action lists that start at the depot.** -/
theorem check_sound_partial_force (i : Inst) (hf : i.force = true) {cs : List Nat}
    (hlen : cs.length = i.n) (hc : check i (0 :: cs) = true) : Spec.Pdp.FeasibleF i.h (0 :: cs) := by
  rw [check_eq, hf] at hc
  exact ⟨cs, rfl, (checkActs_cons_iff i.h cs hlen).mp hc⟩

/-- **C06 (PDP, forced start), soundness for full-width action lists**: the depot first (what the mask produces) or
last (the same closed walk), and a feasible customer sequence in between. -/
theorem check_sound_partial_force_tour (i : Inst) (hf : i.force = true) {as : List Nat}
    (hlen : as.length = i.n + 1) (hc : check i as = true) : Spec.Pdp.FeasibleTour i.h as := by
  rw [check_eq, hf, if_pos rfl] at hc
  have hlen' : as.length = 2 * i.h + 1 := hlen
  obtain ⟨hp, hmid, _⟩ := (checkActs_iff_odd i.h as hlen').mp hc
  have h0 : 0 ∈ as := hp.mem_iff.mpr (List.mem_range.mpr (Nat.succ_pos _))
  cases as with
  | nil => cases h0
  | cons a rest =>
    have hrl : rest.length = 2 * i.h := Nat.succ.inj hlen'
    by_cases ha : a = 0
    · subst ha
      exact ⟨rest, Or.inl rfl, (checkActs_cons_iff i.h rest hrl).mp hc⟩
    · -- the depot is in `rest`, not in its `dropLast`: it is the last element
      have h0r : 0 ∈ rest := (List.mem_cons.mp h0).resolve_left (Ne.symm ha)
      have hne : rest ≠ [] := List.ne_nil_of_mem h0r
      have hsplit := List.dropLast_concat_getLast hne
      have hlast : rest.getLast hne = 0 := by
        rw [← hsplit] at h0r
        rcases List.mem_append.mp h0r with hh | hh
        · exact absurd rfl (hmid 0 hh)
        · exact (List.mem_singleton.mp hh).symm
      rw [hlast] at hsplit
      have has : a :: rest = (a :: rest.dropLast) ++ [0] := by rw [List.cons_append, hsplit]
      rw [has] at hc
      exact ⟨a :: rest.dropLast, Or.inr has, (checkActs_snoc_iff i.h _ (by
        rw [List.length_cons, List.length_dropLast, Nat.sub_add_cancel (List.length_pos_iff.mpr hne), hrl])).mp hc⟩

/-- **C06 (PDP, no forced start), exact characterisation.** -/
theorem feasible_iff_check_and_width (i : Inst) (hf : i.force = false) (cs : List Nat) :
    Spec.Pdp.Feasible i.h cs ↔ (check i cs = true ∧ cs.length = i.n) :=
  ⟨fun h => ⟨check_complete i hf h, by simpa [Inst.n] using spec_length h⟩,
   fun ⟨hc, hl⟩ => check_sound_partial i hf hl hc⟩

/-- **C06 (PDP, forced start), exact characterisation**: the accepted full-width action lists are exactly
the feasible closed depot tours (depot first or last). -/
theorem feasibleTour_iff_check_and_width (i : Inst) (hf : i.force = true) (as : List Nat) :
    Spec.Pdp.FeasibleTour i.h as ↔ (check i as = true ∧ as.length = i.n + 1) := by
  constructor
  · rintro ⟨cs, (rfl | rfl), hfe⟩
    · exact ⟨check_complete_force i hf ⟨cs, rfl, hfe⟩, by simp [Inst.n, spec_length hfe]⟩
    · refine ⟨?_, by simp [Inst.n, spec_length hfe]⟩
      rw [check_eq, hf]
      exact (checkActs_snoc_iff i.h cs (spec_length hfe)).mpr hfe
  · rintro ⟨hc, hl⟩
    exact check_sound_partial_force_tour i hf hl hc

theorem plainCheck_eq_checkActs (acts : List Nat) : plainCheck acts = checkActs acts := rfl

/-- **C06 (PDP, no forced start), repaired clause**: with every size taken from the instance the checker
accepts exactly the feasible customer sequences. -/
theorem checkWith_true_iff (i : Inst) (hf : i.force = false) (cs : List Nat) :
    checkWith true i cs = true ↔ Spec.Pdp.Feasible i.h cs := by
  rw [checkWith_eq, feasible_iff_check_and_width i hf cs, check_unfold]
  simp only [actsOf_of_not_force hf, Bool.not_true, Bool.false_or, Bool.and_eq_true,
    decide_eq_true_eq, List.length_cons, Nat.add_right_cancel_iff]
  exact and_comm

/-- **C06 (PDP, forced start), repaired clause**: accepts exactly the feasible closed depot tours. -/
theorem checkWith_true_iff_force (i : Inst) (hf : i.force = true) (as : List Nat) :
    checkWith true i as = true ↔ Spec.Pdp.FeasibleTour i.h as := by
  rw [checkWith_eq, feasibleTour_iff_check_and_width i hf as, check_unfold]
  simp only [actsOf_of_force hf, Bool.not_true, Bool.false_or, Bool.and_eq_true, decide_eq_true_eq]
  exact and_comm

theorem width_source_is_action_tensor : Params.pdpCheckWidthFromInst = false := rfl

/-- `hfix` is false of the committed token (`width_source_is_action_tensor`): a probe for a repaired source -/
theorem check_sound_complete_of_fixed (hfix : Params.pdpCheckWidthFromInst = true) (i : Inst)
    (hf : i.force = false) (cs : List Nat) : check i cs = true ↔ Spec.Pdp.Feasible i.h cs := by
  rw [check, hfix]; exact checkWith_true_iff i hf cs

theorem check_sound_complete_of_fixed_force (hfix : Params.pdpCheckWidthFromInst = true) (i : Inst)
    (hf : i.force = true) (as : List Nat) : check i as = true ↔ Spec.Pdp.FeasibleTour i.h as := by
  rw [check, hfix]; exact checkWith_true_iff_force i hf as

example : check ⟨2, false, fun _ _ => 0⟩ [2, 1, 4, 3] = true :=
  check_complete _ rfl ((Spec.Pdp.feasible_iff 2 _).mp (by decide))

end Rl4co.Pdp
