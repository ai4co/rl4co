/-
C06 for the multi-task VRP environment: `MTVRPEnv.check_solution_validity` against the independent
definition `Spec.Mtvrp.Feasible`.

FINDINGS (each with a `…_statement`, a machine-checked counterexample and the strongest partial theorem):
* completeness fails: the depot deadline is applied to open routes, which never drive back;
* soundness fails: "linehauls before backhauls" is never tested, and the way back of the last route is not tested when
  the action list does not end at the depot.
With commits afacad0 (the replayed clock honours `speed`) and 0be4e8c (the batched checker is the conjunction of the
row-wise checkers for ANY capacities) of the repository under /repo these are the only deviations: `check_iff` characterises the accepted set
EXACTLY (`Spec.Mtvrp.Accepted` = `Feasible` with precisely the three omissions), for every feature valuation, any speed
and every action list.
-/
import Rl4co.Proofs.MtvrpChecker

namespace Rl4co.Mtvrp
open Rl4co.Spec.Mtvrp

/-- **C06 (MTVRP), soundness, partial**: if the checker accepts, the solution is feasible — PROVIDED every
route keeps its linehauls before its backhauls and (for closed routes) the action list ends with a depot
visit.  Neither proviso can be dropped, see the counterexamples below. -/
theorem check_sound_partial (i : Inst) (hwf : wf i = true) (as : List Nat)
    (hord : ∀ r ∈ routes as, Ordered i r) (hend : i.openR = true ∨ endsAtDepot as = true)
    (h : check i as = true) : Feasible i as :=
  feasible_of_accepted hord hend (accepted_of_check i (demWf_of_wf hwf) as h)

/-- **C06 (MTVRP), completeness, partial**: the checker accepts every feasible solution of a well-formed
instance that passes the checker's static data asserts — PROVIDED, for open routes, the depot stays open long
enough after every customer's deadline (`slackOk`, what the generator guarantees).  The proviso cannot be
dropped. -/
theorem check_complete_partial (i : Inst) (hwf : wf i = true) (hstat : checkStatic i = true)
    (hD : ∀ a b, 0 ≤ i.D a b) (h00 : i.D 0 0 = 0) (hT00 : i.T 0 0 = 0)
    (hslack : i.openR = true → ∀ j, 1 ≤ j → j ≤ i.n → slackOk i j = true)
    (as : List Nat) (hf : Feasible i as) : check i as = true :=
  check_of_accepted i (demWf_of_wf hwf) hstat hD h00 hT00 as (accepted_of_feasible hstat hD hT00 hslack hf)

/-- the permutation test through its executable Spec counterpart (`sortedTest` sorts, which the kernel does not
evaluate) -/
theorem sortedTest_of_onceB {i : Inst} {as : List Nat} (h : onceB i as = true) : sortedTest i.n as = true :=
  (sortedTest_iff i.n as).2 ((onceB_iff i as).1 h)

theorem check_of_parts {i : Inst} {as : List Nat}
    (h : (onceB i as && checkStatic i && checkReplay i 0 0 0 as && checkC1 i.cap i.dL 0 as
      && checkC1 i.cap i.dB 0 as) = true) : check i as = true := by
  simp only [Bool.and_eq_true] at h
  simp [check, checkWith, sortedTest_of_onceB h.1.1.1.1, h.1.1.1.2, h.1.1.2, h.1.2, h.2]

/-- nodes on a line at abscissae `x`, distances `|x a - x b|` -/
def lineInst (n : Nat) (x : Nat → Int) : Inst :=
  { n := n, cap := 4, dL := fun j => if j = 0 then 0 else 1, dB := fun _ => 0, openR := false, limit := none,
    early := fun _ => 0, late := fun _ => none, service := fun _ => 0,
    D := fun a b => ((x a - x b).natAbs : Int), T := fun a b => ((x a - x b).natAbs : Int) }

theorem sortedTest_1 : sortedTest 1 [1, 0] = true :=
  sortedTest_of_onceB (i := lineInst 1 fun _ => 0) (by decide)

def check_complete_statement : Prop :=
  ∀ (i : Inst) (as : List Nat), wf i = true → checkStatic i = true → (∀ a b, 0 ≤ i.D a b) → i.D 0 0 = 0 →
    i.T 0 0 = 0 → Feasible i as → check i as = true

/-- speed 2: one customer at distance 512, travel time 256, deadline 300 — `[1, 0]` is feasible and, the replay
dividing by `speed` (afacad0), accepted -/
def spInst : Inst :=
  { lineInst 1 (fun j => 512 * j) with
    T := fun a b => 256 * (((a : Int) - b).natAbs : Int),
    late := fun j => some (if j = 0 then 4096 else 300) }

/-- open routes, speed 1: one customer at distance 256, the depot closes at 300 -/
def opInst : Inst :=
  { lineInst 1 (fun j => 256 * j) with
    openR := true, late := fun j => some (if j = 0 then 300 else 2048) }

/-- **the checker applies the depot deadline to open routes**: `[1, 0]` is feasible for open routes (the
vehicle does not drive back; the mask offers it) but the checker tests the arrival time 512 of the uncharged
leg back against the depot deadline 300 and raises. -/
theorem check_complete_counterexample_open : ¬ check_complete_statement := by
  intro h
  have hc := h opInst [1, 0] (by decide) (by decide)
    (by intro a b; simp only [opInst, lineInst]; omega) (by decide) (by decide) ((feasible_iff _ _).1 (by decide))
  have : checkReplay opInst 0 0 0 [1, 0] = false := by decide
  simp [check, checkWith, this] at hc

/-- … although the environment's mask generates exactly this episode -/
example : ∃ s, Run env opInst (env.reset opInst) [1, 0] s ∧ env.done opInst s = true :=
  ⟨_, .of_admitted (by decide), by decide⟩

/-- The full soundness statement of C06 for this checker (there is no tolerance in it). -/
def check_sound_statement : Prop :=
  ∀ (i : Inst) (as : List Nat), wf i = true → check i as = true → Feasible i as

/-- VRPB: customer 1 is a backhaul, customer 2 a linehaul -/
def ordInst : Inst :=
  { lineInst 2 (fun j => 128 * j) with
    dL := fun j => if j = 2 then 1 else 0, dB := fun j => if j = 1 then 1 else 0 }

/-- **the checker never tests "linehauls before backhauls"**: `[1, 2, 0]` serves the backhaul customer 1
before the linehaul customer 2 in the same route and is accepted. -/
theorem check_sound_counterexample : ¬ check_sound_statement := by
  intro h
  have hf := h ordInst [1, 2, 0] (by decide) (check_of_parts (by decide))
  have := (feasible_iff _ _).2 hf
  revert this; decide

/-- VRPL: customers at distance 300 on either side of the depot, limit 1024 -/
def flInst : Inst :=
  { lineInst 2 (fun j => if j = 0 then 512 else if j = 1 then 212 else 812) with limit := some 1024 }

/-- **the last route's way back is never tested when the action list does not end at the depot**: the
closed route `[1, 2]` has length 300 + 600 + 300 = 1200 > 1024; the checker accepts `[1, 2]` (and rejects
`[1, 2, 0]`).  The reward charges the way back in both cases. -/
theorem check_sound_counterexample_final_leg : ¬ check_sound_statement := by
  intro h
  have hf := h flInst [1, 2] (by decide) (check_of_parts (by decide))
  have := (feasible_iff _ _).2 hf
  revert this; decide

example : checkReplay flInst 0 0 0 [1, 2, 0] = false := by decide

/-- speed 1/2: customers at 128 and 256, travel times doubled, service 64 at customer 1,
deadline 1030 at customer 2: arrival at customer 2 via customer 1 is 512 + 64 + 512 = 1088 > 1030 -/
def slowInst : Inst :=
  { lineInst 2 (fun j => 128 * j) with
    T := fun a b => 4 * (128 * (((a : Int) - b).natAbs : Int)),
    late := fun j => some (if j = 0 then 8192 else if j = 1 then 2048 else 1030),
    service := fun j => if j = 1 then 64 else 0 }

/-- the checker honours `speed` (afacad0) -/
example : Feasible spInst [1, 0] ∧ check spInst [1, 0] = true :=
  ⟨(feasible_iff _ _).1 (by decide), check_of_parts (by decide)⟩
example : ¬ Feasible slowInst [1, 2, 0] ∧ check slowInst [1, 2, 0] = false := by
  refine ⟨fun h => ?_, ?_⟩
  · have := (feasible_iff _ _).2 h
    revert this; decide
  · have : checkReplay slowInst 0 0 0 [1, 2, 0] = false := by decide
    simp [check, checkWith, this]

/-- **The batched checker is the conjunction of the row-wise checkers**, whatever the capacities of the rows
(`_check_c1` compares `used_cap : [B]` with `vehicle_capacity.squeeze(-1) : [B]` element-wise, 0be4e8c). -/
theorem checkBatch_eq_all (rows : List (Inst × List Nat)) :
    checkBatch rows = rows.all (fun r => check r.1 r.2) := by
  unfold checkBatch
  rw [List.zipWith_map_right, List.zipWith_self, List.all_map]
  rfl

/-- two one-customer rows: capacity 8 with demand 6, capacity 4 with demand 2 -/
def capRow (cap dem : Int) : Inst := { lineInst 1 (fun j => 256 * j) with cap := cap, dL := fun j => if j = 0 then 0 else dem }

/-- rows of different capacities, both feasible: the batch is accepted -/
example : checkBatch [(capRow 8 6, [1, 0]), (capRow 4 2, [1, 0])] = true := by
  rw [checkBatch_eq_all]
  have h1 : check (capRow 8 6) [1, 0] = true := check_of_parts (by decide)
  have h2 : check (capRow 4 2) [1, 0] = true := check_of_parts (by decide)
  simp [h1, h2]

/-- **C06 (MTVRP), the accepted set, exactly.**  On a well-formed instance that passes the checker's static data
asserts (non-negative distances, `D 0 0 = T 0 0 = 0`), `check_solution_validity` accepts an action list IF AND ONLY IF
it is `Accepted`: every customer exactly once, both capacities respected on every route, and length / clock fine on
every route — where, unlike `Feasible`, the linehaul/backhaul order is not looked at, the depot deadline also binds
open routes, and the trailing route's way back is not looked at. -/
theorem check_iff (i : Inst) (hwf : wf i = true) (hstat : checkStatic i = true) (hD : ∀ a b, 0 ≤ i.D a b)
    (h00 : i.D 0 0 = 0) (hT00 : i.T 0 0 = 0) (as : List Nat) : check i as = true ↔ Accepted i as :=
  ⟨accepted_of_check i (demWf_of_wf hwf) as, check_of_accepted i (demWf_of_wf hwf) hstat hD h00 hT00 as⟩

/-- **C06 corollary**: when the three omissions cannot matter (routes keep linehauls before backhauls, the list ends
at the depot or routes are open, and for open routes the depot stays open after the deadlines) the checker decides
feasibility exactly. -/
theorem check_iff_feasible (i : Inst) (hwf : wf i = true) (hstat : checkStatic i = true) (hD : ∀ a b, 0 ≤ i.D a b)
    (h00 : i.D 0 0 = 0) (hT00 : i.T 0 0 = 0)
    (hslack : i.openR = true → ∀ j, 1 ≤ j → j ≤ i.n → slackOk i j = true)
    (as : List Nat) (hord : ∀ r ∈ routes as, Ordered i r) (hend : i.openR = true ∨ endsAtDepot as = true) :
    check i as = true ↔ Feasible i as :=
  ⟨check_sound_partial i hwf as hord hend, check_complete_partial i hwf hstat hD h00 hT00 hslack as⟩

theorem accepted_iff_feasible (i : Inst) (hwf : wf i = true) (hstat : checkStatic i = true) (hD : ∀ a b, 0 ≤ i.D a b)
    (h00 : i.D 0 0 = 0) (hT00 : i.T 0 0 = 0)
    (hslack : i.openR = true → ∀ j, 1 ≤ j → j ≤ i.n → slackOk i j = true)
    (as : List Nat) (hord : ∀ r ∈ routes as, Ordered i r) (hend : i.openR = true ∨ endsAtDepot as = true) :
    Accepted i as ↔ Feasible i as :=
  ⟨feasible_of_accepted hord hend, accepted_of_feasible hstat hD hT00 hslack⟩

theorem exInst_D_nonneg (a b : Nat) : 0 ≤ exInst.D a b := by
  show (0 : Int) ≤ if a = b then 0 else 2
  split <;> decide

/-- non-vacuity of `check_iff`: its hypotheses hold for `exInst`, and `[1, 2, 0]` is accepted -/
example : (∀ a b, 0 ≤ exInst.D a b) ∧ exInst.D 0 0 = 0 ∧ exInst.T 0 0 = 0 :=
  ⟨exInst_D_nonneg, by decide, by decide⟩
example : Accepted exInst [1, 2, 0] :=
  (check_iff exInst (by decide) (by decide) exInst_D_nonneg (by decide) (by decide) [1, 2, 0]).1
    (check_of_parts (by decide))

/-- non-vacuity of the partial theorems: `exInst` satisfies all their hypotheses and `[1, 2, 0]` is feasible -/
example : wf exInst = true ∧ checkStatic exInst = true ∧ Feasible exInst [1, 2, 0] ∧ endsAtDepot [1, 2, 0] = true :=
  ⟨by decide, by decide, (feasible_iff _ _).1 (by decide), by decide⟩

end Rl4co.Mtvrp
