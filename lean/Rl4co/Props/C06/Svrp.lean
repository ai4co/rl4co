/-
C06 for SVRP.  Model of `SVRPEnv.check_solution_validity` = sort-and-compare test ∧ a skill loop over the
depot positions that tests a segment only when a depot visit CLOSES it and indexes `techs[tech]` at
every depot visit.

The full soundness statement is FALSE: the customers after the last depot visit are never tested (`[1,2]`
with customer 2 beyond technician 0 is accepted; known finding `svrp-checker-open-last-segment-C06`).
Acceptance implies feasibility of everything except the open last route (`Spec.Svrp.feasibleClosed`), so an
accepted solution that ends with a depot visit is feasible.  A feasible solution with at most T depot
visits is accepted; with more (trailing padding) the checker raises, index out of range, although the
solution is feasible (known finding `svrp-checker-more-depot-visits-than-technicians-C06`).
-/
import Rl4co.Proofs.Sort
import Rl4co.Proofs.SvrpModel

namespace Rl4co.Svrp
open Rl4co.Spec.Svrp

/-- what the skill loop accepts covers every route that a depot visit closes (`seg` = the customers of the
current route seen so far); the last route is not looked at -/
theorem routesOk_of_checkSkills (i : Inst) (as : List Nat) : ∀ k seg,
    checkSkills i k seg as = true → routesOk i k ((seg ++ firstRoute as) :: restRoutes as).dropLast = true := by
  induction as with
  | nil => intro _ _ _; rfl
  | cons a as ih =>
    intro k seg hc
    rw [checkSkills] at hc
    by_cases h0 : a = 0
    · subst h0
      rw [if_pos rfl, Bool.and_eq_true, Bool.and_eq_true] at hc
      rw [firstRoute_zero_cons, restRoutes_zero_cons, routes_eq, List.append_nil, List.dropLast_cons_cons, routesOk,
        Bool.and_eq_true]
      exact ⟨Bool.or_eq_true_iff.mpr (Or.inr (Bool.and_eq_true_iff.mpr hc.1)), ih (k + 1) [] hc.2⟩
    · rw [if_neg h0] at hc
      have := ih k (seg ++ [a]) hc
      rw [firstRoute_cons h0, restRoutes_cons h0]
      rwa [List.append_assoc] at this

/-- `k + zeros as ≤ i.T`: the loop indexes `techs` at every depot visit, also where the route it closes is empty -/
theorem checkSkills_of_routesOk (i : Inst) (as : List Nat) : ∀ k seg,
    routesOk i k ((seg ++ firstRoute as) :: restRoutes as) = true → k + zeros as ≤ i.T →
      checkSkills i k seg as = true := by
  induction as with
  | nil => intro _ _ _ _; rfl
  | cons a as ih =>
    intro k seg hr hz
    rw [checkSkills]
    by_cases h0 : a = 0
    · subst h0
      rw [zeros, List.count_cons_self, ← Nat.add_assoc] at hz
      rw [firstRoute_zero_cons, restRoutes_zero_cons, List.append_nil, routesOk, Bool.and_eq_true] at hr
      rw [if_pos rfl, Bool.and_eq_true, Bool.and_eq_true]
      refine ⟨⟨decide_eq_true (Nat.lt_of_lt_of_le (Nat.lt_succ_of_le (Nat.le_add_right k _)) hz), ?_⟩,
        ih (k + 1) [] (by rw [List.nil_append, ← routes_eq]; exact hr.2) (by rwa [Nat.add_right_comm] at hz)⟩
      rcases Bool.or_eq_true_iff.mp hr.1 with he | hs
      · rw [List.isEmpty_iff.mp he]; rfl
      · exact (Bool.and_eq_true_iff.mp hs).2
    · rw [firstRoute_cons h0, restRoutes_cons h0] at hr
      rw [zeros, List.count_cons_of_ne h0] at hz
      rw [if_neg h0]
      exact ih k (seg ++ [a]) (by rwa [List.append_assoc]) hz

/-- **C06 (SVRP), completeness for at most T depot visits.** -/
theorem check_complete_partial (i : Inst) (as : List Nat) (hf : Feasible i as) (hz : zeros as ≤ i.T) :
    check i as = true := by
  rw [check, Bool.and_eq_true]
  exact ⟨(sortedTest_iff i.n as).2 ⟨hf.range, hf.once⟩,
    checkSkills_of_routesOk i as 0 [] (by rw [List.nil_append, ← routes_eq]; exact hf.skill) (by rwa [Nat.zero_add])⟩

/-- **C06 (SVRP), soundness up to the open last route.** -/
theorem check_sound_partial (i : Inst) (as : List Nat) (h : check i as = true) :
    feasibleClosed i as = true := by
  rw [check, Bool.and_eq_true] at h
  obtain ⟨h1, h2⟩ := (sortedTest_iff i.n as).1 h.1
  have hk := routesOk_of_checkSkills i as 0 [] h.2
  rw [List.nil_append, ← routes_eq] at hk
  rw [feasibleClosed, Bool.and_eq_true, Bool.and_eq_true, all_succ_eq_true (p := fun j => as.count j == 1)]
  exact ⟨⟨List.all_eq_true.mpr (fun a ha => decide_eq_true (h1 a ha)), fun j hj1 hj2 => beq_iff_eq.mpr (h2 j hj1 hj2)⟩,
    hk⟩

theorem routesOk_append_empty (i : Inst) (rs : List (List Nat)) : ∀ k,
    routesOk i k (rs ++ [[]]) = routesOk i k rs := by
  induction rs with
  | nil => intro k; simp [routesOk, routeOk]
  | cons r rs ih => intro k; simp [routesOk, ih]

theorem check_sound_closed (i : Inst) (as : List Nat) (h : check i (as ++ [0]) = true) :
    Feasible i (as ++ [0]) := by
  have hp := check_sound_partial i _ h
  -- the closed routes of `as ++ [0]` are the routes of `as`; its last route is empty
  rw [feasibleClosed, routes_append_zero, List.dropLast_concat, ← routesOk_append_empty, ← routes_append_zero] at hp
  exact (feasible_iff i _).1 hp

def check_sound_statement : Prop := ∀ (i : Inst) (as : List Nat), check i as = true → Feasible i as

theorem check_sound_counterexample : ¬ check_sound_statement := by
  intro h
  have hc : check exInst [1, 2] = true := by
    simp only [check, Bool.and_eq_true]
    -- `sortedTest` sorts, which the kernel does not evaluate: through its characterisation
    exact ⟨(sortedTest_iff _ _).2 ⟨by decide, forall_customers (n := 2) (P := fun j => [1, 2].count j = 1) (by decide)⟩,
      by decide⟩
  have := (feasible_iff _ _).2 (h exInst [1, 2] hc)
  revert this
  decide

def check_complete_statement : Prop := ∀ (i : Inst) (as : List Nat), Feasible i as → check i as = true

/-- one technician, one customer: `[1,0,0]` (a finished episode padded once) is feasible, the second depot
visit makes the checker index `techs[1]`. -/
theorem check_complete_counterexample : ¬ check_complete_statement := by
  intro h
  have := h ⟨1, 1, fun _ => 5, fun _ => 3, fun _ => 1, fun _ _ => 0⟩ [1, 0, 0] ((feasible_iff _ _).1 (by decide))
  simp only [check, Bool.and_eq_true] at this
  have h2 := this.2
  revert h2
  decide

/-- Non-vacuity: skill exactly = technician level, last technician. -/
example : Feasible exInst [1, 0, 2] ∧ zeros [1, 0, 2] ≤ exInst.T := ⟨(feasible_iff _ _).1 (by decide), by decide⟩

end Rl4co.Svrp
