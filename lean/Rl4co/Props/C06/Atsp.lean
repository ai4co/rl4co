/-
C06 for ATSP: `check_solution_validity` (sorted actions == arange(width of the action tensor)).
Complete; sound only for action lists of full width: the checker never looks at the number of nodes of the instance,
so it accepts e.g. the tour `[0,1,2]` on a 5-node instance (known finding).
-/
import Rl4co.Proofs.TspfamTsp
import Rl4co.Spec.Atsp

namespace Rl4co.Atsp
open Rl4co.Tspfam

theorem check_iff (i : Inst) (as : List Nat) :
    check i as = true ↔ Spec.Atsp.Feasible as.length as := by
  rw [check_eq]; exact Spec.Tsp.sortedIsRange_iff_feasible _ _

theorem feasible_iff_check_and_width (i : Inst) (as : List Nat) :
    Spec.Atsp.Feasible i.n as ↔ (check i as = true ∧ as.length = i.n) := by
  rw [check_eq]; exact Spec.Tsp.feasible_iff_sortedIsRange_width _ _

theorem check_complete (i : Inst) {as : List Nat} (hf : Spec.Atsp.Feasible i.n as) :
    check i as = true :=
  ((feasible_iff_check_and_width i as).mp hf).1

/-- soundness as the property demands it -/
def check_sound_statement : Prop :=
  ∀ (i : Inst) (as : List Nat), check i as = true → Spec.Atsp.Feasible i.n as

/-- … is false of the code: a short tour over the first nodes is accepted. -/
theorem check_sound_counterexample : ¬ check_sound_statement := by
  intro h
  have hc : check ⟨5, fun _ _ => 0⟩ [0, 1, 2] = true :=
    (check_iff _ _).mpr ((Spec.Tsp.feasible_iff_perm 3 [0, 1, 2]).mpr (List.Perm.refl _))
  have := (h ⟨5, fun _ _ => 0⟩ [0, 1, 2] hc).once 4 (by decide)
  simp at this

theorem check_sound_partial (i : Inst) {as : List Nat} (hlen : as.length = i.n)
    (hc : check i as = true) : Spec.Atsp.Feasible i.n as :=
  (feasible_iff_check_and_width i as).mpr ⟨hc, hlen⟩

theorem checkWith_true_iff (i : Inst) (as : List Nat) :
    checkWith true i as = true ↔ Spec.Atsp.Feasible i.n as := by
  rw [checkWith_true_eq]; exact Spec.Tsp.widthTest_and_sortedIsRange_iff _ _

theorem width_source_is_action_tensor : Params.atspCheckWidthFromInst = false := rfl

/-- `hfix` is false of the committed token (`width_source_is_action_tensor`): a probe for a repaired source -/
theorem check_sound_complete_of_fixed (hfix : Params.atspCheckWidthFromInst = true) (i : Inst) (as : List Nat) :
    check i as = true ↔ Spec.Atsp.Feasible i.n as := by
  rw [check, hfix]; exact checkWith_true_iff i as

example : check ⟨3, fun _ _ => 0⟩ [2, 0, 1] = true :=
  check_complete _ ((Spec.Tsp.feasible_iff 3 [2, 0, 1]).mp (by decide))

end Rl4co.Atsp
