/-
C06 for TSP: `check_solution_validity` (sorted actions == arange(width of the action tensor)).
Complete; sound only for action lists of full width: the checker never looks at the number of nodes of the instance,
so it accepts e.g. the tour `[0,1,2]` on a 5-node instance (known finding).
-/
import Rl4co.Proofs.TspfamTsp

namespace Rl4co.Tsp
open Rl4co.Tspfam

theorem check_iff (i : Inst) (as : List Nat) :
    check i as = true ↔ Spec.Tsp.Feasible as.length as := by
  rw [check_eq]; exact Spec.Tsp.sortedIsRange_iff_feasible _ _

/-- **C06 (TSP), exact characterisation.**  The width clause is what the checker itself does not enforce. -/
theorem feasible_iff_check_and_width (i : Inst) (as : List Nat) :
    Spec.Tsp.Feasible i.n as ↔ (check i as = true ∧ as.length = i.n) := by
  rw [check_eq]; exact Spec.Tsp.feasible_iff_sortedIsRange_width _ _

theorem check_complete (i : Inst) {as : List Nat} (hf : Spec.Tsp.Feasible i.n as) :
    check i as = true :=
  ((feasible_iff_check_and_width i as).mp hf).1

/-- soundness as the property demands it -/
def check_sound_statement : Prop :=
  ∀ (i : Inst) (as : List Nat), check i as = true → Spec.Tsp.Feasible i.n as

/-- … is false of the code: a short tour over the first nodes is accepted. -/
theorem check_sound_counterexample : ¬ check_sound_statement := by
  intro h
  have hc : check ⟨5, fun _ _ => 0⟩ [0, 1, 2] = true :=
    (check_iff _ _).mpr ((Spec.Tsp.feasible_iff_perm 3 [0, 1, 2]).mpr (List.Perm.refl _))
  have := (h ⟨5, fun _ _ => 0⟩ [0, 1, 2] hc).once 4 (by decide)
  simp at this

theorem check_sound_partial (i : Inst) {as : List Nat} (hlen : as.length = i.n)
    (hc : check i as = true) : Spec.Tsp.Feasible i.n as :=
  (feasible_iff_check_and_width i as).mpr ⟨hc, hlen⟩

/-- **C06 (TSP), repaired clause**: with the number of nodes taken from the INSTANCE (`checkWith true`) the checker
is sound and complete. -/
theorem checkWith_true_iff (i : Inst) (as : List Nat) :
    checkWith true i as = true ↔ Spec.Tsp.Feasible i.n as := by
  rw [checkWith_true_eq]; exact Spec.Tsp.widthTest_and_sortedIsRange_iff _ _

/-- the width source in the source as extracted: the action tensor (the known finding) -/
theorem width_source_is_action_tensor : Params.tspCheckWidthFromInst = false := rfl

/-- verifying a maintainer's fix by one probe: IF the extracted width source is the instance, the checker as
written is sound and complete (`hfix` is false of the committed token, `width_source_is_action_tensor`) -/
theorem check_sound_complete_of_fixed (hfix : Params.tspCheckWidthFromInst = true) (i : Inst) (as : List Nat) :
    check i as = true ↔ Spec.Tsp.Feasible i.n as := by
  rw [check, hfix]; exact checkWith_true_iff i as

example : check ⟨3, fun _ _ => 0⟩ [2, 0, 1] = true :=
  check_complete _ ((Spec.Tsp.feasible_iff 3 [2, 0, 1]).mp (by decide))

end Rl4co.Tsp
