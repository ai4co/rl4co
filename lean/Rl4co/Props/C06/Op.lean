/-
C06 for OP: does `check_solution_validity` agree with the definition?

Completeness holds: every Spec-feasible action list (with or without a final return,
with trailing depot padding, with a leading depot, …) is accepted — given the triangle inequality
through the depot and `L ≤` the checker's per-node bounds.

KNOWN FINDING (`known_findings.json`: op-checker-open-tour-C06).  The checker measures
`get_tour_length(locs[actions])`, the cycle through the listed nodes only.  For a list that neither
starts nor ends with the depot the two depot legs are replaced by the edge last → first, so
over-length tours are accepted.  Hence the full soundness statement (accepted ⇒ feasible within the
checker's tolerance) is FALSE of the faithful model; it is refuted on the bounds read back from the real
code (actions `[1, 2]`, true length 0.53125, measured 0.03125, max_length 0.25).  What does hold: an
accepted list that ends or starts at the depot — in particular every mask-generated episode — is feasible
within the tolerance; the accepted set is characterised exactly.
-/
import Rl4co.Spec.Op
import Rl4co.Proofs.OpShared

namespace Rl4co.Op
open Rl4co.Spec.Op Rl4co.Prize

/-- triangle inequality through the depot (Euclidean distances satisfy it) -/
def TriViaDepot (i : Inst) : Prop := ∀ a b, i.D a b ≤ i.D a 0 + i.D 0 b

/-- the three tests of the checker, for whatever length `x` it measures (shipped: the cycle; repaired: the tour) -/
theorem check_tests_iff (i : Inst) (as : List Nat) (x : Int) :
    (as.all (fun a => decide (a ≤ i.n)) && adjOk (sortNat as) &&
      (List.range (i.n + 1)).all (fun j => Params.opCheckLenCmp.eval x (i.cbound j))) = true ↔
      (∀ a ∈ as, a ≤ i.n) ∧ (∀ j, 1 ≤ j → as.count j ≤ 1) ∧ (∀ j, j ≤ i.n → x ≤ i.cbound j) := by
  simp only [Bool.and_eq_true, List.all_eq_true, decide_eq_true_eq, adjOk_sort_iff, List.mem_range,
    Params.opCheckLenCmp, Cmp.eval, Nat.lt_succ_iff, and_assoc]

theorem check_eq_true_iff (i : Inst) (as : List Nat) :
    check i as = true ↔
      (∀ a ∈ as, a ≤ i.n) ∧ (∀ j, 1 ≤ j → as.count j ≤ 1) ∧
      (∀ j, j ≤ i.n → rollLen i.D as ≤ i.cbound j) :=
  check_tests_iff i as _

theorem feasibleWithin_iff (tol : Int) (i : Inst) (as : List Nat) :
    FeasibleWithin tol i as ↔
      (∀ a ∈ as, a ≤ i.n) ∧ (∀ j, 1 ≤ j → as.count j ≤ 1) ∧ tourLen i as ≤ i.L + tol :=
  ⟨fun h => ⟨h.range, count_le_one_of_range h.range h.once, h.length⟩,
   fun ⟨h1, h2, h3⟩ => ⟨h1, fun j hj _ => h2 j hj, h3⟩⟩

/-- **C06 (OP), completeness**: when every bound the checker uses is at least `L`, it accepts every feasible tour. -/
theorem check_complete (i : Inst) (hd00 : 0 ≤ i.D 0 0) (htri : TriViaDepot i)
    (hcb : ∀ j, j ≤ i.n → i.L ≤ i.cbound j) {as : List Nat} (hf : Feasible i as) :
    check i as = true := by
  refine (check_eq_true_iff i as).mpr ⟨hf.range, count_le_one_of_range hf.range hf.once, fun j hj => ?_⟩
  exact Int.le_trans (rollLen_le_depot_tour i.D hd00 htri as) (Int.le_trans hf.length (hcb j hj))

def check_sound_statement : Prop :=
  ∀ (i : Inst) (tol : Int) (as : List Nat), i.D 0 0 = 0 → (∃ j, j ≤ i.n ∧ i.cbound j ≤ i.L + tol) →
    check i as = true → FeasibleWithin tol i as

/-- the real checker bounds of: depot (0.5,0.5), customers (0.75,0.5) and (0.765625,0.5),
max_length 0.25; unit 2^-26 -/
def cexCheck : Inst :=
  { n := 2, L := 16777216,
    D := fun a b => if a = b then 0 else if a + b = 1 then 16777216 else if a + b = 2 then 17825792 else 1048576,
    prize := fun _ => 33554432, budget := fun j => if j = 0 then 16777149 else if j = 1 then -67 else -1048643,
    cbound := fun _ => 16777888 }

/-- **C06 (OP), counterexample**: `[1, 2]` is accepted although the tour through the depot is more
than twice the budget. -/
theorem check_sound_counterexample : ¬ check_sound_statement := by
  intro h
  have hchk : check cexCheck [1, 2] = true := by
    rw [check_eq_true_iff]
    refine ⟨by decide, fun j _ => List.nodup_iff_count.mp (by decide) j, fun j _ => ?_⟩
    show rollLen cexCheck.D [1, 2] ≤ 16777888
    decide
  have := h cexCheck 672 [1, 2] (by decide) ⟨0, by decide, by decide⟩ hchk
  have hl := this.length
  revert hl
  decide

/-- the action list ends or starts at the depot -/
def ClosedAtDepot (as : List Nat) : Prop := (∃ u, as = u ++ [0]) ∨ (∃ u, as = 0 :: u)

/-- for lists closed at the depot the checker measures the tour through the depot -/
theorem rollLen_eq_tourLen (i : Inst) (hd00 : i.D 0 0 = 0) {as : List Nat} (hc : ClosedAtDepot as) :
    rollLen i.D as = tourLen i as := by
  rcases hc with ⟨u, rfl⟩ | ⟨u, rfl⟩
  · rw [rollLen_snoc_depot, tourLen, pathLen_cons_snoc_snoc, hd00, Int.add_zero]
  · rw [rollLen_depot_cons, tourLen, pathLen_cons_snoc, hd00, Int.zero_add]

/-- **C06 (OP), exact, lists closed at the depot**: accepted ⇔ in range, no repeated customer, and the tour
depot → list → depot fits all the per-node bounds. -/
theorem check_iff_of_closed (i : Inst) (hd00 : i.D 0 0 = 0) {as : List Nat} (hc : ClosedAtDepot as) :
    check i as = true ↔
      (∀ a ∈ as, a ≤ i.n) ∧ (∀ j, 1 ≤ j → as.count j ≤ 1) ∧ (∀ j, j ≤ i.n → tourLen i as ≤ i.cbound j) := by
  rw [check_eq_true_iff, rollLen_eq_tourLen i hd00 hc]

/-- **C06 (OP), partial soundness**: accepted lists closed at the depot are feasible within the
tolerance by which the checker's bound exceeds `L`. -/
theorem check_sound_partial (i : Inst) (tol : Int) (hd00 : i.D 0 0 = 0)
    (hcb : ∃ j, j ≤ i.n ∧ i.cbound j ≤ i.L + tol) {as : List Nat} (hc : ClosedAtDepot as)
    (h : check i as = true) : FeasibleWithin tol i as := by
  obtain ⟨h1, h2, h3⟩ := (check_iff_of_closed i hd00 hc).mp h
  obtain ⟨j, hj, hb⟩ := hcb
  exact ⟨h1, fun j hj _ => h2 j hj, Int.le_trans (h3 j hj) hb⟩

/-- Non-vacuity: on the same real bounds the closed list `[1, 2, 0]` is rejected, and the hypotheses
of `check_complete` hold for the instance. -/
example : check cexCheck [1, 2, 0] = false := by
  cases h : check cexCheck [1, 2, 0] with
  | false => rfl
  | true =>
    have := ((check_eq_true_iff _ _).mp h).2.2 0 (by decide)
    revert this; decide
example : ∀ j, j ≤ cexCheck.n → cexCheck.L ≤ cexCheck.cbound j := by intro j _; simp [cexCheck]
example : check { cexCheck with L := 35651584, cbound := fun _ => 35652256 } [1, 2, 0] = true := by
  rw [check_eq_true_iff]
  refine ⟨by decide, fun j _ => List.nodup_iff_count.mp (by decide) j, fun j _ => ?_⟩
  show rollLen cexCheck.D [1, 2, 0] ≤ 35652256
  decide

/- `get_reward` hands whole batches to the checker.  For a batch whose action tensor has ONE column the
code path differs from the general one (`gather_by_index` may squeeze a dimension of size one).
The code gathers with `squeeze=False` (fix commit 9be001b of DESIGN §8.1), so the verdict on such a batch is the conjunction of
the verdicts on its rows; the harness compares the real batched checker with this model. -/

theorem check_singleton (i : Inst) (a : Nat) :
    check i [a] = (decide (a ≤ i.n) &&
      (List.range (i.n + 1)).all (fun j => Params.opCheckLenCmp.eval (i.D a a) (i.cbound j))) := by
  have hs : sortNat [a] = [a] := by simp [sortNat]
  simp only [check, hs, adjOk, List.all_cons, List.all_nil, Bool.and_true]
  have : rollLen i.D [a] = i.D a a := by simp [rollLen, roll1]
  rw [this]

theorem all_and_all {α : Type} (l : List α) (p q : α → Bool) :
    (l.all p && l.all q) = l.all (fun x => p x && q x) := by
  refine Bool.eq_iff_iff.mpr ?_
  simp only [Bool.and_eq_true, List.all_eq_true]
  exact ⟨fun h x hx => ⟨h.1 x hx, h.2 x hx⟩, fun h => ⟨fun x hx => (h x hx).1, fun x hx => (h x hx).2⟩⟩

/-- **C06 (OP), batched checker on single-column action tensors**: the verdict on the batch is the
conjunction of the row-wise verdicts, for every batch (any size, any instances, any nodes). -/
theorem check_single_column_batch (rows : List (Inst × Nat)) :
    checkSingleColumnBatch rows = rows.all (fun ia => check ia.1 [ia.2]) := by
  simp only [checkSingleColumnBatch, all_and_all, check_singleton]

/-- Non-vacuity: two rows `[0]`, `[0]` (checker bound 0.25 + 1e-5 in units of 2^-26) whose depots are
0.5 apart — the witness of the repaired finding — are accepted row by row and as a batch. -/
def cexRow : Inst :=
  { n := 0, L := 16777216, D := fun _ _ => 0, prize := fun _ => 0, budget := fun _ => 16777149,
    cbound := fun _ => 16777888 }
example : checkSingleColumnBatch [(cexRow, 0), (cexRow, 0)] = true := by decide

/-- **C06 (OP), exact, any list**: the checker accepts exactly the lists in range, without a repeated
customer, whose CYCLE through the listed nodes (no depot legs unless the depot is listed) fits all the
per-node bounds. -/
theorem check_iff_cycle (i : Inst) (as : List Nat) :
    check i as = true ↔
      (∀ a ∈ as, a ≤ i.n) ∧ (∀ j, 1 ≤ j → as.count j ≤ 1) ∧ (∀ j, j ≤ i.n → closedLen i.D as ≤ i.cbound j) := by
  rw [check_eq_true_iff, rollLen_eq_closedLen]

theorem le_cbound_iff {i : Inst} {tol : Int} (hcb : ∀ j, j ≤ i.n → i.cbound j = i.L + tol) (x : Int) :
    (∀ j, j ≤ i.n → x ≤ i.cbound j) ↔ x ≤ i.L + tol :=
  ⟨fun h => hcb 0 (Nat.zero_le _) ▸ h 0 (Nat.zero_le _), fun h j hj => hcb j hj ▸ h⟩

/-- **C06 (OP), exact iff**: when every per-node bound is `L + tol`, a list closed at the depot is accepted
⇔ it is feasible within `tol`. -/
theorem check_iff_feasibleWithin (i : Inst) (tol : Int) (hd00 : i.D 0 0 = 0)
    (hcb : ∀ j, j ≤ i.n → i.cbound j = i.L + tol) {as : List Nat} (hc : ClosedAtDepot as) :
    check i as = true ↔ FeasibleWithin tol i as := by
  rw [check_iff_of_closed i hd00 hc, le_cbound_iff hcb, feasibleWithin_iff]

theorem checkPrecomp_iff (i : Inst) (U rho : Int) : checkPrecomp i U rho = true ↔ CheckPrecomp i U rho := by
  simp only [checkPrecomp, List.all_eq_true, List.mem_range, Bool.and_eq_true, decide_eq_true_eq, CheckPrecomp]
  constructor
  · intro h j hj; exact h j (Nat.lt_succ_of_le hj)
  · intro h j hj; exact h j (Nat.le_of_lt_succ hj)

/-- the bounds the checker derives are `L + 1e-5` up to a rounding error `rho`: never below `L`.  `100000` is
`Params.opCheckTol.2`, written out because `omega` reads numerals only; the `simp only` puts the token's value
next to it, so the proof breaks when the token changes. -/
theorem cbound_ge_of_checkPrecomp (i : Inst) (U rho : Int) (hp : CheckPrecomp i U rho)
    (hrho : 100000 * rho ≤ U) : ∀ j, j ≤ i.n → i.L ≤ i.cbound j := by
  intro j hj
  have := (hp j hj).1
  simp only [Params.opCheckTol] at this
  omega

/-- the bounds the checker derives are at most `1e-5 + rho` above `L` -/
theorem cbound_le_of_checkPrecomp (i : Inst) (U rho tol : Int) (hp : CheckPrecomp i U rho)
    (ht : U + 100000 * rho ≤ 100000 * tol) : ∀ j, j ≤ i.n → i.cbound j ≤ i.L + tol := by
  intro j hj
  have := (hp j hj).2
  simp only [Params.opCheckTol] at this
  omega

/-- **C06 (OP), completeness with the bound inside the model.** -/
theorem check_complete_precomp (i : Inst) (U rho : Int) (hd00 : 0 ≤ i.D 0 0) (htri : TriViaDepot i)
    (hp : CheckPrecomp i U rho) (hrho : 100000 * rho ≤ U) {as : List Nat} (hf : Feasible i as) :
    check i as = true :=
  check_complete i hd00 htri (cbound_ge_of_checkPrecomp i U rho hp hrho) hf

/-- **C06 (OP), soundness (lists closed at the depot) with the bound inside the model**: accepted ⇒
feasible within `1e-5 + rho`. -/
theorem check_sound_precomp (i : Inst) (U rho tol : Int) (hd00 : i.D 0 0 = 0)
    (hp : CheckPrecomp i U rho) (ht : U + 100000 * rho ≤ 100000 * tol) {as : List Nat}
    (hc : ClosedAtDepot as) (h : check i as = true) : FeasibleWithin tol i as :=
  check_sound_partial i tol hd00
    ⟨0, Nat.zero_le _, cbound_le_of_checkPrecomp i U rho tol hp ht 0 (Nat.zero_le _)⟩ hc h

/-- Non-vacuity: the real checker bounds of `cexCheck` (unit 2^-26) are `L + 1e-5` up to one unit. -/
example : CheckPrecomp cexCheck 67108864 1 := (checkPrecomp_iff _ _ _).mp (by decide)

/-- the checker with the depot prepended to the gathered locations (as the CVRP / PCTSP rewards do): it
measures the tour depot → listed nodes → depot for EVERY list -/
def checkRepaired (i : Inst) (as : List Nat) : Bool :=
  as.all (fun a => decide (a ≤ i.n)) &&
  adjOk (sortNat as) &&
  (List.range (i.n + 1)).all (fun j => Params.opCheckLenCmp.eval (rollLen i.D (0 :: as)) (i.cbound j))

/-- **C06 (OP), repaired clause**: with the depot prepended the checker is exact for ALL lists (closed at the
depot or not): accepted ⇔ feasible within the tolerance. -/
theorem checkRepaired_iff (i : Inst) (tol : Int) (hcb : ∀ j, j ≤ i.n → i.cbound j = i.L + tol) (as : List Nat) :
    checkRepaired i as = true ↔ FeasibleWithin tol i as := by
  rw [feasibleWithin_iff, tourLen, ← rollLen_depot_cons, ← le_cbound_iff hcb]
  exact check_tests_iff i as _

/-- **C06 (OP), the wrongly accepted set**: the shipped checker accepts a list that is NOT feasible within the
tolerance exactly when the list is in range, repeats no customer, its cycle through the listed nodes fits the
bound, and the tour through the depot does not. -/
theorem wrongly_accepted_iff (i : Inst) (tol : Int) (hcb : ∀ j, j ≤ i.n → i.cbound j = i.L + tol) (as : List Nat) :
    (check i as = true ∧ ¬ FeasibleWithin tol i as) ↔
      ((∀ a ∈ as, a ≤ i.n) ∧ (∀ j, 1 ≤ j → as.count j ≤ 1) ∧ closedLen i.D as ≤ i.L + tol ∧ i.L + tol < tourLen i as) := by
  rw [check_iff_cycle, le_cbound_iff hcb, feasibleWithin_iff, ← Int.not_le]
  exact ⟨fun ⟨⟨h1, h2, h3⟩, hn⟩ => ⟨h1, h2, h3, fun h => hn ⟨h1, h2, h⟩⟩,
    fun ⟨h1, h2, h3, h4⟩ => ⟨⟨h1, h2, h3⟩, fun h => h4 h.2.2⟩⟩

/-- the two checkers agree on lists closed at the depot (in particular on every mask-generated episode) -/
theorem checkRepaired_eq_of_closed (i : Inst) (hd00 : i.D 0 0 = 0) {as : List Nat} (hc : ClosedAtDepot as) :
    checkRepaired i as = check i as := by
  simp only [checkRepaired, check, rollLen_depot_cons, rollLen_eq_tourLen i hd00 hc, tourLen]

/-- Non-vacuity: the witness of the finding, `[1, 2]` on `cexCheck`, is accepted by the shipped checker and
rejected by the repaired one. -/
example : checkRepaired cexCheck [1, 2] = false := by
  cases h : checkRepaired cexCheck [1, 2] with
  | false => rfl
  | true =>
    have := ((checkRepaired_iff cexCheck 672 (by intro j _; rfl) [1, 2]).mp h).length
    revert this; decide

end Rl4co.Op
