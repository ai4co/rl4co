/-
C06 for the multi-task VRP environment, the repaired checker: `checkR fx` is `check_solution_validity` with any subset
of its three known omissions repaired (`fx.order`: the linehaul/backhaul order is tested; `fx.openDepot`: the depot
deadline is not applied to open routes; `fx.finalLeg`: the trailing route's way back is replayed).
Each repair removes exactly its proviso; with all three the checker accepts exactly the feasible solutions.  A
maintainer's fix of one clause is verified by switching the
corresponding flag of the model on and re-running the correspondence.
-/
import Rl4co.Props.C06.Mtvrp

namespace Rl4co.Mtvrp
open Rl4co.Spec.Mtvrp

theorem checkR_none (i : Inst) (as : List Nat) : checkR ⟨false, false, false⟩ i as = check i as := by
  simp [checkR]

theorem feasible_snoc_zero (c : Cmp) (i : Inst) (as : List Nat) : FeasibleC c i (as ++ [0]) ↔ FeasibleC c i as := by
  have hcount : ∀ j, 1 ≤ j → (as ++ [0]).count j = as.count j := fun j hj => by
    rw [List.count_append, List.count_singleton, if_neg (by simp; omega), Nat.add_zero]
  constructor
  · rintro ⟨h1, h2, h3⟩
    exact ⟨fun a ha => h1 a (List.mem_append_left _ ha), fun j hj1 hj2 => hcount j hj1 ▸ h2 j hj1 hj2,
      fun r hr hne => h3 r (by rw [routes_append_zero]; exact List.mem_append_left _ hr) hne⟩
  · rintro ⟨h1, h2, h3⟩
    refine ⟨fun a ha => ?_, fun j hj1 hj2 => (hcount j hj1).symm ▸ h2 j hj1 hj2, fun r hr hne => ?_⟩
    · rcases List.mem_append.mp ha with h | h
      · exact h1 a h
      · rw [List.mem_singleton.1 h]; exact Nat.zero_le _
    · rw [routes_append_zero] at hr
      rcases List.mem_append.mp hr with h | h
      · exact h3 r h hne
      · exact absurd (List.mem_singleton.1 h) hne

/-- both settings of the open-depot repair as one record update: only `late 0` can differ from `i` -/
def relaxed (fd : Bool) (i : Inst) : Inst :=
  { i with late := fun j => if j = 0 ∧ fd = true ∧ i.openR = true then none else i.late j }

theorem repaired_eq (fd : Bool) (i : Inst) : (if fd then relaxDepot i else i) = relaxed fd i := by
  unfold relaxed relaxDepot
  by_cases h : fd = true ∧ i.openR = true
  · have : (fun j => if j = 0 ∧ fd = true ∧ i.openR = true then none else i.late j) =
        fun j => if j = 0 then none else i.late j := funext fun j => by simp only [h, and_true]
    rw [this, if_pos h.1, if_pos h.2]
  · have : (fun j => if j = 0 ∧ fd = true ∧ i.openR = true then none else i.late j) = i.late :=
      funext fun j => if_neg fun e => h e.2
    rw [this]
    cases fd
    · rfl
    · rw [if_pos rfl, if_neg fun ho => h ⟨rfl, ho⟩]

/-- `RestOk` looks at the deadlines of the customers of the route and, unless `ot`, of the depot -/
theorem restOk_congr_late (od ot : Bool) (i : Inst) (L : Nat → Option Int) (h0 : ot = true ∨ L 0 = i.late 0) :
    ∀ (r : List Nat) (cur : Nat) (t len : Int), (∀ a ∈ r, L a = i.late a) →
    (RestOk od ot { i with late := L } cur t len r ↔ RestOk od ot i cur t len r)
  | [], cur, t, len, _ => by
    show (_ ∧ (ot = true ∨ cmpInf .le _ (L 0) = true)) ↔ (_ ∧ (ot = true ∨ cmpInf .le _ (i.late 0) = true))
    rcases h0 with h | h
    · simp only [h, true_or]
    · rw [h]
  | a :: r, cur, t, len, h => by
    show (cmpInf .le _ (L a) = true ∧ _) ↔ _
    rw [h a List.mem_cons_self]
    exact and_congr_right fun _ =>
      restOk_congr_late od ot i L h0 r _ _ _ (fun b hb => h b (List.mem_cons_of_mem _ hb))

theorem routeOk_relaxed (fd : Bool) (i : Inst) {r : List Nat} (h0 : 0 ∉ r) :
    RouteOk .le (relaxed fd i) r ↔ RouteOk .le i r := by
  rw [routeOk_iff, routeOk_iff]
  refine and_congr_right fun _ => and_congr_right fun _ => and_congr_right fun _ => ?_
  refine restOk_congr_late i.openR i.openR i _ ?_ r 0 0 0 fun a ha =>
    if_neg fun (e : a = 0 ∧ _) => h0 (e.1 ▸ ha)
  cases ho : i.openR
  · exact Or.inr (if_neg fun (e : 0 = 0 ∧ fd = true ∧ false = true) => Bool.false_ne_true e.2.2)
  · exact Or.inl rfl

theorem slack_relaxed (i : Inst) (ho : i.openR = true) (j : Nat) : slackOk (relaxed true i) j = true := by
  show (match (if 0 = 0 ∧ true = true ∧ i.openR = true then none else i.late 0) with | none => true | some l0 => _) = true
  rw [if_pos (⟨rfl, rfl, ho⟩ : 0 = 0 ∧ true = true ∧ i.openR = true)]

theorem orderTest_iff (i : Inst) (as : List Nat) : orderTest i as = true ↔ ∀ r ∈ routes as, Ordered i r := by
  simp [orderTest, Ordered]

theorem feasible_repaired (fd ff : Bool) (i : Inst) (as : List Nat) :
    Feasible (relaxed fd i) (if ff then as ++ [0] else as) ↔ Feasible i as := by
  have h1 : ∀ bs, Feasible (relaxed fd i) bs ↔ Feasible i bs := fun bs =>
    ⟨FeasibleC.imp_route rfl fun r hr => (routeOk_relaxed fd i (routes_zero_free bs r hr)).1,
      FeasibleC.imp_route rfl fun r hr => (routeOk_relaxed fd i (routes_zero_free bs r hr)).2⟩
  rw [h1]
  cases ff
  · exact Iff.rfl
  · exact feasible_snoc_zero .le i as

theorem demWf_relaxed (fd : Bool) {i : Inst} (h : wf i = true) : DemWf (relaxed fd i) :=
  ⟨(demWf_of_wf h).cap, (demWf_of_wf h).depot, (demWf_of_wf h).nonneg⟩

/-- **each repair removes exactly its proviso (soundness)**: whatever subset of the repairs is switched on, an accepted
solution is feasible provided the provisos of the repairs NOT switched on hold -/
theorem checkR_sound (fx : Repairs) (i : Inst) (hwf : wf i = true) (as : List Nat)
    (hord : fx.order = true ∨ ∀ r ∈ routes as, Ordered i r)
    (hend : fx.finalLeg = true ∨ i.openR = true ∨ endsAtDepot as = true)
    (h : checkR fx i as = true) : Feasible i as := by
  rw [checkR, repaired_eq, Bool.and_eq_true] at h
  obtain ⟨h1, h2⟩ := h
  have hordI : ∀ r ∈ routes as, Ordered i r := by
    rcases hord with e | e
    · rw [e, if_pos rfl] at h1; exact (orderTest_iff i as).1 h1
    · exact e
  -- the un-repaired theorems on the repaired instance and list; all its fields but `late` are those of `i`
  refine (feasible_repaired fx.openDepot fx.finalLeg i as).1
    (feasible_of_accepted (i := relaxed fx.openDepot i) ?_ ?_ (accepted_of_check _ (demWf_relaxed _ hwf) _ h2))
  · show ∀ r ∈ routes _, Ordered i r
    cases fx.finalLeg
    · exact hordI
    · intro r hr
      rw [if_pos rfl, routes_append_zero] at hr
      rcases List.mem_append.mp hr with e | e
      · exact hordI r e
      · rw [List.mem_singleton.1 e]; exact List.Pairwise.nil
  · show i.openR = true ∨ _
    rcases hend with e | e | e
    · rw [e, if_pos rfl]; exact Or.inr (endsAtDepot_snoc as)
    · exact Or.inl e
    · cases fx.finalLeg
      · exact Or.inr e
      · exact Or.inr (endsAtDepot_snoc as)

/-- **each repair removes exactly its proviso (completeness)**: a feasible solution is accepted whatever repairs are on;
the depot-slack proviso for open routes is needed only while the open-route repair is off -/
theorem checkR_complete (fx : Repairs) (i : Inst) (hwf : wf i = true)
    (hstat : checkStatic (if fx.openDepot then relaxDepot i else i) = true)
    (hD : ∀ a b, 0 ≤ i.D a b) (h00 : i.D 0 0 = 0) (hT00 : i.T 0 0 = 0)
    (hslack : fx.openDepot = true ∨ (i.openR = true → ∀ j, 1 ≤ j → j ≤ i.n → slackOk i j = true))
    (as : List Nat) (hf : Feasible i as) : checkR fx i as = true := by
  rw [repaired_eq] at hstat
  rw [checkR, repaired_eq, Bool.and_eq_true]
  refine ⟨?_, check_of_accepted (relaxed fx.openDepot i) (demWf_relaxed _ hwf) hstat hD h00 hT00 _
    (accepted_of_feasible hstat hD hT00 ?_ ((feasible_repaired fx.openDepot fx.finalLeg i as).2 hf))⟩
  · cases fx.order
    · rfl
    · refine (orderTest_iff i as).2 fun r hr => ?_
      by_cases hne : r = []
      · rw [hne]; exact List.Pairwise.nil
      · exact (hf.route r hr hne).order
  · intro (ho : i.openR = true) j h1 h2
    rcases hslack with e | e
    · rw [e]; exact slack_relaxed i ho j
    · cases fx.openDepot
      · rw [← repaired_eq]; exact e ho j h1 h2
      · exact slack_relaxed i ho j

/-- **C06, the repaired checker is sound and complete.**  With the three omissions repaired — the linehaul/backhaul
order is tested, the depot deadline is not applied to open routes, and the way back of the trailing route is replayed
(a depot visit appended) — `check_solution_validity` accepts EXACTLY the feasible solutions, for every feature
valuation, any speed and every action list.  (`hstat`: the static data asserts, with the depot-return assert not
applied to open routes.) -/
theorem checkR_fixed_iff (i : Inst) (hwf : wf i = true) (hstat : checkStatic (relaxDepot i) = true)
    (hD : ∀ a b, 0 ≤ i.D a b) (h00 : i.D 0 0 = 0) (hT00 : i.T 0 0 = 0) (as : List Nat) :
    checkR ⟨true, true, true⟩ i as = true ↔ Feasible i as :=
  ⟨checkR_sound ⟨true, true, true⟩ i hwf as (Or.inl rfl) (Or.inl rfl),
    checkR_complete ⟨true, true, true⟩ i hwf hstat hD h00 hT00 (Or.inl rfl) as⟩

/-- the three counterexample instances of `Props/C06/Mtvrp.lean` are judged correctly by the repaired checker -/
example : checkR ⟨true, true, true⟩ ordInst [1, 2, 0] = false := by
  have : orderTest ordInst [1, 2, 0] = false := by decide
  simp [checkR, this]
example : checkReplay flInst 0 0 0 ([1, 2] ++ [0]) = false := by decide
example : checkReplay (relaxDepot opInst) 0 0 0 ([1, 0] ++ [0]) = true := by decide

end Rl4co.Mtvrp
