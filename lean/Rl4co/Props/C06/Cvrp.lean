/-
C06 for CVRP: the model of `CVRPEnv.check_solution_validity` (sort-and-compare + running load with
depot = −capacity, clamp at 0, tolerance) accepts every solution that is feasible by the independent
definition — whether or not it ever returns to the depot, with leading / repeated / trailing depot
visits — and every solution it accepts is feasible up to the tolerance.
-/
import Rl4co.Proofs.Sort
import Rl4co.Spec.Cvrp
import Rl4co.Proofs.VrpCanon

namespace Rl4co.Cvrp
open Rl4co.Spec.Cvrp

/-- feasible up to the checker's tolerance on the route loads -/
structure FeasibleWithin (tol : Int) (i : Inst) (as : List Nat) : Prop where
  range : ∀ a ∈ as, a ≤ i.n
  once  : ∀ j, 1 ≤ j → j ≤ i.n → as.count j = 1
  load  : ∀ r ∈ routes as, routeLoad i r ≤ i.cap + tol

/-- one step of the checker's running load: the depot carries `-cap`, the result is clamped at 0 -/
theorem checkLoads_cons_iff (i : Inst) (tol u : Int) (a : Nat) (as : List Nat) :
    checkLoads i tol u (a :: as) = true ↔
      max 0 (u + if a = 0 then -i.cap else i.demand a) ≤ i.cap + tol ∧
        checkLoads i tol (max 0 (u + if a = 0 then -i.cap else i.demand a)) as = true := by
  have hclamp : ∀ x : Int, (if x < 0 then 0 else x) = max 0 x := fun x => by omega
  simp only [checkLoads, hclamp, Params.cvrpCheckCapCmp, Cmp.eval, Bool.and_eq_true, decide_eq_true_eq]

theorem checkLoads_complete (i : Inst) (hd : ∀ j, 0 ≤ i.demand j) (tol : Int) (htol : 0 ≤ tol)
    (hcap : 0 ≤ i.cap) (as : List Nat) :
    ∀ u, 0 ≤ u → LoadsOk i.demand i.cap u as → checkLoads i tol u as = true := by
  induction as with
  | nil => intro u _ _; rfl
  | cons a as ih =>
    intro u hu hl
    rw [checkLoads_cons_iff]
    by_cases h0 : a = 0
    · subst h0
      obtain ⟨huc, hl'⟩ := loadsOk_zero_cons.1 hl
      rw [if_pos rfl, Int.max_eq_left (by omega)]
      exact ⟨Int.add_nonneg hcap htol, ih 0 (Int.le_refl 0) hl'⟩
    · rw [loadsOk_cons h0] at hl
      have hu' := Int.add_nonneg hu (hd a)
      rw [if_neg h0, Int.max_eq_right hu']
      exact ⟨Int.le_trans (hl.le fun x _ => hd x) (Int.le_add_of_nonneg_right htol), ih _ hu' hl⟩

theorem check_complete (i : Inst) (hd : ∀ j, 0 ≤ i.demand j) (hcap : 0 ≤ i.cap) (tol : Int)
    (htol : 0 ≤ tol) (as : List Nat) (hf : Feasible i as) : check i tol as = true := by
  rw [check, Bool.and_eq_true]
  exact ⟨(sortedTest_iff i.n as).2 ⟨hf.range, hf.once⟩,
    checkLoads_complete i hd tol htol hcap as 0 (Int.le_refl 0) (loadsOk_zero.2 hf.load)⟩

/-- the clamp `max 0 ·` only raises the running load: the checker's load is never below the true one, so its
capacity test implies the true one -/
theorem checkLoads_sound (i : Inst) (tol : Int) (as : List Nat) :
    ∀ u, u ≤ i.cap + tol → checkLoads i tol u as = true → LoadsOk i.demand (i.cap + tol) u as := by
  induction as with
  | nil => intro u hu _; exact loadsOk_nil.2 hu
  | cons a as ih =>
    intro u hu hc
    rw [checkLoads_cons_iff] at hc
    have := ih _ hc.1 hc.2
    by_cases h0 : a = 0
    · subst h0; exact loadsOk_zero_cons.2 ⟨hu, this.mono (Int.le_max_left _ _)⟩
    · rw [if_neg h0] at this
      exact (loadsOk_cons h0).2 (this.mono (Int.le_max_right _ _))

theorem feasibleWithin_of_check (i : Inst) (tol : Int) (htol : 0 ≤ i.cap + tol) (as : List Nat)
    (h : check i tol as = true) : FeasibleWithin tol i as := by
  rw [check, Bool.and_eq_true] at h
  obtain ⟨h1, h2⟩ := (sortedTest_iff i.n as).1 h.1
  exact ⟨h1, h2, loadsOk_zero.1 (checkLoads_sound i tol as 0 htol h.2)⟩

theorem check_sound (i : Inst) (hd : ∀ j, 0 ≤ i.demand j) (tol : Int) (htol : 0 ≤ i.cap + tol)
    (as : List Nat) (h : check i tol as = true) : FeasibleWithin tol i as :=
  feasibleWithin_of_check i tol htol as h

/-- a feasible solution that never returns to the depot and fills the vehicle exactly (through `check_complete`: the
kernel cannot evaluate the `mergeSort` inside `sortedTest`, so `check … = true` is not decided directly) -/
example : check ⟨2, 8, fun _ => 4, fun _ _ => 1⟩ 0 [1, 2] = true :=
  check_complete _ (by intro j; simp) (by decide) 0 (by decide) _ ((feasible_iff _ _).1 (by decide))
/-- … and an overloaded one is rejected (contrapositive of soundness). -/
example : check ⟨2, 8, fun _ => 5, fun _ _ => 1⟩ 0 [1, 2] ≠ true := by
  intro h
  have := (check_sound _ (by intro j; simp) 0 (by decide) _ h).load [1, 2] (by simp [routes])
  simp [routeLoad] at this

end Rl4co.Cvrp
