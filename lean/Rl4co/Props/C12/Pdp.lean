/-
C12, PDP clause: `PDPEnv.select_start_nodes` / `get_num_starts` (the environment's own override of the
start-node rule).  The override is the generic rule `Ops.startsOf B k 1 h` (pickups `1..h`), so the index laws of
`Props/C12/Select.lean` apply.  With `force_start_at_depot = True` the reset mask admits ONLY the depot while the
override still returns pickups: every forced start is infeasible (known finding).
-/
import Rl4co.Proofs.TspfamPdp
import Rl4co.Props.C12.Select

namespace Rl4co.Pdp
open Rl4co.Tspfam

theorem selectStartNodes_eq_startsOf (i : Inst) (B k : Nat) :
    selectStartNodes i B k = Ops.startsOf B k 1 i.h := by
  rw [selectStartNodes_eq]; rfl

theorem numStarts_eq_pickups (i : Inst) : numStarts i = i.h := numStarts_eq i

theorem starts_are_pickups (i : Inst) (hpos : 0 < i.h) (B k : Nat) :
    ∀ s ∈ selectStartNodes i B k, 1 ≤ s ∧ s ≤ i.h := by
  rw [selectStartNodes_eq_startsOf]
  intro s hs
  have := Ops.starts_in_range B k 1 i.h hpos s hs
  omega

theorem reset_mask_iff_pickup (i : Inst) (hf : i.force = false) (a : Nat) :
    env.mask i (env.reset i) a = true ↔ (1 ≤ a ∧ a ≤ i.h) := by
  rw [env_mask, show env.reset i = reset i from rfl, reset_amask i hf]
  by_cases h0 : a = 0
  · rw [if_pos h0, h0]
    exact ⟨fun h => absurd h (by decide), fun h => absurd h.1 (by decide)⟩
  · rw [if_neg h0, toDeliver0_eq, decide_eq_true_eq, Nat.lt_succ_iff]
    exact ⟨fun h => ⟨Nat.pos_of_ne_zero h0, h⟩, fun h => h.2⟩

/-- **C12 (PDP), starts are feasible first moves** (`force_start_at_depot = False`, `k ≤ get_num_starts`). -/
theorem starts_feasible (i : Inst) (hf : i.force = false) (B k b : Nat) (hb : b < B)
    (hk : k ≤ numStarts i) :
    ∀ s ∈ Ops.instStarts B k b (selectStartNodes i B k), env.mask i (env.reset i) s = true := by
  rw [selectStartNodes_eq_startsOf]
  rw [numStarts_eq] at hk
  exact Ops.starts_feasible_of_mask B k 1 i.h b hb hk (env.mask i (env.reset i))
    (fun a h1 h2 => (reset_mask_iff_pickup i hf a).mpr ⟨h1, by omega⟩)

/-- **C12 (PDP), starts of one instance are pairwise distinct** (`k ≤ get_num_starts`). -/
theorem starts_distinct (i : Inst) (B k b : Nat) (hb : b < B) (hk : k ≤ numStarts i) :
    (Ops.instStarts B k b (selectStartNodes i B k)).Nodup := by
  rw [selectStartNodes_eq_startsOf]
  rw [numStarts_eq] at hk
  exact Ops.starts_distinct B k 1 i.h b hb hk

/-- what the property demands under the forced depot start -/
def starts_feasible_force_statement : Prop :=
  ∀ (i : Inst), i.force = true → ∀ (B k b : Nat), b < B → k ≤ numStarts i →
    ∀ s ∈ Ops.instStarts B k b (selectStartNodes i B k), env.mask i (env.reset i) s = true

/-- … is false of the code: one pair, one start — the start is pickup 1, the reset mask admits only the depot. -/
theorem starts_feasible_force_counterexample : ¬ starts_feasible_force_statement := by
  intro h
  have := h ⟨1, true, fun _ _ => 0⟩ rfl 1 1 0 (by decide) (by rw [numStarts_eq]; decide) 1
    (by rw [selectStartNodes_eq_startsOf]; decide)
  simp [env, mask, reset] at this

/-- with the forced depot start NO selected start node is admitted by the reset mask -/
theorem starts_infeasible_force (i : Inst) (hf : i.force = true) (hpos : 0 < i.h) (B k : Nat) :
    ∀ s ∈ selectStartNodes i B k, env.mask i (env.reset i) s = false := by
  intro s hs
  exact (forced_mask i hf s).trans (decide_eq_false (Nat.ne_of_gt (starts_are_pickups i hpos B k s hs).1))

/-- Non-vacuity: 3 pairs, batch of 2, 3 starts: rows are forced to 1,1,2,2,3,3. -/
example : selectStartNodes ⟨3, false, fun _ _ => 0⟩ 2 3 = [1, 1, 2, 2, 3, 3] := by
  rw [selectStartNodes_eq]; decide

end Rl4co.Pdp
