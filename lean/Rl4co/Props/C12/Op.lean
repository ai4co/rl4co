/-
C12 ↔ C01 interface for OP.  `select_start_nodes` (OP branch, after the fix commit d560d2a of DESIGN §8.1; modelled in
`Rl4co/Train/Select.lean`, theorems in `Props/C12/Select.lean`) forces the first move of each of the `k`
rollouts of an instance.  Instantiated with the reset mask of THIS environment model, every forced
start is an admitted first move, so the forced rollout is a mask-confined run and everything proved
about mask-confined runs (C01 feasibility, C02 termination, C03 reward) applies to multi-start
rollouts of OP as well.
-/
import Rl4co.Props.C12.Select
import Rl4co.Props.C01.Op

namespace Rl4co.Op
open Rl4co.Spec.Op

theorem feasCount_pos_of_admitted (i : Inst) {c : Nat} (h1 : 1 ≤ c) (h2 : c ≤ i.n)
    (hm : env.mask i (env.reset i) c = true) :
    1 ≤ Rl4co.Ops.feasCount i.n (env.mask i (env.reset i)) :=
  cnt_pos.mpr ⟨c - 1, Nat.sub_one_lt_of_le h1 h2, by rw [Nat.sub_add_cancel h1]; exact hm⟩

/-- **C12/C01 interface (OP)**: every start node forced by `select_start_nodes` on the reset mask of the
model is an admitted first move — a one-step mask-confined run. -/
theorem forced_start_admitted (i : Inst) (k : Nat)
    (h1 : 1 ≤ Rl4co.Ops.feasCount i.n (env.mask i (env.reset i))) :
    ∀ s ∈ Rl4co.Ops.opInstStarts i.n k (env.mask i (env.reset i)),
      Run env i (env.reset i) [s] (env.step i (env.reset i) s) := by
  intro s hs
  obtain ⟨hs1, hs2, hm⟩ := Rl4co.Ops.op_starts_feasible i.n k (env.mask i (env.reset i)) h1 s hs
  exact Run.cons (by simp [env]; omega) hm (Run.nil _)

/-- hence every mask-confined continuation of a forced start is a feasible orienteering solution -/
theorem forced_rollout_feasible (i : Inst) (hwf : WF i) (k : Nat)
    (h1 : 1 ≤ Rl4co.Ops.feasCount i.n (env.mask i (env.reset i)))
    {s : Nat} (hs : s ∈ Rl4co.Ops.opInstStarts i.n k (env.mask i (env.reset i)))
    {as : List Nat} {st : State} (h : Run env i (env.step i (env.reset i) s) as st) :
    Feasible i (s :: as) := by
  have h0 := forced_start_admitted i k h1 s hs
  have := h0.append h
  exact feasible_of_run i hwf this

/-- Non-vacuity: on the example instance (budget 21, both customers at distance 10) both customers are
feasible starts and the two forced starts are `1, 2`. -/
example : Rl4co.Ops.opInstStarts exInst.n 2 (env.mask exInst (env.reset exInst)) = [1, 2] := by decide

end Rl4co.Op
