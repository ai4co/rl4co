/-
C12 for the multi-task VRP environment, the clause "forced start actions are feasible for their instance and pairwise
distinct per instance whenever at least k feasible starts exist": `MTVRPEnv.select_start_nodes` (its own override:
`arange(num_starts).repeat_interleave(B) % num_loc + 1`, modulus and offset extracted from the source).  Copy `s` of
instance `b` sits at row `s * B + b` of the k-major expanded batch and is forced to start at customer `s % n + 1`:
always a customer index in range; pairwise distinct per instance as long as `k ≤ n`; and, on a well-formed instance,
offered by the mask of the reset state — for every feature valuation (all 16 variants).
-/
import Rl4co.Proofs.MtvrpRun

namespace Rl4co.Mtvrp

theorem startNode_eq (n B idx : Nat) : startNode n B idx = (idx / B) % n + 1 := by
  simp [startNode, Params.mtvrpStartModIsNumLoc, Params.mtvrpStartOffset]

theorem startNode_row (n B s b : Nat) (hb : b < B) : startNode n B (s * B + b) = s % n + 1 := by
  rw [startNode_eq, idx_div hb]

theorem startNode_range (n B idx : Nat) (hn : 0 < n) : 1 ≤ startNode n B idx ∧ startNode n B idx ≤ n := by
  rw [startNode_eq]
  have := Nat.mod_lt (idx / B) hn
  omega

/-- **pairwise distinct per instance** whenever at least `k` starts exist (`k ≤ n`) -/
theorem startNode_distinct (n B k s s' b : Nat) (hk : k ≤ n) (hs : s < k) (hs' : s' < k) (hne : s ≠ s') (hb : b < B) :
    startNode n B (s * B + b) ≠ startNode n B (s' * B + b) := by
  rw [startNode_row n B s b hb, startNode_row n B s' b hb, Nat.mod_eq_of_lt (by omega), Nat.mod_eq_of_lt (by omega)]
  omega

/-- … and with more starts than customers they wrap around (the documented behaviour, not a defect) -/
example : startNode 3 2 (0 * 2 + 1) = startNode 3 2 (3 * 2 + 1) := by decide

/-- **forced starts are feasible**: on a well-formed instance the mask of the reset state offers the start node of
every row -/
theorem start_admitted (i : Inst) (hwf : wf i = true) (hn : 0 < i.n) (B idx : Nat) :
    startNode i.n B idx < env.nAct i ∧ env.mask i (env.reset i) (startNode i.n B idx) = true := by
  obtain ⟨h1, h2⟩ := startNode_range i.n B idx hn
  refine ⟨by simp only [env]; omega, ?_⟩
  have h0 : startNode i.n B idx ≠ 0 := by omega
  have := canVisit_of_fresh hwf (fresh_reset i) (s := reset i) rfl h1 h2 rfl
  simp [env, mask_def, h0, this]

/-- the forced first step keeps the episode inside the mask-confined runs the other properties speak about -/
theorem start_run (i : Inst) (hwf : wf i = true) (hn : 0 < i.n) (B idx : Nat) :
    Run env i (env.reset i) [startNode i.n B idx] (env.step i (env.reset i) (startNode i.n B idx)) := by
  obtain ⟨h1, h2⟩ := start_admitted i hwf hn B idx
  exact Run.cons h1 h2 (Run.nil _)

/-- non-vacuity / sanity: 2 instances, 3 starts, 3 customers: rows 0..5 start at 1,1,2,2,3,3 -/
example : startNodes 3 2 3 = [1, 1, 2, 2, 3, 3] := by decide

end Rl4co.Mtvrp
