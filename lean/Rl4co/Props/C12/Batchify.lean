/-
C12 — replicated rollouts keep their instance: the layout laws of `batchify` / `unbatchify`
(`rl4co/utils/ops.py`) for every batch size, every replication factor and every nesting of factors
(row `r` of an expansion is row `r % B` of the original; `unbatchify` is its inverse with the first factor as
fastest copy digit), for TensorDicts at every key path, the AM decoder's cache regrouping, and
`gather_by_index`.  No Mathlib.
-/
import Rl4co.Train.Batchify
import Rl4co.Core.Lists
namespace Rl4co.Ops
variable {α : Type}

theorem batchify_cons (x : Tens α) (k : Nat) (ks : List Nat) :
    batchify x (k :: ks) = batchifyStep (batchify x ks) k := by
  simp only [batchify, loopOrder, Params.opsLoopsReversed, if_true, List.reverse_cons, List.foldl_append,
    List.foldl_cons, List.foldl_nil]

theorem unbatchify_cons (x : Tens α) (k : Nat) (ks : List Nat) :
    unbatchify x (k :: ks) = unbatchifyStep (unbatchify x ks) k := by
  simp only [unbatchify, loopOrder, Params.opsLoopsReversed, if_true, List.reverse_cons, List.foldl_append,
    List.foldl_cons, List.foldl_nil]

@[simp] theorem batchify_nil (x : Tens α) : batchify x [] = x := rfl
@[simp] theorem unbatchify_nil (x : Tens α) : unbatchify x [] = x := rfl

theorem batchify_cons_pos {k : Nat} (hk : 0 < k) (x : Tens α) (ks : List Nat) :
    batchify x (k :: ks) = batchifySingle (batchify x ks) k := by
  rw [batchify_cons, batchifyStep, if_pos hk]

theorem batchify_cons_zero (x : Tens α) (ks : List Nat) : batchify x (0 :: ks) = batchify x ks :=
  batchify_cons x 0 ks

theorem unbatchify_cons_pos {k : Nat} (hk : 0 < k) (x : Tens α) (ks : List Nat) :
    unbatchify x (k :: ks) = unbatchifySingle (unbatchify x ks) k := by
  rw [unbatchify_cons, unbatchifyStep, if_pos hk]

theorem unbatchify_cons_zero (x : Tens α) (ks : List Nat) : unbatchify x (0 :: ks) = unbatchify x ks :=
  unbatchify_cons x 0 ks

theorem batchifySingle_shape (x : Tens α) (k n : Nat) (rest : List Nat) (h : x.shape = n :: rest) :
    (batchifySingle x k).shape = (n * k) :: rest := by
  rw [batchifySingle, h]

theorem batchifySingle_get (x : Tens α) (k n : Nat) (rest : List Nat) (h : x.shape = n :: rest)
    (r : Nat) (t : List Nat) : (batchifySingle x k).get (r :: t) = x.get ((r % n) :: t) := by
  rw [batchifySingle, h]

theorem mult_cons_pos {k : Nat} (hk : 0 < k) (ks : List Nat) : mult (k :: ks) = k * mult ks := by
  rw [mult, if_pos hk]

theorem mult_cons_zero (ks : List Nat) : mult (0 :: ks) = mult ks := by
  rw [mult, if_neg (Nat.lt_irrefl 0), Nat.one_mul]

theorem mult_pos (ks : List Nat) : 0 < mult ks := by
  induction ks with
  | nil => exact Nat.one_pos
  | cons k ks ih =>
    cases k with
    | zero => rw [mult_cons_zero]; exact ih
    | succ k => rw [mult_cons_pos (Nat.succ_pos k)]; exact Nat.mul_pos (Nat.succ_pos k) ih

/-- **C12 `batchify_row`** (any nesting, zero factors skipped as in the code). -/
theorem batchify_row (ks : List Nat) (x : Tens α) (B : Nat) (rest : List Nat)
    (h : x.shape = B :: rest) :
    (batchify x ks).shape = (B * mult ks) :: rest ∧
    ∀ r t, r < B * mult ks → (batchify x ks).get (r :: t) = x.get ((r % B) :: t) := by
  induction ks with
  | nil =>
    refine ⟨by rw [batchify_nil, h, mult, Nat.mul_one], fun r t hr => ?_⟩
    -- the only place where the value needs `r` bounded: with every factor skipped row `r` is row `r` itself
    rw [mult, Nat.mul_one] at hr
    rw [batchify_nil, Nat.mod_eq_of_lt hr]
  | cons k ks ih =>
    obtain ⟨ihs, ihg⟩ := ih
    cases k with
    | zero => rw [batchify_cons_zero, mult_cons_zero]; exact ⟨ihs, ihg⟩
    | succ k =>
      rw [batchify_cons_pos (Nat.succ_pos k), mult_cons_pos (Nat.succ_pos k), Nat.mul_left_comm]
      refine ⟨by rw [batchifySingle_shape _ _ _ _ ihs, Nat.mul_comm], fun r t hr => ?_⟩
      -- row `r` of the outer expansion is row `r % (B * mult ks)` of the inner one, and `B` divides that modulus
      have hpos : 0 < B * mult ks := Nat.pos_of_mul_pos_left (Nat.zero_lt_of_lt hr)
      rw [batchifySingle_get _ _ _ _ ihs, ihg _ _ (Nat.mod_lt _ hpos), Nat.mod_mul_right_mod]

theorem batchify_singleton (x : Tens α) (B S : Nat) (hS : 0 < S) (rest : List Nat) (h : x.shape = B :: rest) :
    (batchify x [S]).shape = (B * S) :: rest ∧
    ∀ r t, r < B * S → (batchify x [S]).get (r :: t) = x.get ((r % B) :: t) := by
  have := batchify_row [S] x B rest h
  rwa [mult_cons_pos hS, mult, Nat.mul_one] at this

theorem batchify_singleton_get (x : Tens α) (B S : Nat) (rest : List Nat) (h : x.shape = B :: rest)
    {j b : Nat} (hj : j < S) (hb : b < B) (t : List Nat) :
    (batchify x [S]).get ((j * B + b) :: t) = x.get (b :: t) := by
  rw [(batchify_singleton x B S (Nat.zero_lt_of_lt hj) rest h).2 _ t (Nat.mul_comm B S ▸ idx_lt hj hb), idx_mod hb]

theorem unbatchifySingle_shape (x : Tens α) (k n : Nat) (rest : List Nat) (h : x.shape = n :: rest) :
    (unbatchifySingle x k).shape = (n / k) :: k :: rest := by
  rw [unbatchifySingle, h]

theorem unbatchifySingle_get (x : Tens α) (k n : Nat) (rest : List Nat) (h : x.shape = n :: rest)
    (b j : Nat) (t : List Nat) :
    (unbatchifySingle x k).get (b :: j :: t) = x.get ((j * (n / k) + b) :: t) := by
  rw [unbatchifySingle, h]

def prod : List Nat → Nat
  | [] => 1
  | k :: ks => k * prod ks

/-- **C12 `unbatchify_layout`**: the exact index law of `unbatchify`, any nesting.
For `y : [B·k₁·…·kₘ, …]`, entry `[b][j₁]…[jₘ]` of `unbatchify y (k₁,…,kₘ)` is row
`b + B·(j₁ + k₁·(j₂ + k₂·(…)))` of `y` (first factor varies fastest among the copies). -/
theorem unbatchify_layout (ks : List Nat) (hpos : ∀ k ∈ ks, 0 < k) (y : Tens α) (B : Nat)
    (rest : List Nat) (h : y.shape = (B * prod ks) :: rest) :
    (unbatchify y ks).shape = B :: (ks ++ rest) ∧
    ∀ b js t, js.length = ks.length →
      (unbatchify y ks).get (b :: (js ++ t)) = y.get ((b + B * mixedRadix js ks) :: t) := by
  induction ks generalizing B with
  | nil =>
    refine ⟨by rw [unbatchify_nil, h, prod, Nat.mul_one]; rfl, fun b js t hl => ?_⟩
    rw [List.eq_nil_of_length_eq_zero hl, unbatchify_nil]
    rfl
  | cons k ks ih =>
    have hk : 0 < k := hpos k List.mem_cons_self
    -- the inner factors regroup `y` seen as `B * k` instances; the last step splits those into `B` and `k`
    obtain ⟨ihs, ihg⟩ := ih (fun k' hk' => hpos k' (List.mem_cons_of_mem _ hk')) (B * k)
      (by rw [h, prod, Nat.mul_assoc])
    rw [unbatchify_cons_pos hk]
    refine ⟨by rw [unbatchifySingle_shape _ _ _ _ ihs, Nat.mul_div_cancel _ hk]; rfl, fun b js t hl => ?_⟩
    match js, hl with
    | j :: js', hl =>
      rw [List.cons_append, unbatchifySingle_get _ _ _ _ ihs, ihg _ _ _ (Nat.succ.inj hl), Nat.mul_div_cancel _ hk,
        mixedRadix, Nat.mul_add, ← Nat.mul_assoc, Nat.mul_comm j B, Nat.add_comm (B * j) b, Nat.add_assoc]

theorem unbatchify_layout2 (y : Tens α) (B a s : Nat) (ha : 0 < a) (hs : 0 < s) (rest : List Nat)
    (h : y.shape = (B * (a * s)) :: rest) (b i j : Nat) (t : List Nat) :
    (unbatchify y [a, s]).get (b :: i :: j :: t) = y.get ((j * (a * B) + i * B + b) :: t) := by
  have hp : ∀ k ∈ [a, s], 0 < k := fun k hk => by
    rcases List.mem_cons.mp hk with rfl | hk
    · exact ha
    · exact (List.mem_singleton.mp hk) ▸ hs
  have := (unbatchify_layout [a, s] hp y B rest (by rw [h, prod, prod, prod, Nat.mul_one])).2 b [i, j] t rfl
  rw [show b :: i :: j :: t = b :: ([i, j] ++ t) from rfl, this]
  -- `b + B * (i + a * (j + s * 0))`, normalised to `copy * B + b` and spread out
  simp only [mixedRadix, Nat.mul_zero, Nat.add_zero]
  rw [flat_index, Nat.add_mul, Nat.add_comm (i * B), Nat.mul_comm a j, Nat.mul_assoc]

def Digits : List Nat → List Nat → Prop
  | [], [] => True
  | j :: js, k :: ks => j < k ∧ Digits js ks
  | _, _ => False

theorem Digits.length {js ks : List Nat} (h : Digits js ks) : js.length = ks.length := by
  fun_induction Digits js ks with
  | case1 => rfl
  | case2 j js k ks ih => exact congrArg Nat.succ (ih h.2)
  | case3 => exact h.elim

theorem mixedRadix_lt {js ks : List Nat} (h : Digits js ks) : mixedRadix js ks < prod ks := by
  fun_induction Digits js ks with
  | case1 => exact Nat.one_pos
  | case2 j js k ks ih =>
    show j + k * mixedRadix js ks < k * prod ks
    rw [flat_index, Nat.mul_comm k]
    exact idx_lt (ih h.2) h.1
  | case3 => exact h.elim

theorem mixedRadix_inj {js js' ks : List Nat} (h : Digits js ks) (h' : Digits js' ks)
    (he : mixedRadix js ks = mixedRadix js' ks) : js = js' := by
  fun_induction Digits js ks generalizing js' with
  | case1 =>
    cases js' with
    | nil => rfl
    | cons _ _ => exact h'.elim
  | case2 j js k ks ih =>
    cases js' with
    | nil => exact h'.elim
    | cons j' js' =>
      -- the lowest digit is the value mod `k`, the higher digits the quotient
      obtain ⟨rfl, hm⟩ := divmod_unique h.1 h'.1 he
      rw [ih h.2 h'.2 hm]
  | case3 => exact h.elim

/-- **C12 `unbatchify_instance`**: regrouping puts every row into the group of its instance
(`row % B`), loses no row and duplicates none (the digit ↦ row map is injective and in range). -/
theorem unbatchify_instance (ks : List Nat) (hpos : ∀ k ∈ ks, 0 < k) (y : Tens α) (B : Nat)
    (rest : List Nat) (h : y.shape = (B * prod ks) :: rest) (b : Nat) (hb : b < B) (js : List Nat)
    (hd : Digits js ks) (t : List Nat) :
    ∃ r, r < B * prod ks ∧ r % B = b ∧ r / B = mixedRadix js ks ∧
      (unbatchify y ks).get (b :: (js ++ t)) = y.get (r :: t) := by
  exact ⟨mixedRadix js ks * B + b, Nat.lt_of_lt_of_eq (idx_lt (mixedRadix_lt hd) hb) (Nat.mul_comm _ B), idx_mod hb, idx_div hb,
    flat_index B _ b ▸ (unbatchify_layout ks hpos y B rest h).2 b js t hd.length⟩

theorem mult_eq_prod (ks : List Nat) (hpos : ∀ k ∈ ks, 0 < k) : mult ks = prod ks := by
  induction ks with
  | nil => rfl
  | cons k ks ih =>
    rw [mult_cons_pos (hpos k List.mem_cons_self), prod, ih (fun k' hk' => hpos k' (List.mem_cons_of_mem _ hk'))]

/-- **C12 `unbatchify_batchify`**: expansion followed by its inverse is the identity — every copy
slice `[·][j₁]…[jₘ]` of `unbatchify (batchify x ks) ks` is `x` itself (any nesting). -/
theorem unbatchify_batchify (ks : List Nat) (hpos : ∀ k ∈ ks, 0 < k) (x : Tens α) (B : Nat)
    (rest : List Nat) (h : x.shape = B :: rest) :
    (unbatchify (batchify x ks) ks).shape = B :: (ks ++ rest) ∧
    ∀ b js t, b < B → Digits js ks →
      (unbatchify (batchify x ks) ks).get (b :: (js ++ t)) = x.get (b :: t) := by
  obtain ⟨hs, hg⟩ := batchify_row ks x B rest h
  rw [mult_eq_prod ks hpos] at hs hg
  refine ⟨(unbatchify_layout ks hpos _ B rest hs).1, fun b js t hb hd => ?_⟩
  obtain ⟨r, hr, hm, _, he⟩ := unbatchify_instance ks hpos _ B rest hs b hb js hd t
  rw [he, hg r t hr, hm]

/-- factors `0` are skipped by both loops (`… if s > 0 else x`), e.g. POMO's `(n_aug = 0, n_start)` -/
theorem unbatchify_skip_zero (x : Tens α) (ks : List Nat) :
    unbatchify x ks = unbatchify x (ks.filter (· > 0)) := by
  induction ks with
  | nil => rfl
  | cons k ks ih =>
    cases k with
    | zero => rw [List.filter_cons_of_neg (by decide), unbatchify_cons_zero, ih]
    | succ k => rw [List.filter_cons_of_pos (by simp), unbatchify_cons, unbatchify_cons, ih]

theorem batchify_skip_zero (x : Tens α) (ks : List Nat) :
    batchify x ks = batchify x (ks.filter (· > 0)) := by
  induction ks with
  | nil => rfl
  | cons k ks ih =>
    cases k with
    | zero => rw [List.filter_cons_of_neg (by decide), batchify_cons_zero, ih]
    | succ k => rw [List.filter_cons_of_pos (by simp), batchify_cons, batchify_cons, ih]

theorem unbatchify_singleton (x : Tens α) {k : Nat} (hk : 0 < k) : unbatchify x [k] = unbatchifySingle x k := by
  rw [unbatchify_cons_pos hk, unbatchify_nil]

theorem unbatchify_singleton_get (x : Tens α) (B k : Nat) (hk : 0 < k) (rest : List Nat)
    (h : x.shape = (B * k) :: rest) (b j : Nat) (t : List Nat) :
    (unbatchify x [k]).get (b :: j :: t) = x.get ((j * B + b) :: t) := by
  rw [unbatchify_singleton x hk, unbatchifySingle_get _ _ _ _ h, Nat.mul_div_cancel _ hk]

theorem unbatchify_singleton_shape (x : Tens α) (B k : Nat) (hk : 0 < k) (rest : List Nat)
    (h : x.shape = (B * k) :: rest) : (unbatchify x [k]).shape = B :: k :: rest := by
  rw [unbatchify_singleton x hk, unbatchifySingle_shape _ _ _ _ h, Nat.mul_div_cancel _ hk]

/-- **AM decoder cache regrouping**: `rearrange(f(unbatchify(td, S)), "b s … -> (s b) …")` puts
the value computed for row `r` back at row `r` (`unbatchify` then flatten-back is the identity). -/
theorem rearrange_unbatchify (y : Tens α) (B S : Nat) (hS : 0 < S) (rest : List Nat)
    (h : y.shape = (B * S) :: rest) :
    (rearrangeSB (unbatchify y [S])).shape = (S * B) :: rest ∧
    ∀ r t, (rearrangeSB (unbatchify y [S])).get (r :: t) = y.get (r :: t) := by
  have hs := unbatchify_singleton_shape y B S hS rest h
  refine ⟨by rw [rearrangeSB, hs], fun r t => ?_⟩
  rw [rearrangeSB, hs]
  exact (unbatchify_singleton_get y B S hS rest h _ _ t).trans (by rw [Nat.div_add_mod'])

theorem unbatchifyAndGather_get (x : Tens α) (B k : Nat) (hk : 0 < k) (rest : List Nat)
    (h : x.shape = (B * k) :: rest) (idx : Nat → Nat) :
    (unbatchifyAndGather x idx k).shape = B :: rest ∧
    ∀ b t, (unbatchifyAndGather x idx k).get (b :: t) = x.get ((idx b * B + b) :: t) := by
  have hs := unbatchify_singleton_shape x B k hk rest h
  refine ⟨by rw [unbatchifyAndGather, gatherDim1, hs], fun b t => ?_⟩
  rw [unbatchifyAndGather, gatherDim1, hs]
  exact unbatchify_singleton_get x B k hk rest h b (idx b) t

/-- **C12 `batchifyTD_row`**: for a TensorDict, at EVERY key path (nested entries included), row `r` of the
expansion is row `r % B` of the original. -/
theorem batchifyTD_row (ks : List Nat) (td : TD α) (B : Nat) (rest : List String → List Nat)
    (h : ∀ path, (td path).shape = B :: rest path) (path : List String) :
    ((batchifyTD td ks) path).shape = (B * mult ks) :: rest path ∧
    ∀ r t, r < B * mult ks → ((batchifyTD td ks) path).get (r :: t) = (td path).get ((r % B) :: t) :=
  batchify_row ks (td path) B (rest path) (h path)

/-- **C12 `unbatchifyTD_batchifyTD`**: expansion followed by its inverse is the identity at every key path. -/
theorem unbatchifyTD_batchifyTD (ks : List Nat) (hpos : ∀ k ∈ ks, 0 < k) (td : TD α) (B : Nat)
    (rest : List String → List Nat) (h : ∀ path, (td path).shape = B :: rest path) (path : List String) :
    ((unbatchifyTD (batchifyTD td ks) ks) path).shape = B :: (ks ++ rest path) ∧
    ∀ b js t, b < B → Digits js ks →
      ((unbatchifyTD (batchifyTD td ks) ks) path).get (b :: (js ++ t)) = (td path).get (b :: t) :=
  unbatchify_batchify ks hpos (td path) B (rest path) (h path)

/-- **AM decoder, static embeddings** (with the extracted `unbatchify(td, num_starts)` and
`"b s l -> (s b) l"`): what is computed for row `r` of the regrouped state lands at row `r` again. -/
theorem am_static_roundtrip (y : Tens α) (B S : Nat) (hS : 0 < S) (rest : List Nat)
    (h : y.shape = (B * S) :: rest) :
    (amFlatten (amRegroup y S)).shape = (S * B) :: rest ∧
    ∀ r t, (amFlatten (amRegroup y S)).get (r :: t) = y.get (r :: t) := by
  rw [amFlatten, amRegroup, if_pos (show Params.amFlattenReplicaMajor = true from rfl),
    if_pos (show Params.amStaticUnbatchify = true from rfl)]
  exact rearrange_unbatchify y B S hS rest h

/-- **AM decoder, dynamic embeddings**: the cache row that meets state row `r` of the `S`-fold expanded
batch is the cache of instance `r % B` — the same law as the state's own expansion (`batchify_row`). -/
theorem am_dynamic_pairing (c : Tens α) (B S : Nat) (hS : 0 < S) (rest : List Nat) (h : c.shape = B :: rest) :
    (cacheBatchify c S).shape = (B * S) :: rest ∧
    ∀ r t, r < B * S → (cacheBatchify c S).get (r :: t) = c.get ((r % B) :: t) := by
  rw [cacheBatchify, if_pos (show Params.amCacheUsesBatchify = true from rfl)]
  exact batchify_singleton c B S hS rest h

theorem replicateSite_pairing (x : Tens α) (B S : Nat) (hS : 0 < S) (rest : List Nat) (h : x.shape = B :: rest) :
    (replicateSite true x S).shape = (B * S) :: rest ∧
    ∀ r t, r < B * S → (replicateSite true x S).get (r :: t) = x.get ((r % B) :: t) :=
  batchify_singleton x B S hS rest h

/-- **C12 `zoo_replication_pairing`**: every multi-start replication site of the policy zoo outside the AM decoder
(L2D's encoder embeddings, the non-autoregressive heat-map index, MatNet/FFSP's state, EAS's state) expands
start-major like the decoding state itself: the row that meets state row `r` belongs to instance `r % B`. -/
theorem zoo_replication_pairing (x : Tens α) (B S : Nat) (hS : 0 < S) (rest : List Nat) (h : x.shape = B :: rest) :
    (∀ r t, r < B * S → (l2dHidden x S).get (r :: t) = x.get ((r % B) :: t)) ∧
    (∀ r t, r < B * S → (narIndex x S).get (r :: t) = x.get ((r % B) :: t)) ∧
    (∀ r t, r < B * S → (matnetTd x S).get (r :: t) = x.get ((r % B) :: t)) ∧
    (∀ r t, r < B * (S + 1) → (easTd x S).get (r :: t) = x.get ((r % B) :: t)) := by
  -- each site is `replicateSite` with its extracted token, and every token says `batchify`
  have hl : l2dHidden x S = replicateSite true x S := by rw [l2dHidden, Params.l2dHiddenUsesBatchify]
  have hn : narIndex x S = replicateSite true x S := by rw [narIndex, Params.narIndexUsesBatchify]
  have hm : matnetTd x S = replicateSite true x S := by rw [matnetTd, Params.matnetTdUsesBatchify]
  have he : easTd x S = replicateSite true x (S + 1) := by rw [easTd, Params.easTdUsesBatchify]
  rw [hl, hn, hm, he]
  exact ⟨(replicateSite_pairing x B S hS rest h).2, (replicateSite_pairing x B S hS rest h).2,
    (replicateSite_pairing x B S hS rest h).2, (replicateSite_pairing x B (S + 1) (Nat.succ_pos S) rest h).2⟩

/-- the instance-major form pairs state row `r` (instance `r % B`) with the embeddings of instance `r / S`:
two instances, two starts — row 1 (instance 1) meets instance 0's embeddings -/
theorem replicateSite_instance_major_mismatch :
    (replicateSite false (iota 2) 2).flat = [0, 0, 1, 1] ∧ (replicateSite true (iota 2) 2).flat = [0, 1, 0, 1] := by
  decide

/-- **`gather_by_index`, when the step dimension survives**: for `src : [B, N, …]`, `idx : [B, S]` the result is
`[B, S, …]` with `[b][s] = src[b][idx b s]` iff `S ≠ 1` or `squeeze = False` … -/
theorem gatherIdx_step_survives (src : Tens α) (B N S : Nat) (rest : List Nat) (h : src.shape = B :: N :: rest)
    (idx : Nat → Nat → Nat) (squeeze : Bool) (hs : S ≠ 1 ∨ squeeze = false) :
    (gatherIdx src S idx squeeze).shape = B :: S :: rest ∧
    ∀ b s t, (gatherIdx src S idx squeeze).get (b :: s :: t) = src.get (b :: idx b s :: t) := by
  have hc : ((S == Params.opsGatherSqueezeSize) && squeeze) = false := by
    rcases hs with hs | hs
    · rw [Params.opsGatherSqueezeSize, beq_false_of_ne hs, Bool.false_and]
    · rw [hs, Bool.and_false]
  rw [gatherIdx, h, hc]
  exact ⟨rfl, fun _ _ _ => rfl⟩

/-- … and a single step with `squeeze = True` LOSES it: the result is `[B, …]`. -/
theorem gatherIdx_step_lost (src : Tens α) (B N : Nat) (rest : List Nat) (h : src.shape = B :: N :: rest)
    (idx : Nat → Nat → Nat) :
    (gatherIdx src 1 idx true).shape = B :: rest ∧
    ∀ b t, (gatherIdx src 1 idx true).get (b :: t) = src.get (b :: idx b 0 :: t) := by
  rw [gatherIdx, h]
  exact ⟨rfl, fun _ _ => rfl⟩

/-- the default call (`squeeze=True`, `dim=1`) on a one-step index therefore drops the step dimension (the root
of upstream fix f2d5960); passing `squeeze=False` keeps it for every `S` -/
theorem gatherIdx_default_one_step (src : Tens α) (B N : Nat) (rest : List Nat) (h : src.shape = B :: N :: rest)
    (idx : Nat → Nat → Nat) :
    (gatherIdxDefault src 1 idx).shape = B :: rest ∧
    ∀ S, (gatherIdx src S idx false).shape = B :: S :: rest := by
  refine ⟨?_, fun S => (gatherIdx_step_survives src B N S rest h idx false (Or.inr rfl)).1⟩
  rw [gatherIdxDefault, if_pos (show Params.opsGatherDimDefault == 1 from rfl), Params.opsGatherSqueezeDefault]
  exact (gatherIdx_step_lost src B N rest h idx).1

example : (batchify (iota 2) [2, 3]).flat = [0, 1, 0, 1, 0, 1, 0, 1, 0, 1, 0, 1] := by decide
-- the hypotheses of `unbatchify_layout` / `unbatchify_batchify` hold of the examples around
example : (iota 2).shape = 2 :: [] := rfl
example : ∀ k ∈ [2, 3], 0 < k := by decide
example : (iota 12).shape = (2 * prod [2, 3]) :: [] := by decide
example : Digits [1, 2] [2, 3] := by simp [Digits]
/-- `unbatchify (0..11) (2,3)` is `[B=2][a=2][s=3]` with entry `[b][i][j] = j·4 + i·2 + b` -/
example : (unbatchify (iota 12) [2, 3]).flat = [0, 4, 8, 2, 6, 10, 1, 5, 9, 3, 7, 11] := by decide
example : (unbatchify (iota 12) [2, 3]).shape = [2, 2, 3] := by decide
example : (unbatchify (batchify (iota 2) [2, 3]) [2, 3]).flat = [0, 0, 0, 0, 0, 0, 1, 1, 1, 1, 1, 1] := by
  decide
example : (unbatchify (iota 6) [0, 3]).flat = (unbatchify (iota 6) [3]).flat := by decide
example : (rearrangeSB (unbatchify (iota 6) [3])).flat = (iota 6).flat := by decide

end Rl4co.Ops
