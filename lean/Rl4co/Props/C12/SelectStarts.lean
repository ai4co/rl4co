/-
Multi-start interface of the selection environments (C12 clause "forced start nodes are feasible and
distinct", instantiated for this family through `Rl4co.Ops`).

`FLPEnv` / `MCPEnv` override `get_num_starts` (= mask width) and `select_start_nodes`
(`arange(k).repeat_interleave(B) % width`): `Ops.envRule "flp" = Ops.envRule "mcp" = (0, nAct)`.
For every `k ≤ n` the forced starts of every instance are `0 … k-1`: pairwise distinct, offered by the
reset mask, and each can be completed to a feasible selection (so no forced row is a dead end).

`DPPEnv` / `MDPPEnv` do NOT override them: the generic rule forces cells `1 … k` regardless of the
keep-out / probe layout (and `get_num_starts` = number of cells, so the default `k` forces the
non-existent cell `n`): `Dpp.forced_start_not_offered`, `Dpp.default_start_out_of_range`.
-/
import Rl4co.Props.C12.Select
import Rl4co.Props.C05.Flp
import Rl4co.Props.C05.Mcp
import Rl4co.Env.Dpp

namespace Rl4co

/-- all indices below `n` but `s` -/
theorem cnt_ne (n s : Nat) (hs : s < n) : cnt n (fun j => j != s) + 1 = n := by
  -- switching one index off an all-true predicate lowers the count by one (`cnt_upd_false`)
  have h1 : cnt n (upd (fun _ : Nat => true) s false) + 1 = cnt n (fun _ => true) := cnt_upd_false hs rfl
  have h2 : cnt n (fun j => j != s) = cnt n (upd (fun _ : Nat => true) s false) :=
    cnt_congr (fun j _ => by by_cases h : j = s <;> simp [upd, h])
  rw [cnt_true, ← h2] at h1
  exact h1

/-- `q` is the quota of FLP / MCP, whose feasible solutions are the duplicate-free selections of `q` indices below `n` -/
theorem zero_rule_start_completes {n B k b s : Nat} {q : Int} (hb : b < B) (hk : k ≤ n) (hq1 : 1 ≤ q) (hqn : q ≤ n)
    (hs : s ∈ Ops.instStarts B k b (Ops.startsOf B k 0 n)) :
    s < n ∧ ∃ as, ((s :: as).length : Int) = q ∧ (s :: as).Nodup ∧ ∀ a ∈ s :: as, a < n := by
  have hrange : s < n :=
    Nat.lt_of_lt_of_le ((Ops.mem_starts_prefix hb hk).mp hs).2 ((Nat.zero_add k).symm ▸ hk)
  have hq0 : 0 ≤ q := Int.le_trans (by decide) hq1
  -- the start is followed by any selection of `q - 1` among the `n - 1` other indices
  obtain ⟨as, h1, h2, h3⟩ := exists_selection (n := n) (p := fun j => j != s) (q := q.toNat - 1)
    (Nat.sub_le_of_le_add (Nat.le_trans (Int.toNat_le.mpr hqn) (Nat.le_of_eq (cnt_ne n s hrange).symm)))
  refine ⟨hrange, as, ?_, List.nodup_cons.mpr ⟨fun h => bne_iff_ne.mp (h3 s h).2 rfl, h2⟩, fun a ha => ?_⟩
  · rw [List.length_cons, h1, Nat.sub_add_cancel ((Int.le_toNat hq0).mpr hq1)]
    exact Int.toNat_of_nonneg hq0
  · rcases List.mem_cons.mp ha with rfl | h
    · exact hrange
    · exact (h3 a h).1

namespace Flp
open Ops

/-- **forced starts (FLP)**: with `k ≤ n` starts, the forced first actions of instance `b` are pairwise
distinct, each is offered by the reset mask, and each extends to a complete feasible episode. -/
theorem forced_starts_ok (i : Inst) (hwf : WF i) (B k b : Nat) (hb : b < B) (hk : k ≤ i.n) :
    let sel := instStarts B k b (startsOf B k (envRule "flp" 0 i.n 0).1 (envRule "flp" 0 i.n 0).2)
    sel.Nodup ∧ ∀ s ∈ sel, s < env.nAct i ∧ env.mask i (env.reset i) s = true ∧
      ∃ as st, RunND env i (env.reset i) (s :: as) st ∧ env.done i st = true := by
  rw [envRule_flp]
  refine ⟨starts_distinct B k 0 i.n b hb hk, fun s hs => ?_⟩
  obtain ⟨hrange, as, h1, h2, h3⟩ := zero_rule_start_completes hb hk hwf.1 hwf.2 hs
  obtain ⟨st, hr, hd⟩ := run_of_feasible i hwf ⟨h1, h2, h3⟩
  exact ⟨hrange, rfl, as, st, hr, hd⟩

end Flp

namespace Mcp
open Ops

/-- **forced starts (MCP)**: the same statement with the sets as choices. -/
theorem forced_starts_ok (i : Inst) (hwf : WF i) (B k b : Nat) (hb : b < B) (hk : k ≤ i.nSets) :
    let sel := instStarts B k b (startsOf B k (envRule "mcp" 0 i.nSets 0).1 (envRule "mcp" 0 i.nSets 0).2)
    sel.Nodup ∧ ∀ s ∈ sel, s < env.nAct i ∧ env.mask i (env.reset i) s = true ∧
      ∃ as st, RunND env i (env.reset i) (s :: as) st ∧ env.done i st = true := by
  rw [envRule_mcp]
  refine ⟨starts_distinct B k 0 i.nSets b hb hk, fun s hs => ?_⟩
  obtain ⟨hrange, as, h1, h2, h3⟩ := zero_rule_start_completes hb hk hwf.1 hwf.2 hs
  obtain ⟨st, hr, hd⟩ := run_of_feasible i hwf ⟨h1, h2, h3⟩
  exact ⟨hrange, rfl, as, st, hr, hd⟩

end Mcp

namespace Dpp
open Ops

/-- the rule DPP / MDPP fall under (no override, generator without `num_loc`): cells `1 … k` -/
theorem rule : envRule "dpp" 0xFFFFFFFF 0 0 = (1, 0xFFFFFFFF) ∧ envRule "mdpp" 0xFFFFFFFF 0 0 = (1, 0xFFFFFFFF) :=
  ⟨(dpp_rule 0 0).1, (dpp_rule 0 0).2.1⟩

/-- a forced start of DPP / MDPP that the reset mask does not offer: whenever one of the cells `1 … k`
is a keep-out cell or a probing port, it is forced nevertheless -/
theorem forced_start_not_offered (i : Inst) (B k b : Nat) (hb : b < B) (hk : k ≤ 0xFFFFFFFF)
    (a : Nat) (ha : 1 ≤ a) (hak : a < 1 + k) (hmask : env.mask i (env.reset i) a = false) :
    ∃ s ∈ instStarts B k b (startsOf B k 1 0xFFFFFFFF), env.mask i (env.reset i) s = false :=
  start_infeasible_of_mask B k 1 0xFFFFFFFF b hb hk (env.mask i (env.reset i)) a ha hak hmask

/-- with the default number of starts (`get_num_starts` = number of cells `n`) the last forced start is
the cell index `n`, outside the action range `0 … n-1` -/
theorem default_start_out_of_range (n B b : Nat) (hb : b < B) (hn : 0 < n) (hle : n ≤ 0xFFFFFFFF) :
    n ∈ instStarts B n b (startsOf B n 1 0xFFFFFFFF) :=
  (mem_starts_prefix hb hle).mpr ⟨hn, Nat.lt_add_of_pos_left Nat.one_pos⟩

example : getNumStarts "dpp" 9 = 9 := by decide

end Dpp
end Rl4co
