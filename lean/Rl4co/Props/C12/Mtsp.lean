/-
C12 from the mTSP side: which forced multi-start nodes the mTSP reset mask admits.

`MTSPGenerator.num_loc` counts the depot, so the reset mask has width `num_loc = n + 1` and the customers
are `1..n`.  The generic `select_start_nodes` gives row `r` of the `k`-fold batch the node
`(r / B) % num_loc + 1` (`Ops.startsOf`, `Ops.envRule "mtsp"`).  `starts_admitted_iff`: ALL forced
starts are valid actions that the reset mask offers **iff** `k ≤ n` — in particular for the default
`k = get_num_starts = n` (`default_starts_admitted`), and never for `k = num_loc` (the finding
`mtsp-start-out-of-range-C12` of the ops family).  Together with C05 (`run_of_feasible`) every admitted
start is the first action of a finished episode.

Also: an instance whose `num_agents` is a draw of the generator (`randint(min, max + 1)`) with
`min_num_agents ≥ 1` satisfies the well-formedness hypothesis `1 ≤ m` of the mTSP theorems.
-/
import Rl4co.Proofs.Mtsp
import Rl4co.Props.C12.Select
import Rl4co.Gen.Routing

namespace Rl4co.Mtsp
open Rl4co.Ops

/-- the rule the generic code applies to mTSP: offset 1, modulus `generator.num_loc = n + 1` -/
theorem envRule_mtsp (i : Inst) (a l : Nat) : envRule "mtsp" (i.n + 1) a l = (1, i.n + 1) :=
  Ops.envRule_mtsp (i.n + 1) a l

/-- `get_num_starts` for mTSP: mask width minus the depot = number of customers -/
theorem getNumStarts_mtsp (i : Inst) : envGetNumStarts "mtsp" (env.nAct i) (i.n + 1) = i.n := by
  simp [envGetNumStarts_table, env]

/-- **All `k·B` forced start nodes are in range and offered by the reset mask iff `k ≤ n`.** -/
theorem starts_admitted_iff (i : Inst) (B k : Nat) (hB : 0 < B) :
    (∀ s ∈ startsOf B k 1 (i.n + 1), s < env.nAct i ∧ env.mask i (env.reset i) s = true) ↔ k ≤ i.n := by
  constructor
  · intro h
    -- copy `n` (rows `n·B …`) would start at node `n + 1`, which is out of range
    apply Nat.le_of_not_lt
    intro hk
    have hmem : i.n + 1 ∈ startsOf B k 1 (i.n + 1) :=
      mem_startsOf.mpr ⟨i.n * B, Nat.mul_lt_mul_of_lt_of_le hk (Nat.le_refl B) hB, by
        rw [Nat.mul_div_cancel _ hB, Nat.mod_eq_of_lt (Nat.lt_succ_self _)]⟩
    exact Nat.lt_irrefl _ (h _ hmem).1
  · intro hk s hs
    exact ⟨depot_starts_lt B k (i.n + 1) (i.n + 1) hB (Nat.succ_le_succ hk) s hs,
      decide_eq_true (Nat.ne_of_gt (starts_in_range B k 1 (i.n + 1) (Nat.succ_pos _) s hs).1)⟩

theorem default_starts_admitted (i : Inst) (B : Nat) (hB : 0 < B) :
    ∀ s ∈ startsOf B (envGetNumStarts "mtsp" (env.nAct i) (i.n + 1))
        (envRule "mtsp" (i.n + 1) (env.nAct i) (i.n + 1)).1 (envRule "mtsp" (i.n + 1) (env.nAct i) (i.n + 1)).2,
      s < env.nAct i ∧ env.mask i (env.reset i) s = true := by
  rw [getNumStarts_mtsp, envRule_mtsp]
  exact (starts_admitted_iff i B i.n hB).mpr (Nat.le_refl _)

/-- generator-facing well-formedness: a `num_agents` drawn by `torch.randint(min_num_agents, max_num_agents + 1)`
with `min_num_agents ≥ 1` gives an instance with at least one agent (and at most `max_num_agents`) -/
theorem agents_of_generator (i : Inst) (lo hi : Int) (h : Gen.randintInclusiveOk lo hi (i.m : Int) = true)
    (hlo : 1 ≤ lo) : 1 ≤ i.m ∧ (i.m : Int) ≤ hi := by
  simp only [Gen.randintInclusiveOk, decide_eq_true_eq] at h
  omega

/-- Non-vacuity: 3 customers, batch 2: the default 3 starts per instance are the customers 1, 2, 3. -/
example : startsOf 2 3 1 4 = [1, 1, 2, 2, 3, 3] := by decide

end Rl4co.Mtsp
