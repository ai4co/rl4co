/-
C12 — forced start nodes and best-of-k selection (model: `Rl4co/Train/Select.lean`).  The generic start rule and the
overrides of PDP / MTVRP / FLP / MCP are `startsOf B k lo m` (`envRule_table`): row `j·B+b` is forced to `(j mod m) + lo`.
OP has its own rule (feasible customers in ascending order, cycling; upstream d560d2a), FJSP / JSSP draw their starts
(`sample_n_random_actions`, known only through the relation `sampleNOk`).  Best-of-k: `_select_best` is correct for every
tie-breaking of `max` (`IsArgmax`); `get_best_actions` and SymNCO's gather are not, with counterexamples and the cases in
which they are.  No Mathlib.
-/
import Rl4co.Train.Select
import Rl4co.Props.C12.Batchify
namespace Rl4co.Ops

theorem startsOf_length (B k lo m : Nat) : (startsOf B k lo m).length = k * B := by
  rw [startsOf, List.length_map, List.length_range]

theorem starts_row (B k lo m r : Nat) (hr : r < k * B) :
    (startsOf B k lo m).getD r 0 = (r / B) % m + lo :=
  getD_map_range _ hr 0

theorem mem_startsOf {B k lo m s : Nat} : s ∈ startsOf B k lo m ↔ ∃ r, r < k * B ∧ (r / B) % m + lo = s := by
  rw [startsOf, List.mem_map]
  exact exists_congr fun r => and_congr_left' List.mem_range

theorem instStarts_startsOf (B k lo m b : Nat) (hb : b < B) :
    instStarts B k b (startsOf B k lo m) = (List.range k).map (fun j => j % m + lo) :=
  List.map_congr_left fun j hj => by
    rw [starts_row B k lo m _ (idx_lt (List.mem_range.mp hj) hb), idx_div hb]

/-- **C12 `starts_prefix`**: when `k ≤ m` (number of startable indices) every instance is forced to
exactly the index prefix `lo, lo+1, …, lo+k-1`. -/
theorem starts_prefix (B k lo m b : Nat) (hb : b < B) (hk : k ≤ m) :
    instStarts B k b (startsOf B k lo m) = (List.range k).map (fun j => j + lo) := by
  rw [instStarts_startsOf B k lo m b hb]
  exact List.map_congr_left fun j hj => by
    rw [Nat.mod_eq_of_lt (Nat.lt_of_lt_of_le (List.mem_range.mp hj) hk)]

theorem mem_starts_prefix {B k lo m b s : Nat} (hb : b < B) (hk : k ≤ m) :
    s ∈ instStarts B k b (startsOf B k lo m) ↔ lo ≤ s ∧ s < lo + k := by
  rw [starts_prefix B k lo m b hb hk, List.mem_map]
  constructor
  · rintro ⟨j, hj, rfl⟩
    exact ⟨Nat.le_add_left lo j, Nat.add_comm lo k ▸ Nat.add_lt_add_right (List.mem_range.mp hj) lo⟩
  · rintro ⟨h1, h2⟩
    exact ⟨s - lo, List.mem_range.mpr (Nat.sub_lt_left_of_lt_add h1 h2), Nat.sub_add_cancel h1⟩

theorem starts_distinct (B k lo m b : Nat) (hb : b < B) (hk : k ≤ m) :
    (instStarts B k b (startsOf B k lo m)).Nodup := by
  rw [starts_prefix B k lo m b hb hk]
  exact List.Pairwise.map _ (fun _ _ (h : _ < _) => Nat.ne_of_lt (Nat.add_lt_add_right h lo)) List.pairwise_lt_range

theorem starts_in_range (B k lo m : Nat) (hm : 0 < m) :
    ∀ s ∈ startsOf B k lo m, lo ≤ s ∧ s < lo + m := by
  intro s hs
  obtain ⟨r, _, rfl⟩ := mem_startsOf.mp hs
  exact ⟨Nat.le_add_left lo _, Nat.add_comm lo m ▸ Nat.add_lt_add_right (Nat.mod_lt (r / B) hm) lo⟩

/-- **C12 `starts_feasible_of_mask`** (interface to the environment families): if the reset mask of
instance `b` admits the index prefix `lo … lo+k-1`, every forced start of `b` is feasible. -/
theorem starts_feasible_of_mask (B k lo m b : Nat) (hb : b < B) (hk : k ≤ m) (mask : Nat → Bool)
    (hmask : ∀ a, lo ≤ a → a < lo + k → mask a = true) :
    ∀ s ∈ instStarts B k b (startsOf B k lo m), mask s = true := fun s hs =>
  hmask s ((mem_starts_prefix hb hk).mp hs).1 ((mem_starts_prefix hb hk).mp hs).2

/-- conversely the forced starts ARE that prefix, so a mask that rejects one of `lo … lo+k-1` makes a
forced start infeasible, however many other feasible starts exist -/
theorem start_infeasible_of_mask (B k lo m b : Nat) (hb : b < B) (hk : k ≤ m) (mask : Nat → Bool)
    (a : Nat) (ha : lo ≤ a) (ha' : a < lo + k) (hmask : mask a = false) :
    ∃ s ∈ instStarts B k b (startsOf B k lo m), mask s = false :=
  ⟨a, (mem_starts_prefix hb hk).mpr ⟨ha, ha'⟩, hmask⟩

/-- more starts than startable indices always repeats one (the hypothesis `k ≤ m` is needed) -/
theorem starts_dup_of_gt (B k lo m b : Nat) (hb : b < B) (hm : 0 < m) (hk : m < k) :
    ¬ (instStarts B k b (startsOf B k lo m)).Nodup := by
  rw [instStarts_startsOf B k lo m b hb, List.Nodup, List.pairwise_map]
  intro hnd
  -- copies `0` and `m` are both forced to `lo`
  have := List.pairwise_iff_getElem.mp hnd 0 m (List.length_range ▸ Nat.lt_trans hm hk) (List.length_range ▸ hk) hm
  rw [List.getElem_range, List.getElem_range, Nat.zero_mod, Nat.mod_self] at this
  exact this rfl

/-- **translator tie of the generic rule**: the expression the code evaluates (expander, `arange`
start, modulus, offset — all regenerated from `utils/ops.py`) is `startsOf` with `lo = 1` for depot
environments and `lo = 0` otherwise. -/
theorem genericStartsCode_eq (B k g : Nat) :
    genericStartsCode true B k g = startsOf B k 1 g ∧ genericStartsCode false B k g = startsOf B k 0 g := by
  simp [genericStartsCode, startsOf, Params.opsDepotInterleave, Params.opsNoDepotInterleave,
    Params.opsDepotArangeStart, Params.opsDepotModAdd, Params.opsDepotPlus]

/-- every env rule is an instance of `startsOf`, so `starts_row / starts_distinct / starts_in_range /
starts_feasible_of_mask` apply to all of them; the table of `(lo, m)`: -/
theorem envRule_table (g a l : Nat) :
    envRule "tsp" g a l = (0, g) ∧ envRule "atsp" g a l = (0, g) ∧
    envRule "flp" g a l = (0, a) ∧ envRule "mcp" g a l = (0, a) ∧
    envRule "pdp" g a l = (1, (l - 1) / 2) ∧ envRule "mtvrp" g a l = (1, l - 1) ∧
    envRule "cvrp" g a l = (1, g) ∧ envRule "cvrptw" g a l = (1, g) ∧ envRule "sdvrp" g a l = (1, g) ∧
    envRule "svrp" g a l = (1, g) ∧ envRule "pctsp" g a l = (1, g) ∧
    envRule "spctsp" g a l = (1, g) ∧ envRule "mtsp" g a l = (1, g) ∧ envRule "mdcpdp" g a l = (1, g) := by
  simp [envRule, genericRule, Params.opsNoDepotStartEnvs]

theorem envRule_flp (g a l : Nat) : envRule "flp" g a l = (0, a) := by simp only [envRule_table]
theorem envRule_mcp (g a l : Nat) : envRule "mcp" g a l = (0, a) := by simp only [envRule_table]
theorem envRule_mtsp (g a l : Nat) : envRule "mtsp" g a l = (1, g) := by simp only [envRule_table]

/-- `env.get_num_starts` on mask width `a` and `l` rows of `locs`: the pickups for PDP, the width less the depot for the
environments of `depotList`, the full width for every other name -/
theorem envGetNumStarts_table (a l : Nat) :
    envGetNumStarts "pdp" a l = (l - 1) / 2 ∧
    envGetNumStarts "cvrp" a l = a - 1 ∧ envGetNumStarts "pctsp" a l = a - 1 ∧
    envGetNumStarts "op" a l = a - 1 ∧ envGetNumStarts "mtsp" a l = a - 1 ∧
    envGetNumStarts "tsp" a l = a ∧ envGetNumStarts "flp" a l = a ∧
    envGetNumStarts "mtvrp" a l = a ∧ envGetNumStarts "svrp" a l = a ∧
    envGetNumStarts "dpp" a l = a ∧ envGetNumStarts "mdpp" a l = a := by
  simp [envGetNumStarts, getNumStarts, depotList, Params.opsNumStartsDepotEnvs]

/-- the default number of starts never exceeds the number of startable indices for the environments
`get_num_starts` knows about (`n` customers, generator's `num_loc = n`, mask width `n + 1`, `locs`
incl. depot `n + 1`; TSP-likes: width `n`) … -/
theorem default_starts_le :
    (∀ n, envGetNumStarts "cvrp" (n + 1) (n + 1) ≤ (envRule "cvrp" n (n + 1) (n + 1)).2) ∧
    (∀ n, envGetNumStarts "pctsp" (n + 1) (n + 1) ≤ (envRule "pctsp" n (n + 1) (n + 1)).2) ∧
    (∀ n, envGetNumStarts "pdp" (n + 1) (n + 1) ≤ (envRule "pdp" n (n + 1) (n + 1)).2) ∧
    (∀ n, envGetNumStarts "tsp" n n ≤ (envRule "tsp" n n n).2) ∧
    (∀ n, envGetNumStarts "flp" n n ≤ (envRule "flp" n n n).2) := by
  simp [envRule_table, envGetNumStarts_table]

/-- … but for depot environments it does not know (`svrp`, `mtvrp`, `mdcpdp`, …) the default is the
full mask width `n + 1 > n`: node 1 is forced twice. -/
theorem default_starts_gt :
    (∀ n, (envRule "mtvrp" n (n + 1) (n + 1)).2 < envGetNumStarts "mtvrp" (n + 1) (n + 1)) ∧
    (∀ n, (envRule "svrp" n (n + 1) (n + 1)).2 < envGetNumStarts "svrp" (n + 1) (n + 1)) := by
  simp [envRule_table, envGetNumStarts_table]

theorem depot_starts_lt (B k m n : Nat) (hB : 0 < B) (hk : k + 1 ≤ n) : ∀ s ∈ startsOf B k 1 m, s < n := by
  intro s hs
  obtain ⟨r, hr, rfl⟩ := mem_startsOf.mp hs
  exact Nat.lt_of_lt_of_le (Nat.succ_lt_succ
    (Nat.lt_of_le_of_lt (Nat.mod_le _ _) ((Nat.div_lt_iff_lt_mul hB).mpr hr))) hk

/-- mTSP: the generator's `num_loc = n` counts the depot, the reset mask has width `n` (customers
`1..n-1`), and the generic rule is `(j mod n) + 1`.  Claim: every forced start is an action index. -/
def mtsp_starts_in_mask_statement : Prop :=
  ∀ (n B k : Nat), 0 < B → ∀ s ∈ startsOf B k (envRule "mtsp" n n n).1 (envRule "mtsp" n n n).2, s < n

/-- `num_loc = 3` (two customers), `num_starts = 3`: the third forced start is index 3 of a width-3 mask. -/
theorem mtsp_starts_in_mask_counterexample : ¬ mtsp_starts_in_mask_statement := by
  intro h
  exact Nat.lt_irrefl 3 (h 3 1 3 (by decide) 3 (by decide))

theorem mtsp_starts_in_mask_partial (n B k : Nat) (hB : 0 < B) (hk : k + 1 ≤ n) :
    ∀ s ∈ startsOf B k (envRule "mtsp" n n n).1 (envRule "mtsp" n n n).2, s < n := by
  rw [envRule_mtsp]
  exact depot_starts_lt B k n n hB hk

/-- SMTWTP: the generator has no `num_loc` (modulus `0xFFFFFFFF`), the mask has width `n + 1` (dummy job 0
plus `n` jobs) and `get_num_starts` is not told about it, so the DEFAULT number of starts is `n + 1`. -/
def smtwtp_starts_in_mask_statement : Prop :=
  ∀ (n B : Nat), 0 < B → n + 1 < 0xFFFFFFFF →
    ∀ s ∈ startsOf B (envGetNumStarts "smtwtp" (n + 1) (n + 1))
      (envRule "smtwtp" 0xFFFFFFFF (n + 1) (n + 1)).1 (envRule "smtwtp" 0xFFFFFFFF (n + 1) (n + 1)).2, s < n + 1

/-- two jobs: default `num_starts = 3`, forced starts 1, 2, 3 — index 3 does not exist. -/
theorem smtwtp_starts_in_mask_counterexample : ¬ smtwtp_starts_in_mask_statement := by
  intro h
  exact Nat.lt_irrefl 3 (h 2 1 (by decide) (by decide) 3 (by decide))

theorem smtwtp_starts_in_mask_partial (n B k : Nat) (hB : 0 < B) (hk : k ≤ n) (hn : n < 0xFFFFFFFF) :
    ∀ s ∈ startsOf B k (envRule "smtwtp" 0xFFFFFFFF (n + 1) (n + 1)).1
      (envRule "smtwtp" 0xFFFFFFFF (n + 1) (n + 1)).2, s < n + 1 := by
  have hr : envRule "smtwtp" 0xFFFFFFFF (n + 1) (n + 1) = (1, 0xFFFFFFFF) := by
    simp [envRule, genericRule, Params.opsNoDepotStartEnvs]
  rw [hr]
  exact depot_starts_lt B k 0xFFFFFFFF (n + 1) hB (Nat.succ_le_succ hk)

/-- DPP / MDPP do not override the multi-start functions: generic depot rule with the generator lacking
`num_loc`, although every cell `0 … n-1` is an action and keep-out / probe cells are masked at reset. -/
theorem dpp_rule (a l : Nat) :
    envRule "dpp" 0xFFFFFFFF a l = (1, 0xFFFFFFFF) ∧ envRule "mdpp" 0xFFFFFFFF a l = (1, 0xFFFFFFFF) ∧
    envGetNumStarts "dpp" a l = a ∧ envGetNumStarts "mdpp" a l = a := by
  simp [envRule, genericRule, Params.opsNoDepotStartEnvs, envGetNumStarts_table]

/-- claim: with the default number of starts (= number of cells `n`) every forced start is a cell index -/
def dpp_starts_in_mask_statement : Prop :=
  ∀ (n B : Nat), 0 < B → n < 0xFFFFFFFF →
    ∀ s ∈ startsOf B (envGetNumStarts "dpp" n n) (envRule "dpp" 0xFFFFFFFF n n).1 (envRule "dpp" 0xFFFFFFFF n n).2, s < n

/-- 3×3 grid: default `num_starts = 9` forces the cells 1 … 9 — cell 9 does not exist. -/
theorem dpp_starts_in_mask_counterexample : ¬ dpp_starts_in_mask_statement := by
  intro h
  exact Nat.lt_irrefl 9 (h 9 1 (by decide) (by decide) 9 (by decide))

theorem dpp_starts_in_mask_partial (n B k : Nat) (hB : 0 < B) (hk : k + 1 ≤ n) :
    ∀ s ∈ startsOf B k (envRule "dpp" 0xFFFFFFFF n n).1 (envRule "dpp" 0xFFFFFFFF n n).2, s < n := by
  rw [(dpp_rule n n).1]
  exact depot_starts_lt B k 0xFFFFFFFF n hB hk

/-- claim: the forced starts are offered by the reset mask whenever `k` offered cells exist -/
def dpp_starts_offered_statement : Prop :=
  ∀ (n B k b : Nat) (mask : Nat → Bool), b < B → k ≤ ((List.range n).filter mask).length →
    ∀ s ∈ instStarts B k b (startsOf B k (envRule "dpp" 0xFFFFFFFF n n).1 (envRule "dpp" 0xFFFFFFFF n n).2), mask s = true

/-- 3×3 grid with keep-out cell 2 (8 offered cells), `k = 3`: cells 1, 2, 3 are forced. -/
theorem dpp_starts_offered_counterexample : ¬ dpp_starts_offered_statement := by
  intro h
  have := h 9 1 3 0 (fun j => j != 2) (by decide) (by decide) 2 (by decide)
  revert this; decide

theorem dpp_starts_offered_partial (n B k b : Nat) (mask : Nat → Bool) (hb : b < B) (hk : k ≤ 0xFFFFFFFF)
    (hmask : ∀ a, 1 ≤ a → a < 1 + k → mask a = true) :
    ∀ s ∈ instStarts B k b (startsOf B k (envRule "dpp" 0xFFFFFFFF n n).1 (envRule "dpp" 0xFFFFFFFF n n).2), mask s = true := by
  rw [(dpp_rule n n).1]
  exact starts_feasible_of_mask B k 1 0xFFFFFFFF b hb hk mask hmask

/-- the other depot environments wrap back onto customer 1: with `m = ` number of customers every forced
start stays within `1..m` for EVERY `k` (so `num_starts`/beam width > `num_loc` repeats feasible customers) -/
theorem generic_starts_wrap (B k m : Nat) (hm : 0 < m) :
    ∀ s ∈ startsOf B k 1 m, 1 ≤ s ∧ s ≤ m := by
  intro s hs
  have := starts_in_range B k 1 m hm s hs
  exact ⟨this.1, Nat.le_of_lt_succ (Nat.lt_of_lt_of_eq this.2 (Nat.add_comm 1 m))⟩

theorem feasCount_eq (n : Nat) (mask : Nat → Bool) : feasCount n mask = (opFeas n mask).length := rfl

theorem opFeas_mem {n : Nat} {mask : Nat → Bool} {x : Nat} (h : x ∈ opFeas n mask) :
    x < n ∧ mask (x + 1) = true :=
  ⟨List.mem_range.mp (List.mem_filter.mp h).1, (List.mem_filter.mp h).2⟩

theorem opPick_eq (n : Nat) (mask : Nat → Bool) (j : Nat) (h1 : 1 ≤ feasCount n mask) :
    ∃ h : j % feasCount n mask < (opFeas n mask).length,
      opPick n mask j = (opFeas n mask)[j % feasCount n mask] + 1 := by
  have hlt : j % feasCount n mask < (opFeas n mask).length := Nat.mod_lt _ h1
  refine ⟨hlt, ?_⟩
  rw [opPick, if_pos (show Params.opsOpCountPerInstance = true from rfl), Params.opsOpClampMin, Nat.max_eq_right h1,
    opOrder, if_pos (show Params.opsOpArgsortStable = true from rfl), List.getD_eq_getElem?_getD,
    List.getElem?_append_left hlt, List.getElem?_eq_getElem hlt]
  rfl

/-- **C12 `op_starts_feasible`**: every forced start is a customer `1..n` that is feasible for its own
instance, whenever the instance has at least one feasible customer (any `k`, any batch-mates). -/
theorem op_starts_feasible (n k : Nat) (mask : Nat → Bool) (h1 : 1 ≤ feasCount n mask) :
    ∀ s ∈ opInstStarts n k mask, 1 ≤ s ∧ s ≤ n ∧ mask s = true := by
  intro s hs
  obtain ⟨j, _, rfl⟩ := List.mem_map.mp hs
  obtain ⟨hlt, he⟩ := opPick_eq n mask j h1
  rw [he]
  exact ⟨Nat.le_add_left 1 _, (opFeas_mem (List.getElem_mem hlt)).1, (opFeas_mem (List.getElem_mem hlt)).2⟩

theorem opInstStarts_eq_take (n k : Nat) (mask : Nat → Bool) (hk : k ≤ feasCount n mask) :
    opInstStarts n k mask = ((opFeas n mask).take k).map (· + 1) := by
  apply List.ext_getElem
  · rw [opInstStarts, List.length_map, List.length_range, List.length_map, List.length_take, ← feasCount_eq,
      Nat.min_eq_left hk]
  · intro j h1 _
    have hj : j < k := by rwa [opInstStarts, List.length_map, List.length_range] at h1
    obtain ⟨hlt, he⟩ := opPick_eq n mask j (Nat.lt_of_le_of_lt (Nat.zero_le j) (Nat.lt_of_lt_of_le hj hk))
    simp only [opInstStarts, List.getElem_map, List.getElem_range, he, List.getElem_take,
      Nat.mod_eq_of_lt (Nat.lt_of_lt_of_le hj hk)]

/-- **C12 `op_starts_distinct`**: with at least `k` feasible customers the `k` forced starts of the
instance are pairwise distinct (they are its first `k` feasible customers). -/
theorem op_starts_distinct (n k : Nat) (mask : Nat → Bool) (hk : k ≤ feasCount n mask) :
    (opInstStarts n k mask).Nodup := by
  rw [opInstStarts_eq_take n k mask hk]
  exact List.Pairwise.map _ (fun _ _ h e => h (Nat.succ.inj e))
    (List.Nodup.sublist (List.take_sublist _ _) (List.nodup_range.filter _))

/-- **C12 `op_starts_eq_generic`**: when all customers are feasible the fixed rule is identical to the
generic depot rule `(j mod n) + 1` (what every other depot environment, and OP before the fix, uses). -/
theorem op_starts_eq_generic (n k : Nat) (mask : Nat → Bool) (hn : 1 ≤ n)
    (hall : ∀ j, j < n → mask (j + 1) = true) :
    opInstStarts n k mask = (List.range k).map (fun j => j % n + 1) := by
  have hF : opFeas n mask = List.range n :=
    List.filter_eq_self.mpr (fun j hj => hall j (List.mem_range.mp hj))
  have hc : feasCount n mask = n := by rw [feasCount_eq, hF, List.length_range]
  refine List.map_congr_left fun j _ => ?_
  obtain ⟨_, he⟩ := opPick_eq n mask j (hc.symm ▸ hn)
  rw [he]
  simp only [hF, hc, List.getElem_range]

theorem op_starts_eq_generic' (B n k b : Nat) (hb : b < B) (mask : Nat → Bool) (hn : 1 ≤ n)
    (hall : ∀ j, j < n → mask (j + 1) = true) :
    opInstStarts n k mask = instStarts B k b (startsOf B k 1 n) := by
  rw [op_starts_eq_generic n k mask hn hall, instStarts_startsOf B k 1 n b hb]

/-- **C12 `op_starts_row`**: row `j·B + b` of the batched result is copy `j` of instance `b` — the starts
of an instance depend on its own mask only (no batch-global test). -/
theorem op_starts_row (n k : Nat) (masks : List (Nat → Bool)) (b : Nat) (hb : b < masks.length) :
    instStarts masks.length k b (opStarts n k masks) =
      opInstStarts n k (masks.getD b (fun _ => false)) :=
  List.map_congr_left fun j hj => by
    rw [opStarts, getD_map_range _ (idx_lt (List.mem_range.mp hj) hb), if_pos (show Params.opsOpReplicaMajor = true from rfl),
      idx_mod hb, idx_div hb]

theorem op_default_starts (n : Nat) : envGetNumStarts "op" (n + 1) (n + 1) = n := by
  simp [envGetNumStarts_table]

/-- **C12 `hookRule_eq_envRule`**: the forced starts of `DecodingStrategy.pre_decoder_hook` (multistart) and of
`BeamSearch.pre_decoder_hook` (beam search) are those of the environment's own `select_start_nodes` method —
the overrides of PDP / MTVRP / FLP / MCP (and OP's feasible-node rule) are not bypassed. -/
theorem hookRule_eq_envRule (beam : Bool) (env : String) (g a l : Nat) : hookRule beam env g a l = envRule env g a l := by
  cases beam <;> simp [hookRule, Params.decBeamEnvSelect, Params.decMultistartEnvSelect]

/-- where the distinction matters: the generic helper would give PDP all `num_loc` nodes instead of its pickups -/
example : genericRule "pdp" 6 = (1, 6) ∧ envRule "pdp" 6 7 7 = (1, 3) := by
  simp [genericRule, envRule, Params.opsNoDepotStartEnvs]

theorem sampleNRows_eq (B n b : Nat) (sel : List Nat) : sampleNRows B n b sel = instStarts B n b sel :=
  if_pos (show Params.opsSampleNReplicaMajor = true from rfl)

/-- **C12 `sampleN_rows`**: whatever `sample_n_random_actions` draws (relation `sampleNOk`), the `n` forced
actions found at rows `j·B + b` — the rows of instance `b` under the k-major expansion — are feasible for
instance `b`, and pairwise distinct unless the batch-global replacement branch was taken. -/
theorem sampleN_rows (w n : Nat) (masks : List (Nat → Bool)) (sel : List Nat)
    (hok : sampleNOk w n masks sel = true) (b : Nat) (hb : b < masks.length) :
    (∀ s ∈ instStarts masks.length n b sel, s < w ∧ (masks.getD b (fun _ => false)) s = true) ∧
    (sampleNReplace w n masks = false → nodupB (instStarts masks.length n b sel) = true) := by
  simp only [sampleNOk, Bool.and_eq_true, Bool.or_eq_true] at hok
  obtain ⟨⟨_, hall⟩, hd⟩ := hok
  have hb' := List.all_eq_true.mp hall b (List.mem_range.mpr hb)
  rw [sampleNRows_eq] at hb'
  refine ⟨fun s hs => ?_, fun hr => ?_⟩
  · have := List.all_eq_true.mp hb' s hs
    rwa [Bool.and_eq_true, decide_eq_true_eq] at this
  · rcases hd with hd | hd
    · rw [hr] at hd; exact absurd hd Bool.false_ne_true
    · have := List.all_eq_true.mp hd b (List.mem_range.mpr hb)
      rwa [sampleNRows_eq] at this

/-- **C12 `fjsp_starts_rows`**: the forced starts of `FJSPEnv` / `JSSPEnv.select_start_nodes` (which delegates to
`sample_n_random_actions`, extracted) found at rows `j·B + b` are feasible actions of instance `b`, and pairwise
distinct whenever every instance of the batch has at least `n` feasible first actions (no replacement). -/
theorem fjsp_starts_rows (w n : Nat) (masks : List (Nat → Bool)) (sel : List Nat)
    (hok : fjspStartsOk w n masks sel = true) (b : Nat) (hb : b < masks.length) :
    (∀ s ∈ instStarts masks.length n b sel, s < w ∧ (masks.getD b (fun _ => false)) s = true) ∧
    (sampleNReplace w n masks = false → nodupB (instStarts masks.length n b sel) = true) := by
  rw [fjspStartsOk, if_pos (show Params.fjspStartsDelegate = true from rfl)] at hok
  exact sampleN_rows w n masks sel hok b hb

/-- what is assumed of the tie-breaking of `Tensor.max(dim)`: it returns *an* index of a maximum -/
def IsArgmax (am : (Nat → Int) → Nat → Nat) : Prop :=
  ∀ f k, 0 < k → am f k < k ∧ ∀ j, j < k → f j ≤ f (am f k)

/-- a left-to-right scan that, at entry `k`, either moves to `k` or stays, and never lowers the value it holds,
returns an index of a maximum: whatever it does on ties -/
theorem IsArgmax.of_step {am : (Nat → Int) → Nat → Nat} (h0 : ∀ f, am f 0 = 0)
    (hstep : ∀ f k, (am f (k + 1) = k ∨ am f (k + 1) = am f k) ∧ f (am f k) ≤ f (am f (k + 1)) ∧ f k ≤ f (am f (k + 1))) :
    IsArgmax am := by
  intro f
  -- after `k` entries the scan holds a position below `k` (position `0` before the first entry) whose value bounds them all
  have key : ∀ k, am f k ≤ k - 1 ∧ ∀ j, j < k → f j ≤ f (am f k) := by
    intro k
    induction k with
    | zero => exact ⟨Nat.le_of_eq (h0 f), fun j hj => absurd hj (Nat.not_lt_zero j)⟩
    | succ k ih =>
      obtain ⟨hm, hkeep, hv⟩ := hstep f k
      refine ⟨?_, fun j hj => ?_⟩
      · rcases hm with h | h
        · exact Nat.le_of_eq h
        · exact h ▸ Nat.le_trans ih.1 (Nat.sub_le k 1)
      · rcases Nat.lt_succ_iff_lt_or_eq.mp hj with hj' | rfl
        · exact Int.le_trans (ih.2 j hj') hkeep
        · exact hv
  exact fun k hk => ⟨Nat.lt_of_le_of_lt (key k).1 (Nat.sub_lt hk Nat.one_pos), (key k).2⟩

theorem argmaxFirst_succ (f : Nat → Int) (k : Nat) :
    argmaxFirst f (k + 1) = if f (argmaxFirst f k) < f k then k else argmaxFirst f k := rfl

theorem argmaxLast_succ (f : Nat → Int) (k : Nat) :
    argmaxLast f (k + 1) = if f (argmaxLast f k) ≤ f k then k else argmaxLast f k := rfl

theorem argmaxFirst_isArgmax : IsArgmax argmaxFirst :=
  IsArgmax.of_step (fun _ => rfl) fun f k => by
    rw [argmaxFirst_succ]
    split
    · rename_i h; exact ⟨Or.inl rfl, Int.le_of_lt h, Int.le_refl _⟩
    · rename_i h; exact ⟨Or.inr rfl, Int.le_refl _, Int.not_lt.mp h⟩

theorem argmaxLast_isArgmax : IsArgmax argmaxLast :=
  IsArgmax.of_step (fun _ => rfl) fun f k => by
    rw [argmaxLast_succ]
    split
    · rename_i h; exact ⟨Or.inl rfl, h, Int.le_refl _⟩
    · rename_i h; exact ⟨Or.inr rfl, Int.le_refl _, Int.le_of_lt (Int.not_le.mp h)⟩

/-- **C12 `select_best_correct`**: for every batch size `B`, every `k ≥ 1`, every reward vector and
every tie-breaking of `max`: `_select_best` returns for instance `b` the maximum reward among its own
`k` rollouts (rows `j·B + b`), and the actions / log-probabilities / TensorDict row it returns are
those of that very rollout `j* = bestIdx`. -/
theorem select_best_correct (am : (Nat → Int) → Nat → Nat) (ham : IsArgmax am) (rew : Tens Int)
    (B k : Nat) (hk : 0 < k) (hr : rew.shape = [B * k]) (b : Nat) :
    bestIdx am rew k b < k ∧
    (∀ j, j < k → rew.get [j * B + b] ≤ rew.get [bestIdx am rew k b * B + b]) ∧
    (selectBest am rew rew k).get [b] = rew.get [bestIdx am rew k b * B + b] ∧
    (∀ (α : Type) (x : Tens α) (rest : List Nat), x.shape = (B * k) :: rest →
      (selectBest am rew x k).shape = B :: rest ∧
      ∀ t, (selectBest am rew x k).get (b :: t) = x.get ((bestIdx am rew k b * B + b) :: t)) := by
  have hget : ∀ j, (unbatchify rew [k]).get [b, j] = rew.get [j * B + b] :=
    fun j => unbatchify_singleton_get rew B k hk [] hr b j []
  obtain ⟨h1, h2⟩ := ham (fun j => (unbatchify rew [k]).get [b, j]) k hk
  refine ⟨h1, fun j hj => ?_, (unbatchifyAndGather_get rew B k hk [] hr _).2 b [], fun α x rest hx =>
    ⟨(unbatchifyAndGather_get x B k hk rest hx _).1, fun t => (unbatchifyAndGather_get x B k hk rest hx _).2 b t⟩⟩
  rw [← hget, ← hget]
  exact h2 j hj

/-- what `get_best_actions(actions, max_idxs)` is meant to return (first action shown; the full claim
would be the whole sequence): the actions of rollout `max_idxs b` of instance `b` -/
def get_best_actions_statement : Prop :=
  ∀ (B k L : Nat) (actions : Tens Nat) (idx : Nat → Nat), 0 < B → 0 < k →
    actions.shape = [B * k, L] → (∀ b, b < B → idx b < k) →
    ∀ b, b < B → (getBestActions actions B idx).get [b, 0, 0] = actions.get [idx b * B + b, 0]

/-- as written the function reads row `idx b` of the flat batch, whatever `b` is; its result has shape `[B, 1, 1]` and
the model's `get` ignores every index after the first, hence the arbitrary `t` -/
theorem getBestActions_get {α : Type} (actions : Tens α) (B k : Nat) (hB : 0 < B) (rest : List Nat)
    (h : actions.shape = (B * k) :: rest) (idx : Nat → Nat) (b : Nat) (t : List Nat) :
    (getBestActions actions B idx).get (b :: t) = actions.get [idx b, 0] := by
  rw [Nat.mul_comm] at h
  exact (unbatchify_singleton_get actions k B hB rest h (idx b) 0 [0]).trans (by rw [Nat.zero_mul, Nat.zero_add])

/-- two instances, two rollouts each, best rollout of both is copy 1: the function returns rows 1 and
1 of the flat batch (instance 1 / copy 0) instead of rows 2 and 3. -/
theorem get_best_actions_counterexample : ¬ get_best_actions_statement := by
  intro h
  have := h 2 2 1 { shape := [4, 1], get := fun i => i.headD 0 } (fun _ => 1) (by decide) (by decide)
    rfl (by decide) 0 (by decide)
  rw [getBestActions_get _ 2 2 (by decide) [1] rfl] at this
  revert this; decide

/-- **`get_best_actions_partial`**: with a single instance (`B = 1`) the returned entry is the first
action of the selected rollout (and nothing but the first action is returned: shape `[B,1,1]`). -/
theorem get_best_actions_partial (k L : Nat) (actions : Tens Nat) (idx : Nat → Nat)
    (h : actions.shape = [1 * k, L]) :
    (getBestActions actions 1 idx).shape = [1, 1, 1] ∧
    (getBestActions actions 1 idx).get [0, 0, 0] = actions.get [idx 0 * 1 + 0, 0] :=
  ⟨rfl, (getBestActions_get _ 1 k Nat.one_pos [L] h idx 0 [0, 0]).trans (by rw [Nat.mul_one, Nat.add_zero])⟩

/-- what the validation branch of `SymNCO.shared_step` means to compute from
`actions : [B, S, A, …]` and `max_idxs : [B, A]`: for every instance and augmentation the actions of
the best start, `[B, A, …]` -/
def symnco_best_statement : Prop :=
  ∀ (B S A : Nat) (src : Tens Nat) (idx : Nat → Nat → Nat), src.shape = [B, S, A] →
    (gatherDefaultDim src idx).shape = [B, A] ∧
    ∀ b a, a < A → (gatherDefaultDim src idx).get [b, a] = src.get [b, idx b a, a]

/-- with two augmentations the result has shape `[B, 2, 2]`: one entry per (augmentation,
augmentation) pair instead of one per augmentation. -/
theorem symnco_best_counterexample : ¬ symnco_best_statement := by
  intro h
  have := (h 1 2 2 { shape := [1, 2, 2], get := fun _ => 0 } (fun _ _ => 0) rfl).1
  revert this; decide

/-- **`symnco_best_partial`**: without augmentation (`A = 1`) the gather is the intended one. -/
theorem symnco_best_partial (B S : Nat) (src : Tens Nat) (idx : Nat → Nat → Nat)
    (h : src.shape = [B, S, 1]) :
    (gatherDefaultDim src idx).shape = [B, 1] ∧
    ∀ b, (gatherDefaultDim src idx).get [b, 0] = src.get [b, idx b 0, 0] := by
  rw [gatherDefaultDim, h]
  exact ⟨rfl, fun _ => rfl⟩

example : instStarts 2 3 1 (startsOf 2 3 1 5) = [1, 2, 3] := by decide
example : startsOf 2 3 1 5 = [1, 1, 2, 2, 3, 3] := by decide
example : (instStarts 1 3 0 (startsOf 1 3 1 2)) = [1, 2, 1] := by decide
example : IsArgmax argmaxFirst ∧ IsArgmax argmaxLast := ⟨argmaxFirst_isArgmax, argmaxLast_isArgmax⟩
example : argmaxFirst (fun j => [5, 7, 7, 1].getD j 0) 4 = 1 ∧ argmaxLast (fun j => [5, 7, 7, 1].getD j 0) 4 = 2 := by
  decide
/-- `B = 2`, `k = 3`, rewards `[5,1,5,7,2,7]`: instance 0 owns rows 0,2,4, instance 1 rows 1,3,5 -/
example : (selectBest argmaxFirst ⟨[6], fun i => [5, 1, 5, 7, 2, 7].getD (i.headD 0) 0⟩ (iota 6) 3).flat = [0, 3] := by
  decide
/-- feasible {2,3,4}, `k = 3` gives {2,3,4}; … -/
example : opInstStarts 4 3 (fun j => j == 0 || (decide (2 ≤ j) && decide (j ≤ 4))) = [2, 3, 4] := by decide
/-- … and a batch-mate with a single feasible node does not disturb instance 0 -/
example : opStarts 4 2 [fun j => decide (j ≤ 2), fun j => j == 0 || j == 2] = [1, 2, 2, 2] := by decide
example : feasCount 4 (fun j => j == 0 || (decide (2 ≤ j) && decide (j ≤ 4))) = 3 := by decide
example : opInstStarts 4 5 (fun j => j == 0 || j == 3) = [3, 3, 3, 3, 3] := by decide

end Rl4co.Ops
