/-
Spec-level sanity for `Rl4co/Spec/Ops.lean` (the run-time oracles of C12 / C17): `expandOk`, `nodup`, `bestOk`, `startsOk`,
`fetchOk` and `loaderOk` are pinned down by declarative characterisations that do not mention the models, so a vacuous
or mis-stated oracle would be noticed; `regroupOk` only by the examples at the end, `startsFeasOk` only as the conclusion of
`startsFeasStrong_imp`, `startsDistinctOk` not at all.  No Mathlib.
-/
import Rl4co.Spec.Ops
import Rl4co.Core.Lists
namespace Rl4co.Spec.Ops

theorem all_range_iff (n : Nat) (p : Nat → Bool) : (List.range n).all p = true ↔ ∀ r, r < n → p r = true := by
  simp [List.all_eq_true, List.mem_range]

/-- `expandOk` says exactly "row r carries instance r mod B" -/
theorem expandOk_iff (B : Nat) (tags : List Nat) :
    expandOk B tags = true ↔ ∀ r, r < tags.length → tags.getD r 0 = r % B := by
  rw [expandOk, all_range_iff]
  exact forall_congr' fun r => imp_congr_right fun _ => beq_iff_eq

theorem nodup_iff (xs : List Nat) : nodup xs = true ↔ xs.Nodup := by
  induction xs with
  | nil => simp [nodup]
  | cons x xs ih => simp [nodup, ih, List.nodup_cons]

/-- `bestOk` says exactly: the returned value bounds all rollouts of the instance and is attained by the chosen one -/
theorem bestOk_iff (rs : List Int) (c : Nat) (ret : Int) :
    bestOk rs c ret = true ↔ (∀ r ∈ rs, r ≤ ret) ∧ c < rs.length ∧ rs.getD c 0 = ret := by
  simp [bestOk, List.all_eq_true, and_assoc]

/-- … hence the accepted value is unique (it is THE maximum), whichever rollout attains it -/
theorem bestOk_value_unique (rs : List Int) (c c' : Nat) (ret ret' : Int)
    (h : bestOk rs c ret = true) (h' : bestOk rs c' ret' = true) : ret = ret' := by
  -- a value that some rollout attains is at most a value that bounds all rollouts
  have le : ∀ {c c' ret ret'}, bestOk rs c ret = true → bestOk rs c' ret' = true → ret ≤ ret' := fun h h' => by
    obtain ⟨_, h2, h3⟩ := (bestOk_iff rs _ _).mp h
    refine h3 ▸ ((bestOk_iff rs _ _).mp h').1 _ ?_
    exact getD_mem 0 h2
  exact Int.le_antisymm (le h h') (le h' h)

/-- `startsOk` accepts feasible pairwise distinct starts, and demands nothing when fewer than `k` feasible starts exist -/
theorem startsOk_of (lo hi : Nat) (mask : Nat → Bool) (starts : List Nat)
    (hf : ∀ s ∈ starts, mask s = true) (hd : starts.Nodup) : startsOk lo hi mask starts = true := by
  simp only [startsOk]
  split
  · simp only [Bool.and_eq_true, List.all_eq_true]
    exact ⟨hf, (nodup_iff starts).mpr hd⟩
  · rfl

theorem startsOk_iff (lo hi : Nat) (mask : Nat → Bool) (starts : List Nat) (hk : starts.length ≤ feasible lo hi mask) :
    startsOk lo hi mask starts = true ↔ (∀ s ∈ starts, mask s = true) ∧ starts.Nodup := by
  simp [startsOk, hk, List.all_eq_true, nodup_iff]

/-- the stronger oracle used for rules that pick among the feasible nodes implies nothing less than the text's -/
theorem startsFeasStrong_imp (lo hi : Nat) (mask : Nat → Bool) (starts : List Nat) (hne : starts ≠ [])
    (h : startsFeasStrongOk lo hi mask starts = true) : startsFeasOk lo hi mask starts = true := by
  rw [startsFeasOk]
  split
  · rename_i hk
    rwa [startsFeasStrongOk, if_pos (Nat.le_trans (List.length_pos_iff.mpr hne) hk)] at h
  · rfl

theorem fetchOk_iff (rq dl ex : List Nat) : fetchOk rq dl ex = true ↔ dl = rq ∧ (ex = [] ∨ ex = rq) := by
  simp [fetchOk, List.isEmpty_iff]

/-- without shuffling `loaderOk` pins the delivered ids to `0..n-1` in order, with consistent batch sizes -/
theorem loaderOk_seq (n bs : Nat) (ids sizes ex : List Nat) (h : loaderOk n bs false ids sizes ex = true) :
    ids = List.range n ∧ sizes.sum = n ∧ (∀ s ∈ sizes, 0 < s ∧ s ≤ bs) ∧ (∀ s ∈ sizes.dropLast, s = bs) ∧
    (ex = [] ∨ ex = ids) := by
  simp only [loaderOk, Bool.false_eq_true, if_false, Bool.and_eq_true, Bool.or_eq_true, beq_iff_eq,
    List.all_eq_true, decide_eq_true_eq, List.isEmpty_iff] at h
  obtain ⟨⟨⟨⟨h1, h2⟩, h3⟩, h4⟩, h5⟩ := h
  exact ⟨h1, h2, h3, h4, h5⟩

/-- with shuffling: every instance exactly once -/
theorem loaderOk_shuffle (n bs : Nat) (ids sizes ex : List Nat) (h : loaderOk n bs true ids sizes ex = true) :
    ids.length = n ∧ ids.Nodup ∧ (∀ i ∈ ids, i < n) ∧ (ex = [] ∨ ex = ids) := by
  simp only [loaderOk, if_true, Bool.and_eq_true, Bool.or_eq_true, beq_iff_eq,
    List.all_eq_true, decide_eq_true_eq, List.isEmpty_iff, nodup_iff] at h
  obtain ⟨⟨⟨⟨⟨⟨h1, h2⟩, h3⟩, _⟩, _⟩, _⟩, h5⟩ := h
  exact ⟨h1, h2, h3, h5⟩

/-! the oracles are not vacuous: they accept the canonical layouts and reject the classical mistakes -/
example : regroupOk 2 3 [0, 2, 4, 1, 3, 5] = true := by decide          -- k-major regrouping
example : regroupOk 2 3 [0, 1, 2, 3, 4, 5] = false := by decide         -- instance-major regrouping mixes instances
example : regroupOk 2 3 [0, 2, 2, 1, 3, 5] = false := by decide         -- a row twice
example : expandOk 2 [0, 1, 0, 1] = true ∧ expandOk 2 [0, 0, 1, 1] = false := by decide
example : startsOk 1 5 (fun j => j != 1) [1, 2, 3] = false := by decide -- infeasible start although 3 feasible exist
example : startsOk 1 5 (fun j => j != 1) [2, 2, 3] = false := by decide -- repeated start
example : startsOk 1 5 (fun j => j == 2) [2, 2, 2] = true := by decide  -- fewer than k feasible: nothing demanded
example : bestOk [3, 7, 7, 1] 2 7 = true ∧ bestOk [3, 7, 7, 1] 0 7 = false ∧ bestOk [3, 7, 7, 1] 0 3 = false := by decide
example : loaderOk 5 2 false [0, 1, 2, 3, 4] [2, 2, 1] [] = true ∧ loaderOk 5 2 false [0, 1, 2, 3, 4] [2, 1, 2] [] = false := by
  decide
example : loaderOk 3 2 true [2, 0, 1] [2, 1] [2, 1, 0] = false := by decide   -- an extra delivered with another instance

end Rl4co.Spec.Ops
