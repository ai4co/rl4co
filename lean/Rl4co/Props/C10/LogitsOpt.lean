/-
C10 — the `mask_logits = False` path (`process_logits(…, mask=None, mask_logits=False)`, and
`DecodingStrategy.step`, which then drops the mask before calling the selection routine): skipping the
statement `logits[~mask] = -inf` is the same as an all-feasible mask, so every C10 clause holds for it with
"feasible" read as "any action"; nothing is asserted or resampled.
-/
import Rl4co.Props.C10.LogitsTight

namespace Rl4co.Decode

open scoped FieldOrderInst

section opt
set_option linter.unusedSectionVars false
variable {K : Type} [Field K] [LinearOrder K] [IsStrictOrderedRing K]
variable {w clip : K → K} {c : Cfg K} {n : Nat} {x : Nat → K} {mask : Nat → Bool} {kth : Nat} {σ : Nat → Nat}

theorem maskStage_alltrue (x : Nat → K) (j : Nat) : maskStage (fun _ => true) x j = some (x j) := by
  rw [maskStage_eq]; simp

theorem processLogitsOpt_true : processLogitsOpt true w clip c n x mask kth σ = processLogits w clip c n x mask kth σ := rfl

theorem processLogitsOpt_false :
    processLogitsOpt false w clip c n x mask kth σ = processLogits w clip c n x (fun _ => true) kth σ := rfl

/-- **mask_logits = False**: the emitted distribution is normalised, keeps an action of maximal score, keeps
at most `k` ties aside, mass ≥ `top_p` and nothing superfluous — whatever `mask` was passed (it is ignored). -/
theorem nomask_sound (hw : ExpLike w) (hv : Valid clip c n x (fun _ => true) kth σ) (hp1 : c.topP ≤ 1) :
    Spec.Decode.IsDist n (processLogitsOpt false w clip c n x mask kth σ).prob 0 ∧
    Spec.Decode.ArgmaxKept n (fun _ => true) (score clip c x) (processLogitsOpt false w clip c n x mask kth σ).kept ∧
    Spec.Decode.TopkCard n c.topK (score clip c x) (processLogitsOpt false w clip c n x mask kth σ).kept ∧
    Spec.Decode.ToppMass n (softmaxN n w (afterK clip c n x (fun _ => true) kth).get).get
      (processLogitsOpt false w clip c n x mask kth σ).kept c.topP 0 ∧
    (0 < c.topP → Spec.Decode.ToppTight n (softmaxN n w (afterK clip c n x (fun _ => true) kth).get).get
      (processLogitsOpt false w clip c n x mask kth σ).kept c.topP 0) := by
  rw [processLogitsOpt_false]
  exact ⟨probs_sum_one hw hv, argmax_kept hw hv, topk_card_le hv, topp_mass_ge hw hv hp1,
    fun hp0 => topp_tight hw hv hp0⟩

/-- `Greedy(mask_logits=False).step` returns the argmax unchecked, `Sampling(mask_logits=False).step` the first
draw: no assertion, no resampling -/
theorem step_nomask (a : Nat) (rest : List Nat) :
    (stepGreedyNoMask w clip c n x mask kth σ a).2 = some a ∧
    (stepSamplingNoMask w clip c n x mask kth σ (a :: rest)).2 = .ok a := ⟨rfl, rfl⟩

end opt
end Rl4co.Decode
