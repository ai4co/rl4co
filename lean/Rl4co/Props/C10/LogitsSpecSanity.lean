/-
C10 — sanity of the spec `Rl4co.Spec.Decode`, independent of the model: the predicates are satisfiable and say
what they should, so a vacuous or mis-stated spec would show.
-/
import Rl4co.Props.C10.Logits

namespace Rl4co.Spec.Decode
open Finset Rl4co.Decode

open scoped FieldOrderInst

section sanity
set_option linter.unusedSectionVars false
variable {K : Type} [Field K] [LinearOrder K] [IsStrictOrderedRing K]

/-- the uniform distribution is a distribution (the spec is satisfiable for every `n > 0`) -/
theorem isDist_uniform (n : Nat) (hn : 0 < n) : IsDist n (fun _ => (1 : K) / n) 0 := by
  have hn' : (0 : K) < n := Nat.cast_pos.mpr hn
  refine (isDist_iff _ _).mpr ⟨fun j _ => (one_div_pos.mpr hn').le, ?_⟩
  rw [Finset.sum_const, Finset.card_range, nsmul_eq_mul, mul_one_div, div_self hn'.ne']

theorem feasible_mass_one (n : Nat) (mask : Nat → Bool) (p : Nat → K) (kept : Nat → Bool)
    (hd : IsDist n p 0) (hm : MaskedZero n mask p kept) :
    ∑ j ∈ range n, (if mask j = true then p j else 0) = 1 := by
  rw [← ((isDist_iff _ _).mp hd).2]
  refine Finset.sum_congr rfl fun j hj => ?_
  by_cases h : mask j = true
  · rw [if_pos h]
  · rw [if_neg h, (hm j (mem_range.mp hj) (Bool.eq_false_iff.mpr h)).1]

/-- "at most k, ties aside" is implied by the plain "at most k": the weakening only concerns ties -/
theorem topkCard_of_card_le (n k : Nat) (score : Nat → K) (kept : Nat → Bool) (hk : cnt n kept ≤ k) :
    TopkCard n k score kept := by
  by_cases hk0 : k = 0
  · exact Or.inl hk0
  · exact Or.inr fun j0 hj0 hkj0 _ =>
      lt_of_lt_of_le (cnt_lt_of_imp (fun i _ h => (Bool.and_eq_true _ _ ▸ h).1) hj0 hkj0
        (by rw [decide_eq_false (lt_irrefl _), Bool.and_false])) hk

/-- only the order of the scores matters -/
theorem argmaxKept_strictMono (n : Nat) (mask : Nat → Bool) (score : Nat → K) (kept : Nat → Bool)
    (f : K → K) (hf : StrictMono f) (h : ArgmaxKept n mask score kept) :
    ArgmaxKept n mask (fun j => f (score j)) kept := by
  obtain ⟨j, hj, hm, hmax, hk⟩ := h
  exact ⟨j, hj, hm, fun i hi hmi => hf.monotone (hmax i hi hmi), hk⟩

/-- the mass clause alone is weak: keeping everything satisfies it … -/
theorem toppMass_all_kept (n : Nat) (q : Nat → K) (kept : Nat → Bool) (p : K) (hq : IsDist n q 0)
    (hall : ∀ j, j < n → kept j = true) (hp : p ≤ 1) : ToppMass n q kept p 0 := by
  unfold ToppMass
  rw [sumN_eq_sum, add_zero, Finset.sum_congr rfl fun j hj => if_pos (hall j (mem_range.mp hj)),
    ((isDist_iff _ _).mp hq).2]
  exact hp

theorem toppTight_subset (n : Nat) (q : Nat → K) (kept kept' : Nat → Bool) (p : K)
    (hsub : ∀ j, j < n → kept' j = true → kept j = true) (h : ToppTight n q kept p 0) :
    ToppTight n q kept' p 0 :=
  fun j hj hk => h j hj (hsub j hj hk)

/-- … tightness is what excludes an action once a strictly more likely one already carries mass ≥ `p` -/
theorem toppTight_excludes (n : Nat) (q : Nat → K) (kept : Nat → Bool) (p : K) (hq : ∀ j, j < n → 0 ≤ q j)
    (h : ToppTight n q kept p 0) (i j : Nat) (hi : i < n) (hj : j < n) (hlt : q j < q i) (hmass : p ≤ q i) :
    kept j = false := by
  by_contra hk
  have := h j hj (Bool.eq_true_of_not_eq_false hk)
  rw [sumN_eq_sum, add_zero] at this
  -- `q i` is one of the summands
  refine not_le.mpr this (le_trans hmass ?_)
  calc q i = if q j < q i then q i else 0 := (if_pos hlt).symm
    _ ≤ _ := Finset.single_le_sum (f := fun t => if q j < q t then q t else 0)
      (fun t ht => by
        split
        · exact hq t (mem_range.mp ht)
        · exact le_refl _) (mem_range.mpr hi)

theorem close_refl (n : Nat) (p : Nat → K) : Close n p p 0 := fun _ _ => ⟨(add_zero _).ge, (add_zero _).ge⟩

theorem close_symm (n : Nat) (p p' : Nat → K) (tol : K) (h : Close n p p' tol) : Close n p' p tol :=
  fun j hj => ⟨(h j hj).2, (h j hj).1⟩

end sanity
end Rl4co.Spec.Decode
