/-
C10 — decoding distributions are proper and confined to feasible actions.

About the model `Rl4co.Decode.processLogits` / `greedy` / `sampleLoop` (mirror of `rl4co/utils/decoding.py`):
every row length, all logits, every mask with a feasible action, `T > 0`, any `top_k`, any `top_p` (≤ 1 where
stated), clipping on or off with an arbitrary clipping function, over every linearly ordered field and every
exp-like weight `w` (`ExpLike`; `Real.exp` in `LogitsReal.lean`).  The tie-breaking primitives (`torch.topk`,
`torch.sort`, `argmax`, `multinomial`) are oracle inputs; the theorems hold for every result that is valid
(`KthValid`, `SortValid`, `GreedyValid`, `SampleValid`).  Conclusions: the predicates of `Rl4co.Spec.Decode`.
-/
import Rl4co.Proofs.LogitsLemmas
import Mathlib.Algebra.Order.Archimedean.Basic

namespace Rl4co.Decode
open Finset

section drawLoop
variable {α : Type} {f : List α → LoopRes α} {cont ok : α → Bool} (hnil : f [] = .outOfDraws)
  (hcons : ∀ v rest, f (v :: rest) = if cont v then f rest else if ok v then .ok v else .assertFail)
include hnil hcons

/-- a loop of the shape of `sampling` (redraw while `cont`, then `assert ok`) returns only draws that pass `ok`,
whatever the loop condition: the assertion guards the return -/
theorem drawLoop_ok (draws : List α) (v : α) (h : f draws = .ok v) : ok v = true := by
  induction draws with
  | nil =>
    rw [hnil] at h
    cases h
  | cons d rest ih =>
    rw [hcons] at h
    split at h
    · exact ih h
    · split at h
      · rename_i hok
        cases h
        exact hok
      · cases h

theorem drawLoop_never_asserts (hexit : ∀ v, cont v = false → ok v = true) (draws : List α) :
    f draws ≠ .assertFail := by
  induction draws with
  | nil =>
    rw [hnil]
    nofun
  | cons d rest ih =>
    rw [hcons]
    by_cases hc : cont d = true
    · rw [if_pos hc]
      exact ih
    · rw [if_neg hc, if_pos (hexit d (Bool.eq_false_iff.mpr hc))]
      nofun

end drawLoop

theorem sampleLoop_feasible (mask : Nat → Bool) (draws : List Nat) (a : Nat)
    (h : sampleLoop mask draws = .ok a) : mask a = true :=
  drawLoop_ok rfl (fun _ _ => rfl) draws a h

/-- the loop of `sampling` only exits on a feasible draw, so the assertion after it never fires
(this needs the loop condition to test the *negated* mask) -/
theorem sampleLoop_never_asserts (mask : Nat → Bool) (draws : List Nat) :
    sampleLoop mask draws ≠ .assertFail :=
  drawLoop_never_asserts rfl (fun _ _ => rfl)
    (fun a h => by simpa [contCond_eq, rowFlag_eq] using h) draws

theorem sampleLoopB_feasible (masks : List (Nat → Bool)) (draws : List (List Nat)) (v : List Nat)
    (h : sampleLoopB masks draws = .ok v) : ∀ ma ∈ masks.zip v, ma.1 ma.2 = true :=
  List.all_eq_true.mp (drawLoop_ok rfl (fun _ _ => rfl) draws v h)

/-- the batched loop runs `while (~mask)[selected].any()`: it exits only when every row is feasible, so
the assertion after it never fires (this needs the reduction to be `.any()`: with `.all()` a batch with one
feasible and one infeasible row would leave the loop and trip the assertion) -/
theorem sampleLoopB_never_asserts (masks : List (Nat → Bool)) (draws : List (List Nat)) :
    sampleLoopB masks draws ≠ .assertFail := by
  refine drawLoop_never_asserts rfl (fun _ _ => rfl)
    (fun d hc => List.all_eq_true.mpr fun ma hma => ?_) draws
  by_contra hf
  refine Bool.eq_false_iff.mp hc (List.any_eq_true.mpr ⟨rowFlag ma.1 ma.2, List.mem_map.mpr ⟨ma, hma, rfl⟩, ?_⟩)
  simp [rowFlag_eq, Bool.eq_false_iff.mpr hf]

/-- `decode_logprobs` (the entry point of the PtrNet / MDAM / MatNet-FFSP loops) only returns feasible actions -/
theorem decodeLogprobs_feasible (ty : String) (mask : Nat → Bool) (a : Nat) (draws : List Nat) (b : Nat)
    (h : decodeLogprobs ty mask a draws = .ok b) : mask b = true := by
  simp only [decodeLogprobs] at h
  split at h
  · by_cases hm : mask a = true
    · simp only [greedy, hm, if_true] at h
      cases h; exact hm
    · simp [greedy, hm] at h
  · split at h
    · exact sampleLoop_feasible mask draws b h
    · cases h

open scoped FieldOrderInst

section gen
set_option linter.unusedSectionVars false
variable {K : Type} [Field K] [LinearOrder K] [IsStrictOrderedRing K]
variable (w clip : K → K) (c : Cfg K) (n : Nat) (x : Nat → K) (mask : Nat → Bool) (kth : Nat) (σ : Nat → Nat)

/-- hypotheses of the C10 theorems: positive temperature, a feasible action, valid oracle inputs -/
structure Valid : Prop where
  temp_pos : 0 < c.temp
  feasible : ∃ j, j < n ∧ mask j = true
  kth_valid : c.topK = 0 ∨ KthValid n c.topK (pre clip c n x mask).get kth
  sort_valid : (c.topP ≤ 0 ∨ 1 ≤ c.topP) ∨ SortValid n (afterK clip c n x mask kth).get σ

variable {w clip c n x mask kth σ}

theorem lg_eq : (processLogits w clip c n x mask kth σ).lg =
    (topPStage n w c.topP σ (afterK clip c n x mask kth)).get := by
  simp only [processLogits, stLogSoftmax, runStages_canonical]

theorem prob_eq : (processLogits w clip c n x mask kth σ).prob =
    (softmaxN n w (processLogits w clip c n x mask kth σ).lg).get := by
  simp only [processLogits, stLogSoftmax]

theorem feasible_of_kept {j : Nat} (h : (processLogits w clip c n x mask kth σ).kept j = true) :
    mask j = true ∧ ((afterK clip c n x mask kth).get j).isSome = true := by
  rw [Out.kept, lg_eq] at h
  have h4 := isSome_of_wb_le (topP_le _ _ _ _ _ j) h
  exact ⟨(pre_isSome j).symm.trans (isSome_of_wb_le (topK_le _ _ _ _ j) h4), h4⟩

theorem exists_max_kept (w : K → K) (hv : Valid clip c n x mask kth σ) :
    ∃ j, j < n ∧ IsTop n (pre clip c n x mask).get j ∧
      (processLogits w clip c n x mask kth σ).lg j = (pre clip c n x mask).get j ∧
      ((pre clip c n x mask).get j).isSome = true := by
  obtain ⟨jf, hjf, hmf⟩ := hv.feasible
  have hn : 0 < n := Nat.zero_lt_of_lt hjf
  obtain ⟨j1, hj1, hmax1⟩ := exists_isTop hn (pre clip c n x mask).get
  -- a maximal entry dominates the feasible `jf`, so it is finite; and it passes the top-k filter
  have hf : ((pre clip c n x mask).get jf).isSome = true := (pre_isSome jf).trans hmf
  have hK : ∀ j, IsTop n (pre clip c n x mask).get j →
      (afterK clip c n x mask kth).get j = (pre clip c n x mask).get j :=
    fun j hmax => topK_of_max hv.kth_valid hmax
  by_cases hact : c.topP ≤ 0 ∨ 1 ≤ c.topP
  · exact ⟨j1, hj1, hmax1, by rw [lg_eq, topP_off hact, hK j1 hmax1], isSome_of_wb_le (hmax1 jf hjf) hf⟩
  · have hσ := hv.sort_valid.resolve_left hact
    -- the last sorted position holds a maximum of the top-k output, hence of its input
    have hmaxl : IsTop n (pre clip c n x mask).get (σ (n - 1)) := fun i hi => calc
      wb ((pre clip c n x mask).get i) ≤ wb ((pre clip c n x mask).get j1) := hmax1 i hi
      _ = wb ((afterK clip c n x mask kth).get j1) := by rw [hK j1 hmax1]
      _ ≤ wb ((afterK clip c n x mask kth).get (σ (n - 1))) := last_is_max hσ j1 hj1
      _ ≤ wb ((pre clip c n x mask).get (σ (n - 1))) := topK_le _ _ _ _ _
    have hlast := Nat.sub_lt hn Nat.one_pos
    -- it is protected from the top-p filter
    exact ⟨σ (n - 1), hσ.1 _ hlast, hmaxl,
      by rw [lg_eq, topP_sigma hact hσ hlast, toppRem_last, hK _ hmaxl]; rfl, isSome_of_wb_le (hmaxl jf hjf) hf⟩

theorem exists_kept (w : K → K) (hv : Valid clip c n x mask kth σ) :
    ∃ j, j < n ∧ ((processLogits w clip c n x mask kth σ).lg j).isSome = true := by
  obtain ⟨j, hj, _, hlg, hs⟩ := exists_max_kept w hv
  exact ⟨j, hj, by rw [hlg]; exact hs⟩

theorem score_le_of_pre_le (hT : 0 < c.temp) {i j : Nat} (hi : mask i = true) (hj : mask j = true)
    (h : wb ((pre clip c n x mask).get i) ≤ wb ((pre clip c n x mask).get j)) :
    score clip c x i ≤ score clip c x j := by
  rw [pre_of_mask hi, pre_of_mask hj] at h
  exact (div_le_div_iff_of_pos_right hT).mp (WithBot.coe_le_coe.mp h)

theorem argmax_kept (hw : ExpLike w) (hv : Valid clip c n x mask kth σ) :
    Spec.Decode.ArgmaxKept n mask (score clip c x) (processLogits w clip c n x mask kth σ).kept := by
  obtain ⟨j, hj, hmax, hlg, hs⟩ := exists_max_kept w hv
  have hmj := (pre_isSome j).symm.trans hs
  exact ⟨j, hj, hmj, fun i hi hmi => score_le_of_pre_le hv.temp_pos hmi hmj (hmax i hi),
    (congrArg Option.isSome hlg).trans hs⟩

theorem probs_sum_one (hw : ExpLike w) (hv : Valid clip c n x mask kth σ) :
    Spec.Decode.IsDist n (processLogits w clip c n x mask kth σ).prob 0 := by
  obtain ⟨j, hj, hs⟩ := exists_kept w hv
  rw [prob_eq]
  exact (isDist_iff _ _).mpr ⟨fun i _ => softmax_nonneg hw i, softmax_sum_one hw hj hs⟩

theorem masked_zero : Spec.Decode.MaskedZero n mask (processLogits w clip c n x mask kth σ).prob
    (processLogits w clip c n x mask kth σ).kept := by
  intro j _ hm
  have hk : (processLogits w clip c n x mask kth σ).kept j = false :=
    Bool.eq_false_iff.mpr fun hk => Bool.eq_false_iff.mp hm (feasible_of_kept hk).1
  rw [prob_eq]
  exact ⟨softmax_none (Option.not_isSome_iff_eq_none.mp (Bool.eq_false_iff.mp hk)), hk⟩

theorem kept_iff_pos (hw : ExpLike w) (hv : Valid clip c n x mask kth σ) (j : Nat) :
    (processLogits w clip c n x mask kth σ).kept j = true ↔ 0 < (processLogits w clip c n x mask kth σ).prob j := by
  obtain ⟨j0, hj0, hs0⟩ := exists_kept w hv
  rw [prob_eq]
  exact (softmax_pos_iff hw hj0 hs0 j).symm

/-- With ties at the top, top-p may remove tied maxima (only the last one in sorted order is sure to survive,
`argmax_kept`); a strict maximum is always kept. -/
theorem unique_argmax_kept (hw : ExpLike w) (hv : Valid clip c n x mask kth σ) (j : Nat) (hj : j < n)
    (hm : mask j = true) (hbest : ∀ i, i < n → mask i = true → i ≠ j → score clip c x i < score clip c x j) :
    (processLogits w clip c n x mask kth σ).kept j = true := by
  obtain ⟨j', hj', hm', hmax, hk⟩ := argmax_kept hw hv
  by_cases h : j' = j
  · rw [← h]; exact hk
  · exact absurd (hmax j hj hm) (not_le.mpr (hbest j' hj' hm' h))

/-- Under top-k, the kept actions scoring strictly above any kept action (in
particular above the lowest kept score) number fewer than `k` — "at most k, ties aside". -/
theorem topk_card_le (hv : Valid clip c n x mask kth σ) :
    Spec.Decode.TopkCard n c.topK (score clip c x) (processLogits w clip c n x mask kth σ).kept := by
  by_cases hk0 : c.topK = 0
  · exact Or.inl hk0
  · refine Or.inr fun j0 _ hk _ => ?_
    obtain ⟨hm0, hK0⟩ := feasible_of_kept hk
    -- a kept action scoring above `j0` lies above it before the top-k filter
    refine lt_of_le_of_lt (cnt_mono fun j _ hpj => ?_)
      (topK_cnt_above_lt hk0 (hv.kth_valid.resolve_left hk0) hK0)
    rw [Bool.and_eq_true, decide_eq_true_eq] at hpj
    rw [ltO_iff]
    exact lt_of_not_ge fun h => not_le.mpr hpj.2 (score_le_of_pre_le hv.temp_pos (feasible_of_kept hpj.1).1 hm0 h)

/-- Stage form of `topk_ge_feasible`: with no more feasible actions than `k`, the top-k filter
removes no feasible action (whatever the top-p setting). -/
theorem topk_ge_feasible_stage (hv : Valid clip c n x mask kth σ) :
    Spec.Decode.TopkGeFeasible n c.topK mask (fun j => ((afterK clip c n x mask kth).get j).isSome) :=
  fun hcnt j hj hm =>
    have hs := (pre_isSome j).trans hm
    (congrArg Option.isSome
      (topK_keeps_all hv.kth_valid (le_of_eq_of_le (cnt_congr fun i _ => pre_isSome i) hcnt) hj hs)).trans hs

/-- With the top-p filter off and no more feasible actions than `k`, every
feasible action is in the support of the emitted distribution. -/
theorem topk_ge_feasible (hv : Valid clip c n x mask kth σ) (hp : c.topP ≤ 0 ∨ 1 ≤ c.topP) :
    Spec.Decode.TopkGeFeasible n c.topK mask (processLogits w clip c n x mask kth σ).kept := by
  intro hcnt j hj hm
  rw [Out.kept, lg_eq, topP_off hp]
  exact topk_ge_feasible_stage hv hcnt j hj hm

/-- The support carries at least mass `top_p` of the distribution that entered the
top-p filter (the masked, clipped, tempered, top-k-filtered softmax). -/
theorem topp_mass_ge (hw : ExpLike w) (hv : Valid clip c n x mask kth σ) (hp1 : c.topP ≤ 1) :
    Spec.Decode.ToppMass n (softmaxN n w (afterK clip c n x mask kth).get).get
      (processLogits w clip c n x mask kth σ).kept c.topP 0 := by
  obtain ⟨j, hj, hmax, _, hs⟩ := exists_max_kept w hv
  have h4 : ((afterK clip c n x mask kth).get j).isSome = true :=
    (congrArg Option.isSome (topK_of_max hv.kth_valid hmax)).trans hs
  simp only [Spec.Decode.ToppMass, sumN_eq_sum, add_zero, Out.kept, lg_eq]
  exact topp_mass_core hw hv.sort_valid hp1 hj h4

/-- Whatever index `argmax` returns (any maximiser of the
log-probabilities), `greedy` does not hit its assertion and returns a feasible action that maximises the
emitted distribution and the score among the feasible actions. -/
theorem greedy_is_max (hw : ExpLike w) (hv : Valid clip c n x mask kth σ) (a : Nat)
    (ha : GreedyValid n (processLogits w clip c n x mask kth σ).lg a) :
    greedy mask a = some a ∧
      Spec.Decode.GreedyOk n mask (processLogits w clip c n x mask kth σ).prob a ∧
      (processLogits w clip c n x mask kth σ).kept a = true ∧
      ∀ i, i < n → mask i = true → score clip c x i ≤ score clip c x a := by
  obtain ⟨han, hmaxa⟩ := (greedyValid_iff _ _ _).mp ha
  obtain ⟨j, hj, hmax, hlg, hs⟩ := exists_max_kept w hv
  -- the argmax dominates the finite entry `j`, so it is finite itself, hence feasible
  have hja := hmaxa j hj
  rw [hlg] at hja
  have hpa : wb ((processLogits w clip c n x mask kth σ).lg a) ≤ wb ((pre clip c n x mask).get a) := by
    rw [lg_eq]
    exact le_trans (topP_le _ _ _ _ _ a) (topK_le _ _ _ _ a)
  have hka : (processLogits w clip c n x mask kth σ).kept a = true := isSome_of_wb_le hja hs
  have hma := (feasible_of_kept hka).1
  refine ⟨if_pos hma, ⟨han, hma, fun i hi => ?_⟩, hka, fun i hi hmi => ?_⟩
  · rw [prob_eq]
    exact softmax_mono hw (hmaxa i hi)
  · exact score_le_of_pre_le hv.temp_pos hmi hma (le_trans (hmax i hi) (le_trans hja hpa))

/-- An index of positive probability is feasible and in the support, and the
resampling loop accepts it at once. -/
theorem sample_feasible (hw : ExpLike w) (hv : Valid clip c n x mask kth σ) (a : Nat)
    (ha : SampleValid n (processLogits w clip c n x mask kth σ).prob a) (rest : List Nat) :
    Spec.Decode.SampleOk n mask (processLogits w clip c n x mask kth σ).kept a ∧
      sampleLoop mask (a :: rest) = .ok a := by
  obtain ⟨han, hpos⟩ := ha
  have hk := (kept_iff_pos hw hv a).mpr hpos
  have hma := (feasible_of_kept hk).1
  exact ⟨⟨han, hma, hk⟩, by simp [sampleLoop, contCond_eq, rowFlag_eq, hma]⟩

/-- Neither `Greedy.step` nor `Sampling.step` can emit an infeasible action:
greedy returns the (feasible) argmax, sampling whatever it returns is feasible and never trips its
assertion, and a valid first draw is returned without resampling. -/
theorem no_infeasible_emitted (hw : ExpLike w) (hv : Valid clip c n x mask kth σ) :
    (∀ a, GreedyValid n (processLogits w clip c n x mask kth σ).lg a →
        (stepGreedy w clip c n x mask kth σ a).2 = some a ∧ mask a = true) ∧
    (∀ draws a, (stepSampling w clip c n x mask kth σ draws).2 = .ok a → mask a = true) ∧
    (∀ draws, (stepSampling w clip c n x mask kth σ draws).2 ≠ .assertFail) ∧
    (∀ a rest, SampleValid n (processLogits w clip c n x mask kth σ).prob a →
        (stepSampling w clip c n x mask kth σ (a :: rest)).2 = .ok a) :=
  ⟨fun a ha => (greedy_is_max hw hv a ha).imp_right fun h => h.1.2.1,
    fun draws a h => sampleLoop_feasible mask draws a h,
    fun draws => sampleLoop_never_asserts mask draws,
    fun a rest ha => (sample_feasible hw hv a ha rest).2⟩

def shiftO (e : K) (a : Option K) : Option K := a.map (· + e)

theorem ltO_shift (e : K) (a b : Option K) : ltO (shiftO e a) (shiftO e b) = ltO a b := by
  cases a with
  | none => cases b <;> rfl
  | some a =>
    cases b with
    | none => rfl
    | some b => exact decide_eq_decide.mpr (add_lt_add_iff_right e)

theorem leO_shift (e : K) (a b : Option K) : leO (shiftO e a) (shiftO e b) = leO a b :=
  congrArg not (ltO_shift e b a)

theorem wO_shift (hw : ExpLike w) (e : K) (a : Option K) : wO w (shiftO e a) = wO w a * w e := by
  cases a with
  | none => exact (zero_mul _).symm
  | some v => exact hw.mul v e

theorem softmax_shift (hw : ExpLike w) (e : K) (X X' : Nat → Option K) (h : ∀ j, X' j = shiftO e (X j)) :
    (softmaxN n w X').get = (softmaxN n w X).get := by
  funext j
  rw [softmax_get, softmax_get]
  simp only [h, wO_shift hw]
  rw [← Finset.sum_mul, mul_div_mul_right _ _ (ne_of_gt (hw.pos e))]

theorem pre_shift (hc : c.clipOn = false) (d : K) (j : Nat) :
    (pre clip c n (fun j => x j + d) mask).get j = shiftO (d / c.temp) ((pre clip c n x mask).get j) := by
  rw [pre_get, pre_get]
  split
  · simp [shiftO, score, clipStage, hc, add_div]
  · rfl

theorem topK_shift (e : K) (k : Nat) (X X' : Vec (Option K)) (h : ∀ j, X'.get j = shiftO e (X.get j)) (j : Nat) :
    (topKStage n k kth X').get j = shiftO e ((topKStage n k kth X).get j) := by
  rw [topK_get, topK_get, h, h, ltO_shift]
  split <;> rfl

theorem topP_shift (hw : ExpLike w) (e p : K) (X X' : Vec (Option K)) (h : ∀ j, X'.get j = shiftO e (X.get j)) (j : Nat) :
    (topPStage n w p σ X').get j = shiftO e ((topPStage n w p σ X).get j) := by
  by_cases hp : p ≤ 0 ∨ 1 ≤ p
  · rw [topP_off hp, topP_off hp, h]
  · -- the flags are computed from the sorted softmax, which does not see the shift
    have hrem : (toppRem n w p σ X').get = (toppRem n w p σ X).get := by
      funext i
      rw [Bool.eq_iff_iff, toppRem_get, toppRem_get,
        softmax_shift (n := n) hw e (fun i => X.get (σ i)) (fun i => X'.get (σ i)) (fun i => h (σ i))]
    rw [topP_on hp, topP_on hp, hrem, h]
    split <;> rfl

theorem afterK_shift (hc : c.clipOn = false) (d : K) (j : Nat) :
    (afterK clip c n (fun j => x j + d) mask kth).get j = shiftO (d / c.temp) ((afterK clip c n x mask kth).get j) :=
  topK_shift _ _ _ _ (pre_shift hc d) j

theorem lg_shift (hw : ExpLike w) (hc : c.clipOn = false) (d : K) (j : Nat) :
    (processLogits w clip c n (fun j => x j + d) mask kth σ).lg j =
      shiftO (d / c.temp) ((processLogits w clip c n x mask kth σ).lg j) := by
  rw [lg_eq, lg_eq]
  exact topP_shift hw _ _ _ _ (afterK_shift hc d) j

/-- Tanh clipping off: adding a constant `d` to all logits changes neither the
emitted probabilities nor the support, for the same oracle inputs … -/
theorem shift_invariant (hw : ExpLike w) (hc : c.clipOn = false) (d : K) :
    (processLogits w clip c n (fun j => x j + d) mask kth σ).prob = (processLogits w clip c n x mask kth σ).prob ∧
    (processLogits w clip c n (fun j => x j + d) mask kth σ).kept = (processLogits w clip c n x mask kth σ).kept := by
  constructor
  · rw [prob_eq, prob_eq]
    exact softmax_shift hw (d / c.temp) _ _ (lg_shift hw hc d)
  · funext j
    simp only [Out.kept, lg_shift hw hc d j, shiftO, Option.isSome_map]

/-- … and the oracle inputs valid for the original logits are exactly those valid for the shifted ones. -/
theorem valid_shift (hc : c.clipOn = false) (d : K) :
    Valid clip c n (fun j => x j + d) mask kth σ ↔ Valid clip c n x mask kth σ := by
  have hkv : KthValid n c.topK (pre clip c n (fun j => x j + d) mask).get kth ↔ KthValid n c.topK (pre clip c n x mask).get kth := by
    simp only [kthValid_iff, pre_shift hc d, leO_shift, ltO_shift]
  have hsv : SortValid n (afterK clip c n (fun j => x j + d) mask kth).get σ ↔ SortValid n (afterK clip c n x mask kth).get σ := by
    simp only [sortValid_iff, ← leO_iff, afterK_shift hc d, leO_shift]
  exact ⟨fun ⟨h1, h2, h3, h4⟩ => ⟨h1, h2, h3.imp id hkv.mp, h4.imp id hsv.mp⟩,
    fun ⟨h1, h2, h3, h4⟩ => ⟨h1, h2, h3.imp id hkv.mpr, h4.imp id hsv.mpr⟩⟩

end gen

section clipped
set_option linter.unusedSectionVars false
variable {K : Type} [Field K] [LinearOrder K] [IsStrictOrderedRing K]

theorem ExpLike.injective {w : K → K} (hw : ExpLike w) {a b : K} (h : w a = w b) : a = b :=
  StrictMono.injective (fun _ _ => hw.strictMono _ _) h

/-- two softmax weights out of two determine the difference of the logits -/
theorem ExpLike.sub_eq_of_div_eq {w : K → K} (hw : ExpLike w) {a b a' b' : K}
    (h : w a / (w a + w b) = w a' / (w a' + w b')) : b - a = b' - a' := by
  rw [div_eq_div_iff (ne_of_gt (add_pos (hw.pos a) (hw.pos b))) (ne_of_gt (add_pos (hw.pos a') (hw.pos b'))),
    mul_add, mul_add, mul_comm (w a) (w a'), add_right_inj, ← hw.mul, ← hw.mul] at h
  exact sub_eq_sub_iff_add_eq_add.mpr ((add_comm b a').trans ((hw.injective h).symm.trans (add_comm a b')))

/-- The statement one might expect — shift invariance also with tanh clipping on.  It is FALSE
(`shift_invariant_clipped_counterexample`); what holds is `shift_invariant` (clipping off). -/
def shift_invariant_clipped_statement (w clip : K → K) : Prop :=
  ∀ (c : Cfg K) (n : Nat) (x : Nat → K) (mask : Nat → Bool) (kth : Nat) (σ : Nat → Nat) (d : K),
    c.clipOn = true → Valid clip c n x mask kth σ → Valid clip c n (fun j => x j + d) mask kth σ →
    (processLogits w clip c n (fun j => x j + d) mask kth σ).prob = (processLogits w clip c n x mask kth σ).prob

/-- two actions, all feasible, `T = 1`, no filtering, clipping on -/
def cexCfg : Cfg K := { temp := 1, topK := 0, topP := 0, clipOn := true }

theorem cex_prob0 (w clip : K → K) (x : Nat → K) :
    (processLogits w clip (cexCfg (K := K)) 2 x (fun _ => true) 0 id).prob 0 =
      w (clip (x 0)) / (w (clip (x 0)) + w (clip (x 1))) := by
  have hlg : ∀ j, (processLogits w clip (cexCfg (K := K)) 2 x (fun _ => true) 0 id).lg j = some (clip (x j)) := by
    intro j
    rw [lg_eq, topP_off (p := (cexCfg (K := K)).topP) (Or.inl (le_refl _))]
    exact (topK_of_ge fun h => absurd rfl h).trans ((pre_of_mask rfl).trans (congrArg some (div_one _)))
  rw [prob_eq, softmax_get, Finset.sum_range_succ, Finset.sum_range_one, hlg, hlg]
  rfl

/-- **Counterexample.**  For every exp-like weight and every clipping function that is bounded and not
constant on `{0, 1}` (in particular `tanh(·)·C`), shift invariance FAILS with clipping on. -/
theorem shift_invariant_clipped_counterexample [Archimedean K] {w clip : K → K} (hw : ExpLike w)
    (C : K) (hb : ∀ v, |clip v| ≤ C) (hne : clip 0 ≠ clip 1) :
    ¬ shift_invariant_clipped_statement w clip := by
  intro hst
  -- logits `0` and `1`: the first probability is the same for every shift `d`, so `clip` has constant increments …
  have key : ∀ d : K, clip (1 + d) - clip (0 + d) = clip 1 - clip 0 := by
    intro d
    have hval : ∀ x : Nat → K, Valid clip cexCfg 2 x (fun _ => true) 0 id := fun _ =>
      ⟨zero_lt_one, ⟨0, Nat.zero_lt_two, rfl⟩, Or.inl rfl, Or.inl (Or.inl (le_refl _))⟩
    have h := congrFun (hst cexCfg 2 (fun j => j) (fun _ => true) 0 id d rfl (hval _) (hval _)) 0
    rw [cex_prob0, cex_prob0] at h
    simpa only [Nat.cast_zero, Nat.cast_one] using hw.sub_eq_of_div_eq h
  -- … hence grows linearly along the naturals, which contradicts boundedness
  have hlin : ∀ m : ℕ, clip (m : K) - clip 0 = m * (clip 1 - clip 0) := by
    intro m
    induction m with
    | zero => rw [Nat.cast_zero, sub_self, zero_mul]
    | succ m ih =>
      rw [Nat.cast_succ, add_one_mul, ← ih, ← key m, zero_add, add_comm (m : K) 1, sub_add_sub_cancel']
  obtain ⟨m, hm⟩ := Archimedean.arch (C + C + 1) (abs_pos.mpr (sub_ne_zero.mpr hne.symm))
  refine lt_irrefl (C + C) (lt_of_lt_of_le (lt_add_one _) (le_trans hm ?_))
  calc m • |clip 1 - clip 0| = |clip (m : K) - clip 0| := by rw [hlin, abs_mul, Nat.abs_cast, nsmul_eq_mul]
    _ ≤ |clip (m : K)| + |clip 0| := abs_sub _ _
    _ ≤ C + C := add_le_add (hb _) (hb _)

end clipped

end Rl4co.Decode
