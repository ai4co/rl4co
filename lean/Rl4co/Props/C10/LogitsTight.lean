/-
C10 — the top-p nucleus contains nothing superfluous (ties aside): `topp_tight`, the converse of
`topp_mass_ge`.
-/
import Rl4co.Props.C10.Logits

namespace Rl4co.Decode
open Finset

open scoped FieldOrderInst

section tight
variable {K : Type} [Field K] [LinearOrder K] [IsStrictOrderedRing K]
variable {w clip : K → K} {c : Cfg K} {n : Nat} {x : Nat → K} {mask : Nat → Bool} {kth : Nat} {σ : Nat → Nat}

/-- With `top_p > 0`, the actions strictly more likely than a kept action (under the
distribution entering the top-p filter) carry less than mass `top_p`: the nucleus contains nothing
superfluous, ties aside. -/
theorem topp_tight (hw : ExpLike w) (hv : Valid clip c n x mask kth σ) (hp0 : 0 < c.topP) :
    Spec.Decode.ToppTight n (softmaxN n w (afterK clip c n x mask kth).get).get
      (processLogits w clip c n x mask kth σ).kept c.topP 0 := by
  intro j hj hk
  rw [sumN_eq_sum, add_zero]
  rw [Out.kept, lg_eq] at hk
  exact topp_tight_core hw hv.sort_valid hp0 hj hk

end tight
end Rl4co.Decode
