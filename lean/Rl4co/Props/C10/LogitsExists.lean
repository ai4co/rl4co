/-
C10 — non-vacuity in general: valid oracle inputs always exist (a k-th largest index, an ascending sorting
permutation, an argmax, an index of positive probability), so the theorems of `Rl4co.Props.C10.Logits`
say something about every row with a feasible action and every configuration with `T > 0`.
-/
import Rl4co.Props.C10.Logits
import Rl4co.Core.Lists
import Mathlib.Data.List.Sort

namespace Rl4co.Decode
open Finset

open scoped FieldOrderInst

section exists_
set_option linter.unusedSectionVars false
variable {K : Type} [Field K] [LinearOrder K]

theorem exists_sortValid (n : Nat) (X : Nat → Option K) : ∃ σ : Nat → Nat, SortValid n X σ := by
  classical
  let r : Nat → Nat → Prop := fun i j => wb (X i) ≤ wb (X j)
  have : Std.Total r := ⟨fun i j => le_total _ _⟩
  have : IsTrans Nat r := ⟨fun i j k h1 h2 => le_trans h1 h2⟩
  let l := (List.range n).insertionSort r
  have hperm : l.Perm (List.range n) := List.perm_insertionSort r _
  have hlen : l.length = n := length_of_perm_range hperm
  have hpw : l.Pairwise r := List.pairwise_insertionSort r _
  refine ⟨fun i => l.getD i 0, (sortValid_iff _ _ _).mpr ⟨fun i hi => getD_lt_of_perm_range hperm 0 hi,
    fun i hi i' hi' h => getD_inj_of_perm_range hperm 0 hi hi' h, fun i hi hi' => ?_⟩⟩
  rw [← hlen] at hi hi'
  rw [getD_eq_getElem l 0 hi, getD_eq_getElem l 0 hi']
  exact List.pairwise_iff_getElem.mp hpw i (i + 1) hi hi' (Nat.lt_succ_self i)

theorem cnt_ge (n m : Nat) : cnt n (fun i => decide (m ≤ i)) = n - m := by
  induction n with
  | zero => exact (Nat.zero_sub m).symm
  | succ n ih =>
    rw [cnt_succ, ih]
    by_cases h : m ≤ n
    · rw [if_pos (decide_eq_true h), Nat.succ_sub h]
    · rw [if_neg fun hd => h (of_decide_eq_true hd), Nat.sub_eq_zero_of_le (Nat.le_of_not_le h),
        Nat.sub_eq_zero_of_le (Nat.lt_of_not_le h)]

variable {n : Nat} {σ : Nat → Nat} {X : Vec (Option K)}

theorem cnt_sigma (hσ : SortValid n X.get σ) (P : Nat → Bool) : cnt n P = cnt n (fun i => P (σ i)) := by
  rw [cnt_eq_card, cnt_eq_card, Finset.card_filter, Finset.card_filter]
  exact (sum_sigma hσ fun j => if P j = true then 1 else 0).symm

theorem kthValid_of_sort (hσ : SortValid n X.get σ) {k : Nat} (hn : 0 < n) (hk : 0 < k) :
    KthValid n k X.get (σ (n - min k n)) := by
  have hk' : 0 < min k n := Nat.lt_min.mpr ⟨hk, hn⟩
  have hpos : n - min k n < n := Nat.sub_lt hn hk'
  have hsub : n - (n - min k n) = min k n := Nat.sub_sub_self (Nat.min_le_right k n)
  refine (kthValid_iff _ _ _ _).mpr ⟨hσ.1 _ hpos, ?_, ?_⟩
  · -- strictly larger entries sit at later sorted positions
    rw [cnt_sigma hσ]
    refine lt_of_le_of_lt (cnt_mono (q := fun i => decide (n - min k n + 1 ≤ i)) fun i hi h => ?_) ?_
    · rw [ltO_iff] at h
      exact decide_eq_true (not_le.mp fun hle => not_le.mpr h (sorted_le hσ hle hpos))
    · rw [cnt_ge, Nat.sub_add_eq, hsub]
      exact Nat.sub_lt hk' Nat.one_pos
  · rw [cnt_sigma hσ]
    refine le_trans ?_ (cnt_mono (p := fun i => decide (n - min k n ≤ i)) fun i hi h => ?_)
    · rw [cnt_ge, hsub]
    · exact (leO_iff _ _).mpr (sorted_le hσ (of_decide_eq_true h) hi)

variable [IsStrictOrderedRing K]

/-- **The hypotheses are never vacuous**: for every row with a feasible action and every configuration
with `T > 0` there are valid oracle inputs (a k-th largest index and a sorting permutation exist; top-k is
monotone, so a permutation that sorts its input sorts its output too). -/
theorem exists_valid (clip : K → K) (c : Cfg K) (n : Nat) (x : Nat → K) (mask : Nat → Bool)
    (hT : 0 < c.temp) (hf : ∃ j, j < n ∧ mask j = true) :
    ∃ kth σ, Valid clip c n x mask kth σ := by
  obtain ⟨σ, hσ⟩ := exists_sortValid n (pre clip c n x mask).get
  refine ⟨σ (n - min c.topK n), σ, hT, hf, ?_, Or.inr (hσ.topK _ _)⟩
  obtain ⟨jf, hjf, _⟩ := hf
  by_cases hk : c.topK = 0
  · exact Or.inl hk
  · exact Or.inr (kthValid_of_sort hσ (Nat.zero_lt_of_lt hjf) (Nat.pos_of_ne_zero hk))

theorem exists_greedyValid (n : Nat) (lg : Nat → Option K) (hn : 0 < n) : ∃ a, GreedyValid n lg a := by
  obtain ⟨a, ha, hmax⟩ := exists_isTop hn lg
  exact ⟨a, (greedyValid_iff _ _ _).mpr ⟨ha, hmax⟩⟩

theorem exists_sampleValid {w clip : K → K} {c : Cfg K} {n : Nat} {x : Nat → K} {mask : Nat → Bool}
    {kth : Nat} {σ : Nat → Nat} (hw : ExpLike w) (hv : Valid clip c n x mask kth σ) :
    ∃ a, SampleValid n (processLogits w clip c n x mask kth σ).prob a := by
  obtain ⟨j, hj, _, _, hk⟩ := argmax_kept hw hv
  exact ⟨j, hj, (kept_iff_pos hw hv j).mp hk⟩

end exists_
end Rl4co.Decode
