/-
C10, real-valued instantiation: the theorems of `Rl4co.Props.C10.Logits` with `w = Real.exp`, the failure of
shift invariance under `tanh(·)·C` clipping, and non-vacuity examples.
-/
import Rl4co.Props.C10.LogitsExists
import Rl4co.Props.C10.LogitsTight
import Mathlib.Analysis.Complex.Exponential
import Mathlib.Analysis.SpecialFunctions.Artanh

namespace Rl4co.Decode

theorem expLike_exp : ExpLike Real.exp :=
  ⟨Real.exp_pos, fun _ _ h => Real.exp_strictMono h, Real.exp_add⟩

/-- with `tanh_clipping = C > 0` as in the code (`torch.tanh(logits) * C`), shift invariance fails -/
theorem shift_invariant_tanh_counterexample (C : ℝ) (hC : 0 < C) :
    ¬ shift_invariant_clipped_statement Real.exp (fun v => Real.tanh v * C) := by
  apply shift_invariant_clipped_counterexample expLike_exp C
  · intro v
    rw [abs_mul, abs_of_pos hC]
    exact mul_le_of_le_one_left hC.le (abs_le.mpr ⟨(Real.neg_one_lt_tanh v).le, (Real.tanh_lt_one v).le⟩)
  · intro h
    exact zero_ne_one (Real.tanh_injective (mul_right_cancel₀ hC.ne' h))

/-- **C10 over ℝ with `exp`**: all clauses at once, for every row, mask with a feasible action, `T > 0`, `top_k`,
`top_p ≤ 1`, clipping function and valid oracle inputs. -/
theorem decoding_sound_real (clip : ℝ → ℝ) (c : Cfg ℝ) (n : Nat) (x : Nat → ℝ) (mask : Nat → Bool)
    (kth : Nat) (σ : Nat → Nat) (hv : Valid clip c n x mask kth σ) (hp1 : c.topP ≤ 1) :
    Spec.Decode.IsDist n (processLogits Real.exp clip c n x mask kth σ).prob 0 ∧
    Spec.Decode.MaskedZero n mask (processLogits Real.exp clip c n x mask kth σ).prob
      (processLogits Real.exp clip c n x mask kth σ).kept ∧
    Spec.Decode.ArgmaxKept n mask (score clip c x) (processLogits Real.exp clip c n x mask kth σ).kept ∧
    Spec.Decode.TopkCard n c.topK (score clip c x) (processLogits Real.exp clip c n x mask kth σ).kept ∧
    Spec.Decode.ToppMass n (softmaxN n Real.exp (afterK clip c n x mask kth).get).get
      (processLogits Real.exp clip c n x mask kth σ).kept c.topP 0 ∧
    (0 < c.topP → Spec.Decode.ToppTight n (softmaxN n Real.exp (afterK clip c n x mask kth).get).get
      (processLogits Real.exp clip c n x mask kth σ).kept c.topP 0) ∧
    (∀ a, GreedyValid n (processLogits Real.exp clip c n x mask kth σ).lg a →
      greedy mask a = some a ∧ Spec.Decode.GreedyOk n mask (processLogits Real.exp clip c n x mask kth σ).prob a) ∧
    (∀ a, SampleValid n (processLogits Real.exp clip c n x mask kth σ).prob a →
      Spec.Decode.SampleOk n mask (processLogits Real.exp clip c n x mask kth σ).kept a) :=
  ⟨probs_sum_one expLike_exp hv, masked_zero, argmax_kept expLike_exp hv, topk_card_le hv,
   topp_mass_ge expLike_exp hv hp1, fun hp0 => topp_tight expLike_exp hv hp0,
   fun a ha => (greedy_is_max expLike_exp hv a ha).imp_right And.left,
   fun a ha => (sample_feasible expLike_exp hv a ha []).1⟩

theorem shift_invariant_real (clip : ℝ → ℝ) (c : Cfg ℝ) (n : Nat) (x : Nat → ℝ) (mask : Nat → Bool)
    (kth : Nat) (σ : Nat → Nat) (hc : c.clipOn = false) (d : ℝ) :
    (processLogits Real.exp clip c n (fun j => x j + d) mask kth σ).prob =
      (processLogits Real.exp clip c n x mask kth σ).prob :=
  (shift_invariant expLike_exp hc d).1

noncomputable def exCfg : Cfg ℝ := { temp := 2, topK := 2, topP := 1 / 2, clipOn := false }
noncomputable def exX : Nat → ℝ := fun j => if j = 0 then 0 else if j = 3 then 5 else 1
def exMask : Nat → Bool := fun j => decide (j < 3)
def exSigma : Nat → Nat := fun i => if i = 0 then 3 else i - 1

/-- `σ = [3,0,1,2]` sorts the row entering the top-k filter: `-inf, 0, 1/2, 1/2` -/
theorem ex_sorted : SortValid 4 (pre id exCfg 4 exX exMask).get exSigma := by
  refine (sortValid_iff _ _ _).mpr ⟨by decide, by decide, fun i _ hi' => ?_⟩
  match i, hi' with
  | 0, _ =>
    rw [pre_get, if_neg (show ¬ exMask (exSigma 0) = true from Bool.false_ne_true)]
    exact bot_le
  | 1, _ =>
    rw [pre_of_mask (show exMask (exSigma 1) = true from rfl), pre_of_mask (show exMask (exSigma (1 + 1)) = true from rfl)]
    exact WithBot.coe_le_coe.mpr (div_le_div_of_nonneg_right (show (0 : ℝ) ≤ 1 from zero_le_one) zero_le_two)
  | 2, _ =>
    rw [pre_of_mask (show exMask (exSigma 2) = true from rfl), pre_of_mask (show exMask (exSigma (2 + 1)) = true from rfl)]
    exact le_refl _
  | i + 3, h => exact absurd h (Nat.not_lt.mpr (Nat.le_add_left 4 i))

/-- the hypotheses are satisfiable on a non-trivial row: 4 actions (one masked, a tie), `T = 2`, `top_k = 2`,
`top_p = 1/2`; `kth = 1` and `σ = [3,0,1,2]` are valid oracle inputs (`kth` is the entry at sorted position
`4 - 2`, and `σ` still sorts the row after the top-k filter) -/
theorem ex_valid : Valid id exCfg 4 exX exMask 1 exSigma :=
  ⟨show (0 : ℝ) < 2 from zero_lt_two, ⟨0, by decide, rfl⟩,
    Or.inr (kthValid_of_sort ex_sorted (k := 2) (by decide) (by decide)), Or.inr (ex_sorted.topK _ _)⟩

example : Spec.Decode.IsDist 4 (processLogits Real.exp id exCfg 4 exX exMask 1 exSigma).prob 0 :=
  probs_sum_one expLike_exp ex_valid

example : ∃ a, GreedyValid 4 (processLogits Real.exp id exCfg 4 exX exMask 1 exSigma).lg a :=
  exists_greedyValid 4 _ (by decide)

end Rl4co.Decode
