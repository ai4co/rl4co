/-
C10 on the *generated* pipeline: `Rl4co.Decode.Generated.processLogitsGen` is regenerated on every run from the
statements of `process_logits` (harness/probes/logits_trans.py).  `processLogitsGen_eq` proves it is the model
the C10 theorems are about (it stops compiling when a statement is moved, dropped, duplicated or nested
differently), and the clauses are restated on the generated definition.
-/
import Rl4co.Generated.LogitsPipeline
import Rl4co.Props.C10.LogitsOpt

namespace Rl4co.Decode

open scoped FieldOrderInst

section gen
set_option linter.unusedSectionVars false
variable {K : Type} [Field K] [LinearOrder K] [IsStrictOrderedRing K]
variable {w clip : K → K} {c : Cfg K} {n : Nat} {x : Nat → K} {mask : Nat → Bool} {kth : Nat} {σ : Nat → Nat}

theorem processLogitsGen_eq :
    Generated.processLogitsGen w clip c n x mask kth σ = processLogits w clip c n x mask kth σ := by
  simp only [Generated.processLogitsGen, processLogits, stageOrder_eq, runStages, List.foldl, applyStage]

/-- **C10 on the generated `process_logits`**: for every row, mask with a feasible action, `T > 0`, `top_k`,
`top_p ≤ 1`, clipping function, exp-like weight and valid oracle inputs. -/
theorem decoding_sound_generated (hw : ExpLike w) (hv : Valid clip c n x mask kth σ) (hp1 : c.topP ≤ 1) :
    Spec.Decode.IsDist n (Generated.processLogitsGen w clip c n x mask kth σ).prob 0 ∧
    Spec.Decode.MaskedZero n mask (Generated.processLogitsGen w clip c n x mask kth σ).prob
      (Generated.processLogitsGen w clip c n x mask kth σ).kept ∧
    Spec.Decode.ArgmaxKept n mask (score clip c x) (Generated.processLogitsGen w clip c n x mask kth σ).kept ∧
    Spec.Decode.TopkCard n c.topK (score clip c x) (Generated.processLogitsGen w clip c n x mask kth σ).kept ∧
    Spec.Decode.ToppMass n (softmaxN n w (afterK clip c n x mask kth).get).get
      (Generated.processLogitsGen w clip c n x mask kth σ).kept c.topP 0 ∧
    (0 < c.topP → Spec.Decode.ToppTight n (softmaxN n w (afterK clip c n x mask kth).get).get
      (Generated.processLogitsGen w clip c n x mask kth σ).kept c.topP 0) ∧
    (∀ a, GreedyValid n (Generated.processLogitsGen w clip c n x mask kth σ).lg a →
      greedy mask a = some a ∧
        Spec.Decode.GreedyOk n mask (Generated.processLogitsGen w clip c n x mask kth σ).prob a) ∧
    (∀ a, SampleValid n (Generated.processLogitsGen w clip c n x mask kth σ).prob a →
      Spec.Decode.SampleOk n mask (Generated.processLogitsGen w clip c n x mask kth σ).kept a) := by
  rw [processLogitsGen_eq]
  exact ⟨probs_sum_one hw hv, masked_zero, argmax_kept hw hv, topk_card_le hv, topp_mass_ge hw hv hp1,
    fun hp0 => topp_tight hw hv hp0,
    fun a ha => (greedy_is_max hw hv a ha).imp_right And.left,
    fun a ha => (sample_feasible hw hv a ha []).1⟩

theorem shift_invariant_generated (hw : ExpLike w) (hc : c.clipOn = false) (d : K) :
    (Generated.processLogitsGen w clip c n (fun j => x j + d) mask kth σ).prob =
      (Generated.processLogitsGen w clip c n x mask kth σ).prob := by
  rw [processLogitsGen_eq, processLogitsGen_eq]
  exact (shift_invariant hw hc d).1

end gen
end Rl4co.Decode
