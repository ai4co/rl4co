/-
Existence of finished mask-confined episodes (hence of feasible solutions) for the CVRP variants: a step
bound for runs through unfinished states plus "an unfinished reachable state offers an action" yields a
finished run (`exists_complete_of_bound`, Core/Basic).  Instantiated: every well-formed CVRPTW / SDVRP / SVRP
instance has a finished mask-confined episode (the model-level content of "every generated instance is
solvable", with the `gen_wf_*` links) and therefore — by C01 — a solution that is feasible by the independent
Spec: the Specs are not vacuous on well-formed instances.
-/
import Rl4co.Props.C01.Cvrptw
import Rl4co.Props.C02.Cvrptw
import Rl4co.Props.C01.Sdvrp
import Rl4co.Props.C01.Svrp
import Rl4co.Props.C02.Sdvrp
import Rl4co.Props.C02.Svrp

namespace Rl4co

namespace Cvrptw

theorem exists_complete_run (i : Inst) (hw : WF i) (hd : Cvrp.WF i.base) :
    ∃ as s, RunND env i (env.reset i) as s ∧ env.done i s = true :=
  exists_complete_of_bound env i (2 * i.base.n + 1) (fun _ _ h => steps_le i hd h)
    (fun as _ h _ => mask_nonempty i hw ⟨as, h.run⟩)

theorem feasible_exists (i : Inst) (hw : WF i) (hd : Cvrp.WF i.base) (hcap : 0 ≤ i.base.cap) :
    ∃ as, Spec.Cvrptw.Feasible i as := by
  obtain ⟨as, s, hr, hdn⟩ := exists_complete_run i hw hd
  exact ⟨as, feasible_of_run i hcap hw.ret hr.run hdn⟩

end Cvrptw

namespace Sdvrp

theorem exists_complete_run (i : Inst) (hw : WFpos i) :
    ∃ as s, RunND env i (env.reset i) as s ∧ env.done i s = true :=
  exists_complete_of_bound env i (2 * ((i.n : Int) + sumTo i.n i.demand / i.cap) + 1).toNat
    (fun as _ h => by have := steps_le i hw h; omega)
    (fun _ s _ _ => mask_nonempty i s)

theorem feasible_exists (i : Inst) (hw : WFpos i) : ∃ as, Spec.Sdvrp.Feasible i as := by
  obtain ⟨as, s, hr, hdn⟩ := exists_complete_run i hw
  exact ⟨as, feasible_of_run i hw.wf hr.run hdn⟩

end Sdvrp

namespace Svrp

theorem exists_complete_run (i : Inst) (hw : WF i) :
    ∃ as s, RunND env i (env.reset i) as s ∧ env.done i s = true :=
  exists_complete_of_bound env i (i.n + max (i.T - 1) 1) (fun _ _ h => steps_le i hw h)
    (fun _ s _ _ => mask_nonempty i s)

theorem feasible_exists (i : Inst) (hw : WF i) : ∃ as, Spec.Svrp.Feasible i as := by
  obtain ⟨as, s, hr, hdn⟩ := exists_complete_run i hw
  exact ⟨as, feasible_of_run i hw hr.run hdn⟩

/-- the property text's generic bound "two steps per customer plus one" does NOT hold for SVRP when there are
more than n+2 technicians: one customer, four technicians of which only the last qualifies — the only
mask-confined episode is `[0, 0, 0, 1]`, four steps > 2·1 + 1. -/
def manyTechs : Inst := ⟨1, 4, fun k => if k = 3 then 5 else 1, fun _ => 5, fun _ => 1, fun _ _ => 0⟩

theorem two_n_plus_one_fails :
    ∃ (i : Inst) (as : List Nat) (s : State), WF i ∧ RunND env i (env.reset i) as s ∧ env.done i s = true ∧
      2 * i.n + 1 < as.length := by
  refine ⟨manyTechs, [0, 0, 0, 1], exec env manyTechs (env.reset manyTechs) [0, 0, 0, 1],
    ⟨by decide, fun j h1 h2 => by
      have h2' : j ≤ 1 := h2
      have : j = 1 := by omega
      subst this; decide⟩, ?_, by decide, by decide⟩
  exact .of_admittedND (by decide)

end Svrp
end Rl4co
