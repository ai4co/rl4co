/-
C02 for mTSP (`n ≥ 1` customers, `m ≥ 1` agents): every reachable state — finished or not —
offers at least one action, so a finished row stays steppable (with the depot) while batch-mates run;
`done` is absorbing; every mask-confined episode is finished after at most `n + (m − 1) ≤ n + m` steps.
-/
import Rl4co.Proofs.Mtsp

namespace Rl4co.Mtsp

theorem mask_nonempty (i : Inst) (hwf : WF i) {s : State} (h : Reach env i s) :
    ∃ a, a < env.nAct i ∧ env.mask i s a = true := by
  have hi := inv_of_reach hwf.customers hwf.agents h
  cases hd : s.done with
  | true => exact ⟨0, by simp [env], hi.doneDep hd⟩
  | false =>
    obtain ⟨j, _, h2, hj⟩ := hi.someCust hd
    exact ⟨j, Nat.lt_succ_of_le h2, hj⟩

theorem done_stable (i : Inst) (hwf : WF i) {s : State} (h : Reach env i s) (a : Nat)
    (ha : a < env.nAct i) (hm : env.mask i s a = true) (hd : env.done i s = true) :
    env.done i (env.step i s a) = true :=
  done_step_of_none_left ((inv_of_reach hwf.customers hwf.agents h).doneNo hd) a

/-- termination measure: customers left + agents left -/
def mu (i : Inst) (s : State) : Nat := Routing.unvisited i.n (visited s) + (i.m - 1 - s.agent)

theorem mu_decreases (i : Inst) (s : State) (a : Nat) (hi : Inv i s)
    (hd : env.done i s = false) (ha : a < env.nAct i) (hm : env.mask i s a = true) :
    mu i (env.step i s a) < mu i s := by
  have hm' : s.avail a = true := hm
  show Routing.unvisited i.n (visited (env.step i s a)) + (i.m - 1 - (step i s a).agent) <
    Routing.unvisited i.n (visited s) + (i.m - 1 - s.agent)
  rw [step_agent]
  by_cases h0 : a = 0
  · subst h0
    have := Nat.lt_sub_of_add_lt (hi.depot hd hm').2
    rw [routing.unvisited_step_depot, if_pos rfl]
    exact Nat.add_lt_add_left (Nat.sub_lt_sub_left this (Nat.lt_succ_self _)) _
  · rw [← routing.unvisited_step_customer h0 ha hm, if_neg h0]
    exact Nat.add_lt_add_right (Nat.lt_succ_self _) _

theorem steps_le (i : Inst) (hwf : WF i) {as : List Nat} {s : State}
    (h : RunND env i (env.reset i) as s) : as.length ≤ i.n + (i.m - 1) := by
  have h0 : mu i (env.reset i) ≤ i.n + (i.m - 1) :=
    Nat.add_le_add (Routing.unvisited_le _ _) (Nat.sub_le _ _)
  have := steps_le_of_measure (e := env) (i := i) (mu i) (Inv i)
    (fun s a hi _ hm => inv_step hi hm)
    (fun s a hi hd ha hm => mu_decreases i s a hi hd ha hm) h (inv_reset i hwf.customers hwf.agents)
  exact Nat.le_trans (Nat.le_trans (Nat.le_add_right _ _) this) h0

/-- the bound in the form quoted by the property (`n + m`) -/
theorem steps_le' (i : Inst) (hwf : WF i) {as : List Nat} {s : State}
    (h : RunND env i (env.reset i) as s) : as.length ≤ i.n + i.m :=
  Nat.le_trans (steps_le i hwf h) (Nat.add_le_add_left (Nat.sub_le _ _) _)

/-- `n` customers and `m` agents: at most `n + m − 1` calls of `env.step` (every customer once, at most
`m − 1` returns), i.e. at most `num_loc + num_agents − 2` with `num_loc = n + 1` counting the depot. -/
theorem steps_le_text (i : Inst) (hwf : WF i) {as : List Nat} {s : State}
    (h : RunND env i (env.reset i) as s) : as.length ≤ (i.n + 1) + i.m - 2 := by
  have := steps_le i hwf h
  have := hwf.agents
  omega

/-- Non-vacuity of `WF` and tightness of the bound: 2 customers, 2 agents, the three-step episode
`[1,0,2]` (= n + m − 1 steps). -/
example : WF ⟨2, 2, fun _ _ => 1⟩ := ⟨by decide, by decide⟩
example : RunND env ⟨2, 2, fun _ _ => 1⟩ (env.reset ⟨2, 2, fun _ _ => 1⟩) [1, 0, 2]
    (exec env ⟨2, 2, fun _ _ => 1⟩ (env.reset ⟨2, 2, fun _ _ => 1⟩) [1, 0, 2]) :=
  .of_admittedND (by decide)

end Rl4co.Mtsp
