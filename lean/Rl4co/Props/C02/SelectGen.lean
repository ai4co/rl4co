/-
"Generated instances are solvable" for the selection family, as a chain of theorems:
generator post-condition ⇒ `WF` ⇒ no dead end + a complete feasible episode exists (C02 / C05),
together with the exact well-formedness condition of DPP / MDPP (`Dpp.no_dead_end_iff`): episodes are
dead-end free iff the instance has at least `max_decaps` allowed cells.  `Props/C18/Routing` is imported for the MCP
generator fact `Gen.mcp_gen_total` (`gen_ids_in_range`).  No Mathlib.
-/
import Rl4co.Env.SelectGen
import Rl4co.Props.C02.Flp
import Rl4co.Props.C02.Mcp
import Rl4co.Props.C02.Dpp
import Rl4co.Props.C05.SelectOpt
import Rl4co.Props.C18.Routing

namespace Rl4co

namespace Flp

/-- generator post-condition ⇒ `WF`, under the parameter condition `1 ≤ to_choose ≤ num_loc`
(which `FLPGenerator.__init__` does not check) -/
theorem gen_wf (numLoc toChoose : Nat) (D : Nat → Nat → Int) (d0 : Nat → Int)
    (h1 : 1 ≤ toChoose) (h2 : toChoose ≤ numLoc) : WF (genInst numLoc toChoose D d0) :=
  ⟨Int.ofNat_le.mpr h1, Int.ofNat_le.mpr h2⟩

theorem gen_defaults_wf (D : Nat → Nat → Int) (d0 : Nat → Int) :
    WF (genInst Params.genFlpNumLoc Params.genFlpToChoose D d0) :=
  gen_wf _ _ D d0 (by decide) (by decide)

/-- a well-formed instance never gets stuck, and some run without repeats ends with the optimal reward -/
theorem solvable (i : Inst) (hwf : WF i) :
    (∀ as s, Run env i (env.reset i) as s → env.done i s = false → ∃ a, a < env.nAct i ∧ env.mask i s a = true) ∧
    (∃ as s, RunND env i (env.reset i) as s ∧ env.done i s = true ∧ reward i s = Spec.Flp.optimum i) :=
  ⟨fun _ _ h hd => progress i hwf h hd, (best_reward_eq_optimum i hwf).1⟩

/-- the parameter condition is needed: `num_loc = 1`, `to_choose = 2` dead-ends after one step -/
example : let i := genInst 1 2 (fun _ _ => 0) (fun _ => 0)
    env.done i (exec env i (env.reset i) [0]) = false ∧ env.mask i (exec env i (env.reset i) [0]) 0 = false := by
  decide

end Flp

namespace Mcp

theorem gen_wf (numItems numSets nChoose maxSize : Nat) (items : Nat → List Nat) (sizes : Nat → Nat)
    (w : Nat → Int) (h1 : 1 ≤ nChoose) (h2 : nChoose ≤ numSets) :
    WF (genInst numItems numSets nChoose maxSize items sizes w) :=
  ⟨Int.ofNat_le.mpr h1, Int.ofNat_le.mpr h2⟩

theorem gen_defaults_wf (maxSize : Nat) (items : Nat → List Nat) (sizes : Nat → Nat) (w : Nat → Int) :
    WF (genInst Params.genMcpNumItems Params.genMcpNumSets Params.genMcpNSetsToChoose maxSize items sizes w) :=
  gen_wf _ _ _ _ _ _ _ (by decide) (by decide)

/-- every generated membership entry is padding (`0`) or an item id in `1 … num_items`
(link to the generator model: `Gen.mcp_gen_total`), so the environment's scatter into an
`(n_items + 1)`-wide buffer stays in range -/
theorem gen_ids_in_range (numItems numSets nChoose maxSize : Nat) (items : Nat → List Nat)
    (sizes : Nat → Nat) (w : Nat → Int)
    (hitems : ∀ j, ∀ x ∈ items j, 1 ≤ x ∧ x ≤ numItems) (j k : Nat) :
    (genInst numItems numSets nChoose maxSize items sizes w).mem j k ≤ numItems := by
  show (Gen.mcpRow (items j) (sizes j)).getD k 0 ≤ numItems
  rw [List.getD_eq_getElem?_getD]
  cases hget : (Gen.mcpRow (items j) (sizes j))[k]? with
  | none => simp
  | some x =>
    simp only [Option.getD_some]
    have hmem : x ∈ Gen.mcpRow (items j) (sizes j) := List.mem_of_getElem? hget
    rcases (Gen.mcp_gen_total (items j) (sizes j)).2.2 _ hmem with h | h
    · omega
    · exact (hitems j _ (List.mem_of_mem_take h)).2

theorem solvable (i : Inst) (hwf : WF i) :
    (∀ as s, Run env i (env.reset i) as s → env.done i s = false → ∃ a, a < env.nAct i ∧ env.mask i s a = true) ∧
    (∃ as s, RunND env i (env.reset i) as s ∧ env.done i s = true ∧ reward i s = Spec.Mcp.optimum i) :=
  ⟨fun _ _ h hd => progress i hwf h hd, (best_reward_eq_optimum i hwf).1⟩

end Mcp

namespace Dpp

theorem clearCells_eq (m : Nat → Bool) (cs : List Nat) (j : Nat) :
    clearCells m cs j = (m j && !decide (j ∈ cs)) := by
  induction cs generalizing m with
  | nil => simp [clearCells]
  | cons c cs ih =>
    rw [clearCells, ih, upd_apply]
    by_cases hj : j = c <;> simp [hj]

theorem clearCells_cnt (n : Nat) (m : Nat → Bool) (cs : List Nat) :
    cnt n m ≤ cnt n (clearCells m cs) + cs.length := by
  induction cs generalizing m with
  | nil => exact Nat.le_refl _
  | cons c cs ih =>
    have h1 : cnt n m ≤ cnt n (upd m c false) + 1 := by
      by_cases hc : c < n ∧ m c = true
      · exact Nat.le_of_eq (cnt_upd_false hc.1 hc.2).symm
      · apply Nat.le_succ_of_le (Nat.le_of_eq (cnt_congr fun j hj => ?_))
        rw [upd_apply]
        split
        · next hjc => exact Bool.eq_false_iff.mpr fun hm => hc ⟨hjc ▸ hj, hjc ▸ hm⟩
        · rfl
    rw [clearCells, List.length_cons, ← Nat.add_assoc]
    exact Nat.le_trans h1 (Nat.succ_le_succ (ih (upd m c false)))

theorem room_of_cleared {n quota : Nat} {cs : List Nat} (h : cs.length + quota ≤ n) :
    quota ≤ cnt n (clearCells (fun _ => true) cs) := by
  have := clearCells_cnt n (fun _ => true) cs
  rw [cnt_true] at this
  omega

/-- **DPP generator post-condition ⇒ `WF`**: with `|keepouts| + 1 + max_decaps ≤ n` (the generator draws
fewer than `num_keepout_max` keep-outs) the instance is well-formed, and the probe is pre-masked. -/
theorem gen_wf (n quota probe : Nat) (keepouts : List Nat) (hq : 1 ≤ quota)
    (hroom : keepouts.length + 1 + quota ≤ n) : WF (genDpp n quota probe keepouts) := by
  refine ⟨Int.ofNat_le.mpr hq, Int.ofNat_le.mpr ?_, Or.inr fun j hj => ?_⟩
  · exact room_of_cleared (cs := probe :: keepouts) hroom
  · rw [show j = probe from of_decide_eq_true hj]
    show clearCells (fun _ => true) (probe :: keepouts) probe = false
    rw [clearCells_eq, decide_eq_true List.mem_cons_self]; rfl

/-- **MDPP generator post-condition ⇒ `WF`** (`MDPPEnv` re-masks the probes itself) -/
theorem gen_wf_mdpp (n quota p0 : Nat) (probes keepouts : List Nat) (hq : 1 ≤ quota)
    (hroom : probes.length + keepouts.length + 1 + quota ≤ n) : WF (genMdpp n quota p0 probes keepouts) := by
  refine ⟨Int.ofNat_le.mpr hq, Int.ofNat_le.mpr ?_, Or.inl rfl⟩
  -- `MDPPEnv._reset` clears probes that the generator has cleared already
  have hal : ∀ j, allowed0 (genMdpp n quota p0 probes keepouts) j =
      clearCells (fun _ => true) (p0 :: (probes ++ keepouts)) j := fun j => by
    show (clearCells (fun _ => true) (p0 :: (probes ++ keepouts)) j &&
      (if Params.mdppResetProbeNegated then !(probes.contains j) else probes.contains j)) = _
    rw [clearCells_eq]
    by_cases hp : j ∈ probes <;> simp [Params.mdppResetProbeNegated, hp]
  rw [cnt_congr fun j _ => hal j]
  exact room_of_cleared (cs := p0 :: (probes ++ keepouts))
    (by rw [List.length_cons, List.length_append]; exact hroom)

/-- the hypotheses `hq`, `hroom` of `gen_wf` and `gen_wf_mdpp` at the default parameters (no `WF` in the statement: the cleared
cells are data).  The defaults of both generators on the shipped 10×10 grid leave room for `max_decaps`:
DPP clears ≤ 1 + (num_keepout_max − 1) cells, MDPP ≤ 1 + (num_probes_max − 1) + (num_keepout_max − 1) -/
theorem gen_defaults_wf :
    (Params.genDppNumKeepoutMax - 1) + 1 + Params.genDppMaxDecaps ≤ 100 ∧ 1 ≤ Params.genDppMaxDecaps ∧
    (Params.genMdppNumProbesMax - 1) + (Params.genMdppNumKeepoutMax - 1) + 1 + Params.genMdppMaxDecaps ≤ 100 ∧
    1 ≤ Params.genMdppMaxDecaps := by decide

/-- **exact well-formedness (DPP / MDPP)**.  ⇐ is `progress`; ⇒: otherwise placing a decap on every allowed
cell is a mask-confined run that ends unfinished with an empty mask. -/
theorem no_dead_end_iff (i : Inst) (hq : 1 ≤ i.quota) :
    (∀ as s, Run env i (env.reset i) as s → env.done i s = false → ∃ a, a < env.nAct i ∧ env.mask i s a = true)
      ↔ i.quota ≤ cnt i.n (allowed0 i) :=
  Sel.no_dead_end_iff view hq

/-- **generated ⇒ solvable (DPP / MDPP)**; the reward / optimum is not modelled -/
theorem solvable (i : Inst) (hwf : WF i) :
    (∀ as s, Run env i (env.reset i) as s → env.done i s = false → ∃ a, a < env.nAct i ∧ env.mask i s a = true) ∧
    (∃ as s, RunND env i (env.reset i) as s ∧ env.done i s = true ∧ Spec.Dpp.Feasible i as) := by
  refine ⟨fun _ _ h hd => progress i hwf h hd, ?_⟩
  obtain ⟨as, hf⟩ := Sel.exists_feasible view (Int.le_trans (by decide) hwf.1) hwf.room
  obtain ⟨s, hr, hd⟩ := (Sel.complete_iff view hwf.1 as).mpr hf
  exact ⟨as, s, hr, hd, (feasible_iff_sel i hwf.contract as).mpr hf⟩

/-- Non-vacuity: a 3×3 grid, probe 4, keep-outs 0 and 8, two decaps -/
example : WF (genDpp 9 2 4 [0, 8]) := gen_wf 9 2 4 [0, 8] (by decide) (by decide)
example : (List.range 9).map (genDpp 9 2 4 [0, 8]).avail =
    [false, true, true, true, false, true, true, true, false] := by decide

end Dpp
end Rl4co
