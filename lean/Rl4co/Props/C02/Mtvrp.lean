/-
C02 for the multi-task VRP environment (all 16 variants, one statement over the feature valuation):
(1) every state — finished or not, reachable or not — offers at least one action (`mask_nonempty`), so a finished row
    stays steppable while batch-mates run and no all-False mask row is ever produced;
(2) `done` is absorbing (`done_stable`);
(3) on a well-formed instance (`wf`: demands non-negative and at most one kind per customer, every
    customer servable on its own by a fresh vehicle — deadlines, capacity and distance limit may be met
    with equality) every mask-confined episode is finished after at most `2n+1` steps (`steps_le`; `progress` puts (1)
    and (3) together; the decoding-loop theorem `Decode.decode_loop_terminates` takes (1)–(3) separately, through
    `Decode.loopHyp_of_steps_le`).
`wf` is what the generator guarantees (C18) and it is evaluated by the harness on every instance used.
Without it the environment does not dead-end but idles at the depot forever (an unservable customer).
-/
import Rl4co.Proofs.MtvrpRun
import Rl4co.Proofs.MtvrpGenerated

namespace Rl4co.Mtvrp

theorem mask_nonempty (i : Inst) (s : State) : ∃ a, a < env.nAct i ∧ env.mask i s a = true :=
  routing.mask_nonempty i s

theorem done_stable (i : Inst) (s : State) (a : Nat) (hd : env.done i s = true) :
    env.done i (env.step i s a) = true :=
  routing.done_stable s a hd

/-- a fresh vehicle standing at the depot is offered the depot only when every customer is visited (else that customer
would be offered) -/
theorem visited_of_idle {i : Inst} (hwf : wf i = true) {s : State} (hinv : Fresh s) (hc0 : s.cur = 0)
    (hm : mask i s 0 = true) (j : Nat) (h1 : 1 ≤ j) (h2 : j ≤ i.n) : s.vis j = true := by
  rw [mask_def, if_pos rfl, hc0, beq_self_eq_true, Bool.true_and, Bool.not_eq_true'] at hm
  refine (Bool.not_eq_false _).mp fun hv => ?_
  exact Bool.false_ne_true (((any_succ_eq_false (p := canVisit i s)).1 hm j h1 h2).symm.trans
    (canVisit_of_fresh hwf hinv hc0 h1 h2 hv))

theorem steps_le (i : Inst) (hwf : wf i = true) {as : List Nat} {s : State}
    (h : RunND env i (env.reset i) as s) : as.length ≤ 2 * i.n + 1 :=
  routing.steps_le (cur := State.cur) (fun s a => by simp only [env]; rw [step_def]) (Inv := Fresh)
    (fun s a _ _ _ => fresh_step i s a) (fun _ hi hc hm => visited_of_idle hwf hi hc hm) h (fresh_reset i) rfl

/-- the same on the environment assembled from the statement-level translation of `get_action_mask` / `_step` -/
theorem steps_le_gen (i : Inst) (hwf : wf i = true) {as : List Nat} {s : State}
    (h : RunND envGen i (envGen.reset i) as s) : as.length ≤ 2 * i.n + 1 := by
  rw [envGen_eq] at h
  exact steps_le i hwf h

/-- an unfinished episode offers an action and is still within the step bound: it reaches `done` without ever seeing
an empty mask -/
theorem progress (i : Inst) (hwf : wf i = true) {as : List Nat} {s : State}
    (h : RunND env i (env.reset i) as s) (hd : env.done i s = false) :
    ∃ a, a < env.nAct i ∧ env.mask i s a = true ∧ as.length + 1 ≤ 2 * i.n + 1 := by
  obtain ⟨a, ha, hm⟩ := mask_nonempty i s
  refine ⟨a, ha, hm, ?_⟩
  have := steps_le i hwf (h.snoc hd ha hm)
  rwa [List.length_append] at this

/-- one customer whose direct arrival time EQUALS its deadline (travel time 256, deadline 256): well-formed,
and the episode `[1, 0]` is offered by the mask and finishes (before commit 6a508fb of the repository under /repo the customer
was never offered and the environment idled at the depot forever) -/
def idleInst : Inst :=
  { n := 1, cap := 4, dL := fun j => if j = 0 then 0 else 1, dB := fun _ => 0, openR := false, limit := none,
    early := fun _ => 0, late := fun j => some (if j = 0 then 2048 else 256), service := fun _ => 0,
    D := fun a b => if a = b then 0 else 256, T := fun a b => if a = b then 0 else 256 }
example : wf idleInst = true := by decide
example : ∃ s, Run env idleInst (env.reset idleInst) [1, 0] s ∧ env.done idleInst s = true :=
  ⟨_, .of_admitted (by decide), by decide⟩

/-- Non-vacuity of `wf` and of the bound: the three-step episode `[1, 2, 0]` on `exInst`
(closed routes, linehaul + backhaul, distance limit, time windows). -/
example : wf exInst = true := by decide
example : RunND env exInst (env.reset exInst) [1, 2, 0] (exec env exInst (env.reset exInst) [1, 2, 0]) :=
  .of_admittedND (by decide)

end Rl4co.Mtvrp
