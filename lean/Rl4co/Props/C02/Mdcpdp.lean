/-
C02 for MDCPDP (row stepped on its own, well-formed hand-supplied instance — one capacity entry per
depot, capacity of depot 0 at least 1): every reachable state offers an action — finished states
keep node 0 open; `done` is absorbing; a mask-confined episode is finished EXACTLY when it has
`N + K − 1` steps (every node once, plus one return for every vehicle but the last), so all rows of a batch finish
at the same step and the bundled decoding loops never pad an MDCPDP row.
Nothing here depends on the `current_depot` rule: the proofs are for `envF tok`, the statements for the code as it is.
-/
import Rl4co.Proofs.Mdcpdp

namespace Rl4co.Mdcpdp
open Fixed

section
variable {tok : Bool} {i : Inst} {b : Bool} {s : State}

theorem mask_nonempty_of_inv (hwf : WFT tok i) (hi : InvT tok i s) : ∃ a, a < i.N ∧ s.mask a = true := by
  have hev := hwf.wf.even
  have hk := hwf.wf.kpos
  have hx := hi.invX
  have hdK := hx.depK
  obtain ⟨b, hp⟩ := hx.exists_phase
  rcases hp with ⟨_, hmk, _⟩ | hst
  · exact ⟨0, hwf.wf.depot_lt hk, by rw [hmk]; rfl⟩
  rw [hst.mask]
  cases hd : s.done with
  | true => exact ⟨s.depot, hwf.wf.depot_lt hdK, by rw [maskOf_cur _ _ _ _ _ _ _ hdK]; exact Bool.or_true _⟩
  | false =>
    have hcge := carry_nonneg hx
    cases b with
    | true =>
      -- no vehicle is out: an unvisited depot is offered
      obtain ⟨hc, hany⟩ := hst.home rfl
      obtain ⟨j, hj, hjav⟩ := anyIn_eq_true.mp (hany hd)
      have hjd : j ≠ s.depot := by intro h; rw [h, hst.zero] at hjav; cases hjav
      refine ⟨j, hwf.wf.depot_lt hj, ?_⟩
      rw [maskOf_depot _ _ _ _ _ _ _ hj hjd, hjav, hx.tdLow j (by omega), hany hd, hc]; rfl
    | false =>
      have hcap : 1 ≤ i.cap s.depot := by
        cases tok with
        | true => exact hwf.capPos rfl _ hdK
        | false => rw [hi.dep0 (Or.inl rfl)]; exact hwf.wf.cap0
      -- a pickup that is still to be visited fits the empty vehicle
      have hpick : s.carry = 0 → ∀ p, i.K ≤ p → p < i.K + i.h → s.avail p = true →
          maskOf i false s.avail s.toDeliver s.carry s.depot false p = true := by
        intro hc0 p h1 h2 hav
        rw [maskOf_pickup _ _ _ _ _ _ _ h1 h2, hav, hx.tdLow p h2, hc0, decide_eq_false (by omega)]
        rfl
      by_cases hcpos : 0 < s.carry
      · -- something is on board: its delivery is offered
        have : 0 < onb i s.avail := by have := hx.carryEq; omega
        obtain ⟨k, hk1, hk2⟩ := cnt_pos.mp this
        simp only [Bool.and_eq_true, Bool.not_eq_true'] at hk2
        refine ⟨i.K + i.h + k, by omega, ?_⟩
        have htd := hx.tdDel (i.K + k) (by omega) (by omega)
        rw [Nat.add_right_comm, hk2.1] at htd
        rw [maskOf_delivery _ _ _ _ _ _ _ (Nat.le_add_right _ _), hk2.2, htd]; rfl
      · -- nothing is on board; some node is still to be visited
        have hc0 : s.carry = 0 := by omega
        obtain ⟨j, hj, hjav⟩ := exists_avail_of_not_done hx hd
        by_cases hjK : j < i.K
        · -- a depot: the empty vehicle may return
          refine ⟨s.depot, hwf.wf.depot_lt hdK, ?_⟩
          rw [maskOf_cur _ _ _ _ _ _ _ hdK, anyIn_eq_true.mpr ⟨j, hjK, hjav⟩, hc0]; rfl
        · by_cases hjp : j < i.K + i.h
          · exact ⟨j, hj, hpick hc0 j (Nat.le_of_not_lt hjK) hjp hjav⟩
          · -- a delivery: its pickup is still to be visited too, since nothing is on board
            obtain ⟨k, rfl⟩ := Nat.exists_eq_add_of_le (Nat.le_of_not_lt hjp)
            refine ⟨i.K + k, by omega, hpick hc0 _ (by omega) (by omega) ?_⟩
            cases hh : s.avail (i.K + k) with
            | true => rfl
            | false =>
              have : 0 < onb i s.avail := cnt_pos.mpr ⟨k, by omega, by rw [hh, hjav]; rfl⟩
              have := hx.carryEq; omega

/-- the visits still to come: every unvisited node, one return for every unvisited depot — but the
vehicle that starts next has no return before it (`b`, the bit of `Phase`: no vehicle is out) -/
def visitsLeft (i : Inst) (b : Bool) (s : State) : Nat :=
  cnt i.N s.avail + cnt i.K s.avail - (if b then 1 else 0)

theorem visitsLeft_stepF (hwf : WFT tok i) (hi : InvPh tok i b s) (hd : s.done = false) {a : Nat}
    (ha : a < i.N) (hm : s.mask a = true) : visitsLeft i (backFlag i s a) (stepF tok i s a) + 1 = visitsLeft i b s := by
  have hev := hwf.wf.even
  have hk := hi.offered hwf ha hm
  -- visiting a customer leaves the depots alone
  have hcust : i.K ≤ a → cnt i.K (upd s.avail a false) = cnt i.K s.avail := fun h =>
    cnt_congr (fun j hj => upd_other _ _ _ _ (by omega))
  unfold visitsLeft
  rw [stepF_avail]
  cases hk with
  | start haK hav hb hc =>
    have h1 := cnt_upd_false ha hav
    have h2 := cnt_upd_false haK hav
    rw [backFlag_of_avail hav, hb]
    simp only [if_true, Bool.false_eq_true, if_false, Nat.sub_zero]; omega
  | home hav hc hb =>
    rcases hb with ⟨hb, hany⟩ | hb
    · obtain ⟨j, hj, hjav⟩ := anyIn_eq_true.mp hany
      have : 0 < cnt i.K s.avail := cnt_pos.mpr ⟨j, hj, hjav⟩
      rw [backFlag_of_visited hi.inv.invX.depK hav, upd_false_same hav, hb]
      simp only [if_true, Bool.false_eq_true, if_false, Nat.sub_zero]; omega
    · rw [hd] at hb; cases hb
  | pickup h1 h2 hb hav =>
    have h3 := cnt_upd_false ha hav
    rw [backFlag_of_avail hav, hb, hcust h1]
    simp only [Bool.false_eq_true, if_false, Nat.sub_zero]; omega
  | deliver h hb hav =>
    have h3 := cnt_upd_false ha hav
    rw [backFlag_of_avail hav, hb, hcust (by omega)]
    simp only [Bool.false_eq_true, if_false, Nat.sub_zero]; omega

theorem visitsLeft_eq_zero_iff (hwf : WF i) (hi' : InvPh tok i b s) : visitsLeft i b s = 0 ↔ s.done = true := by
  have hi := hi'.inv.invX
  have hp := hi'.phase
  constructor
  · intro h
    cases hd : s.done with
    | true => rfl
    | false =>
      exfalso
      have hN : 0 < cnt i.N s.avail := cnt_pos.mpr (exists_avail_of_not_done hi hd)
      -- while no vehicle is out and the episode is unfinished, some depot is unvisited
      have hK : b = true → 0 < cnt i.K s.avail := by
        intro hb
        apply cnt_pos.mpr
        rcases hp with ⟨_, _, hav⟩ | hst
        · exact ⟨s.depot, hi.depK, hav _⟩
        · exact anyIn_eq_true.mp ((hst.home hb).2 hd)
      unfold visitsLeft at h
      cases b with
      | true => have := hK rfl; simp only [if_true] at h; omega
      | false => simp only [Bool.false_eq_true, if_false] at h; omega
  · intro hd
    have hall := avail_of_done hi hd
    unfold visitsLeft
    rw [cnt_eq_zero.mpr hall, cnt_eq_zero.mpr (fun j hj => hall j (hwf.depot_lt hj))]
    exact Nat.zero_sub _

theorem length_add_visitsLeft (hwf : WFT tok i) {s' : State} {as : List Nat} (h : RunND (envF tok) i s as s') :
    ∀ {b}, InvPh tok i b s → ∃ b', InvPh tok i b' s' ∧ as.length + visitsLeft i b' s' = visitsLeft i b s := by
  induction h with
  | nil s => exact fun hi => ⟨_, hi, Nat.zero_add _⟩
  | @cons s s' a as hd ha hm _ ih =>
    intro b hi
    obtain ⟨b', hi', e⟩ := ih (invPh_stepF hwf hi ha hm)
    have e' : as.length + visitsLeft i b' s' = visitsLeft i (backFlag i s a) (stepF tok i s a) := e
    have := visitsLeft_stepF hwf hi hd ha hm
    exact ⟨b', hi', by rw [List.length_cons]; omega⟩

/-- **Exact count.**  A mask-confined run that never steps a finished state is finished exactly when
it has `N + K − 1` steps: every node once plus one return for every vehicle but the last. -/
theorem done_iff_lengthF (hwf : WFT tok i) {as : List Nat} (h : RunND (envF tok) i (reset i) as s) :
    as.length ≤ i.N + i.K - 1 ∧ (s.done = true ↔ as.length = i.N + i.K - 1) := by
  have hk := hwf.wf.kpos
  obtain ⟨b', hi', e⟩ := length_add_visitsLeft hwf h (invPh_reset i hwf.wf)
  have h0 : visitsLeft i true (reset i) = i.N + i.K - 1 := by
    unfold visitsLeft
    rw [(cnt_eq_n (p := (reset i).avail)).mpr (fun _ _ => rfl), (cnt_eq_n (p := (reset i).avail)).mpr (fun _ _ => rfl)]
    rfl
  rw [← visitsLeft_eq_zero_iff hwf.wf hi']
  omega

end

theorem mask_nonempty (i : Inst) (hwf : WF i) {s : State} (h : Reach env i s) :
    ∃ a, a < env.nAct i ∧ env.mask i s a = true :=
  mask_nonempty_of_inv hwf.toT (inv_of_reach hwf h)

theorem done_stable (i : Inst) (hwf : WF i) {s : State} (h : Reach env i s) (a : Nat)
    (hd : env.done i s = true) : env.done i (env.step i s a) = true := by
  show (step i s a).done = true
  rw [step_eq]; exact done_stepF (inv_of_reach hwf h).invX hd a

theorem steps_le (i : Inst) (hwf : WF i) {as : List Nat} {s : State}
    (h : RunND env i (env.reset i) as s) : as.length ≤ i.N + i.K - 1 :=
  (done_iff_lengthF hwf.toT (env_eq ▸ h)).1

/-- Non-vacuity: a well-formed instance with 2 depots and one order, and the run `[0,2,3,0,1]` of
exactly `N + K − 1 = 5` steps. -/
def exInst : Inst :=
  { N := 4, K := 2, split0 := 3, KG := 2, cap := fun _ => 1, D := fun _ _ => 1, openMode := false,
    wNum := 0, wDen := 1 }
example : WF exInst := by decide
example : RunND env exInst (env.reset exInst) [0, 2, 3, 0, 1]
    (exec env exInst (env.reset exInst) [0, 2, 3, 0, 1]) :=
  .of_admittedND (by decide)
example : env.done exInst (exec env exInst (env.reset exInst) [0, 2, 3, 0, 1]) = true := by decide

/-- **Equal length**, for the code as it is. -/
theorem done_iff_length (i : Inst) (hwf : WF i) {as : List Nat} {s : State}
    (h : RunND env i (env.reset i) as s) : env.done i s = true ↔ as.length = i.N + i.K - 1 :=
  (done_iff_lengthF hwf.toT (env_eq ▸ h)).2

/-- all rows of a batch with the same numbers of nodes and depots finish at the same step -/
theorem equal_length (i j : Inst) (hi : WF i) (hj : WF j) (hN : i.N = j.N) (hK : i.K = j.K)
    {as bs : List Nat} {s t : State} (h1 : RunND env i (env.reset i) as s) (h2 : RunND env j (env.reset j) bs t)
    (hd1 : env.done i s = true) (hd2 : env.done j t = true) : as.length = bs.length := by
  rw [(done_iff_length i hi h1).mp hd1, (done_iff_length j hj h2).mp hd2, hN, hK]

/-- Non-vacuity of `done_iff_length`: the run `[0,2,3,0,1]` of `exInst` above has exactly `N + K − 1 = 5` steps. -/
example : [0, 2, 3, 0, 1].length = exInst.N + exInst.K - 1 := by decide

end Rl4co.Mdcpdp
