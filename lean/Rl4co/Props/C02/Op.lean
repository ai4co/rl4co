/-
C02 for OP: (1) every state whatsoever offers the depot, so a finished row stays steppable while
batch-mates run and no row is ever all-masked; (2) `done` is absorbing along mask-admitted steps from
reachable states; (3) every mask-confined episode is finished after at most `max (n+1) 2` steps
(`n+1` as soon as there is a customer; the degenerate bound 2 covers "depot at the very first step",
which the code does not count as a return).
-/
import Rl4co.Props.C01.Op

namespace Rl4co.Op
open Rl4co.Prize

theorem mask_nonempty (i : Inst) (s : State) : ∃ a, a < env.nAct i ∧ env.mask i s a = true :=
  ⟨0, Nat.succ_pos _, mask_depot i s⟩

theorem done_stable (i : Inst) (s : State) (a : Nat) (hr : Reach env i s)
    (hd : env.done i s = true) (hm : env.mask i s a = true) :
    env.done i (env.step i s a) = true :=
  (isTour.pad hr hd hm).2.1

theorem steps_le (i : Inst) {as : List Nat} {s : State}
    (h : RunND env i (env.reset i) as s) : as.length ≤ max (i.n + 1) 2 :=
  isTour.steps_le h

/-- Non-vacuity of the bound: with one customer the two-step episode `[1, 0]` meets `n + 1`, and the
depot-first episode `[0, 0]` needs two steps as well. -/
example : RunND env exInst (env.reset exInst) [1, 0] (exec env exInst (env.reset exInst) [1, 0]) :=
  .of_admittedND (by decide)
example : RunND env exInst (env.reset exInst) [0, 0] (exec env exInst (env.reset exInst) [0, 0]) :=
  .of_admittedND (by decide)
example : env.done exInst (exec env exInst (env.reset exInst) [0, 0]) = true := by decide

end Rl4co.Op
