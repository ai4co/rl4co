/-
Two parts.  (1) C02 for FJSP / JSSP, the time-advance loop counted over a whole episode: wait actions plus
iterations of `while step_complete.any()` are at most the number of operations, since every execution of
`_transit_to_next_time` moves the clock past the completion of at least one operation; with `steps_eq`
this is the property text's "one step per operation plus one per wait", the hidden loop included.
(2) From `valid_schedule_exists` on: sanity lemmas of `Spec.Fjsp.ValidSchedule` (neither vacuous nor
over-constrained), which belong to C07 (the harness lists them there); they stand here because the first needs both a
finished run (`exists_done_run`, C02) and its validity (`schedule_valid`, C07).
-/
import Rl4co.Props.C02.Fjsp
import Rl4co.Props.C07.Fjsp

namespace Rl4co.Fjsp
open Rl4co.Spec.Fjsp (isReal opOf Sched ValidSchedule)

def transitsOfRun (i : Inst) : State → List Nat → Nat
  | _, [] => 0
  | s, a :: as => transitsOfStep i s a + transitsOfRun i (step i s a) as

theorem transits_run {i : Inst} (hwf : WF i) {s s' : State} {as : List Nat} (h : Run env i s as s') (h2 : Inv2 i s) :
    (unsched i s' + cntBusy i s') + transitsOfRun i s as ≤ unsched i s + cntBusy i s := by
  induction h with
  | nil s => simp [transitsOfRun]
  | @cons s s' a as ha hm _ ih =>
    simp only [env] at ha hm
    have h1 := ih (inv2_step hwf h2 ha hm)
    have h3 := transits_step hwf h2 ha hm
    simp only [env] at h1
    simp only [transitsOfRun]
    omega

/-- **C02, the hidden loop counted**: over every mask-confined episode (any length, any padding) the total
number of executions of `_transit_to_next_time` — explicit waits and iterations of the
`while step_complete.any()` loop together — is at most the number of operations. -/
theorem transits_le (i : Inst) (hwf : WF i) (as : List Nat) (s : State) (h : Run env i (env.reset i) as s) :
    transitsOfRun i (reset i) as ≤ nReal i := by
  have h1 := transits_run hwf h (inv2_reset hwf)
  have h2 : unsched i (env.reset i) = nReal i := unsched_reset i
  have h3 : cntBusy i (env.reset i) = 0 := cntBusy_reset i
  simp only [env] at h1 h2 h3
  omega

example : transitsOfRun exFjsp (reset exFjsp) [1, 4, 0, 1, 4, 0] = 2 ∧ nReal exFjsp = 4 ∧
    transitsOfRun exJssp (reset exJssp) [1, 2, 1, 2] = 3 := by decide +kernel

/-- a valid schedule exists for every well-formed instance (built by any mask-following policy) -/
theorem valid_schedule_exists (i : Inst) (hwf : WF i) : ∃ σ mk, ValidSchedule i σ mk := by
  obtain ⟨as, s, hrun, hd⟩ := exists_done_run i hwf
  exact ⟨schedOf s, - reward i s, schedule_valid i hwf as s hrun hd⟩

theorem makespan_unique {i : Inst} {σ : Sched} {mk mk' : Int} (h : ValidSchedule i σ mk) (h' : ValidSchedule i σ mk') :
    mk = mk' := h.mk_unique h'

theorem makespan_pos {i : Inst} {σ : Sched} {mk : Int} (h : ValidSchedule i σ mk) : 0 < mk := by
  obtain ⟨o, ho, hr, he⟩ := h.mkAttained
  obtain ⟨m, _, _, _, hp, hf, h0⟩ := h.machine_of ho hr
  omega

theorem makespan_eq_spec {i : Inst} (hwf : WF i) {σ : Sched} {mk : Int} (h : ValidSchedule i σ mk) :
    mk = Spec.Fjsp.makespan i σ := by
  obtain ⟨hup, o, ho, hr, he⟩ := makespan_spec hwf σ
  obtain ⟨o', ho', hr', he'⟩ := h.mkAttained
  have := h.mkUpper o ho hr
  have := hup o' ho' hr'
  omega

/-- delaying the whole schedule by `c ≥ 0` keeps it valid and adds `c` to the makespan (the problem has no
absolute deadlines) -/
theorem valid_shift {i : Inst} {σ : Sched} {mk : Int} (h : ValidSchedule i σ mk) (c : Int) (hc : 0 ≤ c) :
    ValidSchedule i ⟨fun o => σ.start o + c, fun o => σ.finish o + c, σ.assign⟩ (mk + c) := by
  refine ⟨fun o ho hr => ?_, fun j hj o ho h1 h2 => Int.add_le_add_right (h.order j hj o ho h1 h2) c,
    fun m hm o1 ho1 o2 ho2 hr1 hr2 hne ha1 ha2 =>
      (h.machine m hm o1 ho1 o2 ho2 hr1 hr2 hne ha1 ha2).imp (Int.add_le_add_right · c) (Int.add_le_add_right · c),
    fun o ho hr => Int.add_le_add_right (h.mkUpper o ho hr) c, ?_⟩
  · obtain ⟨h1, h2, h3⟩ := h.once o ho hr
    refine ⟨h1, Int.add_nonneg h2 hc, fun m hm ha => ⟨(h3 m hm ha).1, ?_⟩⟩
    show σ.finish o + c = σ.start o + c + i.proc m o
    rw [(h3 m hm ha).2, Int.add_right_comm]
  · obtain ⟨o, ho, hr, he⟩ := h.mkAttained
    exact ⟨o, ho, hr, congrArg (· + c) he⟩

/-- operations of a job complete in strictly increasing order, so a job's last operation completes at
least (number of its operations) time units after 0 -/
theorem job_finish_strict {i : Inst} {σ : Sched} {mk : Int} (h : ValidSchedule i σ mk) {j : Nat} (hj : j < i.J)
    (hN : i.endOp j < i.N) :
    ∀ k, i.startOp j + k ≤ i.endOp j → (k : Int) + 1 ≤ σ.finish (i.startOp j + k) := by
  intro k
  induction k with
  | zero =>
    intro hk
    have ho : i.startOp j + 0 < i.N := Nat.lt_of_le_of_lt hk hN
    have hr := real_of_job hj (Nat.le_add_right _ 0) hk
    have := (h.once _ ho hr).2.1
    have := h.start_lt_finish ho hr
    omega
  | succ k ih =>
    intro hk
    have h1 := ih (Nat.le_of_succ_le hk)
    have ho : i.startOp j + (k + 1) < i.N := Nat.lt_of_le_of_lt hk hN
    have hord := h.order j hj (i.startOp j + k) (Nat.lt_of_succ_lt ho) (Nat.le_add_right _ _) hk
    have := h.start_lt_finish ho (real_of_job hj (Nat.le_add_right _ _) hk)
    rw [show i.startOp j + k + 1 = i.startOp j + (k + 1) from rfl] at hord
    push_cast
    omega

/-- the oracle rejects the obvious corruptions of a valid schedule (`valid` is not vacuous): on `exFjsp`,
the schedule of the finished run is accepted, and it is rejected once an operation is moved onto a busy
machine interval, started before its job predecessor completes, shortened, or the makespan misreported -/
example :
    let s := exec env exFjsp (env.reset exFjsp) [1, 4, 0, 1, 4, 0]
    let σ := schedOf s
    Spec.Fjsp.valid exFjsp σ 6 = true ∧
    Spec.Fjsp.valid exFjsp σ 7 = false ∧
    Spec.Fjsp.valid exFjsp ⟨σ.start, σ.finish, fun m o => if o = 2 then m == 0 else σ.assign m o⟩ 6 = false ∧
    Spec.Fjsp.valid exFjsp ⟨fun o => if o = 1 then 2 else σ.start o, fun o => if o = 1 then 5 else σ.finish o, σ.assign⟩ 6 = false ∧
    Spec.Fjsp.valid exFjsp ⟨σ.start, fun o => if o = 3 then 5 else σ.finish o, σ.assign⟩ 6 = false := by decide +kernel

end Rl4co.Fjsp
