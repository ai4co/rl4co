/-
C02 for FFSP: every state of a row — unfinished, or finished while a batch-mate is still running — offers an
action (a finished row exactly the wait action); `done` is absorbing; every step of an unfinished row strictly
advances the clock `(time_idx, sub_time_idx)` and `time_idx` never exceeds the total work `D` (longest
durations, a 0 counted as 1) — for all durations ≥ 0 — hence at most `(D+1)·M·S` steps.  That
`_move_to_next_machine` itself terminates is `move_terminates` in `Proofs/Ffsp.lean`, next to the invariant
it serves.

Scope: states up to and including the step at which the whole batch is
finished.  After that step the stored mask is stale (`_update_step_state` is skipped); it still
offers the job scheduled last, whose selection would un-finish the row — `stale_mask_after_all_done`.

Which environment: a property of a row is stated and proved on `envM` (`Reach envM`, the row next to running
batch-mates, where the invariants `Live`, `Exact` live); `env` (the row alone) differs in its last step only
(`solo_last`), and the `_solo` statements follow from the `envM` ones.
-/
import Rl4co.Proofs.FfspWork
namespace Rl4co.Ffsp

theorem mask_nonempty_live (i : Inst) (s : State) (l : Live i s) : ∃ a, a < i.J + 1 ∧ s.mask a = true := by
  cases hd : s.done with
  | true => exact ⟨i.J, Nat.lt_succ_self _, mask_wait i s l.fresh hd⟩
  | false =>
    obtain ⟨_, j, hj, hloc, hjw⟩ := (ready_iff i s).mp (l.rdy hd)
    exact ⟨j, Nat.lt_succ_of_lt hj, by rw [mask_job i s l.fresh hj, hloc, hjw, beq_self_eq_true]; rfl⟩

/-- **No dead ends, finished rows included**: every state of a row whose batch is still running
offers at least one action. -/
theorem mask_nonempty (i : Inst) (h : WF i) {s : State} (hr : Reach envM i s) :
    ∃ a, a < envM.nAct i ∧ envM.mask i s a = true :=
  mask_nonempty_live i s (live_of_reach i h hr)

theorem mask_nonempty_solo (i : Inst) (h : WF i) {as : List Nat} {s : State}
    (hr : RunND env i (env.reset i) as s) (hd : s.done = false) :
    ∃ a, a < env.nAct i ∧ env.mask i s a = true :=
  mask_nonempty_live i s ((solo_inv i h (live_reset i h) hr).2 hd)

/-- a finished row next to running batch-mates is offered exactly the wait action. -/
theorem finished_offers_wait_only (i : Inst) (h : WF i) {s : State} (hr : Reach envM i s)
    (hd : s.done = true) (a : Nat) : s.mask a = decide (a = i.J) :=
  mask_of_done i s (live_of_reach i h hr) hd a

/-- **`done` is absorbing** under every admitted step, whatever the batch-mates do. -/
theorem done_stable (i : Inst) (h : WF i) {s : State} (hr : Reach envM i s) (hd : s.done = true)
    (a : Nat) (hm : s.mask a = true) (g : Bool) : (stepG i s a g).done = true :=
  done_stable_live i s (live_of_reach i h hr) hd a hm g

/-- **Time bound**: the clock of an unfinished row never exceeds the
total work `D = Σ_job Σ_stage max(1, longest duration of the job in that stage)` — zero durations included. -/
theorem time_le_work (i : Inst) (h : WF i) {s : State} (hr : Reach envM i s)
    (hd : s.done = false) : s.time ≤ totalWork i :=
  Nat.le_trans (Nat.le_trans (Nat.le_add_right _ _) (prog_of_reach i h hr hd).1)
    (started_le_total (live_of_reach i h hr).core)

theorem pos_lt_bound (i : Inst) (h : WF i) {s : State} (hr : Reach envM i s)
    (hd : s.done = false) : pos i s < stepBound i :=
  idx_lt (Nat.lt_succ_of_le (time_le_work i h hr hd)) (live_of_reach i h hr).core.sub_lt

theorem pos_iter (i : Inst) (s : State) : ∀ n, pos i (iter i n s) = pos i s + n
  | 0 => rfl
  | n + 1 => by rw [iter, pos_advance, pos_iter i s n]; rfl

/-- **Iteration bound of `_move_to_next_machine`, from the instance data.**  The `while` body runs
`n ≥ 1` times in a step that leaves the row unfinished, each run advances the clock position by one, and
the position stays below `(D+1)·M·S`: so `n ≤ (D+1)·M·S − pos`, and over a whole episode the body runs
fewer than `(D+1)·M·S` times in total (`D`, `M`, `S` are instance data; no state-dependent fuel). -/
theorem move_iterations_le (i : Inst) (h : WF i) {s : State} (hr : Reach envM i s) (a : Nat)
    (ha : a < i.J + 1) (hm : s.mask a = true) (hd : (stepM i s a).done = false) :
    ∃ n, 1 ≤ n ∧ moveNext i (apply i s a) = iter i n (apply i s a) ∧
      pos i (stepM i s a) = pos i s + n ∧ pos i s + n < stepBound i := by
  have hlt := pos_lt_bound i h (reach_stepM hr ha hm) hd
  rw [stepM_done] at hd
  obtain ⟨f, hf⟩ := moveNext_of_not_done h hd
  obtain ⟨n, hn1, he⟩ := moveLoop_is_iter i f (apply i s a)
  have hpos : pos i (stepM i s a) = pos i s + n := by
    show pos i (moveNext i (apply i s a)) = _
    rw [hf, he, pos_iter]; rfl
  exact ⟨n, hn1, by rw [hf, he], hpos, hpos ▸ hlt⟩

/-- **Lexicographic progress**: a step after which the row is still unfinished strictly advances
`(time_idx, sub_time_idx)`. -/
theorem clock_increases (i : Inst) (h : WF i) {s : State} (hr : Reach envM i s) (a : Nat)
    (ha : a < i.J + 1) (hm : s.mask a = true) (hd : (stepM i s a).done = false) :
    pos i s < pos i (stepM i s a) := by
  obtain ⟨n, hn, _, hp, _⟩ := move_iterations_le i h hr a ha hm hd
  rw [hp]; exact Nat.lt_add_of_pos_right hn

/-- termination measure: remaining clock positions below the bound (0 once finished) -/
def mu (i : Inst) (s : State) : Nat := if s.done then 0 else stepBound i - pos i s

theorem mu_pos (i : Inst) (h : WF i) {s : State} (hr : Reach envM i s) (hd : s.done = false) :
    0 < mu i s := by
  rw [mu, hd]; exact Nat.sub_pos_of_lt (pos_lt_bound i h hr hd)

theorem mu_dec (i : Inst) (h : WF i) {s : State} (hr : Reach envM i s) (hd : s.done = false) (a : Nat)
    (ha : a < i.J + 1) (hm : s.mask a = true) : mu i (stepM i s a) < mu i s := by
  cases hd' : (stepM i s a).done with
  | true => rw [mu, hd']; exact mu_pos i h hr hd
  | false =>
    have h1 := clock_increases i h hr a ha hm hd'
    have h2 := pos_lt_bound i h (reach_stepM hr ha hm) hd'
    rw [mu, mu, hd, hd']
    exact Nat.sub_lt_sub_left (Nat.lt_trans h1 h2) h1

/-- **Step bound** (row of a batch, and hence any batch): an episode is finished after at most
`(D+1)·M·S` steps; the `J·S` scheduling steps are among them, the rest are waits. -/
theorem steps_le (i : Inst) (h : WF i) {as : List Nat} {s : State}
    (hr : RunND envM i (envM.reset i) as s) : as.length ≤ stepBound i := by
  have key := steps_le_of_measure (e := envM) (i := i) (mu i) (fun s => Reach envM i s)
    (fun s a hre ha hm => reach_stepM hre ha hm)
    (fun s a hre hd ha hm => mu_dec i h hre hd a ha hm) hr ⟨[], Run.nil _⟩
  have h0 : mu i (envM.reset i) ≤ stepBound i := Nat.sub_le _ _
  exact Nat.le_trans (Nat.le_add_right _ _) (Nat.le_trans key h0)

theorem steps_le_solo (i : Inst) (h : WF i) {as : List Nat} {s : State}
    (hr : RunND env i (env.reset i) as s) : as.length ≤ stepBound i := by
  obtain ⟨_, hr'⟩ := solo_to_mates i hr
  exact steps_le i h hr'

/-- **Following a strategy to the end.**  If in every unfinished state of the row satisfying `F` some admitted action
`a` with `A s a` leads back into `F` while the row stays unfinished, then from such a state a solo episode finishes.
Its last step is given as `stepG i s0 a true` (`done.all()` true) from a state `s0` of `Reach envM`, so that what is
proved along `Reach envM` can be used of `s0`. -/
theorem finish_by (i : Inst) (h : WF i) (F : State → Prop) (A : State → Nat → Prop)
    (hstep : ∀ s, Reach envM i s → s.done = false → F s →
      ∃ a, a < i.J + 1 ∧ s.mask a = true ∧ A s a ∧ ((stepM i s a).done = false → F (stepM i s a)))
    {s : State} (hr : Reach envM i s) (hd : s.done = false) (hF : F s) :
    ∃ as s0 a, RunND env i s as (stepG i s0 a true) ∧ Reach envM i s0 ∧
      a < i.J + 1 ∧ s0.mask a = true ∧ (apply i s0 a).done = true ∧ A s0 a := by
  induction hn : mu i s using Nat.strongRecOn generalizing s with
  | ind n ih =>
    obtain ⟨a, ha, hm, hA, hnext⟩ := hstep s hr hd hF
    cases hg : (apply i s a).done with
    | true =>
      refine ⟨[a], s, a, RunND.cons hd ha hm ?_, hr, ha, hm, hg, hA⟩
      show RunND env i (step i s a) [] _
      rw [step_of_apply_done i s a hg]; exact RunND.nil _
    | false =>
      have hd1 : (stepM i s a).done = false := (stepM_done i s a).trans hg
      obtain ⟨as, s0, a', hrun, rest⟩ :=
        ih _ (hn ▸ mu_dec i h hr hd a ha hm) (reach_stepM hr ha hm) hd1 (hnext hd1) rfl
      refine ⟨a :: as, s0, a', RunND.cons hd ha hm ?_, rest⟩
      show RunND env i (step i s a) _ _
      rw [step_eq_stepM i s a hg]; exact hrun

/-- **every well-formed instance has a finished mask-confined episode** (the decoding loop of any policy
that respects the mask can finish): keep taking any offered action -/
theorem exists_finished_episode (i : Inst) (h : WF i) :
    ∃ as s, RunND env i (env.reset i) as s ∧ s.done = true :=
  exists_complete_of_bound env i (stepBound i) (fun _ _ hr => steps_le_solo i h hr)
    (fun _ _ hr hd => mask_nonempty_solo i h hr hd)

/-- 1 stage, 1 machine, 1 job of duration 1 -/
def one : Inst := ⟨1, 1, 1, fun _ _ => 1, fun p => p, true⟩

/-- Scope remark made precise: after the step that finishes the whole batch the stored mask is stale —
it still offers the job scheduled last, and taking it would un-finish the row. -/
theorem stale_mask_after_all_done :
    (step one (reset one) 0).done = true ∧ (step one (reset one) 0).mask 0 = true ∧
    (apply one (step one (reset one) 0) 0).done = false := by decide

theorem one_wf : WF one :=
  ⟨by decide, by decide, by decide, fun p hp => hp, fun j m _ _ => small_lt_unset (by simp [one])⟩

/-- Non-vacuity: `WF` holds for `one`, whose one-step episode finishes within the bound. -/
example : WF one := one_wf
example : RunND envM one (envM.reset one) [0] (stepM one (reset one) 0) :=
  .of_admittedND (by decide)
example : (stepM one (reset one) 0).done = true ∧ (stepM one (reset one) 0).mask 1 = true := by decide

/-- Non-vacuity of the bound for zero durations: 2 jobs of duration 0 on one machine take two time units
(the clock wraps with no machine busy); `D = 2`, bound `(2+1)·1 = 3`. -/
def zero2 : Inst := ⟨1, 1, 2, fun _ _ => 0, fun p => p, true⟩
example : WF zero2 := ⟨by decide, by decide, by decide, fun p hp => hp, fun j m _ _ => small_lt_unset (by simp [zero2])⟩
example : stepBound zero2 = 3 := by decide
example : RunND envM zero2 (envM.reset zero2) [0, 1] (exec envM zero2 (envM.reset zero2) [0, 1]) :=
  .of_admittedND (by decide)
example : (exec envM zero2 (envM.reset zero2) [0]).time = 1 ∧
    (exec envM zero2 (envM.reset zero2) [0, 1]).done = true := by decide

end Rl4co.Ffsp
