/-
C02 for CVRPTW: under the well-formedness `WF` (every customer reachable from the depot at time 0; from
every customer the depot is reached in time even after the latest admissible service start; null trip
in time) every reachable state — finished or not — offers an action; `done` is absorbing;
with demands within capacity no mask-confined run through unfinished states is longer than 2n+1 steps (inherited
from CVRP through the projection).  `dead_end_example` shows that the precondition the code itself
asserts (`tw_start + dist + duration ≤ depot deadline`, window START) does not suffice: a solvable
instance satisfying it has a mask-admitted prefix ending in a state with an empty mask.
-/
import Rl4co.Proofs.CvrptwModel
import Rl4co.Props.C02.Cvrp

namespace Rl4co.Cvrptw

/-- what `mask_nonempty` needs; deliberately without `Cvrp.WF i.base` (demands within capacity), which only the step
bound needs and which `FromGenerator` (C02/CvrptwGen) does not give -/
structure WF (i : Inst) : Prop where
  reach : ∀ j, 1 ≤ j → j ≤ i.base.n → i.base.D 0 j ≤ i.twE j
  ret   : RetOK i

/-- invariant: at the depot the clock is 0; the depot can be reached in time from wherever the vehicle is -/
def Inv (i : Inst) (s : State) : Prop :=
  (s.base.cur = 0 → s.time = 0) ∧ s.time + i.base.D s.base.cur 0 ≤ i.twE 0 ∧ CacheOk i s

theorem inv_step (i : Inst) (hw : WF i) (s : State) (a : Nat) (hi : Inv i s) (ha : a < env.nAct i)
    (hm : env.mask i s a = true) : Inv i (env.step i s a) := by
  refine ⟨fun h => ?_, ?_, cacheOk_step i s a⟩
  · rw [step_time, if_neg (fun hn => hn h)]
  · rw [step_cur, step_time]
    by_cases h : a = 0
    · rw [if_neg (fun hn => hn h), h, Int.zero_add]; exact hw.ret.depot
    · rw [if_pos h, hi.2.2 a]
      exact hw.ret.back (Nat.pos_of_ne_zero h) (Nat.le_of_lt_succ ha) ((mask_iff i s a).1 hm).2

theorem Inv.of_reach (i : Inst) (hw : WF i) {s : State} (h : Reach env i s) : Inv i s :=
  inv_of_reach (Inv := Inv i) ⟨fun _ => rfl, (Int.zero_add _).symm ▸ hw.ret.depot, cacheOk_reset i⟩
    (fun s a hi ha hm => inv_step i hw s a hi ha hm) h

theorem mask_nonempty (i : Inst) (hw : WF i) {s : State} (h : Reach env i s) :
    ∃ a, a < env.nAct i ∧ env.mask i s a = true := by
  have hi := Inv.of_reach i hw h
  cases h0 : Cvrp.mask i.base s.base 0 with
  | true => exact ⟨0, Nat.succ_pos _, (mask_iff i s 0).2 ⟨h0, hi.2.1⟩⟩
  | false =>
    -- CVRP withholds the depot only at the depot while a customer fits; the clock is 0 there, so that customer is reachable
    rw [Cvrp.mask_zero, Bool.not_eq_false', Bool.and_eq_true, beq_iff_eq] at h0
    obtain ⟨k, hk, hl⟩ := (Cvrp.anyLoc_iff i.base s.base).1 h0.2
    exact ⟨k + 1, Nat.succ_lt_succ hk, (mask_iff i s (k + 1)).2
      ⟨hl, by rw [hi.1 h0.1, h0.1, Int.zero_add]; exact hw.reach (k + 1) (Nat.succ_pos k) hk⟩⟩

theorem done_stable (i : Inst) (s : State) (a : Nat) (hd : env.done i s = true) :
    env.done i (env.step i s a) = true :=
  Cvrp.done_stable i.base s.base a hd

theorem steps_le (i : Inst) (hwf : Cvrp.WF i.base) {as : List Nat} {s : State}
    (h : RunND env i (env.reset i) as s) : as.length ≤ 2 * i.base.n + 1 :=
  Cvrp.steps_le i.base hwf (runND_base i h)

/-- the precondition asserted by the code's checker (window *start*) -/
def CodePrecond (i : Inst) : Prop :=
  ∀ j, j ≤ i.base.n → i.twS j + i.base.D 0 j + i.dur j ≤ i.twE 0

/-- two customers at distance 1 on either side of the depot (2 apart), all windows [0,10] except the
depot's [0,3], no service time -/
def deadInst : Inst :=
  { base := ⟨2, 8, fun _ => 1, fun a b => if a = b then 0 else if a = 0 ∨ b = 0 then 1 else 2⟩
    twS := fun _ => 0, twE := fun j => if j = 0 then 3 else 10, dur := fun _ => 0 }

/-- The code's own precondition does not exclude dead ends: `deadInst` satisfies it and is solvable
(`[1,0,2,0]` is feasible), yet after the admitted prefix `[1,2]` no action is offered. -/
theorem dead_end_example :
    CodePrecond deadInst ∧ Spec.Cvrptw.Feasible deadInst [1, 0, 2, 0] ∧
    ∃ s, Run env deadInst (env.reset deadInst) [1, 2] s ∧ env.done deadInst s = false ∧
      ∀ a, a < env.nAct deadInst → env.mask deadInst s a = false := by
  exact ⟨by unfold CodePrecond; decide, (Spec.Cvrptw.feasible_iff _ _).1 (by decide), _,
    .of_admitted (by decide), by decide, by decide⟩

/-- the instance of the C01 example (deadlines met with equality) is well-formed -/
example : WF exInst := ⟨forall_customers (by decide), by decide, forall_customers (by decide)⟩

end Rl4co.Cvrptw
