/-
C02/C18 link for SVRP: `SVRPGenerator._generate` sorts the technician levels ascending and sets every
customer's required skill to `max(techs) · u` with a draw `u ∈ [0,1)`.  By the generator theorem
`Rl4co.Gen.svrp_skill_le_best` the skill is at most the best level, and the best level is the LAST
technician's; hence generated instances satisfy `WF` (the last technician covers everything), which is all
C01/C02 need: mask-confined episodes are feasible, finish within n + max(T−1,1) steps and never index
`techs` out of range inside a batch loop (for T ≥ 2).
-/
import Rl4co.Props.C01.Svrp
import Rl4co.Props.C02.Svrp
import Rl4co.Props.C18.Routing

namespace Rl4co.Svrp
open Rl4co.Gen (svrpSkillNum svrp_skill_le_best)

/-- instance `i` (levels and skills as numerators over the common denominator `q·q₂`) was produced by the
generator: technician levels `tnum k` over `q` (ascending, so the last is the maximum), skills
`max(techs) · p₂ⱼ` over `q·q₂` with draws `p₂ⱼ < q₂` -/
structure FromGenerator (i : Inst) (q2 : Nat) (tnum : Nat → Int) (p2 : Nat → Nat) : Prop where
  techs  : 1 ≤ i.T
  best   : 0 ≤ tnum (i.T - 1)
  level  : i.techs (i.T - 1) = tnum (i.T - 1) * q2
  draw   : ∀ j, 1 ≤ j → j ≤ i.n → p2 j < q2
  skill  : ∀ j, 1 ≤ j → j ≤ i.n → i.skills j = svrpSkillNum (tnum (i.T - 1)) (p2 j)

/-- the generator's post-condition (`svrp_skill_le_best`: skill = max level · u ≤ last level) gives `WF` -/
theorem gen_wf_svrp (i : Inst) (q2 : Nat) (tnum : Nat → Int) (p2 : Nat → Nat)
    (h : FromGenerator i q2 tnum p2) : WF i := by
  refine ⟨h.techs, fun j h1 h2 => ?_⟩
  rw [h.skill j h1 h2, h.level]
  exact (svrp_skill_le_best (tnum (i.T - 1)) (p2 j) q2 h.best (h.draw j h1 h2)).2

theorem gen_feasible_of_run (i : Inst) (q2 : Nat) (tnum : Nat → Int) (p2 : Nat → Nat)
    (h : FromGenerator i q2 tnum p2) {as : List Nat} {s : State}
    (hr : Run env i (env.reset i) as s) (hd : env.done i s = true) : Spec.Svrp.Feasible i as :=
  feasible_of_run i (gen_wf_svrp i q2 tnum p2 h) hr hd

theorem gen_steps_le (i : Inst) (q2 : Nat) (tnum : Nat → Int) (p2 : Nat → Nat)
    (h : FromGenerator i q2 tnum p2) {as : List Nat} {s : State}
    (hr : RunND env i (env.reset i) as s) : as.length ≤ i.n + max (i.T - 1) 1 :=
  steps_le i (gen_wf_svrp i q2 tnum p2 h) hr

theorem gen_tech_lt (i : Inst) (q2 : Nat) (tnum : Nat → Int) (p2 : Nat → Nat)
    (h : FromGenerator i q2 tnum p2) {as : List Nat} {s : State}
    (hr : Run env i (env.reset i) as s) (hl : as.length + 1 ≤ i.n + i.T) : s.tech < i.T :=
  tech_lt_of_run i (gen_wf_svrp i q2 tnum p2 h) hr hl

/-- Non-vacuity: two technicians (levels 2/1 and 5/1), q₂ = 4, draws 1 and 3: skills 5·1/4 and 5·3/4. -/
example : FromGenerator ⟨2, 2, fun k => if k = 0 then 8 else 20, fun j => if j = 1 then 5 else 15, fun _ => 1, fun _ _ => 0⟩
    4 (fun k => if k = 0 then 2 else 5) (fun j => if j = 1 then 1 else 3) := by
  refine ⟨by decide, by decide, by decide, ?_, ?_⟩
  all_goals intro j h1 h2
  all_goals have h2' : j ≤ 2 := h2
  all_goals have : j = 1 ∨ j = 2 := by omega
  all_goals rcases this with h | h <;> subst h <;> decide

end Rl4co.Svrp
