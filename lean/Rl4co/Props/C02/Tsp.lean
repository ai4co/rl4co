/-
C02 for TSP (equal-length family): an episode is finished exactly when it has `n` steps, so all rows of a rectangular
batch finish at the same step and the all-False mask of a finished row is never fed to a policy.
-/
import Rl4co.Proofs.TspfamTsp

namespace Rl4co.Tsp
open Rl4co.Tspfam

theorem mask_nonempty (i : Inst) (hpos : 0 < i.n) {s : State} (h : Reach env i s)
    (hd : env.done i s = false) : ∃ a, a < env.nAct i ∧ env.mask i s a = true :=
  availEnv.avail_of_not_done hpos h hd

theorem run_length (i : Inst) (hpos : 0 < i.n) {as : List Nat} {s : State}
    (h : Run env i (env.reset i) as s) : env.done i s = true ↔ as.length = i.n :=
  availEnv.run_length hpos h

/-- for EVERY batch shape `bs` (flat `[B]`, multi-dimensional `[B1, B2]`, …) the mask width allocated by `_reset`
(`resetWidth`, the extracted size expression applied to the shape `bs ++ [n, 2]` of `locs`) is the number of cities -/
theorem run_length_any_batch_shape (bs : List Nat) (i : Inst) (hpos : 0 < i.n) {as : List Nat} {s : State}
    (h : Run env i (env.reset i) as s) :
    resetWidth bs i = env.nAct i ∧ (env.done i s = true ↔ as.length = resetWidth bs i) := by
  rw [resetWidth_eq]; exact ⟨rfl, run_length i hpos h⟩

theorem done_stable (i : Inst) (hpos : 0 < i.n) {s : State} (h : Reach env i s)
    (hd : env.done i s = true) (a : Nat) : env.done i (env.step i s a) = true :=
  availEnv.done_stable hpos h hd a

theorem mask_empty_of_done (i : Inst) (hpos : 0 < i.n) {s : State} (h : Reach env i s)
    (hd : env.done i s = true) (a : Nat) (ha : a < env.nAct i) : env.mask i s a = false :=
  availEnv.none_avail_of_done hpos h hd a ha

theorem steps_le (i : Inst) {as : List Nat} {s : State} (h : Run env i (env.reset i) as s) :
    as.length ≤ i.n :=
  availEnv.length_le h

example : (0 : Nat) < (⟨3, fun _ _ => 1⟩ : Inst).n := by decide
example : Reach env ⟨3, fun _ _ => 1⟩ (exec env ⟨3, fun _ _ => 1⟩ (env.reset ⟨3, fun _ _ => 1⟩) [2, 0]) :=
  ⟨[2, 0], .of_admitted (by decide)⟩

end Rl4co.Tsp
