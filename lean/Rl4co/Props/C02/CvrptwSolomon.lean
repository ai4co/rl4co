/-
CVRPTW, the Solomon loader (`CVRPTWEnv.extract_from_solomon`, modelled by `ofSolomon`).
* `never_done_of_oversized`: a customer whose demand exceeds the capacity of the reset state is never offered,
  so no mask-confined run ever finishes.  With `ofSolomon raw genCap` this is what happens on an env left at
  its default `vehicle_capacity = 1.0` (raw demands, capacity attribute never read): known finding
  `cvrptw-solomon-capacity-ignored-C02` (`solomon_default_never_done`).
* `ofSolomon_wf`: when the env's generator carries the instance's capacity and the raw data satisfy the
  Solomon conventions (demands within capacity, customers reachable, return in time), the loaded instance is
  well-formed, so C01 / C02 apply to it — with POSITIVE service times.
-/
import Rl4co.Props.C02.Cvrptw

namespace Rl4co.Cvrptw

theorem never_done_of_oversized (i : Inst) (hd : ∀ j, 0 ≤ i.base.demand j) (j : Nat) (h1 : 1 ≤ j) (h2 : j ≤ i.base.n)
    (hbig : i.base.cap < i.base.demand j) {as : List Nat} {s : State} (h : Run env i (env.reset i) as s) :
    env.done i s = false := by
  have hv := Cvrp.unvisited_of_oversized i.base hd j h1 hbig (run_base i h)
  exact Bool.eq_false_iff.2 fun hdn => Bool.false_ne_true
    (hv.symm.trans ((Cvrp.routing.done_iff i.base s.base).1 hdn j (Nat.lt_succ_of_le h2)))

/-- `extract_from_solomon` on an env whose generator capacity is below some raw demand: no episode finishes -/
theorem solomon_default_never_done (raw : Solomon) (genCap : Int) (hd : ∀ j, 0 ≤ raw.demand j)
    (j : Nat) (h1 : 1 ≤ j) (h2 : j ≤ raw.n) (hbig : genCap < raw.demand j) {as : List Nat} {s : State}
    (h : Run env (ofSolomon raw genCap) (env.reset (ofSolomon raw genCap)) as s) :
    env.done (ofSolomon raw genCap) s = false :=
  never_done_of_oversized (ofSolomon raw genCap) hd j h1 h2 hbig h

structure SolomonOK (raw : Solomon) : Prop where
  demand : ∀ j, 1 ≤ j → j ≤ raw.n → raw.demand j ≤ raw.capacity
  depot  : raw.D 0 0 ≤ raw.twE 0
  reach  : ∀ j, 1 ≤ j → j ≤ raw.n → raw.D 0 j ≤ raw.twE j
  ret    : ∀ j, 1 ≤ j → j ≤ raw.n → max (raw.twS j) (raw.twE j) + raw.service j + raw.D j 0 ≤ raw.twE 0

theorem ofSolomon_wf (raw : Solomon) (h : SolomonOK raw) :
    WF (ofSolomon raw raw.capacity) ∧ Cvrp.WF (ofSolomon raw raw.capacity).base :=
  ⟨⟨h.reach, ⟨h.depot, h.ret⟩⟩, h.demand⟩

/-- raw data of the known finding (demands 10, 20, 10 against the default capacity 1): `SolomonOK` holds, and the
first demand already exceeds 1 -/
def solRaw : Solomon :=
  { n := 3, capacity := 40, demand := fun j => if j = 2 then 20 else 10, twS := fun j => if j = 2 then 5 else 0,
    twE := fun j => if j = 0 then 120 else if j = 1 then 50 else if j = 2 then 60 else 90, service := fun j => if j = 0 then 0 else 10,
    D := fun a b => if a = b then 0 else if a = 0 ∨ b = 0 then 5 else 5 }

example : SolomonOK solRaw :=
  ⟨forall_customers (by decide), by decide, forall_customers (by decide), forall_customers (by decide)⟩

example : (1 : Int) < solRaw.demand 1 := by decide

end Rl4co.Cvrptw
