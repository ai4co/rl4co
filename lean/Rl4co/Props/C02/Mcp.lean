/-
C02 for MCP.  Every row — finished or not — is offered an action while the batch runs; an episode takes
exactly `n_sets_to_choose` steps.  The mask is `~chosen`, so it is non-empty as long as fewer than `n` sets were
selected (`mask_nonempty`).  All rows of a batch share `n` (one tensor) and the loop runs only while
some row is unfinished, i.e. (by `done_iff_quota`) while the number of steps is below that row's quota
≤ n; hence every row's mask is non-empty at every step the loop takes (`mask_nonempty_while_batch_runs`),
including rows that finished earlier.
-/
import Rl4co.Props.C08.Mcp

namespace Rl4co.Mcp

theorem mask_nonempty (i : Inst) {as : List Nat} {s : State} (h : Run env i (env.reset i) as s)
    (hlt : as.length < i.nSets) : ∃ a, a < env.nAct i ∧ env.mask i s a = true := by
  apply Sel.mask_nonempty view h
  show as.length < cnt i.nSets (fun _ => true)
  rw [cnt_true]; exact hlt

/-- C02, no dead end for finished rows too: while a batch-mate is unfinished this row is offered an action. -/
theorem mask_nonempty_while_batch_runs (i i' : Inst) (hn : i'.nSets = i.nSets) (hwf' : WF i')
    {as as' : List Nat} {s s' : State} (h : Run env i (env.reset i) as s)
    (h' : Run env i' (env.reset i') as' s') (hlen : as.length = as'.length)
    (hrun : env.done i' s' = false) : ∃ a, a < env.nAct i ∧ env.mask i s a = true :=
  Sel.mask_nonempty_while_running view hwf'.1 (show (i'.quota : Int) ≤ cnt i.nSets (fun _ => true) from hn ▸ hwf'.room)
    h h' hlen hrun

theorem done_stable (i : Inst) {as : List Nat} {s : State} (h : Run env i (env.reset i) as s) (a : Nat)
    (hd : env.done i s = true) : env.done i (env.step i s a) = true :=
  Sel.done_stable view h a hd

theorem steps_le (i : Inst) (hwf : WF i) {as : List Nat} {s : State}
    (h : RunND env i (env.reset i) as s) : (as.length : Int) ≤ i.quota :=
  Sel.steps_le view hwf.1 h

theorem progress (i : Inst) (hwf : WF i) {as : List Nat} {s : State}
    (h : Run env i (env.reset i) as s) (hd : env.done i s = false) :
    ∃ a, a < env.nAct i ∧ env.mask i s a = true :=
  Sel.progress view hwf.1 hwf.room h hd

/-- Non-vacuity: quota = n = 2 (the tightest case: the mask empties exactly when the row is done). -/
example : WF ⟨2, 1, 1, 2, fun j _ => j + 1, fun _ => 1⟩ := ⟨by decide, by decide⟩

end Rl4co.Mcp
