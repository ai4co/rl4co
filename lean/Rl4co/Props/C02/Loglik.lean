/-
C02 (decoding-loop clause) — `decode_loop_terminates` (`Decode.loop_terminates` of Props/C11/LoglikLoop.lean with the row
facts `LoopHyp` stated at the reset states) for any `DEnv`, and its instances with the environment families' own C02
theorems, for CVRP (variable-length family) and TSP (equal-length family): "the
batched decoding loop terminates without hitting its safety cap and never feeds an all-masked row to the
softmax" — for every batch, every policy, every selector that emits mask-admitted actions (C10), with or
without forced multi-start moves.  The loop's `>` and the default cap are extracted from the source
(`Params.decodeBreakCmp`, `Params.decodeMaxStepsDefault`).  How an `Env` enters the loop (`ofEnv`) is in
Proofs/LoglikEnv.lean.
-/
import Rl4co.Props.C02.Cvrp
import Rl4co.Props.C02.Tsp
import Rl4co.Props.C11.LoglikLoop
import Rl4co.Proofs.LoglikEnv

namespace Rl4co.Decode
open Rl4co

variable {S : Type}

/-- C02's row facts survive a forced, mask-admitted first move (multi-start / beam pre-hook). -/
theorem LoopHyp.shift {e : DEnv S} {B bound : Nat} {init : Nat → S} (H : LoopHyp e B bound init)
    (f : Nat → Nat) (hf : ∀ r, r < B → e.mask (init r) (f r) = true) :
    LoopHyp e B bound (fun r => e.step (init r) (f r)) := by
  refine ⟨fun r hr as s h hl =>
    H.stepBound r hr (f r :: as) s (DRun.cons (hf r hr) h) (Nat.le_succ_of_le hl), ?_⟩
  rcases H.maskOK with hA | ⟨n, hB⟩
  · exact Or.inl fun r hr as s h => hA r hr (f r :: as) s (DRun.cons (hf r hr) h)
  · -- every row finishes after exactly `n` steps, forced move included
    have hB' : ∀ r, r < B → ∀ as s, DRun e (e.step (init r) (f r)) as s →
        (e.done s = true ↔ as.length + 1 = n) ∧ (e.done s = false → ∃ a, e.mask s a = true) :=
      fun r hr as s h => hB r hr (f r :: as) s (DRun.cons (hf r hr) h)
    cases n with
    | zero =>
      -- no row ever finishes, so every reachable state offers an action
      exact Or.inl fun r hr as s h => (hB' r hr as s h).2 <| Bool.eq_false_iff.mpr fun hd =>
        Nat.succ_ne_zero _ ((hB' r hr as s h).1.mp hd)
    | succ n =>
      exact Or.inr ⟨n, fun r hr as s h => ⟨⟨fun hd => Nat.succ.inj ((hB' r hr as s h).1.mp hd),
        fun hl => (hB' r hr as s h).1.mpr (congrArg Nat.succ hl)⟩, (hB' r hr as s h).2⟩⟩

theorem loopHyp_pre {e : DEnv S} {B bound : Nat} {s0 : Nat → S} (H : LoopHyp e B bound s0)
    (sA : Bool) (N : Nat) (start : Option (Nat → Nat))
    (hstart : ∀ f, start = some f → ∀ r, r < B → e.mask (s0 r) (f r) = true) :
    LoopHyp e B bound (fun r => (pre e sA N start s0 r).s) := by
  cases start with
  | none => exact H
  | some f => exact H.shift f (hstart f rfl)

/-- The decoding-loop clause for any environment: C02's row facts at the reset states (`LoopHyp`; for an `Env` family
`loopHyp_of_steps_le` or `loopHyp_of_run_length` gives them), mask-admitted forced starts if any, and a selector that emits
mask-admitted actions make the batched loop end with every row done after at most `bound ≤ max_steps` passes, no pass
looking at an all-masked row.  A family is added by instantiating this (as CVRP and TSP below). -/
theorem decode_loop_terminates (e : DEnv S) (π : S → Row) (sel : Nat → Nat → Row → Nat) (sA : Bool)
    (B N bound maxSteps : Nat) (start : Option (Nat → Nat)) (s0 : Nat → S) (H : LoopHyp e B bound s0)
    (hstart : ∀ f, start = some f → ∀ r, r < B → e.mask (s0 r) (f r) = true)
    (hsel : ∀ r t s, (∃ a, e.mask s a = true) → e.mask s (sel r t (π s)) = true) (hcap : bound ≤ maxSteps) :
    allDone e B (decode e π sel sA B N maxSteps start s0).1 = true ∧
      (decode e π sel sA B N maxSteps start s0).2 ≤ bound ∧
      loopSafe e π sel sA B (maxSteps + 1) 0 (pre e sA N start s0) :=
  loop_terminates e π sel sA B N bound maxSteps start s0 (loopHyp_pre H sA N start hstart) hsel hcap

theorem cvrp_done_of_long (i : Cvrp.Inst) (hwf : Cvrp.WF i) {as : List Nat} {s : Cvrp.State}
    (h : Run Cvrp.env i (Cvrp.env.reset i) as s) (hl : 2 * i.n + 1 ≤ as.length) :
    Cvrp.env.done i s = true :=
  done_of_long Cvrp.env i (Cvrp.done_stable i) (Cvrp.mask_nonempty i) (Cvrp.steps_le i hwf) h hl

/-- **C02 for the decoding loop on CVRP** (from `Cvrp.steps_le`, `Cvrp.mask_nonempty`, `Cvrp.done_stable`):
for every batch of well-formed CVRP instances (any sizes
`n_r`, mixed in one batch), every policy and every selector that emits mask-admitted actions, with or
without forced (mask-admitted) multi-start moves: if `2·n_r + 1 ≤ bound ≤ max_steps` the batched
decoding loop of `ConstructivePolicy.forward` terminates with every row done after at most `bound`
passes — so without hitting its safety cap — and never feeds an all-masked row to the softmax. -/
theorem cvrp_decode_loop_terminates (inst : Nat → Cvrp.Inst) (B bound : Nat)
    (hwf : ∀ r, r < B → Cvrp.WF (inst r)) (hb : ∀ r, r < B → 2 * (inst r).n + 1 ≤ bound)
    (π : Cvrp.Inst × Cvrp.State → Row) (sel : Nat → Nat → Row → Nat) (sA : Bool) (N maxSteps : Nat)
    (start : Option (Nat → Nat))
    (hstart : ∀ f, start = some f → ∀ r, r < B →
      (ofEnv Cvrp.env).mask (inst r, Cvrp.env.reset (inst r)) (f r) = true)
    (hsel : ∀ r t s, (∃ a, (ofEnv Cvrp.env).mask s a = true) →
      (ofEnv Cvrp.env).mask s (sel r t (π s)) = true)
    (hcap : bound ≤ maxSteps) :
    let s0 := fun r => (inst r, Cvrp.env.reset (inst r))
    allDone (ofEnv Cvrp.env) B (decode (ofEnv Cvrp.env) π sel sA B N maxSteps start s0).1 = true ∧
      (decode (ofEnv Cvrp.env) π sel sA B N maxSteps start s0).2 ≤ bound ∧
      loopSafe (ofEnv Cvrp.env) π sel sA B (maxSteps + 1) 0 (pre (ofEnv Cvrp.env) sA N start s0) :=
  decode_loop_terminates (ofEnv Cvrp.env) π sel sA B N bound maxSteps start _
    (loopHyp_of_steps_le Cvrp.env inst B bound Cvrp.mask_nonempty Cvrp.done_stable fun r hr _ _ h =>
      Nat.le_trans (Cvrp.steps_le (inst r) (hwf r hr) h) (hb r hr)) hstart hsel hcap

/-- … in particular with the default safety cap `max_steps = 1_000_000` (extracted from the source):
any batch whose instances have at most `(max_steps − 1) / 2` customers. -/
theorem cvrp_decode_loop_terminates_default (inst : Nat → Cvrp.Inst) (B : Nat)
    (hwf : ∀ r, r < B → Cvrp.WF (inst r))
    (hn : ∀ r, r < B → 2 * (inst r).n + 1 ≤ Params.decodeMaxStepsDefault)
    (π : Cvrp.Inst × Cvrp.State → Row) (sel : Nat → Nat → Row → Nat) (sA : Bool) (N : Nat)
    (hsel : ∀ r t s, (∃ a, (ofEnv Cvrp.env).mask s a = true) →
      (ofEnv Cvrp.env).mask s (sel r t (π s)) = true) :
    let s0 := fun r => (inst r, Cvrp.env.reset (inst r))
    allDone (ofEnv Cvrp.env) B
        (decode (ofEnv Cvrp.env) π sel sA B N Params.decodeMaxStepsDefault none s0).1 = true ∧
      (decode (ofEnv Cvrp.env) π sel sA B N Params.decodeMaxStepsDefault none s0).2
        ≤ Params.decodeMaxStepsDefault :=
  let h := cvrp_decode_loop_terminates inst B Params.decodeMaxStepsDefault hwf hn π sel sA N
    Params.decodeMaxStepsDefault none (by intro f hf; cases hf) hsel (Nat.le_refl _)
  ⟨h.1, h.2.1⟩

/-- **C02 for the decoding loop on TSP**: for every rectangular batch of TSP instances (`n ≥ 1` nodes
each), every policy and every selector emitting mask-admitted actions, with or without forced
(mask-admitted) start nodes: if `n ≤ max_steps` the batched decoding loop terminates with every row
done after at most `n` passes (the safety cap is never hit), and — although a finished TSP row has an
all-false mask — no pass ever feeds an all-masked row to the softmax (all rows finish together). -/
theorem tsp_decode_loop_terminates (inst : Nat → Tsp.Inst) (B n : Nat) (hpos : 0 < n)
    (hn : ∀ r, r < B → (inst r).n = n)
    (π : Tsp.Inst × Tsp.State → Row) (sel : Nat → Nat → Row → Nat) (sA : Bool) (N maxSteps : Nat)
    (start : Option (Nat → Nat))
    (hstart : ∀ f, start = some f → ∀ r, r < B →
      (ofEnv Tsp.env).mask (inst r, Tsp.env.reset (inst r)) (f r) = true)
    (hsel : ∀ r t s, (∃ a, (ofEnv Tsp.env).mask s a = true) →
      (ofEnv Tsp.env).mask s (sel r t (π s)) = true)
    (hcap : n ≤ maxSteps) :
    let s0 := fun r => (inst r, Tsp.env.reset (inst r))
    allDone (ofEnv Tsp.env) B (decode (ofEnv Tsp.env) π sel sA B N maxSteps start s0).1 = true ∧
      (decode (ofEnv Tsp.env) π sel sA B N maxSteps start s0).2 ≤ n ∧
      loopSafe (ofEnv Tsp.env) π sel sA B (maxSteps + 1) 0 (pre (ofEnv Tsp.env) sA N start s0) :=
  have hp : ∀ r, r < B → 0 < (inst r).n := fun r hr => (hn r hr).symm ▸ hpos
  decode_loop_terminates (ofEnv Tsp.env) π sel sA B N n maxSteps start _
    (loopHyp_of_run_length Tsp.env inst B n
      (fun r hr _ _ h => hn r hr ▸ Tsp.run_length (inst r) (hp r hr) h)
      (fun r hr _ _ h => hn r hr ▸ Tsp.steps_le (inst r) h)
      (fun r hr _ h hd => Tsp.mask_nonempty (inst r) (hp r hr) h hd)) hstart hsel hcap

/-- a policy that gives `-inf` exactly to the masked actions (uniform otherwise) -/
def maskRow (e : DEnv S) (n : S → Nat) (s : S) : Row :=
  (List.range (n s)).map (fun a => if e.mask s a then some 0 else none)

/-- the selector "first finite entry" -/
def firstFinite (row : Row) : Nat := row.findIdx (·.isSome)

/-- the selector hypothesis `hsel` of `loop_terminates` is satisfiable for every environment whose masks are
confined to `a < n s` -/
theorem hsel_firstFinite (e : DEnv S) (n : S → Nat) (hn : ∀ s a, e.mask s a = true → a < n s) :
    ∀ (r t : Nat) (s : S), (∃ a, e.mask s a = true) →
      e.mask s ((fun (_ _ : Nat) row => firstFinite row) r t (maskRow e n s)) = true := by
  intro r t s ⟨a, ha⟩
  have hex : ∃ x ∈ maskRow e n s, x.isSome = true :=
    ⟨some 0, List.mem_map.mpr ⟨a, List.mem_range.mpr (hn s a ha), if_pos ha⟩, rfl⟩
  have hsome := List.findIdx_getElem (w := List.findIdx_lt_length_of_exists hex)
  simp only [maskRow, List.getElem_map, List.getElem_range] at hsome
  split at hsome
  · assumption
  · cases hsome

/-- the size hypothesis of `cvrp_decode_loop_terminates_default` holds for every instance with at most
499 999 customers, e.g. `n = 100` (this also pins the extracted default of `max_steps`) -/
example : 2 * 100 + 1 ≤ Params.decodeMaxStepsDefault := by decide
example : ∀ n, n ≤ 499999 → 2 * n + 1 ≤ Params.decodeMaxStepsDefault := by
  intro n h; simp only [Params.decodeMaxStepsDefault]; omega

/-- the instance used below is well-formed -/
example : Cvrp.WF ⟨2, 8, fun _ => 4, fun _ _ => 1⟩ := by intro j _ _; simp

/-- all hypotheses of the CVRP corollary are jointly satisfiable: a batch of three copies of a
well-formed two-customer instance, the mask-respecting policy/selector above, the default cap -/
example :=
  cvrp_decode_loop_terminates_default (fun _ => ⟨2, 8, fun _ => 4, fun _ _ => 1⟩) 3
    (fun _ _ => by intro j _ _; simp) (fun _ _ => by decide)
    (maskRow (ofEnv Cvrp.env) (fun s => Cvrp.env.nAct s.1)) (fun _ _ row => firstFinite row) false 3
    (hsel_firstFinite (ofEnv Cvrp.env) (fun s => Cvrp.env.nAct s.1)
      fun s a h => ((ofEnv_mask_iff _ s.1 s.2 a).mp h).1)

/-- … and of the TSP corollary (three nodes, batch of two) -/
example :=
  tsp_decode_loop_terminates (fun _ => ⟨3, fun _ _ => 1⟩) 2 3 (by decide) (fun _ _ => rfl)
    (maskRow (ofEnv Tsp.env) (fun s => Tsp.env.nAct s.1)) (fun _ _ row => firstFinite row) false 3 10 none
    (by intro f hf; cases hf)
    (hsel_firstFinite (ofEnv Tsp.env) (fun s => Tsp.env.nAct s.1)
      fun s a h => ((ofEnv_mask_iff _ s.1 s.2 a).mp h).1)
    (by decide)

end Rl4co.Decode
