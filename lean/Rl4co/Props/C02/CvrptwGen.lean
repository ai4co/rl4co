/-
C02/C18 link for CVRPTW: an instance whose customer windows are the ones `CVRPTWGenerator._generate` builds
(`Rl4co.Gen.Cvrptw.window`, steps 4–7) from draws satisfying the generator's parameter condition `Cond`
(in particular `2·dist + 1 ≤ max_time`, zero service durations), with the depot window `[0, max_time]`,
satisfies the well-formedness `WF` that C01/C02 need.  Hence on generated instances every reachable state
offers an action and a finished episode is feasible (the step bound needs `Cvrp.WF i.base` in addition, which
`FromGenerator` does not contain) — the generator's
post-condition `cvrptw_window` (C18) is exactly strong enough, although the precondition the env's own
checker asserts is not (`dead_end_example`).
-/
import Rl4co.Props.C01.Cvrptw
import Rl4co.Props.C02.Cvrptw
import Rl4co.Props.C18.Cvrptw

namespace Rl4co.Cvrptw
open Rl4co.Gen.Cvrptw (In Cond window cvrptw_window)

/-- instance `i` (ticks) was produced by the generator: `g j` are the per-customer generator inputs -/
structure FromGenerator (i : Inst) (S : Nat) (T : Int) (g : Nat → In) : Prop where
  depotDist : i.base.D 0 0 = 0
  depotEnd  : i.twE 0 = T
  cond : ∀ j, 1 ≤ j → j ≤ i.base.n → Cond (g j)
  unit : ∀ j, 1 ≤ j → j ≤ i.base.n → (g j).S = S ∧ (g j).T = T
  dist : ∀ j, 1 ≤ j → j ≤ i.base.n → i.base.D 0 j = (g j).d ∧ i.base.D j 0 = (g j).d
  win  : ∀ j, 1 ≤ j → j ≤ i.base.n →
           i.twS j = (window (g j)).1 * S ∧ i.twE j = (window (g j)).2 * S ∧ i.dur j = (g j).dur

/-- the generator's post-condition `cvrptw_window` for customer `j` in the instance's own terms -/
theorem FromGenerator.windowOk {i : Inst} {S : Nat} {T : Int} {g : Nat → In} (h : FromGenerator i S T g) {j : Nat}
    (h1 : 1 ≤ j) (h2 : j ≤ i.base.n) :
    i.base.D 0 j ≤ i.twE j ∧ i.twS j ≤ i.twE j ∧ i.twE j + i.dur j + i.base.D j 0 ≤ T := by
  obtain ⟨_, w1, w2, w3⟩ := cvrptw_window (g j) (h.cond j h1 h2)
  obtain ⟨uS, uT⟩ := h.unit j h1 h2
  obtain ⟨d1, d2⟩ := h.dist j h1 h2
  obtain ⟨wS, wE, wD⟩ := h.win j h1 h2
  rw [wS, wE, wD, d1, d2, ← uS, ← uT]
  exact ⟨w2, Int.mul_le_mul_of_nonneg_right (Int.le_of_lt w1) (Int.natCast_nonneg _), w3⟩

theorem gen_wf_cvrptw (i : Inst) (S : Nat) (T : Int) (g : Nat → In) (hn : 1 ≤ i.base.n)
    (h : FromGenerator i S T g) : WF i := by
  refine ⟨fun j h1 h2 => (h.windowOk h1 h2).1, ⟨?_, fun j h1 h2 => ?_⟩⟩
  · -- `0 ≤ max_time` by the room condition of customer 1
    have c := h.cond 1 (Nat.le_refl 1) hn
    have := c.room; have := c.hd
    have hS : (0 : Int) ≤ ((g 1).S : Int) := Int.natCast_nonneg _
    rw [h.depotDist, h.depotEnd, ← (h.unit 1 (Nat.le_refl 1) hn).2]
    omega
  · obtain ⟨_, hle, hret⟩ := h.windowOk h1 h2
    rw [Int.max_eq_right hle, h.depotEnd]
    exact hret

theorem gen_mask_nonempty (i : Inst) (S : Nat) (T : Int) (g : Nat → In) (hn : 1 ≤ i.base.n)
    (h : FromGenerator i S T g) {s : State} (hr : Reach env i s) :
    ∃ a, a < env.nAct i ∧ env.mask i s a = true :=
  mask_nonempty i (gen_wf_cvrptw i S T g hn h) hr

theorem gen_feasible_of_run (i : Inst) (S : Nat) (T : Int) (g : Nat → In) (hn : 1 ≤ i.base.n)
    (h : FromGenerator i S T g) (hcap : 0 ≤ i.base.cap) {as : List Nat} {s : State}
    (hr : Run env i (env.reset i) as s) (hd : env.done i s = true) : Spec.Cvrptw.Feasible i as :=
  feasible_of_run i hcap (gen_wf_cvrptw i S T g hn h).ret hr hd

/-- Non-vacuity: one customer at distance 212.133 (the farthest corner of the default box), default
`max_time = 480`, both draws 0: the repaired window [212, 213] of the C18 example. -/
def genIn : In := ⟨1000, 480000, 212133, 0, 0, 0, 8⟩
def genInst : Inst :=
  { base := ⟨1, 8, fun _ => 1, fun a b => if a = b then 0 else 212133⟩
    twS := fun j => if j = 0 then 0 else 212000, twE := fun j => if j = 0 then 480000 else 213000, dur := fun _ => 0 }

example : FromGenerator genInst 1000 480000 (fun _ => genIn) :=
  have one : ∀ {P : Nat → Prop}, P 1 → ∀ j, 1 ≤ j → j ≤ 1 → P j := fun h _ h1 h2 => Nat.le_antisymm h2 h1 ▸ h
  ⟨by decide, by decide, one ⟨by decide, by decide, by decide, by decide, by decide, rfl, by decide⟩,
    one ⟨rfl, rfl⟩, one ⟨by decide, by decide⟩, one ⟨by decide, by decide, by decide⟩⟩

end Rl4co.Cvrptw
