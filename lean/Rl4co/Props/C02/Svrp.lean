/-
C02 for SVRP.  Every state of the model offers an action (the model's technician table is total; the
real code raises when the index reaches T, see `tech_lt_of_run`) and `done` is absorbing.  Under `WF`
(the last technician covers every customer) a mask-confined run through unfinished states has at most
n + max(T−1, 1) steps — n customer visits plus one depot visit per technician sent home before the last
one; this is ≤ 2n+1 whenever T ≤ n+2, but NOT in general (technicians that cannot serve anything are
skipped one depot step each).  Along ANY mask-confined run from reset (padding included) of length
≤ n+T−1 — the longest an unfinished batch-mate can take when T ≥ 2 — the technician index stays < T, so
inside a `while not done.all()` loop the real code never indexes `techs` out of range.  With T = 1 it
does, at the very step that finishes the episode (`single_technician_overflow`, known finding).
-/
import Rl4co.Proofs.SvrpModel

namespace Rl4co.Svrp

theorem mask_nonempty (i : Inst) (s : State) : ∃ a, a < env.nAct i ∧ env.mask i s a = true :=
  routing.mask_nonempty i s

theorem done_stable (i : Inst) (s : State) (a : Nat) (hd : env.done i s = true) :
    env.done i (env.step i s a) = true :=
  routing.done_stable s a hd

open Routing (unvisited)

/-- bookkeeping along any mask-confined run: steps = depot visits + newly visited customers -/
theorem steps_account (i : Inst) {s s' : State} {as : List Nat} (h : Run env i s as s') :
    s'.tech + unvisited i.n s.vis = s.tech + unvisited i.n s'.vis + as.length := by
  induction h with
  | nil s => rfl
  | @cons s s' a as ha hm _ ih =>
    rw [List.length_cons]
    by_cases h0 : a = 0
    · subst h0
      rw [routing.unvisited_step_depot, step_tech_zero] at ih
      rw [ih, Nat.add_right_comm s.tech 1, Nat.add_assoc (s.tech + _) 1, Nat.add_comm 1]
    · rw [step_tech_ne i s h0] at ih
      rw [← routing.unvisited_step_customer h0 ha hm, ← Nat.add_assoc, ih, Nat.add_assoc]

/-- invariant of every step: the depot is marked visited exactly when a technician has returned -/
def DepotSeen (s : State) : Prop := s.vis 0 = true ↔ 1 ≤ s.tech

theorem depotSeen_reset (i : Inst) : DepotSeen (env.reset i) := ⟨nofun, nofun⟩

theorem depotSeen_step (i : Inst) (s : State) (a : Nat) (h : DepotSeen s) : DepotSeen (env.step i s a) := by
  unfold DepotSeen
  by_cases h0 : a = 0
  · subst h0
    rw [step_vis, upd_same, step_tech_zero]
    exact ⟨fun _ => Nat.succ_pos _, fun _ => rfl⟩
  · rw [step_tech_ne i s h0, step_vis, upd_other _ _ _ _ (Ne.symm h0)]
    exact h

theorem done_of_allVis (i : Inst) (s : State) (hall : AllVis i s) (h0 : s.vis 0 = true) :
    env.done i s = true :=
  (done_iff i s).mpr (fun j hj => by
    cases j with
    | zero => exact h0
    | succ k => exact hall (k + 1) (Nat.succ_pos k) (Nat.le_of_lt_succ hj))

/-- termination measure: customers still to visit + technicians that may still be sent home: `T − 1` in all, the
last one stays out until everything is served; `1` when he is the only one (his return finishes the episode) -/
def mu (i : Inst) (s : State) : Nat := unvisited i.n s.vis + (max (i.T - 1) 1 - s.tech)

theorem mu_decreases (i : Inst) (hw : WF i) (s : State) (a : Nat) (hi : TechOk i s ∧ DepotSeen s)
    (hd : env.done i s = false) (ha : a < env.nAct i) (hm : env.mask i s a = true) :
    mu i (env.step i s a) < mu i s := by
  unfold mu
  by_cases h0 : a = 0
  · subst h0
    have ht : s.tech < max (i.T - 1) 1 := by
      by_cases hlt : s.tech + 1 ≤ i.T - 1
      · exact Nat.lt_of_lt_of_le hlt (Nat.le_max_left _ _)
      · -- at (or beyond) the last technician the depot is offered only when all customers are visited; being
        -- unfinished, the state has then not seen the depot, so this is the first return
        have hall : AllVis i s := hi.1.elim
          (fun h1 => allVis_of_depot_last hw (by have := hw.tech; omega) hm) id
        have hv0 : ¬ s.vis 0 = true := fun hv =>
          Bool.false_ne_true (hd.symm.trans (done_of_allVis i s hall hv))
        rw [Nat.eq_zero_of_not_pos (fun h => hv0 (hi.2.mpr h))]
        exact Nat.lt_of_lt_of_le Nat.one_pos (Nat.le_max_right _ _)
    rw [routing.unvisited_step_depot, step_tech_zero]
    exact Nat.add_lt_add_left (Nat.sub_succ_lt_self _ _ ht) _
  · rw [step_tech_ne i s h0, ← routing.unvisited_step_customer h0 ha hm]
    exact Nat.add_lt_add_right (Nat.lt_succ_self _) _

theorem unvisited_reset (i : Inst) : unvisited i.n (env.reset i).vis = i.n := Routing.unvisited_none i.n

/-- Step bound: n customer visits + max(T−1, 1) depot visits. -/
theorem steps_le (i : Inst) (hw : WF i) {as : List Nat} {s : State}
    (h : RunND env i (env.reset i) as s) : as.length ≤ i.n + max (i.T - 1) 1 := by
  have := steps_le_of_measure (mu i) (fun s => TechOk i s ∧ DepotSeen s)
    (fun s a hi _ hm => ⟨techOk_step i hw s a hi.1 hm, depotSeen_step i s a hi.2⟩) (mu_decreases i hw) h
    ⟨Or.inl hw.tech, depotSeen_reset i⟩
  rw [show mu i (env.reset i) = i.n + max (i.T - 1) 1 from congrArg (· + _) (unvisited_reset i)] at this
  exact Nat.le_trans (Nat.le_add_right _ _) this

/-- the property's generic bound 2n+1 holds whenever there are at most n+2 technicians -/
theorem steps_le_two_n_plus_one (i : Inst) (hw : WF i) (hT : i.T ≤ i.n + 2) {as : List Nat} {s : State}
    (h : RunND env i (env.reset i) as s) (hn : 1 ≤ i.n) : as.length ≤ 2 * i.n + 1 :=
  calc as.length ≤ i.n + max (i.T - 1) 1 := steps_le i hw h
    _ ≤ i.n + (i.n + 1) :=
      Nat.add_le_add_left (Nat.max_le.mpr
        ⟨Nat.sub_le_of_le_add (show i.T ≤ i.n + 1 + 1 from hT), Nat.le_succ_of_le hn⟩) _
    _ = 2 * i.n + 1 := by rw [Nat.two_mul, Nat.add_assoc]

/-- no technician-index overflow inside a batch loop: any mask-confined run from reset (padding
steps included) of at most n + T − 1 steps keeps `current_tech < T`. -/
theorem tech_lt_of_run (i : Inst) (hw : WF i) {as : List Nat} {s : State}
    (h : Run env i (env.reset i) as s) (hl : as.length + 1 ≤ i.n + i.T) : s.tech < i.T := by
  have hto : TechOk i s := h.inv (fun s a hi _ hm => techOk_step i hw s a hi hm) (Or.inl hw.tech)
  rcases hto with hlt | hall
  · exact hlt
  · -- all customers visited: every customer step visited a new one, so tech = length − n
    have hacc := steps_account i h
    rw [Routing.unvisited_eq_zero.2 hall, unvisited_reset, show (env.reset i).tech = 0 from rfl] at hacc
    omega

/-- With a single technician the index overflows at the step that finishes the episode: instance with
one customer, episode `[1, 0]`. -/
theorem single_technician_overflow :
    ∃ i : Inst, WF i ∧ ∃ s, Run env i (env.reset i) [1, 0] s ∧ env.done i s = true ∧
      techOverflow i s = true ∧
      (∀ as' s', Run env i (env.reset i) as' s' → env.done i s' = true → techOverflow i s' = true) := by
  refine ⟨⟨1, 1, fun _ => 5, fun _ => 3, fun _ => 1, fun _ _ => 0⟩, ⟨by decide, fun _ _ _ => by show (3 : Int) ≤ 5; decide⟩, _,
    .of_admitted (by decide), by decide, by decide, ?_⟩
  intro as' s' hr hd
  -- done requires the depot visited, which requires a depot step, which increments tech to ≥ 1 = T
  have hinv : DepotSeen s' := hr.inv (fun s a hi _ _ => depotSeen_step _ s a hi) (depotSeen_reset _)
  exact decide_eq_true (hinv.mp ((done_iff _ s').mp hd 0 (Nat.succ_pos _)))

/-- Non-vacuity of the bound: the example of C01, an episode of n + T − 1 = 3 steps. -/
example : RunND env exInst (env.reset exInst) [1, 0, 2] (exec env exInst (env.reset exInst) [1, 0, 2]) :=
  .of_admittedND (by decide)

end Rl4co.Svrp
