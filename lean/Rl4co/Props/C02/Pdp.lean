/-
C02 for PDP (equal-length family, both `force_start_at_depot` values): an unfinished reachable state always offers a
pickup that is still open or a delivery whose pickup has been made — never a dead end; an episode is finished exactly
after `n` (`n + 1` with the forced depot start) steps, so all rows of a rectangular batch finish together.
-/
import Rl4co.Proofs.TspfamPdp

namespace Rl4co.Pdp
open Rl4co.Tspfam

def len (i : Inst) : Nat := if i.force then i.n + 1 else i.n

theorem len_of_force {i : Inst} (hf : i.force = true) : len i = i.n + 1 := if_pos hf

theorem len_of_not_force {i : Inst} (hf : i.force = false) : len i = i.n :=
  if_neg (hf ▸ Bool.false_ne_true)

/-- non-degenerate instance: at least one pair, or the forced start (whose episode is `[0]`) -/
def WF (i : Inst) : Prop := 0 < len i

theorem todo_eq (i : Inst) : availEnv.todo i = len i := rfl

theorem mask_nonempty (i : Inst) (hwf : WF i) {s : State} (h : Reach env i s)
    (hd : env.done i s = false) : ∃ a, a < env.nAct i ∧ env.mask i s a = true := by
  obtain ⟨j, hj, hav⟩ := availEnv.avail_of_not_done hwf h hd
  obtain ⟨as, hr⟩ := h
  have hav' : s.avail j = true := hav
  rcases availEnv.inv_of_run hr (availEnv.inv_reset i) with ⟨hf, hs⟩ | hm
  · exact ⟨0, Nat.succ_pos _, by rw [hs]; exact forced_mask i hf 0⟩
  · by_cases hjh : j ≤ i.h
    · exact ⟨j, hj, (hm.amask_pickup hjh).trans hav'⟩
    · -- a delivery `p + h`: either its pickup is still open (offered), or the delivery itself is
      obtain ⟨p, rfl, hp1, hp2⟩ := exists_pickup i hjh hj
      cases hpav : s.avail p with
      | true => exact ⟨p, Nat.lt_of_le_of_lt (Nat.le_add_right _ _) hj, (hm.amask_pickup hp2).trans hpav⟩
      | false =>
        exact ⟨p + i.h, hj, by
          rw [env_mask, hm.amask_delivery hp1 hp2, hav', hpav]
          rfl⟩

theorem run_length (i : Inst) (hwf : WF i) {as : List Nat} {s : State}
    (h : Run env i (env.reset i) as s) : env.done i s = true ↔ as.length = len i :=
  availEnv.run_length hwf h

theorem done_stable (i : Inst) (hwf : WF i) {s : State} (h : Reach env i s)
    (hd : env.done i s = true) (a : Nat) : env.done i (env.step i s a) = true :=
  availEnv.done_stable hwf h hd a

theorem steps_le (i : Inst) {as : List Nat} {s : State} (h : Run env i (env.reset i) as s) :
    as.length ≤ len i :=
  availEnv.length_le h

example : WF ⟨2, false, fun _ _ => 1⟩ := by simp [WF, len, Inst.n]
example : WF ⟨0, true, fun _ _ => 1⟩ := by simp [WF, len]
example : Reach env ⟨2, false, fun _ _ => 1⟩
    (exec env ⟨2, false, fun _ _ => 1⟩ (env.reset ⟨2, false, fun _ _ => 1⟩) [1, 3]) :=
  ⟨[1, 3], .of_admitted (by decide)⟩

end Rl4co.Pdp
