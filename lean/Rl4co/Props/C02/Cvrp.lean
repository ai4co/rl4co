/-
C02 for CVRP: every state — finished or not — offers at least one action, so a finished row stays
steppable while batch-mates run; `done` is absorbing; with demands within capacity, no
mask-confined run through unfinished states is longer than 2n+1 steps; a customer that does not fit into the
empty vehicle is never visited.
-/
import Rl4co.Proofs.CvrpModel

namespace Rl4co.Cvrp

theorem mask_nonempty (i : Inst) (s : State) : ∃ a, a < env.nAct i ∧ env.mask i s a = true :=
  routing.mask_nonempty i s

theorem done_stable (i : Inst) (s : State) (a : Nat) (hd : env.done i s = true) :
    env.done i (env.step i s a) = true :=
  routing.done_stable s a hd

def WF (i : Inst) : Prop := ∀ j, 1 ≤ j → j ≤ i.n → i.demand j ≤ i.cap

/-- needed for the depot step: with an empty vehicle `WF` makes every unvisited customer fit, so a depot that is
offered at the depot means all customers are visited (`visited_of_not_anyLoc`) -/
def AtDepotEmpty (s : State) : Prop := s.cur = 0 → s.used = 0

theorem atDepotEmpty_step (i : Inst) (s : State) (a : Nat) : AtDepotEmpty (step i s a) := by
  intro (h : a = 0); subst h; rfl

theorem visited_of_not_anyLoc (i : Inst) (hwf : WF i) (s : State) (hu : s.used = 0) (hany : anyLoc i s = false)
    (j : Nat) (h1 : 1 ≤ j) (h2 : j ≤ i.n) : s.vis j = true := by
  refine (Bool.not_eq_false _).mp fun hv => ?_
  have hfit : i.demand j + s.used ≤ i.cap := by rw [hu, Int.add_zero]; exact hwf j h1 h2
  exact Bool.false_ne_true (((anyLoc_eq_false_iff i s).1 hany j h1 h2).symm.trans
    ((locOk_iff i s j).2 ⟨hv, hfit⟩))

theorem steps_le (i : Inst) (hwf : WF i) {as : List Nat} {s : State}
    (h : RunND env i (env.reset i) as s) : as.length ≤ 2 * i.n + 1 :=
  routing.steps_le (cur := State.cur) (fun _ _ => rfl) (Inv := AtDepotEmpty) (fun s a _ _ _ => atDepotEmpty_step i s a)
    (fun s hi hc hm => visited_of_not_anyLoc i hwf s (hi hc) ((mask_zero_iff i s).1 hm hc)) h (fun _ => rfl) rfl

/-- the load never goes below 0 (the invariant carried along), so the customer never fits -/
theorem unvisited_of_oversized (i : Inst) (hd : ∀ j, 0 ≤ i.demand j) (j : Nat) (h1 : 1 ≤ j)
    (hbig : i.cap < i.demand j) {as : List Nat} {s : State} (h : Run env i (env.reset i) as s) :
    s.vis j = false := by
  refine (h.inv (Inv := fun s => s.vis j = false ∧ 0 ≤ s.used) ?_ ⟨rfl, Int.le_refl 0⟩).1
  intro s a ⟨hv, hu⟩ ha hm
  simp only [env] at ha hm ⊢
  by_cases h0 : a = 0
  · subst h0; exact ⟨(upd_other s.vis 0 j true (by omega)).trans hv, Int.le_refl 0⟩
  · have hfit := ((mask_of_ne i s h0).1 hm).2
    have hne : j ≠ a := fun e => by subst e; omega
    rw [step_used_of_ne i s h0 ha]
    exact ⟨(upd_other s.vis a j true hne).trans hv, Int.add_nonneg hu (hd a)⟩

/-- `mask_nonempty` under the word of the property text -/
theorem progress (i : Inst) (s : State) : ∃ a, a < env.nAct i ∧ env.mask i s a = true :=
  mask_nonempty i s

example : WF ⟨2, 8, fun _ => 4, fun _ _ => 1⟩ := by intro j _ _; simp
example : RunND env ⟨2, 8, fun _ => 4, fun _ _ => 1⟩ (env.reset ⟨2, 8, fun _ => 4, fun _ _ => 1⟩) [1, 2, 0]
    (exec env ⟨2, 8, fun _ => 4, fun _ _ => 1⟩ (env.reset ⟨2, 8, fun _ => 4, fun _ _ => 1⟩) [1, 2, 0]) :=
  .of_admittedND (by decide)

end Rl4co.Cvrp
