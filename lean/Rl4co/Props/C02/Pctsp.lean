/-
C02 for PCTSP / SPCTSP: (1) every reachable state — finished or not — offers at least one action
(the depot once the prize rule allows it, an unvisited customer otherwise), so a finished row stays
steppable while batch-mates run; (2) `done` is absorbing along mask-admitted steps from reachable
states; (3) every mask-confined episode is finished after at most `max (n+1) 2` steps.
-/
import Rl4co.Props.C01.Pctsp

namespace Rl4co.Pctsp
open Rl4co.Prize

theorem mask_nonempty (i : Inst) (s : State) (hr : Reach env i s) :
    ∃ a, a < env.nAct i ∧ env.mask i s a = true :=
  -- no customer is offered: the depot is marked, and the prize rule held when it was, or every customer is visited
  mask_nonempty_of_depot_offered rfl fun hno => (mask_depot_iff i s).mpr <| by
    cases hv0 : s.vis 0 with
    | true => exact prize_ok_of_vis0 i hr hv0
    | false =>
      refine Or.inr (custCount_eq_n.mpr fun j h1 h2 => Classical.byContradiction fun hvj => ?_)
      exact Bool.false_ne_true ((hno j h1 h2).symm.trans
        ((mask_customer_iff (Nat.ne_of_gt h1)).mpr ⟨Bool.eq_false_iff.mpr hvj, hv0⟩))

theorem done_stable (i : Inst) (s : State) (a : Nat) (hr : Reach env i s)
    (hd : env.done i s = true) (hm : env.mask i s a = true) :
    env.done i (env.step i s a) = true :=
  (isTour.pad hr hd hm).2.1

theorem steps_le (i : Inst) {as : List Nat} {s : State}
    (h : RunND env i (env.reset i) as s) : as.length ≤ max (i.n + 1) 2 :=
  isTour.steps_le h

/-- Non-vacuity: a run through unfinished states that needs all customers (`n + 1 = 4` steps). -/
-- `reset` does not read `req`: `env.reset exInst` is the reset state of the instance run here
example : RunND env { exInst with req := 100 } (env.reset exInst) [3, 1, 2, 0]
    (exec env { exInst with req := 100 } (env.reset exInst) [3, 1, 2, 0]) :=
  .of_admittedND (by decide)

end Rl4co.Pctsp
