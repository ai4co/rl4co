/-
C02 for SDVRP: every state offers an action, `done` is absorbing along reachable states, and with
capacity > 0 and demands ≥ 0 every mask-confined run through unfinished states has at most
2·(n + ⌊Σ demand / capacity⌋) + 1 steps: two per customer plus one, and one more pair per full vehicle
load (a visit that fills the vehicle without completing the customer, and the return it forces).
The bound is proved with the integer potential
  φ = 2·#{customers with remaining demand} + 2·⌊(Σ remaining + load)/capacity⌋ + τ + ε,
τ = 0 at the depot, −1 at a customer with a full vehicle, +1 otherwise; ε = 1 only in the reset state of
an all-zero instance; every admitted step from an unfinished state decreases φ by at least 1.
-/
import Rl4co.Core.Lists
import Rl4co.Proofs.SdvrpModel

namespace Rl4co.Sdvrp

theorem mask_nonempty (i : Inst) (s : State) : ∃ a, a < env.nAct i ∧ env.mask i s a = true :=
  mask_nonempty_of_depot_offered rfl fun h => (mask_zero_iff i s).mpr fun _ j h1 h2 =>
    (locOk_eq_false i s j).mp ((mask_ne i s (Nat.ne_of_gt h1)).symm.trans (h j h1 h2))

theorem done_stable (i : Inst) (hw : WF i) {s : State} (hr : Reach env i s) (a : Nat)
    (hd : env.done i s = true) : env.done i (env.step i s a) = true := by
  have hi := Inv.of_reach hw hr
  have hle : ∀ j, (env.step i s a).rem j ≤ s.rem j := fun j => by
    rw [step_rem, upd_apply]
    split
    · next h => rw [h]; exact Int.sub_le_self _ (delivered_bounds hi a).1
    · exact Int.le_refl _
  show (!anyRem i.n (env.step i s a).rem) = true
  rw [anyRem_eq_false.mpr (fun j hj => Int.le_trans (hle j) (hi.flag hd j hj))]
  rfl

/-- Σ_{j=1..n} f j -/
def sumTo : Nat → (Nat → Int) → Int
  | 0, _ => 0
  | n + 1, f => sumTo n f + f (n + 1)

theorem sumTo_eq (n : Nat) (f : Nat → Int) : sumTo n f = ((List.range n).map fun k => f (k + 1)).sum := by
  induction n with
  | zero => rfl
  | succ n ih => rw [sumTo, ih, List.range_succ, List.map_append, List.sum_append, List.map_singleton, List.sum_singleton]

theorem sumTo_congr {n : Nat} {f g : Nat → Int} (h : ∀ j, 1 ≤ j → j ≤ n → f j = g j) : sumTo n f = sumTo n g := by
  rw [sumTo_eq, sumTo_eq]
  exact congrArg List.sum (List.map_congr_left fun k hk => h (k + 1) (Nat.succ_pos k) (List.mem_range.mp hk))

theorem sumTo_nonneg {n : Nat} {f : Nat → Int} (h : ∀ j, 1 ≤ j → 0 ≤ f j) : 0 ≤ sumTo n f :=
  sumTo_eq n f ▸ sum_map_nonneg fun k _ => h (k + 1) (Nat.succ_pos k)

theorem sumTo_upd {n : Nat} {f : Nat → Int} {a : Nat} (h1 : 1 ≤ a) (h2 : a ≤ n) (v : Int) :
    sumTo n (upd f a v) + f a = sumTo n f + v := by
  obtain ⟨k, rfl⟩ := Nat.exists_eq_succ_of_ne_zero (Nat.ne_of_gt h1)
  have := sum_map_range_update (f := fun m => f (m + 1)) (g := fun m => upd f (k + 1) v (m + 1)) h2
    (fun j hj => upd_other f (k + 1) (j + 1) v (fun h => hj (Nat.succ.inj h)))
  rwa [upd_same, ← sumTo_eq, ← sumTo_eq] at this

def pending (n : Nat) (rem : Nat → Int) : Nat := cnt n (fun k => decide (0 < rem (k + 1)))

theorem pending_upd_zero {n : Nat} {rem : Nat → Int} {a : Nat} (h1 : 1 ≤ a) (h2 : a ≤ n) (hp : 0 < rem a) :
    pending n (upd rem a 0) + 1 = pending n rem := by
  refine cnt_succ_upd_false (p := fun j => decide (0 < rem j)) (q := fun j => decide (0 < upd rem a 0 j))
    h1 h2 (decide_eq_true hp) ?_ (fun j _ hj => ?_)
  · show decide (0 < upd rem a 0 a) = false
    rw [upd_same]; rfl
  · show decide (0 < upd rem a 0 j) = decide (0 < rem j)
    rw [upd_other _ _ _ _ hj]

theorem pending_upd_pos {n : Nat} {rem : Nat → Int} {a : Nat} {v : Int} (hp : 0 < rem a) (hv : 0 < v) :
    pending n (upd rem a v) = pending n rem := by
  refine cnt_congr (fun k _ => ?_)
  show decide (0 < upd rem a v (k + 1)) = decide (0 < rem (k + 1))
  rw [upd_apply]
  split
  · next h => rw [h, decide_eq_true hp, decide_eq_true hv]
  · rfl

def tau (i : Inst) (s : State) : Int := if s.cur = 0 then 0 else if s.used = i.cap then -1 else 1

def eps (i : Inst) (s : State) : Int := if FlagOK i s then 0 else 1

def phi (i : Inst) (s : State) : Int :=
  2 * (pending i.n s.rem : Int) + 2 * ((sumTo i.n s.rem + s.used) / i.cap) + tau i s + eps i s

theorem eps_nonneg (i : Inst) (s : State) : 0 ≤ eps i s := by unfold eps; split <;> decide

theorem eps_le_one (i : Inst) (s : State) : eps i s ≤ 1 := by unfold eps; split <;> decide

theorem eps_step (i : Inst) (s : State) (a : Nat) : eps i (env.step i s a) = 0 := if_pos (flagOK_step i s a)

/-- a loaded vehicle (`0 ≤ u`, full iff `u = c`) is worth one return to the depot -/
theorem load_arith (k R u c e : Int) (hc : 0 < c) (hu0 : 0 ≤ u) (he : 0 ≤ e) :
    2 * k + 2 * (R / c) + 1 ≤ 2 * k + 2 * ((R + u) / c) + (if u = c then -1 else 1) + e := by
  split
  · next h =>
    have hdiv := Int.add_mul_ediv_right R 1 (Int.ne_of_gt hc)
    rw [Int.one_mul] at hdiv
    rw [h, hdiv]
    omega
  · have := Int.ediv_le_ediv hc (Int.le_add_of_nonneg_right (a := R) hu0)
    omega

/-- away from the depot the potential pays for the return -/
theorem phi_ge_customer (i : Inst) (hw : WFpos i) (s : State) (hi : Inv i s) (hc : s.cur ≠ 0) :
    2 * (pending i.n s.rem : Int) + 2 * (sumTo i.n s.rem / i.cap) + 1 ≤ phi i s := by
  rw [phi, tau, if_neg hc]
  exact load_arith _ _ _ _ _ hw.cap hi.used0 (eps_nonneg i s)

theorem phi_nonneg (i : Inst) (hw : WFpos i) (s : State) (hi : Inv i s) : 0 ≤ phi i s := by
  have hR : 0 ≤ sumTo i.n s.rem := sumTo_nonneg (fun j _ => hi.remNN j)
  have h2 : (0 : Int) ≤ 2 := by decide
  have hK : 0 ≤ 2 * (pending i.n s.rem : Int) := Int.mul_nonneg h2 (Int.natCast_nonneg _)
  by_cases hc : s.cur = 0
  · rw [phi, tau, if_pos hc, Int.add_zero]
    exact Int.add_nonneg (Int.add_nonneg hK
      (Int.mul_nonneg h2 (Int.ediv_nonneg (Int.add_nonneg hR hi.used0) (Int.le_of_lt hw.cap)))) (eps_nonneg i s)
  · refine Int.le_trans ?_ (phi_ge_customer i hw s hi hc)
    exact Int.add_nonneg (Int.add_nonneg hK (Int.mul_nonneg h2 (Int.ediv_nonneg hR (Int.le_of_lt hw.cap))))
      (by decide)

theorem phi_step_depot (i : Inst) (s : State) (hi : Inv i s) :
    phi i (env.step i s 0) = 2 * (pending i.n s.rem : Int) + 2 * (sumTo i.n s.rem / i.cap) := by
  unfold phi
  rw [eps_step, step_rem_depot hi, step_used_zero, Int.add_zero, Int.add_zero]
  show _ + (0 : Int) = _
  rw [Int.add_zero]

/-- one pending customer less pays for the step, whatever `τ` becomes (kept apart from its one use: `omega` is
slow in the context of `phi_step_customer`) -/
theorem completed_pays {k' k : Nat} {G t : Int} (hk : k' + 1 = k) (ht : t ≤ 1) :
    2 * (k' : Int) + 2 * G + t + 1 ≤ 2 * (k : Int) + 2 * G := by omega

/-- a customer visit keeps total + load; it either completes the customer or fills the vehicle -/
theorem phi_step_customer (i : Inst) (s : State) {a : Nat} (hi : Inv i s) (h0 : a ≠ 0) (ha : a ≤ i.n)
    (hm : env.mask i s a = true) :
    phi i (env.step i s a) + 1 ≤ 2 * (pending i.n s.rem : Int) + 2 * ((sumTo i.n s.rem + s.used) / i.cap) := by
  have h1 : 1 ≤ a := Nat.pos_of_ne_zero h0
  have hdr := (delivered_bounds hi a).2.1
  have hra : 0 < s.rem a := Int.lt_of_lt_of_le ((mask_customer_iff hi h0).mp hm) hdr
  have hsum : sumTo i.n (env.step i s a).rem + (env.step i s a).used = sumTo i.n s.rem + s.used := by
    have := sumTo_upd (f := s.rem) h1 ha (s.rem a - delivered i s a)
    rw [step_rem, step_used_ne i s h0]
    omega
  have htau : tau i (env.step i s a) = if (env.step i s a).used = i.cap then -1 else 1 := if_neg h0
  rw [phi, hsum, eps_step, Int.add_zero, htau, step_used_ne i s h0, step_rem]
  by_cases hc : delivered i s a = s.rem a
  · rw [hc, Int.sub_self]
    exact completed_pays (pending_upd_zero h1 ha hra) (by split <;> decide)
  · have hfull := ((greedy_amount_iff _ _ _ _).mpr (delivered_eq i s a)).2.2.resolve_left hc
    rw [pending_upd_pos hra (Int.sub_pos_of_lt (Int.lt_iff_le_and_ne.mpr ⟨hdr, hc⟩)), if_pos hfull, Int.add_assoc,
      Int.add_assoc]
    exact Int.le_of_eq (by rw [show (-1 : Int) + 1 = 0 from rfl, Int.add_zero])

theorem phi_decreases (i : Inst) (hw : WFpos i) (s : State) (a : Nat) (hi : Inv i s)
    (hd : env.done i s = false) (ha : a < env.nAct i) (hm : env.mask i s a = true) :
    phi i (env.step i s a) + 1 ≤ phi i s := by
  by_cases h0 : a = 0
  · subst h0
    rw [phi_step_depot i s hi]
    by_cases hc : s.cur = 0
    · -- depot → depot: nothing remains although the flag says unfinished (reset state of an all-zero instance)
      have hz := rem_zero_of_mask_depot hw.cap hi hc hm
      have hflag : ¬ FlagOK i s := fun hf =>
        Bool.false_ne_true ((show s.done = false from hd).symm.trans (done_of_rem_zero hi hf hz))
      rw [phi, hi.depotEmpty hc, Int.add_zero (sumTo i.n s.rem), tau, if_pos hc, eps, if_neg hflag, Int.add_zero]
      exact Int.le_refl _
    · exact phi_ge_customer i hw s hi hc
  · refine Int.le_trans (phi_step_customer i s hi h0 (Nat.le_of_lt_succ ha) hm) ?_
    -- the mask offers a customer only to a vehicle that is not full
    have htau : 0 ≤ tau i s := by
      have hlt : s.used ≠ i.cap := fun h => by
        have hpos := (mask_customer_iff hi h0).mp hm
        have hdc := (delivered_bounds hi a).2.2
        rw [h, ← Int.add_zero i.cap, Int.add_assoc, Int.zero_add] at hdc
        exact Int.not_lt.mpr (Int.le_of_add_le_add_left hdc) hpos
      by_cases hc : s.cur = 0
      · rw [tau, if_pos hc]; exact Int.le_refl 0
      · rw [tau, if_neg hc, if_neg hlt]; decide
    exact Int.le_trans (Int.le_add_of_nonneg_right htau) (Int.le_add_of_nonneg_right (eps_nonneg i s))

/-- Step bound: two steps per customer plus one, and one more pair per full vehicle load. -/
theorem steps_le (i : Inst) (hw : WFpos i) {as : List Nat} {s : State}
    (h : RunND env i (env.reset i) as s) :
    (as.length : Int) ≤ 2 * ((i.n : Int) + sumTo i.n i.demand / i.cap) + 1 := by
  have hi0 := inv_reset i hw.wf
  -- `φ ≥ 0` under the invariant, so its `toNat` is a measure in the sense of `steps_le_of_measure`
  have hlen : (as.length : Int) ≤ phi i (env.reset i) := by
    rw [← Int.toNat_of_nonneg (phi_nonneg i hw _ hi0)]
    exact Int.ofNat_le.mpr (Nat.le_trans (Nat.le_add_right _ _)
      (steps_le_of_measure (fun s => (phi i s).toNat) (Inv i) (fun s a hi _ _ => inv_step i s a hi)
        (fun s a hi hd ha hm => Int.lt_toNat.mpr (by
          rw [Int.toNat_of_nonneg (phi_nonneg i hw _ (inv_step i s a hi))]
          exact Int.lt_of_add_one_le (phi_decreases i hw s a hi hd ha hm))) h hi0))
  have hR : sumTo i.n (env.reset i).rem = sumTo i.n i.demand := sumTo_congr (fun j hj _ => reset_rem i hj)
  have hK : pending i.n (env.reset i).rem ≤ i.n := cnt_le _ _
  have hphi : phi i (env.reset i) =
      2 * (pending i.n (env.reset i).rem : Int) + 2 * (sumTo i.n i.demand / i.cap) + eps i (env.reset i) := by
    unfold phi
    rw [hR]
    show _ + 2 * ((sumTo i.n i.demand + 0) / i.cap) + 0 + _ = _
    rw [Int.add_zero (sumTo i.n i.demand), Int.add_zero]
  calc (as.length : Int)
      ≤ phi i (env.reset i) := hlen
    _ = _ := hphi
    _ ≤ 2 * (i.n : Int) + 2 * (sumTo i.n i.demand / i.cap) + 1 :=
        Int.add_le_add (Int.add_le_add_right
          (Int.mul_le_mul_of_nonneg_left (Int.ofNat_le.mpr hK) (by decide)) _) (eps_le_one i _)
    _ = 2 * ((i.n : Int) + sumTo i.n i.demand / i.cap) + 1 := by rw [Int.mul_add]

/-- Non-vacuity of the bound: the example of C01 (demand 12 > capacity 8: one full load), an episode of
4 steps ≤ 2·(2 + ⌊16/8⌋) + 1. -/
example : WFpos exInst := ⟨by decide, by intro j; simp only [exInst]; split <;> omega⟩
example : RunND env exInst (env.reset exInst) [1, 2, 0, 2] (exec env exInst (env.reset exInst) [1, 2, 0, 2]) :=
  .of_admittedND (by decide)

end Rl4co.Sdvrp
