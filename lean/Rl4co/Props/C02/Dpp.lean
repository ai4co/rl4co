/-
C02 for DPP / MDPP.  `max_decaps` is one number per environment, so all rows of a batch finish at the
same step and a finished row is never stepped; an unfinished state offers an action provided the
instance has at least `max_decaps` allowed cells (`WF`); an episode takes exactly `max_decaps` steps.
-/
import Rl4co.Props.C08.Dpp

namespace Rl4co.Dpp

theorem mask_nonempty (i : Inst) {as : List Nat} {s : State} (h : Run env i (env.reset i) as s)
    (hlt : as.length < cnt i.n (allowed0 i)) : ∃ a, a < env.nAct i ∧ env.mask i s a = true :=
  Sel.mask_nonempty view h hlt

theorem progress (i : Inst) (hwf : WF i) {as : List Nat} {s : State}
    (h : Run env i (env.reset i) as s) (hd : env.done i s = false) :
    ∃ a, a < env.nAct i ∧ env.mask i s a = true :=
  Sel.progress view hwf.1 hwf.room h hd

theorem done_stable (i : Inst) {as : List Nat} {s : State} (h : Run env i (env.reset i) as s) (a : Nat)
    (hd : env.done i s = true) : env.done i (env.step i s a) = true :=
  Sel.done_stable view h a hd

/-- C02, step bound = quota; with `done_iff_quota` every complete episode has exactly that length. -/
theorem steps_le (i : Inst) (hq : 1 ≤ i.quota) {as : List Nat} {s : State}
    (h : RunND env i (env.reset i) as s) : (as.length : Int) ≤ i.quota :=
  Sel.steps_le view hq h

theorem run_length (i : Inst) (hq : 1 ≤ i.quota) {as : List Nat} {s : State}
    (h : RunND env i (env.reset i) as s) : env.done i s = true ↔ (as.length : Int) = i.quota := by
  rw [done_iff_quota i hq h.run]
  exact ⟨Int.le_antisymm (steps_le i hq h), fun he => Int.le_of_eq he.symm⟩

/-- `WF` is needed for `progress`: with fewer allowed cells than `max_decaps` the episode dead-ends
(1 allowed cell, quota 2: after one placement the state is unfinished with an empty mask). -/
example : let i : Inst := ⟨2, 2, fun j => j = 0, fun j => j = 1, false⟩
    env.done i (exec env i (env.reset i) [0]) = false ∧
    ∀ a, a < 2 → env.mask i (exec env i (env.reset i) [0]) a = false := by
  decide

/-- Non-vacuity of `WF` in the tightest case: exactly `max_decaps` allowed cells. -/
example : WF ⟨3, 2, fun j => j = 0 || j = 2, fun j => j = 1, true⟩ :=
  ⟨by decide, by decide, Or.inl rfl⟩

end Rl4co.Dpp
