/-
C02 for FJSP / JSSP (one model, `jssp` and `mask_no_ops` are instance switches, so every theorem
covers both environments and both settings of `mask_no_ops`): no reachable state is a dead end, `done`
is absorbing, the code's unbounded `while step_complete.any()` terminates without its `assert` on
`available_time` firing, and an episode takes one scheduling step per real operation plus at most one
wait per operation.
-/
import Rl4co.Proofs.FjspStep

namespace Rl4co.Fjsp
open Rl4co.Spec.Fjsp (isReal opOf)

theorem mask_of_done (i : Inst) (hwf : WF i) (s : State) (h : Reach env i s) (hd : s.done = true)
    (a : Nat) (ha : a < env.nAct i) : env.mask i s a = decide (a = 0) := by
  obtain ⟨hinv, _⟩ := inv2_of_reach hwf h
  by_cases ha0 : a = 0
  · subst ha0
    simp only [env, mask, if_true, noOpMask_eq]
    split <;> simp [hd]
  · rw [decide_eq_false ha0]
    cases hm : env.mask i s a with
    | false => rfl
    | true =>
      -- a scheduling action would select an unfinished job
      obtain ⟨j, m, hsel, _⟩ := sel_of_mask ha0 ha hm
      have := hsel.notDone
      rw [hinv.jobDone_of_done hd hsel.hj] at this; cases this

/-- **no dead ends**, also for finished rows, for `mask_no_ops` on and off, FJSP and JSSP. -/
theorem mask_nonempty (i : Inst) (hwf : WF i) (s : State) (h : Reach env i s) :
    ∃ a, a < env.nAct i ∧ env.mask i s a = true := by
  obtain ⟨_, hsc⟩ := inv2_of_reach hwf h
  cases hd : s.done with
  | false => exact exists_act_of_rest hsc hd
  | true => exact ⟨0, nAct_pos i, by rw [mask_of_done i hwf s h hd 0 (nAct_pos i)]; rfl⟩

/-- **finished stays finished**: a step on a finished row changes nothing at all (`step_of_done`). -/
theorem done_stable (i : Inst) (s : State) (a : Nat) (hd : env.done i s = true) :
    env.done i (env.step i s a) = true := by
  rw [show env.step i s a = s from step_of_done hd a]; exact hd

/-- after every admitted step the loop has come to rest and no assertion of the code has fired (that the
model's fuel suffices for this is `autoTransit_induct` with `cntBusy_lt_fuel`). -/
theorem loop_terminates (i : Inst) (hwf : WF i) (s : State) (h : Reach env i s) :
    stepComplete i s = false ∧ s.err = false :=
  ⟨(inv2_of_reach hwf h).2, (inv2_of_reach hwf h).1.errF⟩

def nReal (i : Inst) : Nat := cnt i.N (isReal i)

def unsched (i : Inst) (s : State) : Nat := cnt i.N (fun o => isReal i o && !s.sched o)

/-- termination measure: 2·#unscheduled operations + #machines busy beyond the current time -/
def mu (i : Inst) (s : State) : Nat := 2 * unsched i s + cntBusy i s

theorem unsched_transit (i : Inst) (s : State) : unsched i (transit i s) = unsched i s := by
  unfold unsched; rw [(transit_frame i s).2.1]

theorem unsched_reset (i : Inst) : unsched i (reset i) = nReal i :=
  cnt_congr fun _ _ => Bool.and_true _

theorem unsched_autoTransit {i : Inst} (hwf : WF i) {s : State} (hinv : Inv i s) :
    unsched i (autoTransit i (fuel i) s) = unsched i s :=
  autoTransit_preserves hwf (P := fun s' => unsched i s' = unsched i s)
    (fun s1 _ _ _ _ h => (unsched_transit i s1).trans h) hinv rfl

theorem unsched_makeStepAt {i : Inst} (hwf : WF i) {s : State} (hinv : Inv i s) {j m : Nat}
    (h : Selectable i s j m) : unsched i (makeStepAt s j (s.nextOp j) m) + 1 = unsched i s := by
  obtain ⟨hns, _, _, hoN⟩ := sel_facts hwf hinv h
  have : (fun o => isReal i o && !(makeStepAt s j (s.nextOp j) m).sched o) =
      upd (fun o => isReal i o && !s.sched o) (s.nextOp j) false := by
    funext o
    by_cases ho : o = s.nextOp j <;> simp [ho, makeStepAt_self, makeStepAt_other]
  unfold unsched
  rw [this]
  exact cnt_upd_false hoN (by rw [hinv.real_next h.hj, hns]; rfl)

/-- executions of `_transit_to_next_time` caused by one step of a row -/
def transitsOfStep (i : Inst) (s : State) (a : Nat) : Nat :=
  if s.done then 0
  else if a = 0 then 1 + autoCount i (fuel i) (transit i s)
  else autoCount i (fuel i) (makeStep i s (a - 1))

theorem autoCount_le {i : Inst} (hwf : WF i) (f : Nat) (s : State) (hinv : Inv i s) (hlt : cntBusy i s < f) :
    cntBusy i (autoTransit i f s) + autoCount i f s ≤ cntBusy i s :=
  (autoTransit_induct hwf (P := fun n s' => cntBusy i s' + n ≤ cntBusy i s)
    (fun s1 n _ hinv1 hsc _ h => by
      obtain ⟨_, _, _, hdec⟩ := transit_of_stuck hwf hinv1 hsc
      omega) f s hinv hlt (Nat.le_refl _)).1

/-- the potential "operations still to be scheduled + machines still busy" pays for every transit -/
theorem transits_step {i : Inst} (hwf : WF i) {s : State} (h2 : Inv2 i s) {a : Nat} (ha : a < nAct i)
    (hm : mask i s a = true) :
    (unsched i (step i s a) + cntBusy i (step i s a)) + transitsOfStep i s a ≤ unsched i s + cntBusy i s := by
  obtain ⟨hinv, _⟩ := h2
  have h1 := autoCount_le hwf (fuel i) _ (inv_pre hwf hinv ha hm) (cntBusy_lt_fuel i _)
  rw [step_eq_pre, unsched_autoTransit hwf (inv_pre hwf hinv ha hm)]
  unfold transitsOfStep
  cases hd : s.done with
  | true =>
    rw [pre_of_done hd] at h1 ⊢
    rw [if_pos rfl]; omega
  | false =>
    rw [if_neg Bool.false_ne_true]
    rcases pre_cases hwf hinv hd ha hm with ⟨rfl, _, t', ht', he⟩ | ⟨j, m, hsel, rfl, he⟩
    · rw [he] at h1 ⊢
      rw [if_pos rfl, unsched_transit]
      have h2 := cntBusy_transit_lt (i := i) ht'
      omega
    · -- `_make_step`: one operation less to schedule, one machine more busy
      rw [he] at h1 ⊢
      rw [if_neg (actOf_ne_zero i j m), makeStep_actOf hwf hinv hsel]
      have h2 := unsched_makeStepAt hwf hinv hsel
      have h3 := cntBusy_makeStepAt hwf hinv hsel
      omega

theorem unsched_step {i : Inst} (hwf : WF i) {s : State} (h : Inv2 i s) (hd : s.done = false) {a : Nat}
    (ha : a < nAct i) (hm : mask i s a = true) :
    unsched i (step i s a) + (if a = 0 then 0 else 1) = unsched i s := by
  obtain ⟨hinv, _⟩ := h
  rw [step_eq_pre, unsched_autoTransit hwf (inv_pre hwf hinv ha hm)]
  rcases pre_cases hwf hinv hd ha hm with ⟨rfl, _, _, _, he⟩ | ⟨j, m, hsel, rfl, he⟩
  · rw [he, unsched_transit]; rfl
  · rw [he, if_neg (actOf_ne_zero i j m)]
    exact unsched_makeStepAt hwf hinv hsel

/-- every admitted step from an unfinished state strictly decreases the measure: a wait executes
`_transit_to_next_time` at least once, a scheduling action schedules an operation -/
theorem mu_decreases {i : Inst} (hwf : WF i) {s : State} (h : Inv2 i s) (hd : s.done = false) {a : Nat}
    (ha : a < nAct i) (hm : mask i s a = true) : mu i (step i s a) < mu i s := by
  have h1 := transits_step hwf h ha hm
  have h2 := unsched_step hwf h hd ha hm
  unfold mu
  unfold transitsOfStep at h1
  rw [hd, if_neg Bool.false_ne_true] at h1
  by_cases ha0 : a = 0
  · rw [if_pos ha0] at h1 h2; omega
  · rw [if_neg ha0] at h1 h2; omega

/-- **step bound**: a mask-confined run that is stepped only while unfinished (as the decoding
loop does) has at most `2 · #operations` steps: one per operation plus at most one wait per operation. -/
theorem steps_le (i : Inst) (hwf : WF i) (as : List Nat) (s : State)
    (h : RunND env i (env.reset i) as s) : as.length ≤ 2 * nReal i := by
  have := steps_le_of_measure (e := env) (i := i) (mu i) (Inv2 i)
    (fun s a hi ha hm => inv2_step hwf hi ha hm)
    (fun s a hi hd ha hm => mu_decreases hwf hi hd ha hm) h (inv2_reset hwf)
  have h0 : mu i (env.reset i) = 2 * nReal i := by
    show 2 * unsched i (reset i) + cntBusy i (reset i) = _
    rw [unsched_reset, cntBusy_reset]; rfl
  omega

/-- **Following the mask always finishes.**  Any policy that picks admitted actions and preserves `Q`
leads, from a state at rest, to a finished state satisfying `Q` (the measure bounds the length). -/
theorem run_to_done {i : Inst} (hwf : WF i) {Q : State → Prop}
    (hpol : ∀ s, Inv2 i s → Q s → s.done = false → ∃ a, a < nAct i ∧ mask i s a = true ∧ Q (step i s a))
    {s : State} (h2 : Inv2 i s) (hq : Q s) : ∃ as s', Run env i s as s' ∧ s'.done = true ∧ Inv i s' ∧ Q s' := by
  have key : ∀ n s, mu i s < n → Inv2 i s → Q s → ∃ as s', Run env i s as s' ∧ s'.done = true ∧ Inv i s' ∧ Q s' := by
    intro n
    induction n with
    | zero => intro s h; exact absurd h (Nat.not_lt_zero _)
    | succ n ih =>
      intro s hmu h2 hq
      cases hd : s.done with
      | true => exact ⟨[], s, Run.nil s, hd, h2.1, hq⟩
      | false =>
        obtain ⟨a, ha, hm, hq'⟩ := hpol s h2 hq hd
        have hdec := mu_decreases hwf h2 hd ha hm
        obtain ⟨as, s', hrun, hd', hinv', hq''⟩ := ih _ (by omega) (inv2_step hwf h2 ha hm) hq'
        exact ⟨a :: as, s', Run.cons ha hm hrun, hd', hinv', hq''⟩
  exact key _ s (Nat.lt_succ_self _) h2 hq

/-- following the mask, whatever it offers, reaches a finished state -/
theorem exists_done_run (i : Inst) (hwf : WF i) : ∃ as s, Run env i (env.reset i) as s ∧ s.done = true := by
  obtain ⟨as, s, hrun, hd, _⟩ := run_to_done hwf (Q := fun _ => True)
    (fun s h2 _ hd => (exists_act_of_rest h2.2 hd).imp fun _ h => ⟨h.1, h.2, trivial⟩) (inv2_reset hwf) trivial
  exact ⟨as, s, hrun, hd⟩

def nSched (as : List Nat) : Nat := (as.filter (fun a => a != 0)).length

theorem nSched_run {i : Inst} (hwf : WF i) {s s' : State} {as : List Nat} (h : RunND env i s as s')
    (h2 : Inv2 i s) : nSched as + unsched i s' = unsched i s := by
  induction h with
  | nil s => exact Nat.zero_add _
  | @cons s s' a as hnd ha hm _ ih =>
    have h1 : nSched as + unsched i s' = unsched i (step i s a) := ih (inv2_step hwf h2 ha hm)
    have h3 := unsched_step hwf h2 hnd ha hm
    have h4 : nSched (a :: as) = nSched as + (if a = 0 then 0 else 1) := by
      by_cases ha0 : a = 0 <;> simp [nSched, ha0]
    rw [h4]; omega

/-- **exactly one step per operation plus one per wait**: in a finished run (stepped only while
unfinished) the scheduling actions are exactly as many as the instance has operations, and the waits
at most as many. -/
theorem steps_eq (i : Inst) (hwf : WF i) (as : List Nat) (s : State)
    (h : RunND env i (env.reset i) as s) (hd : s.done = true) :
    nSched as = nReal i ∧ as.length - nSched as ≤ nReal i := by
  have h1 := nSched_run hwf h (inv2_reset hwf)
  have hinv := (inv2_of_reach hwf ⟨as, h.run⟩).1
  have h0 : unsched i s = 0 := by
    apply cnt_eq_zero.mpr
    intro o _
    cases hr : isReal i o with
    | false => rfl
    | true =>
      obtain ⟨j, hj, h1, h2⟩ := job_of_real hr
      rw [all_sched_of_done hinv hd j hj o h1 h2]; rfl
  have h2 : unsched i (env.reset i) = nReal i := unsched_reset i
  have h3 := steps_le i hwf as s h
  omega

/-- schedule job 0 on machine 0, job 1 on machine 1, wait, again, wait: finished after 6 steps -/
example : admitted env exFjsp (env.reset exFjsp) [1, 4, 0, 1, 4, 0] = true ∧
    env.done exFjsp (exec env exFjsp (env.reset exFjsp) [1, 4, 0, 1, 4, 0]) = true ∧
    [1, 4, 0, 1, 4, 0].length ≤ 2 * nReal exFjsp ∧ nSched [1, 4, 0, 1, 4, 0] = nReal exFjsp := by decide +kernel

end Rl4co.Fjsp

namespace Rl4co.Jssp
open Rl4co.Fjsp

/-- the JSSP environment is the same model with the `jssp` switch on -/
theorem mask_nonempty (i : Inst) (_ : i.jssp = true) (hwf : WF i) (s : State) (h : Reach env i s) :
    ∃ a, a < env.nAct i ∧ env.mask i s a = true := Fjsp.mask_nonempty i hwf s h
theorem done_stable (i : Inst) (_ : i.jssp = true) (s : State) (a : Nat) (hd : env.done i s = true) :
    env.done i (env.step i s a) = true := Fjsp.done_stable i s a hd
theorem steps_le (i : Inst) (_ : i.jssp = true) (hwf : WF i) (as : List Nat) (s : State)
    (h : RunND env i (env.reset i) as s) : as.length ≤ 2 * nReal i := Fjsp.steps_le i hwf as s h

example : admitted env exJssp (env.reset exJssp) [1, 2, 1, 2] = true ∧
    env.done exJssp (exec env exJssp (env.reset exJssp) [1, 2, 1, 2]) = true := by decide +kernel

end Rl4co.Jssp
