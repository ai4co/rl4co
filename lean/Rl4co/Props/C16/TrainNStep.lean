/-
C16 — n-step PPO (`n_step_ppo.py`, improvement models DACT / N2S / NeuOpt).

* the rollout memory: the state an action is re-evaluated in (inner epochs k ≥ 1) is the state it was sampled in, through
  the extracted token `memory.tds.append(td.clone())`; without `.clone()` every stored state aliases the final one;
* the n-step returns: the backward recursion of the code satisfies `R_t = r_t + γ·R_{t+1}`, `R_n = V`, with closed form
  `Σ_{j≥t} γ^{j−t} r_j + γ^{n−t} V`;
* the loss of an inner epoch is the clipped surrogate plus `vf_lambda` × the (clipped) value loss.  This clause is about the
  hand-written `lossBlock` of `Train/NStep.lean`; unlike the other C16 losses it has no as-coded twin, its only ties to the
  source are the tokens of `memory_copies` and of the return recursion.
-/
import Rl4co.Train.Coded
import Rl4co.Spec.Train
import Rl4co.Props.C16.TrainPpo

namespace Rl4co.Train.NStep
open Rl4co.Spec.Train

/-- obligation (token `memory.tds.append(td.clone())`): the memory holds the rollout states -/
theorem rolloutMemC_eq {S : Type} (states : List S) (final : S) : rolloutMemC states final = states := rfl

/-- entry `t` of the memory is the `t`-th rollout state (`rolloutMemC_eq` read entry-wise): whatever inner epoch looks it
up re-evaluates the state the action was sampled in -/
theorem reeval_state {S : Type} (states : List S) (final : S) (t : Nat) :
    (rolloutMemC states final)[t]? = states[t]? := by rw [rolloutMemC_eq]

/-- the recognised negative case: storing the live TensorDict makes every entry alias the final state -/
theorem rolloutMem_alias {S : Type} (states : List S) (final : S) :
    ∀ s ∈ rolloutMem false states final, s = final := by
  intro s hs
  simp only [rolloutMem, Bool.false_eq_true, if_false, List.mem_map] at hs
  obtain ⟨_, _, rfl⟩ := hs; rfl

/-- further tokens of the loss block that no definition of the model reads: actions, log-probs and rewards are stored as
copies, stored states are re-evaluated on a copy (the policy may write into the TensorDict it is given); the last two are
not about copies: `adv = Reward - bl.detach()` and `ratio = torch.exp(ll - old_ll.detach())`, as `lossBlock` has them -/
theorem memory_copies :
    Params.trainNstepActionClone = true ∧ Params.trainNstepLogpClone = true ∧ Params.trainNstepRewardClone = true ∧
    Params.trainNstepReevalClone = true ∧ Params.trainNstepAdvTag = 0 ∧ Params.trainNstepRatioTag = 0 :=
  ⟨rfl, rfl, rfl, rfl, rfl, rfl⟩

section returns
variable {K : Type} [Field K]

theorem returnsRevC_eq (gamma R : K) (rs : List K) : returnsRevC gamma R rs = returnsRev gamma R rs := by
  induction rs generalizing R with
  | nil => rfl
  | cons r rs ih => simp only [returnsRevC, returnsRev, Params.trainNstepReturnTag, ih]

/-- obligation (token `R = R * gamma + reward_reversed[r]`) -/
theorem returnsC_eq (gamma V : K) (rs : List K) : returnsC gamma V rs = returns gamma V rs := by
  simp only [returnsC, returns, returnsRevC_eq]

theorem returnsRev_append (gamma R : K) (xs ys : List K) :
    returnsRev gamma R (xs ++ ys)
      = returnsRev gamma R xs ++ returnsRev gamma ((returnsRev gamma R xs).getLastD R) ys := by
  induction xs generalizing R with
  | nil => rfl
  | cons x xs ih => simp only [List.cons_append, returnsRev, ih, List.getLastD_cons]

@[simp] theorem returns_nil (gamma V : K) : returns gamma V [] = [] := rfl

/-- **the recursion**: `R_t = r_t + γ·R_{t+1}` with `R_n = V` (the critic's value of the state after the block) -/
theorem returns_cons (gamma V r : K) (rs : List K) :
    returns gamma V (r :: rs) = (r + gamma * (returns gamma V rs).headD V) :: returns gamma V rs := by
  simp only [returns, List.reverse_cons, returnsRev_append, returnsRev, List.reverse_append, List.reverse_cons,
    List.reverse_nil, List.nil_append, List.singleton_append]
  congr 1
  -- the head of the reversed list is the last accumulator, or `V` if there is none
  rw [List.headD_eq_head?_getD, List.head?_reverse, ← List.getLastD_eq_getLast?]
  ring

theorem nstepReturn_nil (gamma V : K) : nstepReturn gamma V [] 0 = V := by
  simp [nstepReturn, pw]

theorem nstepReturn_cons_succ (gamma V r : K) (rs : List K) (t : Nat) :
    nstepReturn gamma V (r :: rs) (t + 1) = nstepReturn gamma V rs t := by
  simp only [nstepReturn, List.length_cons, Nat.add_sub_add_right]
  congr 2
  apply List.map_congr_left
  intro j _
  rw [show t + 1 + j = (t + j) + 1 by omega, List.getD_cons_succ]

theorem nstepReturn_cons_zero (gamma V r : K) (rs : List K) :
    nstepReturn gamma V (r :: rs) 0 = r + gamma * nstepReturn gamma V rs 0 := by
  simp only [nstepReturn, List.length_cons, Nat.sub_zero, Nat.zero_add]
  rw [List.range_succ_eq_map, List.map_cons, List.sum_cons, List.map_map]
  have h : (List.map ((fun j => pw gamma j * (r :: rs).getD j 0) ∘ Nat.succ) (List.range rs.length)).sum
      = gamma * (List.map (fun j => pw gamma j * rs.getD j 0) (List.range rs.length)).sum := by
    generalize List.range rs.length = l
    induction l with
    | nil => simp
    | cons x xs ih =>
      simp only [List.map_cons, List.sum_cons, ih, Function.comp, List.getD_cons_succ, pw]
      ring
  rw [h]
  simp only [pw, List.getD_cons_zero]
  ring

theorem returns_closed_form (gamma V : K) (rs : List K) :
    returns gamma V rs = (List.range rs.length).map (nstepReturn gamma V rs) := by
  induction rs with
  | nil => simp
  | cons r rs ih =>
    rw [returns_cons, ih, List.length_cons, List.range_succ_eq_map, List.map_cons, List.map_map]
    congr 1
    · rw [nstepReturn_cons_zero]
      congr 2
      cases rs with
      | nil => simp [nstepReturn_nil]
      | cons r' rs' => simp [List.range_succ_eq_map]
    · apply List.map_congr_left
      intro t _
      simp only [Function.comp, Nat.succ_eq_add_one, nstepReturn_cons_succ]

end returns

section loss
variable {K : Type} [Field K] [LinearOrder K] [IsStrictOrderedRing K]

omit [IsStrictOrderedRing K] in
theorem valueElem_v (c : K) (old : Option K) (bl : Dual K) (ret : K) :
    (valueElem c old bl ret).v =
      match old with
      | none => (bl.v - ret) * (bl.v - ret)
      | some o =>
        let vc := clip (-c) c (bl.v - o) + o
        if (bl.v - ret) * (bl.v - ret) < (vc - ret) * (vc - ret) then (vc - ret) * (vc - ret)
        else (bl.v - ret) * (bl.v - ret) := by
  cases old with
  | none => simp [valueElem]
  | some o => simp [valueElem, maxDv_v, clampD_v]

omit [IsStrictOrderedRing K] in
/-- **C16, n-step PPO value.**  For every block of `n` samples, every inner epoch: the loss is
`−mean min(r·A, clip(r)·A) + vf_lambda·mean value_term` with `r = w(ll − old_ll)`, `A = R − bl` (the critic value enters
the advantage detached), and the value term `(bl − R)²` in the first inner epoch, `max((bl − R)², (clip(bl − bl₀, ±ε) + bl₀ − R)²)`
afterwards. -/
theorem nstep_value (cfg : Cfg K) (w : K → K) (n : Nat) (ll bl : Nat → Dual K) (oldLl : Nat → K)
    (oldValue : Option (Nat → K)) (ret : Nat → K) :
    (lossBlock cfg w n ll bl oldLl oldValue ret).loss.v =
      nstepLoss n cfg.clipLo cfg.clipHi cfg.clipR cfg.vf (fun i => w ((ll i).v - oldLl i)) ret (fun i => (bl i).v) oldValue := by
  -- `lossBlock` spells the clipped term out; folding it back into `surrElem` lets `surrElem_v` read its value
  cases oldValue <;>
    simp only [lossBlock, nstepLoss, ← surrElem.eq_1, surrElem_v, Dual.add_v, Dual.neg_v, Dual.divc_v, Dual.smul_v, sumTo_v,
      Dual.expw_v, Dual.sub_v, Dual.const_v, valueElem, maxDv_v, clampD_v, Dual.mul_v, Option.map_none, Option.map_some]

end loss

/-- Non-vacuity: rewards `1, 2`, bootstrap value `4`, `γ = 1/2`: returns `[3, 4]`; without the clone the memory of a
two-step block shows the final state twice. -/
example : returns (1 / 2 : Rat) 4 [1, 2] = [3, 4] ∧ rolloutMem false [10, 20] 30 = [30, 30] := by
  constructor <;> decide +kernel

end Rl4co.Train.NStep
