/-
C16 (auxiliary term of the symmetric variant) — `symnco/losses.py:invariance_loss`.

The projected embeddings have one row per AUGMENTED instance, laid out augmentation-outer / instance-inner
(`row = a·B + b`, what `batchify(td, n_aug)` produces).  The loss rearranges them with `"(b a) ... -> b a ..."`, i.e. it
reads row `b'·A + i` as "instance b', augmentation i", and compares rows `b'·A` and `b'·A + i`.

* `invariance_pairs_statement` — "the two rows compared belong to the same instance" — is FALSE (`A = 2, B = 3`:
  rows 0 and 1 are instances 0 and 1 under the same augmentation);
* partial: it holds for a single instance (`B = 1`: trivially, every row then belongs to instance 0), and the rows
  compared always belong to the batch (`< A·B`).
The term is outside the clauses of C16 (it is no policy-gradient surrogate); the statement is recorded because the
same layout confusion is behind the C16 finding on the regrouping.
-/
import Rl4co.Props.C16.TrainCoded
import Rl4co.Core.Lists

namespace Rl4co.Train

/-- instance of a row of the augmented batch (layout `row = a·B + b`) -/
def instOfRow (B row : Nat) : Nat := row % B

/-- "every pair of rows `invariance_loss` compares shows the SAME instance under two augmentations" -/
def invariance_pairs_statement : Prop :=
  ∀ A B : Nat, 2 ≤ A → 1 ≤ B → ∀ b, b < B → ∀ i, i < A →
    instOfRow B (invRowsC A B b i).1 = instOfRow B (invRowsC A B b i).2

instance : Decidable (∀ b, b < 3 → ∀ i, i < 2 → instOfRow 3 (invRowsC 2 3 b i).1 = instOfRow 3 (invRowsC 2 3 b i).2) := by
  infer_instance

/-- **Observation (outside C16's clauses).**  With 2 augmentations and 3 instances the first pair compared is rows
`(0, 1)` = instances 0 and 1. -/
theorem invariance_pairs_counterexample : ¬ invariance_pairs_statement := by
  intro h
  have := h 2 3 (by decide) (by decide) 0 (by decide) 1 (by decide)
  revert this
  decide

theorem invariance_pairs_single (A : Nat) (b i : Nat) :
    instOfRow 1 (invRowsC A 1 b i).1 = instOfRow 1 (invRowsC A 1 b i).2 := by
  simp [instOfRow, Nat.mod_one]

theorem invariance_rows_in_range (A B b i : Nat) (hb : b < B) (hi : i < A) :
    (invRowsC A B b i).1 < A * B ∧ (invRowsC A B b i).2 < A * B := by
  rw [invRowsC_eq, Nat.mul_comm A B]
  exact ⟨idx_lt hb (Nat.zero_lt_of_lt hi), idx_lt hb hi⟩

end Rl4co.Train
