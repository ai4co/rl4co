/-
C16 — translator tie.  The driver executes the "as coded" loss models of `Rl4co/Train/Coded.lean`, whose
decision-critical tokens come from the Python AST (`Rl4co.Generated.Params`, `harness/probes/train.py`):
`advantage = reward - bl_val`, the sign of `-(advantage * log_likelihood).mean()`, `+ bl_loss`, which of the critic's
value / target is detached and whether it is squeezed, `keepdims` of the shared baseline, PPO's `torch.min` of the
two PRODUCTS, the two-sided `clamp(ratio, 1 - eps, 1 + eps)`, Huber vs. MSE, the sign of the entropy bonus, the
detached value inside the advantage, and the factor tuples of `unbatchify` in POMO `(n_aug, n_start)` and SymNCO
`(n_start, n_aug)`.  The obligations `…C_eq` hold for the extracted tokens only; a one-token edit of any of them stops
this file from compiling.  The corollaries restate the C16 theorems for the as-coded definitions.
-/
import Rl4co.Train.Coded
import Rl4co.Props.C16.TrainReinforce
import Rl4co.Props.C16.TrainPpo
import Rl4co.Props.C16.TrainSymnco

namespace Rl4co.Train
open Rl4co.Spec.Train
variable {K : Type} [Field K]

theorem calcLossC_eq (sc : ScaleOp K) (R b ll : Ten (Dual K)) (bl : Dual K) :
    calcLossC sc R b ll bl = calcLoss sc R b ll bl := rfl

theorem sharedEvalC_eq (R : Ten (Dual K)) : sharedEvalC R = sharedEval R := rfl

theorem Critic.evalC_eq (o c : Ten (Dual K)) : Critic.evalC o c = Critic.eval o c := rfl

/-- A2C is REINFORCE with the critic baseline (`super().__init__(env, policy, baseline=CriticBaseline(critic))`) -/
theorem a2c_uses_critic_baseline : Params.trainA2cCriticBaseline = true := rfl

theorem symncoRegroupC_eq {α : Type} (S A n : Nat) (x : Nat → α) : symncoRegroupC S A n x = symncoRegroup S A n x := rfl

theorem symncoLossC_eq (S A n : Nat) (al be : K) (R ll : Nat → Dual K) (inv : Dual K) :
    symncoLossC S A n al be R ll inv = symncoLoss S A n al be R ll inv := by
  simp only [symncoLossC, symncoLoss, symncoRegroupC_eq, symTermC, Params.trainSymGuardPs, Params.trainSymGuardSs,
    Params.trainSymPsBodyTag, Params.trainSymSsBodyTag, Params.trainSymPsDim, Params.trainSymSsDimLast,
    Params.trainSymTotalTag, Cmp.evalNat, decide_eq_true_eq, gt_iff_lt, Bool.not_true, decide_true, if_true,
    Bool.false_eq_true, if_false]

/-- `A2C.configure_optimizers` as coded: group 0 is the policy with the actor's learning rate, group 1 the critic
baseline with its own learning rate, which defaults to the actor's when no critic options are given — every parameter
is optimised with exactly the learning rate configured for its network. -/
theorem A2C.groupsC_eq (actorLr : K) (criticLr : Option K) :
    A2C.groupsC actorLr criticLr = [(true, actorLr), (false, criticLr.getD actorLr)] := by
  cases criticLr <;> rfl

/-- `invariance_loss` as coded compares rows `b·A` and `b·A + i` of the projected embeddings -/
theorem invRowsC_eq (A B b i : Nat) : invRowsC A B b i = (b * A, b * A + i) := by
  simp [invRowsC, Params.trainSymInvBatchOuter]

section ord
variable [LinearOrder K]

theorem ppoLossC_eq (cfg : PpoCfg K) (w : K → K) (ll : Ten (Dual K)) (old R : Ten K) (vp ent : Ten (Dual K)) :
    ppoLossC cfg w ll old R vp ent = ppoLoss cfg w ll old R vp ent := by
  have hc : clampC cfg.clipLo cfg.clipHi = clampD cfg.clipLo cfg.clipHi := funext fun _ => rfl
  have hv : ∀ z : Dual K, valueElemC z = huberD z := fun _ => rfl
  unfold ppoLossC ppoLoss
  simp only [Params.trainPpoAdvTag, Params.trainPpoSurrTag, Params.trainPpoEntropyMinus, hc, hv]
  -- both sides are a chain of broadcasts, each an `Option`: the `match`es only reduce once every broadcast is a constructor
  cases Ten.bop (fun a b => a - Dual.const b) ll.sumLast old with
  | none => rfl
  | some diff =>
    dsimp only
    cases Ten.bop (fun r v => r - v) R.viewCol (Ten.map (fun x => x.v) vp) with
    | none => rfl
    | some adv0 =>
      dsimp only
      cases Ten.bop (fun r a => Dual.smul a r) (Ten.map (Dual.expw w) diff).viewCol
          (Ten.map (ppoNormFn cfg.normalize adv0) adv0) with
      | none => rfl
      | some t1 =>
        cases Ten.bop (fun r a => Dual.smul a r)
            (Ten.map (clampD cfg.clipLo cfg.clipHi) (Ten.map (Dual.expw w) diff).viewCol)
            (Ten.map (ppoNormFn cfg.normalize adv0) adv0) with
        | none => rfl
        | some t2 => rfl

end ord

section rollout
variable {Inst : Type} [LinearOrder K]

/-- the decision of `RolloutBaseline.epoch_callback` as coded (`candidate_mean - mean > 0`, `p / 2 < bl_alpha`) is the
reference decision with the one-sided p-value -/
theorem RolloutBl.acceptsC_eq (pval2 : List K → List K → K) (alpha : K) (st : RolloutBl.St Inst K) (cv : List K) :
    RolloutBl.acceptsC pval2 alpha st cv = RolloutBl.accepts (fun c b => pval2 c b / ((2 : Nat) : K)) alpha st cv := rfl

theorem RolloutBl.epochCallbackC_eq (pval2 : List K → List K → K) (alpha : K) (bs : Nat) (st : RolloutBl.St Inst K)
    (cand : List Inst → List K) (fresh : List Inst) :
    RolloutBl.epochCallbackC pval2 alpha bs st cand fresh
      = RolloutBl.epochCallback (fun c b => pval2 c b / ((2 : Nat) : K)) alpha bs st cand fresh := rfl

end rollout

/-- **POMO regroups correctly.**  For a flat batch laid out start-outer / augmentation-middle / instance-inner
(`k = (s·A + a)·B + b`), `unbatchify(x, (n_aug, n_start))` puts rollout (instance `b`, augmentation `a`, start `s`)
at `[b, a, s]` — each axis is semantic, in contrast with SymNCO's `(n_start, n_aug)` (`symnco_regroup_index`). -/
theorem pomo_regroup3_index {α : Type} (A S B : Nat) (hA : 0 < A) (hS : 0 < S) (x : Nat → α) (b a s : Nat) :
    let T := pomoRegroup3C A S (S * A * B) x
    T.nb = B ∧ T.ns = A ∧ T.na = S ∧ T.f b a s = x ((s * A + a) * B + b) := by
  obtain ⟨hB, hf⟩ := unbatch2_index hA hS (by ring : S * A * B = S * (A * B)) x
  simp only [pomoRegroup3C, Params.trainPomoTupleAugStart, if_true, true_and]
  exact ⟨hB, by rw [hf]⟩

theorem reinforce_vec_coded (sc : ScaleOp K) (n : Nat) (R b ll : Nat → Dual K) (bl : Dual K) :
    ∃ out, calcLossC sc (Ten.vec n R) (Ten.vec n b) (Ten.vec n ll) bl = some out ∧
      out.adv.sh = Shape.v n ∧
      out.loss.v = surrogate n (fun i => sc.applyK ((R i).v - (b i).v)) (fun i => (ll i).v) + bl.v ∧
      ((∀ i, i < n → (R i).d = 0 ∧ (b i).d = 0) →
        out.loss.d = surrogate n (fun i => sc.applyK ((R i).v - (b i).v)) (fun i => (ll i).d) + bl.d) := by
  simp only [calcLossC_eq]; exact reinforce_vec sc n R b ll bl

theorem reinforce_scalar_coded (sc : ScaleOp K) (n : Nat) (R ll : Nat → Dual K) (b bl : Dual K) :
    ∃ out, calcLossC sc (Ten.vec n R) (Ten.scalar b) (Ten.vec n ll) bl = some out ∧
      out.adv.sh = Shape.v n ∧
      out.loss.v = surrogate n (fun i => sc.applyK ((R i).v - b.v)) (fun i => (ll i).v) + bl.v ∧
      ((∀ i, i < n → (R i).d = 0) → b.d = 0 →
        out.loss.d = surrogate n (fun i => sc.applyK ((R i).v - b.v)) (fun i => (ll i).d) + bl.d) := by
  simp only [calcLossC_eq]; exact reinforce_scalar sc n R ll b bl

theorem reinforce_shared_coded (B S : Nat) (R ll : Nat → Nat → Dual K) :
    ∃ out, calcLossC ScaleOp.off (Ten.mat B S R) (sharedEvalC (Ten.mat B S R)).1 (Ten.mat B S ll)
        (sharedEvalC (Ten.mat B S R)).2 = some out ∧
      out.adv.sh = Shape.m B S ∧
      out.loss.v = sharedSurrogate B S (fun b s => (R b s).v) (fun b s => (ll b s).v) ∧
      ((∀ b s, b < B → s < S → (R b s).d = 0) →
        out.loss.d = sharedSurrogate B S (fun b s => (R b s).v) (fun b s => (ll b s).d)) := by
  simp only [calcLossC_eq, sharedEvalC_eq]; exact reinforce_shared B S R ll

theorem a2c_loss_coded (n : Nat) (R ll o : Nat → Dual K) (hR : ∀ i, i < n → (R i).d = 0) :
    ∃ val l out, Critic.evalC (Ten.mat n 1 (fun i _ => o i)) (Ten.vec n R) = some (val, l) ∧
      calcLossC ScaleOp.off (Ten.vec n R) val (Ten.vec n ll) l = some out ∧
      out.adv.sh = Shape.v n ∧
      out.loss.v = reinforce n (fun i => (R i).v) (fun i => (o i).v) (fun i => (ll i).v)
                      (mse n (fun i => (o i).v) (fun i => (R i).v)) ∧
      out.loss.d = reinforceGrad n (fun i => (R i).v) (fun i => (o i).v) (fun i => (ll i).d)
                      (mseGrad n (fun i => (o i).v) (fun i => (R i).v) (fun i => (o i).d)) := by
  simp only [calcLossC_eq, Critic.evalC_eq]; exact a2c_loss n R ll o hR

section ord2
variable [LinearOrder K] [IsStrictOrderedRing K]

theorem ppo_loss_coded (cfg : PpoCfg K) (w : K → K) (B T : Nat) (ll : Nat → Nat → Dual K) (old R : Nat → K)
    (vp ent : Nat → Dual K) :
    ∃ out, ppoLossC cfg w (Ten.mat B T ll) (Ten.vec B old) (Ten.vec B R) (Ten.mat B 1 (fun i _ => vp i)) (Ten.vec B ent)
        = some out ∧ out.ratio.sh = Shape.m B 1 ∧ out.adv.sh = Shape.m B 1 ∧
      out.loss.v = ppo B cfg.clipLo cfg.clipHi cfg.vfLambda cfg.entLambda
          (fun i => (ppoRatio w T ll old i).v) (ppoAdv cfg.normalize B R (fun i => (vp i).v))
          (fun i => (vp i).v) R (fun i => (ent i).v) ∧
      (cfg.clipLo ≤ cfg.clipHi →
        (∀ i, i < B → (ppoRatio w T ll old i).v ≠ cfg.clipLo ∧ (ppoRatio w T ll old i).v ≠ cfg.clipHi) →
        out.loss.d = ppoGrad B cfg.clipLo cfg.clipHi cfg.vfLambda cfg.entLambda
          (fun i => (ppoRatio w T ll old i).v) (ppoAdv cfg.normalize B R (fun i => (vp i).v))
          (fun i => (vp i).v) R (fun i => sumTo T (fun t => (ll i t).d)) (fun i => (vp i).d) (fun i => (ent i).d)) := by
  simp only [ppoLossC_eq]; exact ppo_loss cfg w B T ll old R vp ent

end ord2

/-- Non-vacuity of the regrouping statement: `A = 2, S = 3, B = 2`, entry `[1, 1, 2]` is flat index `(2·2+1)·2+1 = 11`. -/
example : (pomoRegroup3C 2 3 12 (fun k => k)).f 1 1 2 = 11 := by decide

end Rl4co.Train
