/-
C16 — SymNCO (`SymNCO.shared_step` + `symnco/losses.py`).

The flat batch the policy returns is laid out start-outer / augmentation-middle / instance-inner
(`k = (s·A + a)·B + b`, produced by `batchify`; POMO regroups the same layout with `unbatchify(x, (n_aug, n_start))`).
SymNCO regroups with `unbatchify(x, (n_start, n_aug))`: entry `[b, q, r]` of the result is the rollout with flat
group index `r·S + q`, i.e. start `(r·S + q) / A` and augmentation `(r·S + q) % A`.

Proved for every `S, A, B`: all entries of row `b` belong to instance `b`, the two loss terms are shared-baseline
surrogates w.r.t. the code's own groups, and the advantages of every group sum to zero.  False in general (refuted by
`S = 3, A = 2`): that a group consists of the rollouts sharing a start or sharing an augmentation; so the loss is not
the reference surrogate under either reading of the axes.  For `S = A` the groups are the intended ones.
-/
import Rl4co.Train.Loss
import Rl4co.Spec.Train
import Rl4co.Proofs.TrainSums
import Rl4co.Core.Lists
import Mathlib.Tactic.Ring

namespace Rl4co.Train
open Rl4co.Spec.Train

/-- the index law of `unbatchify(x, (s, a))` that SymNCO's and POMO's regroupings share, whatever the two factors are called -/
theorem unbatch2_index {α : Type} {s a B n : Nat} (hs : 0 < s) (ha : 0 < a) (hn : n = a * (s * B)) (x : Nat → α) :
    n / a / s = B ∧ unbatch2 s a n x = fun b q r => x ((r * s + q) * B + b) := by
  subst hn
  have h1 : a * (s * B) / a = s * B := Nat.mul_div_cancel_left _ ha
  have h2 : s * B / s = B := Nat.mul_div_cancel_left _ hs
  refine ⟨by rw [h1, h2], ?_⟩
  funext b q r
  simp only [unbatch2, unbatch1, h1, h2]
  congr 1
  ring

/-- SymNCO's regrouping of a flat batch of `S·A·B` rollouts, in one equation -/
theorem symncoRegroup_eq {α : Type} {S A : Nat} (B : Nat) (hS : 0 < S) (hA : 0 < A) (x : Nat → α) :
    symncoRegroup S A (S * A * B) x = ⟨B, S, A, fun b q r => x ((r * S + q) * B + b)⟩ := by
  obtain ⟨hB, hf⟩ := unbatch2_index hS hA (by ring : S * A * B = A * (S * B)) x
  simp only [symncoRegroup, if_neg (Nat.ne_of_gt hS), if_neg (Nat.ne_of_gt hA), hB, hf]

/-- **Index map of SymNCO's regrouping.**  For a flat batch of `S·A·B` rollouts, entry `[b, q, r]` of
`unbatchify(x, (S, A))` is `x[(r·S + q)·B + b]`: it belongs to instance `b` (C12 holds), with flat group
index `r·S + q`. -/
theorem symnco_regroup_index {α : Type} (S A B : Nat) (hS : 0 < S) (hA : 0 < A) (x : Nat → α) (b q r : Nat) :
    (symncoRegroup S A (S * A * B) x).nb = B ∧ (symncoRegroup S A (S * A * B) x).ns = S ∧
      (symncoRegroup S A (S * A * B) x).na = A ∧ (symncoRegroup S A (S * A * B) x).f b q r = x ((r * S + q) * B + b) := by
  rw [symncoRegroup_eq B hS hA x]
  exact ⟨rfl, rfl, rfl, rfl⟩

/-- start and augmentation of the rollout with flat group index `f` (layout `f = s·A + a`) -/
def startOf (A f : Nat) : Nat := f / A
def augOf (A f : Nat) : Nat := f % A

/-- "every shared-baseline group is semantic": under one of the two readings of the axes, the groups averaged
over dim 1 (fixed `r`, all `q`) and over the last dim (fixed `q`, all `r`) consist of the rollouts sharing the
augmentation resp. the start (reading X) or the start resp. the augmentation (reading Y). -/
def SymncoGroupsOK (S A : Nat) : Prop :=
  ((∀ r, r < A → ∀ q, q < S → ∀ q', q' < S → augOf A (r * S + q) = augOf A (r * S + q')) ∧
   (∀ q, q < S → ∀ r, r < A → ∀ r', r' < A → startOf A (r * S + q) = startOf A (r' * S + q)))
  ∨
  ((∀ r, r < A → ∀ q, q < S → ∀ q', q' < S → startOf A (r * S + q) = startOf A (r * S + q')) ∧
   (∀ q, q < S → ∀ r, r < A → ∀ r', r' < A → augOf A (r * S + q) = augOf A (r' * S + q)))

instance (S A : Nat) : Decidable (SymncoGroupsOK S A) := by unfold SymncoGroupsOK; infer_instance

def symnco_groups_statement : Prop := ∀ S A, 2 ≤ S → 2 ≤ A → SymncoGroupsOK S A

/-- **Finding.**  With `n_start = 3, n_aug = 2` the slice labelled "start 0" holds (start 0, aug 0),
(start 0, aug 1), (start 1, aug 0): the groups mix starts and augmentations. -/
theorem symnco_groups_counterexample : ¬ symnco_groups_statement := by
  intro h
  exact absurd (h 3 2 (by decide) (by decide)) (by decide)

/-- **Partial.**  When `n_start = n_aug` the regrouped axes are exactly (augmentation, start): the groups averaged
over dim 1 share the start, those averaged over the last dim share the augmentation (reading Y). -/
theorem symnco_groups_partial (S : Nat) : SymncoGroupsOK S S := by
  right
  refine ⟨fun r _ q hq q' hq' => ?_, fun q hq r _ r' _ => ?_⟩
  · rw [startOf, startOf, idx_div hq, idx_div hq']
  · rw [augOf, augOf, idx_mod hq, idx_mod hq]

section field
variable {K : Type} [Field K]

/-- **C16 (SymNCO), value and gradient of the dim-1 term** as the code computes it: a shared-baseline surrogate
over the code's own groups `{(q, r) : q < S}`. -/
theorem symnco_dim1 (R ll : Ten3 (Dual K)) (hR : ∀ b q r, (R.f b q r).d = 0) :
    (lossDim1 R ll).v =
      -(sumTo R.nb (fun b => sumTo R.ns (fun q => sumTo R.na (fun r =>
          ((R.f b q r).v - sumTo R.ns (fun q' => (R.f b q' r).v) / (R.ns : K)) * (ll.f b q r).v)))
        / ((R.nb * R.ns * R.na : Nat) : K)) ∧
    (lossDim1 R ll).d =
      -(sumTo R.nb (fun b => sumTo R.ns (fun q => sumTo R.na (fun r =>
          ((R.f b q r).v - sumTo R.ns (fun q' => (R.f b q' r).v) / (R.ns : K)) * (ll.f b q r).d)))
        / ((R.nb * R.ns * R.na : Nat) : K)) := by
  constructor
  · simp only [lossDim1, Dual.neg_v, Dual.divc_v, sumTo_v, Dual.mul_v, Dual.sub_v]
  · simp only [lossDim1, Dual.neg_d, Dual.divc_d, sumTo_d, Dual.mul_d, Dual.sub_v, Dual.sub_d, Dual.divc_v,
      sumTo_v, hR, sumTo_const_zero, zero_div, sub_zero, zero_mul, add_zero]

theorem symnco_dimLast (R ll : Ten3 (Dual K)) (hR : ∀ b q r, (R.f b q r).d = 0) :
    (lossDimLast R ll).v =
      -(sumTo R.nb (fun b => sumTo R.ns (fun q => sumTo R.na (fun r =>
          ((R.f b q r).v - sumTo R.na (fun r' => (R.f b q r').v) / (R.na : K)) * (ll.f b q r).v)))
        / ((R.nb * R.ns * R.na : Nat) : K)) ∧
    (lossDimLast R ll).d =
      -(sumTo R.nb (fun b => sumTo R.ns (fun q => sumTo R.na (fun r =>
          ((R.f b q r).v - sumTo R.na (fun r' => (R.f b q r').v) / (R.na : K)) * (ll.f b q r).d)))
        / ((R.nb * R.ns * R.na : Nat) : K)) := by
  constructor
  · simp only [lossDimLast, Dual.neg_v, Dual.divc_v, sumTo_v, Dual.mul_v, Dual.sub_v]
  · simp only [lossDimLast, Dual.neg_d, Dual.divc_d, sumTo_d, Dual.mul_d, Dual.sub_v, Dual.sub_d, Dual.divc_v,
      sumTo_v, hR, sumTo_const_zero, zero_div, sub_zero, zero_mul, add_zero]

/-- `loss = loss_ps + beta·loss_ss + alpha·loss_inv`, with the guards of the code -/
theorem symnco_total (nStart nAug n : Nat) (alpha beta : K) (R ll : Nat → Dual K) (inv : Dual K) :
    let o := symncoLoss nStart nAug n alpha beta R ll inv
    o.loss.v = o.ps.v + beta * o.ss.v + alpha * inv.v ∧ o.loss.d = o.ps.d + beta * o.ss.d + alpha * inv.d ∧
    (nStart ≤ 1 → o.ps = 0) ∧ (nAug ≤ 1 → o.ss = 0) := by
  refine ⟨rfl, rfl, fun h => ?_, fun h => ?_⟩
  · simp only [symncoLoss]; rw [if_neg (by omega)]
  · simp only [symncoLoss]; rw [if_neg (by omega)]

/-- **C16 `shared_adv_sum_zero` for SymNCO**: for the groups the code averages over, whatever they contain. -/
theorem symnco_adv_sum_zero_dim1 [CharZero K] (R : Ten3 (Dual K)) (hS : 0 < R.ns) (b r : Nat) :
    sumTo R.ns (fun q => (R.f b q r).v - sumTo R.ns (fun q' => (R.f b q' r).v) / (R.ns : K)) = 0 :=
  sumTo_sub_mean R.ns hS fun q => (R.f b q r).v

theorem symnco_adv_sum_zero_dimLast [CharZero K] (R : Ten3 (Dual K)) (hA : 0 < R.na) (b q : Nat) :
    sumTo R.na (fun r => (R.f b q r).v - sumTo R.na (fun r' => (R.f b q r').v) / (R.na : K)) = 0 :=
  sumTo_sub_mean R.na hA fun r => (R.f b q r).v

end field

/-- the full claim at the level of the loss: for a gradient-free reward the SymNCO loss is the reference
surrogate under one of the two readings of the axes (layout `k = (s·A + a)·B + b`). -/
def symnco_loss_statement : Prop :=
  ∀ (S A B : Nat) (alpha beta : Rat) (R ll : Nat → Rat) (inv : Rat),
    let o := symncoLoss S A (S * A * B) alpha beta (fun k => Dual.const (R k)) (fun k => Dual.const (ll k)) (Dual.const inv)
    o.loss.v = symncoRefX B S A beta R ll + alpha * inv ∨ o.loss.v = symncoRefY B S A beta R ll + alpha * inv

/-- **Finding (loss level).**  `S = 3, A = 2, B = 1`, rewards `1, 2, 4, 8, 16, 32`, log-likelihoods
`−1, −1, −1, −2, −2, −2`, `beta = 1`: the code's loss is `49/12`, both references give `23/6`. -/
theorem symnco_loss_counterexample : ¬ symnco_loss_statement := by
  intro h
  have := h 3 2 1 0 1 (fun k => [1, 2, 4, 8, 16, 32].getD k 0) (fun k => [-1, -1, -1, -2, -2, -2].getD k 0) 0
  revert this
  decide +kernel

end Rl4co.Train
