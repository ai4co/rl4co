/-
C16 — SymNCO at the level of the loss, as equations on the flat rollout (layout `k = f·B + b`, `f = s·A + a`).

For all `S, A ≥ 2` the loss the code computes is
`−mean((R − blockMean_S)·ll) + beta·(−mean((R − strideMean_S)·ll)) + alpha·inv`: the baselines are means over blocks of
`S` consecutive (start, aug) pairs and over classes of pairs congruent modulo `S` — the exact statement of the finding
for `S ≠ A`.  For `n_start = n_aug` the loss (value and gradient) equals the reference surrogate.
-/
import Rl4co.Props.C16.TrainSymnco
namespace Rl4co.Train
open Rl4co.Spec.Train
variable {K : Type} [Field K]

theorem sumTo_flat3 (S A B : Nat) (G : Nat → K) :
    sumTo (S * A * B) G = sumTo B (fun b => sumTo S (fun q => sumTo A (fun r => G ((r * S + q) * B + b)))) := by
  rw [show S * A * B = (A * S) * B by ring, sumTo_mul (A * S) B, sumTo_mul A S]
  -- Σ_r Σ_q Σ_b  →  Σ_b Σ_q Σ_r
  rw [sumTo_comm A S]
  rw [show (fun j => sumTo A fun i => sumTo B fun b => G ((i * S + j) * B + b))
        = (fun j => sumTo B fun b => sumTo A fun i => G ((i * S + j) * B + b)) from
      funext fun j => sumTo_comm A B _]
  rw [sumTo_comm S B]

/-- A surrogate sum in the order of the regrouped `[B, S, A]` tensor is the flat sum over the rollout, for any baseline `m` that
reads `bl k` at the flat index `k = (r·S + q)·B + b` of entry `[b, q, r]`; `sel` is the value or the derivative component. -/
theorem regroup_sum (S A B : Nat) (R ll : Nat → Dual K) (m : Nat → Nat → Nat → K) (bl : Nat → K) (sel : Dual K → K)
    (hm : ∀ b q r, b < B → q < S → m b q r = bl ((r * S + q) * B + b)) :
    -(sumTo B (fun b => sumTo S fun q => sumTo A fun r =>
          ((R ((r * S + q) * B + b)).v - m b q r) * sel (ll ((r * S + q) * B + b))) / ((B * S * A : Nat) : K))
      = surrogate (S * A * B) (fun k => (R k).v - bl k) (fun k => sel (ll k)) := by
  rw [surrogate, sumTo_flat3 S A B, (by ring : B * S * A = S * A * B)]
  congr 2
  apply sumTo_congr; intro b hb
  apply sumTo_congr; intro q hq
  apply sumTo_congr; intro r _
  rw [hm b q r hb hq]

/-- **C16 (SymNCO), the dim-1 term as an equation on the flat rollout**: the baseline for rollout `k` is the mean over the
block of `S` consecutive flat group indices around it. -/
theorem symnco_dim1_flat (S A B : Nat) (hS : 0 < S) (hA : 0 < A) (R ll : Nat → Dual K) (hR : ∀ k, (R k).d = 0) :
    let T := symncoRegroup S A (S * A * B) R
    let L := symncoRegroup S A (S * A * B) ll
    (lossDim1 T L).v = surrogate (S * A * B) (fun k => (R k).v - blockMeanFlat B S (fun k => (R k).v) k) (fun k => (ll k).v) ∧
    (lossDim1 T L).d = surrogate (S * A * B) (fun k => (R k).v - blockMeanFlat B S (fun k => (R k).v) k) (fun k => (ll k).d) := by
  rw [symncoRegroup_eq B hS hA R, symncoRegroup_eq B hS hA ll]
  intro T L
  have hm : ∀ b q r, b < B → q < S → sumTo S (fun q' => (R ((r * S + q') * B + b)).v) / (S : K)
      = blockMeanFlat B S (fun k => (R k).v) ((r * S + q) * B + b) := by
    intro b q r hb hq
    simp only [blockMeanFlat, idx_div hb, idx_mod hb, idx_div hq]
  obtain ⟨hv, hd⟩ := symnco_dim1 T L fun _ _ _ => hR _
  exact ⟨hv.trans (regroup_sum S A B R ll _ _ (fun x => x.v) hm),
    hd.trans (regroup_sum S A B R ll _ _ (fun x => x.d) hm)⟩

theorem symnco_dimLast_flat (S A B : Nat) (hS : 0 < S) (hA : 0 < A) (R ll : Nat → Dual K) (hR : ∀ k, (R k).d = 0) :
    let T := symncoRegroup S A (S * A * B) R
    let L := symncoRegroup S A (S * A * B) ll
    (lossDimLast T L).v = surrogate (S * A * B) (fun k => (R k).v - strideMeanFlat B S A (fun k => (R k).v) k) (fun k => (ll k).v) ∧
    (lossDimLast T L).d = surrogate (S * A * B) (fun k => (R k).v - strideMeanFlat B S A (fun k => (R k).v) k) (fun k => (ll k).d) := by
  rw [symncoRegroup_eq B hS hA R, symncoRegroup_eq B hS hA ll]
  intro T L
  have hm : ∀ b q r, b < B → q < S → sumTo A (fun r' => (R ((r' * S + q) * B + b)).v) / (A : K)
      = strideMeanFlat B S A (fun k => (R k).v) ((r * S + q) * B + b) := by
    intro b q r hb hq
    simp only [strideMeanFlat, idx_div hb, idx_mod hb, idx_mod hq]
  obtain ⟨hv, hd⟩ := symnco_dimLast T L fun _ _ _ => hR _
  exact ⟨hv.trans (regroup_sum S A B R ll _ _ (fun x => x.v) hm),
    hd.trans (regroup_sum S A B R ll _ _ (fun x => x.d) hm)⟩

/-- **C16 (SymNCO), the loss as an equation on the flat rollout, all `S, A ≥ 2`**: the "problem-symmetricity" baseline
is the mean over blocks of `S` consecutive (start, augmentation) pairs in start-major order, the
"solution-symmetricity" baseline the mean over the pairs whose flat index is congruent modulo `S` — semantic groups
exactly when `S = A`. -/
theorem symnco_loss_flat (S A B : Nat) (hS : 2 ≤ S) (hA : 2 ≤ A) (alpha beta : K) (R ll : Nat → Dual K) (inv : Dual K)
    (hR : ∀ k, (R k).d = 0) :
    let o := symncoLoss S A (S * A * B) alpha beta R ll inv
    let Rv := fun k => (R k).v
    o.loss.v = surrogate (S * A * B) (fun k => Rv k - blockMeanFlat B S Rv k) (fun k => (ll k).v)
        + beta * surrogate (S * A * B) (fun k => Rv k - strideMeanFlat B S A Rv k) (fun k => (ll k).v) + alpha * inv.v ∧
    o.loss.d = surrogate (S * A * B) (fun k => Rv k - blockMeanFlat B S Rv k) (fun k => (ll k).d)
        + beta * surrogate (S * A * B) (fun k => Rv k - strideMeanFlat B S A Rv k) (fun k => (ll k).d) + alpha * inv.d := by
  intro o Rv
  obtain ⟨h1v, h1d⟩ := symnco_dim1_flat S A B (by omega) (by omega) R ll hR
  obtain ⟨h2v, h2d⟩ := symnco_dimLast_flat S A B (by omega) (by omega) R ll hR
  have hps : o.ps = lossDim1 (symncoRegroup S A (S * A * B) R) (symncoRegroup S A (S * A * B) ll) := by
    simp only [o, symncoLoss]; rw [if_pos (by omega)]
  have hss : o.ss = lossDimLast (symncoRegroup S A (S * A * B) R) (symncoRegroup S A (S * A * B) ll) := by
    simp only [o, symncoLoss]; rw [if_pos (by omega)]
  obtain ⟨hv, hd, _, _⟩ := symnco_total S A (S * A * B) alpha beta R ll inv
  constructor
  · rw [hv, hps, hss, h1v, h2v]
  · rw [hd, hps, hss, h1d, h2d]

/-- **Partial, at the level of the loss.**  When `n_start = n_aug = S ≥ 2` the SymNCO loss is the reference surrogate
in the reading of `losses.py`'s docstrings (problem-symmetricity baseline = mean over the augmentations of the same
start, solution-symmetricity baseline = mean over the starts of the same augmentation). -/
theorem symnco_loss_eq_reference_of_eq (S B : Nat) (hS : 2 ≤ S) (alpha beta : K) (R ll : Nat → Dual K) (inv : Dual K)
    (hR : ∀ k, (R k).d = 0) :
    let o := symncoLoss S S (S * S * B) alpha beta R ll inv
    o.loss.v = symncoRefY B S S beta (fun k => (R k).v) (fun k => (ll k).v) + alpha * inv.v ∧
    o.loss.d = symncoRefY B S S beta (fun k => (R k).v) (fun k => (ll k).d) + alpha * inv.d := by
  intro o
  obtain ⟨hv, hd⟩ := symnco_loss_flat S S B hS hS alpha beta R ll inv hR
  have hS0 : S ≠ 0 := by omega
  have hn : B * S * S = S * S * B := by ring
  -- at `A = S` the block mean `blockMeanFlat B S` is `overAugsFlat B S S` and the stride mean `strideMeanFlat B S S`
  -- is `overStartsFlat B S S`, each by unfolding: that is the `rfl` closing both components
  constructor
  · rw [hv]
    simp only [symncoRefY, if_neg hS0, if_pos (show 1 < S by omega), hn]
    rfl
  · rw [hd]
    simp only [symncoRefY, if_neg hS0, if_pos (show 1 < S by omega), hn]
    rfl

/-- Non-vacuity: `S = A = 2`, `B = 1`, rewards `1, 2, 4, 8`, log-likelihoods `−1, −2, −3, −4`, `beta = 3`: code loss =
reference loss. -/
example :
    (symncoLoss 2 2 4 (0 : Rat) 3 (fun k => Dual.const ([1, 2, 4, 8].getD k 0)) (fun k => Dual.const ([-1, -2, -3, -4].getD k 0)) 0).loss.v
      = Spec.Train.symncoRefY 1 2 2 3 (fun k => [1, 2, 4, 8].getD k 0) (fun k => [-1, -2, -3, -4].getD k 0) := by
  decide +kernel

end Rl4co.Train
