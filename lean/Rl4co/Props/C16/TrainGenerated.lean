/-
C16 on the definitions that `harness/pytrans.py` REGENERATES from the Python source on every run
(`Rl4co/Generated/Losses.lean`: `REINFORCE.calculate_loss`, `CriticBaseline.eval`, `SharedBaseline.eval`
translated statement by statement into shaped tensors of dual numbers, `none` = torch raises).

The bridging lemmas `gen_*_eq` say that the generated definition is the hand-written model; the C16 clauses are then
restated on the generated definitions.
-/
import Rl4co.Generated.Losses
import Rl4co.Props.C16.TrainReinforce

namespace Rl4co.Train.GenBridge
open Rl4co.Spec.Train
variable {K : Type} [Field K]

theorem dual_add_comm (a b : Dual K) : a + b = b + a :=
  Dual.ext (add_comm _ _) (add_comm _ _)

theorem gen_reinforce_eq (sc : ScaleOp K) (reward blVal ll : Ten (Dual K)) (blLoss : Dual K) :
    Numeric.reinforceLoss sc reward blVal ll blLoss
      = (calcLoss sc reward blVal ll blLoss).map (fun o => (o.loss, o.reinforceLoss, o.adv)) := by
  unfold Numeric.reinforceLoss calcLoss
  cases Ten.bop (fun r b => r - b) reward blVal with
  | none => rfl
  | some adv0 =>
    dsimp only [Option.bind_eq_bind, Option.bind_some]
    cases Ten.bop (fun a l => a * l) (Ten.map sc.apply adv0) ll with
    | none => rfl
    | some prod =>
      -- the translator emits `+` in canonical operand order
      dsimp only [Option.bind_some, Option.pure_def, Option.map_some]
      rw [dual_add_comm blLoss]

theorem gen_critic_eq (out c : Ten (Dual K)) : Numeric.criticEval out c = Critic.eval out c := by
  unfold Numeric.criticEval Critic.eval Critic.mse
  dsimp only
  cases Ten.bop (fun a b => (a - b) * (a - b)) (Ten.squeezeLast out) (Ten.map Dual.detach c) <;> rfl

theorem gen_shared_eq (reward : Ten (Dual K)) : Numeric.sharedEval reward = some (sharedEval reward) := rfl

/-- **C16 on the regenerated code, REINFORCE with a per-instance baseline** (rollout / critic values `[n]`,
any advantage scaling). -/
theorem gen_reinforce_vec (sc : ScaleOp K) (n : Nat) (R b ll : Nat → Dual K) (bl : Dual K) :
    ∃ loss rl adv, Numeric.reinforceLoss sc (Ten.vec n R) (Ten.vec n b) (Ten.vec n ll) bl = some (loss, rl, adv) ∧
      adv.sh = Shape.v n ∧
      loss.v = surrogate n (fun i => sc.applyK ((R i).v - (b i).v)) (fun i => (ll i).v) + bl.v ∧
      ((∀ i, i < n → (R i).d = 0 ∧ (b i).d = 0) →
        loss.d = surrogate n (fun i => sc.applyK ((R i).v - (b i).v)) (fun i => (ll i).d) + bl.d) := by
  obtain ⟨out, h, hs, hv, hd⟩ := reinforce_vec sc n R b ll bl
  exact ⟨out.loss, out.reinforceLoss, out.adv, by rw [gen_reinforce_eq, h]; rfl, hs, hv, hd⟩

/-- **C16 on the regenerated code, REINFORCE with a scalar baseline** (exponential / mean / no baseline). -/
theorem gen_reinforce_scalar (sc : ScaleOp K) (n : Nat) (R ll : Nat → Dual K) (b bl : Dual K) :
    ∃ loss rl adv, Numeric.reinforceLoss sc (Ten.vec n R) (Ten.scalar b) (Ten.vec n ll) bl = some (loss, rl, adv) ∧
      adv.sh = Shape.v n ∧
      loss.v = surrogate n (fun i => sc.applyK ((R i).v - b.v)) (fun i => (ll i).v) + bl.v ∧
      ((∀ i, i < n → (R i).d = 0) → b.d = 0 →
        loss.d = surrogate n (fun i => sc.applyK ((R i).v - b.v)) (fun i => (ll i).d) + bl.d) := by
  obtain ⟨out, h, hs, hv, hd⟩ := reinforce_scalar sc n R ll b bl
  exact ⟨out.loss, out.reinforceLoss, out.adv, by rw [gen_reinforce_eq, h]; rfl, hs, hv, hd⟩

/-- **C16 on the regenerated code, shared baseline (POMO)**: the regenerated `SharedBaseline.eval` fed into
the regenerated `calculate_loss`. -/
theorem gen_reinforce_shared (B S : Nat) (R ll : Nat → Nat → Dual K) :
    ∃ val l loss rl adv, Numeric.sharedEval (Ten.mat B S R) = some (val, l) ∧
      Numeric.reinforceLoss ScaleOp.off (Ten.mat B S R) val (Ten.mat B S ll) l = some (loss, rl, adv) ∧
      adv.sh = Shape.m B S ∧
      loss.v = sharedSurrogate B S (fun b s => (R b s).v) (fun b s => (ll b s).v) ∧
      ((∀ b s, b < B → s < S → (R b s).d = 0) →
        loss.d = sharedSurrogate B S (fun b s => (R b s).v) (fun b s => (ll b s).d)) := by
  obtain ⟨out, h, hs, hv, hd⟩ := reinforce_shared B S R ll
  exact ⟨(sharedEval (Ten.mat B S R)).1, (sharedEval (Ten.mat B S R)).2, out.loss, out.reinforceLoss, out.adv,
    by rw [gen_shared_eq], by rw [gen_reinforce_eq, h]; rfl, hs, hv, hd⟩

/-- **C16 on the regenerated code, A2C** = the regenerated `calculate_loss` fed with the regenerated
`CriticBaseline.eval`. -/
theorem gen_a2c_loss (n : Nat) (R ll o : Nat → Dual K) (hR : ∀ i, i < n → (R i).d = 0) :
    ∃ val l loss rl adv, Numeric.criticEval (Ten.mat n 1 (fun i _ => o i)) (Ten.vec n R) = some (val, l) ∧
      Numeric.reinforceLoss ScaleOp.off (Ten.vec n R) val (Ten.vec n ll) l = some (loss, rl, adv) ∧
      adv.sh = Shape.v n ∧
      loss.v = reinforce n (fun i => (R i).v) (fun i => (o i).v) (fun i => (ll i).v)
                  (mse n (fun i => (o i).v) (fun i => (R i).v)) ∧
      loss.d = reinforceGrad n (fun i => (R i).v) (fun i => (o i).v) (fun i => (ll i).d)
                  (mseGrad n (fun i => (o i).v) (fun i => (R i).v) (fun i => (o i).d)) := by
  obtain ⟨val, l, out, he, hc, hs, hv, hd⟩ := a2c_loss n R ll o hR
  exact ⟨val, l, out.loss, out.reinforceLoss, out.adv, by rw [gen_critic_eq, he],
    by rw [gen_reinforce_eq, hc]; rfl, hs, hv, hd⟩

/-- Non-vacuity: two instances, per-instance baseline, over ℚ. -/
example :
    (Numeric.reinforceLoss (ScaleOp.off : ScaleOp Rat) (Ten.vec 2 (fun i => Dual.const (i + 1 : Nat)))
      (Ten.vec 2 (fun _ => Dual.const 1)) (Ten.vec 2 (fun _ => ⟨-1, 1⟩)) 0).map (fun r => (r.1.v, r.1.d))
      = some (1 / 2, -1 / 2) := by
  decide +kernel

end Rl4co.Train.GenBridge
