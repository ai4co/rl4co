/-
C16 — PPO `normalize_adv`: `adv = (adv − adv.mean()) / (adv.std() + 1e-8)`.  In the model `adv.std()` is an oracle value
`std` (checked by the harness against the model's unbiased variance).  Whatever the oracle, the normalised advantages
sum to zero over the mini-batch; and if `std` really is the root of the unbiased variance (and `eps = 0`) their sum of
squares is `B − 1` (unit sample variance).
-/
import Rl4co.Props.C16.TrainPpo

namespace Rl4co.Train
open Rl4co.Spec.Train
variable {K : Type} [Field K]

theorem ppoAdv_none (B : Nat) (R v : Nat → K) (i : Nat) : ppoAdv none B R v i = R i - v i := rfl

theorem ppoAdv_some (std eps : K) (B : Nat) (R v : Nat → K) (i : Nat) :
    ppoAdv (some (std, eps)) B R v i = ((R i - v i) - sumTo B (fun j => R j - v j) / (B : K)) / (std + eps) := by
  simp only [ppoAdv, ppoNormFn, Ten.sumAll, Ten.mat, Shape.rows, Shape.cols, Shape.numel, sumTo_one, Nat.mul_one]

/-- for every value of the `std` oracle -/
theorem ppoAdv_norm_sum_zero [CharZero K] (std eps : K) (B : Nat) (hB : 0 < B) (R v : Nat → K) :
    sumTo B (ppoAdv (some (std, eps)) B R v) = 0 := by
  rw [sumTo_congr B _ _ fun i _ => ppoAdv_some std eps B R v i, sumTo_div,
    sumTo_sub_mean B hB fun j => R j - v j, zero_div]

/-- **unit sample variance**: if `std² = Σ (a_i − ā)² / (B − 1)` (the unbiased variance `adv.std()` computes), `std ≠ 0`
and `eps = 0`, the normalised advantages have sum of squares `B − 1`. -/
theorem ppoAdv_norm_sumsq [CharZero K] (std : K) (B : Nat) (hB : 2 ≤ B) (R v : Nat → K) (hstd : std ≠ 0)
    (hvar : std * std = sumTo B (fun i => ((R i - v i) - sumTo B (fun j => R j - v j) / (B : K))
                                    * ((R i - v i) - sumTo B (fun j => R j - v j) / (B : K))) / ((B : K) - 1)) :
    sumTo B (fun i => ppoAdv (some (std, 0)) B R v i * ppoAdv (some (std, 0)) B R v i) = (B : K) - 1 := by
  -- `hB` is not used: `hvar` and `hstd` already make the sum of squared deviations non-zero
  have hpos : sumTo B (fun i => ((R i - v i) - sumTo B (fun j => R j - v j) / (B : K))
                                    * ((R i - v i) - sumTo B (fun j => R j - v j) / (B : K))) ≠ 0 := by
    intro h0
    rw [h0, zero_div] at hvar
    exact hstd (mul_self_eq_zero.mp hvar)
  simp only [ppoAdv_some, add_zero, div_mul_div_comm, sumTo_div]
  rw [hvar, div_div_cancel₀ hpos]

/-- Non-vacuity: advantages `1, 2, 6` (mean 3, unbiased variance 7): the normalised ones sum to 0. -/
example : sumTo 3 (ppoAdv (K := Rat) (some (2, 1)) 3 (fun i => [1, 2, 6].getD i 0) (fun _ => 0)) = 0 :=
  ppoAdv_norm_sum_zero 2 1 3 (by decide) _ _

end Rl4co.Train
