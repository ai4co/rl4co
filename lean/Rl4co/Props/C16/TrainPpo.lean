/-
C16 — PPO (`PPO.shared_step`, the loss of one mini-batch): the loss is the clipped-ratio objective with the Huber
value term and the entropy bonus, and — at non-kink points of the clipping — its directional derivative is that of
the reference.  `exp` is an arbitrary function `w` whose dual-number rule is `d w(x) = w(x)·dx`.
`ppo_value`, `ppo_grad` in the docstrings are clause ids of property C16, not declarations.
-/
import Rl4co.Train.Loss
import Rl4co.Spec.Train
import Rl4co.Proofs.TrainSums
import Rl4co.Proofs.TrainScalar
import Mathlib.Algebra.Order.Field.Basic

namespace Rl4co.Train
open Rl4co.Spec.Train
variable {K : Type} [Field K] [LinearOrder K] [IsStrictOrderedRing K]

-- the order instances of `K` are looked up at every comparison; this makes the lookups take the route they end on anyway
attribute [local instance 1100] SemilatticeInf.toPartialOrder Lattice.toSemilatticeInf DistribLattice.toLattice
  instDistribLatticeOfLinearOrder

/-- `add_self_div_two` for the `2` the models write, a cast of the natural number -/
theorem add_self_div_two_nat (x : K) : (x + x) / ((2 : Nat) : K) = x := by
  rw [Nat.cast_ofNat, add_self_div_two]

omit [IsStrictOrderedRing K] in
theorem huberD_v (z : Dual K) : (huberD z).v = huber z.v := by
  simp only [huberD, huber, apply_ite Dual.v, Dual.neg_v, Dual.smul_v, Dual.mul_v, Dual.sub_v, Dual.const_v,
    one_div_mul_eq_div]

theorem huberD_d (z : Dual K) : (huberD z).d = huber' z.v * z.d := by
  have h01 : (0 : K) < 1 := one_pos
  have hm : (-1 : K) < 0 := neg_neg_of_pos h01
  have half : 1 / ((2 : Nat) : K) * (z.v * z.d + z.d * z.v) = z.v * z.d := by
    rw [mul_comm z.d, one_div_mul_eq_div, add_self_div_two_nat]
  simp only [huberD, apply_ite Dual.d, apply_ite Dual.v, Dual.neg_v, Dual.neg_d, Dual.smul_d, Dual.mul_d, Dual.sub_d,
    Dual.const_d, sub_zero, half]
  -- the derivative of the code's branch; it remains to match the branch of `huber'`
  unfold huber'
  by_cases h0 : z.v < 0
  · have hn : ¬ 1 < z.v := lt_asymm (lt_trans h0 h01)
    rw [if_pos h0, if_pos h0, if_neg hn]
    by_cases h1 : -z.v < 1
    · rw [if_pos h1, if_neg (lt_asymm (neg_lt.mp h1))]
    · rw [if_neg h1]
      split_ifs with h2
      · rw [neg_one_mul]
      · rw [le_antisymm (le_neg.mp (not_lt.mp h1)) (not_lt.mp h2), neg_one_mul]
  · have hn : ¬ z.v < -1 := fun h => h0 (lt_trans h hm)
    rw [if_neg h0, if_neg h0, if_neg hn]
    by_cases h1 : z.v < 1
    · rw [if_pos h1, if_neg (lt_asymm h1)]
    · rw [if_neg h1]
      split_ifs with h2
      · rw [one_mul]
      · rw [le_antisymm (not_lt.mp h2) (not_lt.mp h1), one_mul]

/-- **Per-sample derivative of `min(r·A, clamp(r)·A)` at every point**, for either convention. -/
theorem surrG_d (pass : Bool) (lo hi : K) (hlh : lo ≤ hi) (r : Dual K) (A : K) :
    (minD (Dual.smul A r) (Dual.smul A (clampG pass lo hi r))).d = ppoWeight pass lo hi r.v A * (A * r.d) := by
  -- against a bound `c` the ratio has left, `clamp` is the constant `c`, which carries no gradient
  have out : ∀ c : K, (minD (Dual.smul A r) (Dual.smul A (Dual.const c))).d
      = if A * r.v < A * c then A * r.d else if A * c < A * r.v then 0 else A * r.d / ((2 : Nat) : K) := fun c => by
    simp only [minD_d, Dual.smul_v, Dual.smul_d, Dual.const_v, Dual.const_d, mul_zero, add_zero]
  unfold clampG ppoWeight
  by_cases h1 : r.v < lo
  · have hn : ¬ (lo < r.v ∧ r.v < hi) := fun h => lt_asymm h1 h.1
    have hn2 : ¬ hi < r.v := fun h => not_lt.mpr hlh (lt_trans h h1)
    rw [if_pos h1, if_neg hn, if_neg hn2, if_pos h1, out]
    rcases lt_trichotomy A 0 with hA | rfl | hA
    · have := mul_lt_mul_of_neg_left h1 hA
      rw [if_neg (lt_asymm this), if_pos this, if_neg (lt_asymm hA), zero_mul]
    · simp only [zero_mul, lt_irrefl, if_false, zero_div]
    · rw [if_pos (mul_lt_mul_of_pos_left h1 hA), if_pos hA, one_mul]
  · by_cases h2 : hi < r.v
    · have hn : ¬ (lo < r.v ∧ r.v < hi) := fun h => lt_asymm h2 h.2
      rw [if_neg h1, if_pos h2, if_neg hn, if_pos h2, out]
      rcases lt_trichotomy A 0 with hA | rfl | hA
      · rw [if_pos (mul_lt_mul_of_neg_left h2 hA), if_pos hA, one_mul]
      · simp only [zero_mul, lt_irrefl, if_false, zero_div]
      · have := mul_lt_mul_of_pos_left h2 hA
        rw [if_neg (lt_asymm this), if_pos this, if_neg (lt_asymm hA), zero_mul]
    · -- between the bounds or on one of them `clamp` keeps the value, so the two products tie
      have tie : ∀ c : Dual K, c.v = r.v →
          (minD (Dual.smul A r) (Dual.smul A c)).d = (A * r.d + A * c.d) / ((2 : Nat) : K) := by
        intro c hc
        rw [minD_d, Dual.smul_v, Dual.smul_v, hc, if_neg (lt_irrefl _), if_neg (lt_irrefl _)]
        rfl
      rw [if_neg h1, if_neg h2, if_neg h2, if_neg h1]
      by_cases h3 : lo < r.v ∧ r.v < hi
      · rw [if_pos (Or.inl h3), if_pos h3, tie r rfl, add_self_div_two_nat, one_mul]
      · rw [if_neg h3]
        cases pass
        · rw [if_neg (by simpa using h3), tie (Dual.const r.v) rfl, Dual.const_d, mul_zero, add_zero, if_neg Bool.false_ne_true,
            one_div, inv_mul_eq_div]
        · rw [if_pos (Or.inr rfl), if_pos rfl, tie r rfl, add_self_div_two_nat, one_mul]

/-- the clipped-surrogate term of one sample: `min(ratio·A, clamp(ratio)·A)` -/
def surrElem (lo hi : K) (r : Dual K) (A : K) : Dual K :=
  minD (Dual.smul A r) (Dual.smul A (clampD lo hi r))

omit [IsStrictOrderedRing K] in
theorem surrElem_v (lo hi : K) (r : Dual K) (A : K) :
    (surrElem lo hi r A).v = minK (r.v * A) (clip lo hi r.v * A) := by
  simp only [surrElem, minD_v, Dual.smul_v, clampD_v, mul_comm A]

theorem surrElem_d_all (lo hi : K) (hlh : lo ≤ hi) (r : Dual K) (A : K) :
    (surrElem lo hi r A).d = ppoWeight false lo hi r.v A * (A * r.d) := by
  rw [surrElem, clampD_eq_clampG]; exact surrG_d false lo hi hlh r A

theorem surrElem_d (lo hi : K) (hlh : lo ≤ hi) (r : Dual K) (A : K) (hlo : r.v ≠ lo) (hhi : r.v ≠ hi) :
    (surrElem lo hi r A).d = if ppoActive lo hi r.v A then A * r.d else 0 := by
  rw [surrElem_d_all lo hi hlh, ppoWeight_mul_of_ne false lo hi r.v A _ hlo hhi]

omit [LinearOrder K] [IsStrictOrderedRing K] in
/-- the normalisation reads the advantage tensor on its index range only -/
theorem ppoNormFn_congr (norm : Option (K × K)) (sh : Shape) (f f' : Nat → Nat → K)
    (h : ∀ i j, i < sh.rows → j < sh.cols → f i j = f' i j) : ppoNormFn norm ⟨sh, f⟩ = ppoNormFn norm ⟨sh, f'⟩ := by
  cases norm with
  | none => rfl
  | some p =>
    simp only [ppoNormFn, Ten.sumAll]
    rw [sumTo_congr sh.rows _ _ fun i hi => sumTo_congr sh.cols _ _ fun j hj => h i j hi hj]

/-- the advantage the code uses: `reward − value_pred.detach()`, optionally normalised over the mini-batch -/
def ppoAdv (norm : Option (K × K)) (B : Nat) (R v : Nat → K) (i : Nat) : K :=
  ppoNormFn norm (Ten.mat B 1 (fun i _ => R i - v i)) (R i - v i)

/-- the probability ratio as a dual number: `exp(Σ_t ll_t − old_logp)` -/
def ppoRatio (w : K → K) (T : Nat) (ll : Nat → Nat → Dual K) (old : Nat → K) (i : Nat) : Dual K :=
  Dual.expw w (sumTo T (fun t => ll i t) - Dual.const (old i))

/-- **The loss block on a mini-batch**: per-step log-likelihoods `[B,T]`, stored old log-probabilities and rewards
`[B]`, critic output `[B,1]`, entropies `[B]`.  The derivative is stated at every point, kinks included. -/
theorem ppoLoss_batch (cfg : PpoCfg K) (w : K → K) (B T : Nat) (ll : Nat → Nat → Dual K) (old R : Nat → K)
    (vp ent : Nat → Dual K) :
    ∃ out, ppoLoss cfg w (Ten.mat B T ll) (Ten.vec B old) (Ten.vec B R) (Ten.mat B 1 (fun i _ => vp i)) (Ten.vec B ent)
        = some out ∧ out.ratio.sh = Shape.m B 1 ∧ out.adv.sh = Shape.m B 1 ∧
      out.loss.v = ppo B cfg.clipLo cfg.clipHi cfg.vfLambda cfg.entLambda
          (fun i => (ppoRatio w T ll old i).v) (ppoAdv cfg.normalize B R (fun i => (vp i).v))
          (fun i => (vp i).v) R (fun i => (ent i).v) ∧
      (cfg.clipLo ≤ cfg.clipHi →
        out.loss.d = ppoGradAll false B cfg.clipLo cfg.clipHi cfg.vfLambda cfg.entLambda
          (fun i => (ppoRatio w T ll old i).v) (ppoAdv cfg.normalize B R (fun i => (vp i).v))
          (fun i => (vp i).v) R (fun i => sumTo T (fun t => (ll i t).d)) (fun i => (vp i).d) (fun i => (ent i).d)) := by
  refine ⟨_, by simp only [ppoLoss, Ten.vec, Ten.mat, Ten.sumLast_mat, Ten.viewCol_vec, Ten.map, Ten.bop_self]; rfl,
    rfl, rfl, ?_⟩
  -- both components are read off the loss written as one dual number of per-sample terms
  rw [(?_ : PpoOut.loss _ =
      -Dual.divc (sumTo B fun i => surrElem cfg.clipLo cfg.clipHi (ppoRatio w T ll old i)
              (ppoAdv cfg.normalize B R (fun i => (vp i).v) i)) (B : K)
          + Dual.smul cfg.vfLambda (Dual.divc (sumTo B fun i => huberD (vp i - Dual.const (R i))) (B : K))
          - Dual.smul cfg.entLambda (Dual.divc (sumTo B ent) (B : K)))]
  · exact ⟨by simp only [ppo, Dual.add_v, Dual.sub_v, Dual.neg_v, Dual.smul_v, Dual.divc_v, sumTo_v, surrElem_v, huberD_v,
        Dual.const_v],
      fun hlh => by simp only [ppoGradAll, Dual.add_d, Dual.sub_d, Dual.neg_d, Dual.smul_d, Dual.divc_d, sumTo_d,
        surrElem_d_all _ _ hlh, huberD_d, ppoRatio, Dual.expw_d, Dual.expw_v, Dual.sub_v, Dual.const_v, Dual.const_d,
        sub_zero]⟩
  -- under the means every tensor is read on its index range (`view(-1, 1)` reads a `[B]` vector at `(i / B, i % B) = (0, i)`)
  simp only [Ten.meanAll_col, Ten.meanAll_vec]
  congr 4
  · refine sumTo_congr B _ _ fun i hi => ?_
    simp only [Ten.get_mk (sh := Shape.m B 1) hi Nat.one_pos, Nat.div_eq_of_lt hi, Nat.mod_eq_of_lt hi,
      Ten.get_mk (sh := Shape.v B) Nat.one_pos hi]
    -- so is the tensor the normalisation takes its mean of, and there it has `ppoAdv`'s entries
    rw [ppoNormFn_congr cfg.normalize (Shape.m B 1) _ (fun i _ => R i - (vp i).v) ?_]
    · rfl
    · intro k j hk hj
      simp only [Ten.get_mk (sh := Shape.m B 1) hk hj, Nat.mod_eq_of_lt (show k < B from hk)]
  · exact sumTo_congr B _ _ fun i hi => by
      simp only [Ten.get_mk (sh := Shape.m B 1) hi Nat.one_pos, Nat.mod_eq_of_lt hi]

/-- **C16 `ppo_value` / `ppo_grad`.**  The code's loss block on a mini-batch of `B` samples: ratio and advantage have
shape `[B,1]` (no `B×B` broadcast), the loss is

  `−mean_i min(r_i·A_i, clip(r_i)·A_i) + vf_lambda·mean_i huber(v_i − R_i) − entropy_lambda·mean_i h_i`

with `r_i = w(Σ_t ll_it − old_i)`, `A_i = R_i − v_i` (optionally normalised), and — no ratio sitting exactly on a
clipping bound — its derivative has no contribution from rewards, old log-probabilities or the value inside the
advantage. -/
theorem ppo_loss (cfg : PpoCfg K) (w : K → K) (B T : Nat) (ll : Nat → Nat → Dual K) (old R : Nat → K)
    (vp ent : Nat → Dual K) :
    ∃ out, ppoLoss cfg w (Ten.mat B T ll) (Ten.vec B old) (Ten.vec B R) (Ten.mat B 1 (fun i _ => vp i)) (Ten.vec B ent)
        = some out ∧ out.ratio.sh = Shape.m B 1 ∧ out.adv.sh = Shape.m B 1 ∧
      out.loss.v = ppo B cfg.clipLo cfg.clipHi cfg.vfLambda cfg.entLambda
          (fun i => (ppoRatio w T ll old i).v) (ppoAdv cfg.normalize B R (fun i => (vp i).v))
          (fun i => (vp i).v) R (fun i => (ent i).v) ∧
      (cfg.clipLo ≤ cfg.clipHi →
        (∀ i, i < B → (ppoRatio w T ll old i).v ≠ cfg.clipLo ∧ (ppoRatio w T ll old i).v ≠ cfg.clipHi) →
        out.loss.d = ppoGrad B cfg.clipLo cfg.clipHi cfg.vfLambda cfg.entLambda
          (fun i => (ppoRatio w T ll old i).v) (ppoAdv cfg.normalize B R (fun i => (vp i).v))
          (fun i => (vp i).v) R (fun i => sumTo T (fun t => (ll i t).d)) (fun i => (vp i).d) (fun i => (ent i).d)) := by
  obtain ⟨out, h, hr, ha, hv, hd⟩ := ppoLoss_batch cfg w B T ll old R vp ent
  refine ⟨out, h, hr, ha, hv, fun hlh hk => ?_⟩
  -- off the clip bounds the weight is the indicator of the active term
  rw [hd hlh, ppoGradAll, ppoGrad,
    sumTo_congr B _ _ fun i hlt => ppoWeight_mul_of_ne false _ _ _ _ _ (hk i hlt).1 (hk i hlt).2]

/-- Non-vacuity: two samples, one step, `w x = 1 + x`, clip range `[4/5, 6/5]`, `vf_lambda = 1/2`, no entropy
term.  Sample 0 has ratio 3/2 (clipped, positive advantage → inactive), sample 1 ratio 1 (active). -/
example :
    (ppoLoss (K := Rat) ⟨4/5, 6/5, 1/2, 0, none⟩ (fun x => 1 + x)
        (Ten.mat 2 1 (fun i _ => if i = 0 then ⟨-1/2, 1⟩ else ⟨-1, 2⟩))
        (Ten.vec 2 (fun _ => -1)) (Ten.vec 2 (fun i => if i = 0 then -2 else -3))
        (Ten.mat 2 1 (fun i _ => if i = 0 then ⟨-3, 1⟩ else ⟨-5/2, -1⟩)) (Ten.vec 2 (fun _ => ⟨1, 0⟩))).map
      (fun o => (o.loss.v, o.loss.d, o.adv.sh)) = some (-31/160, 1/8, Shape.m 2 1) := by
  decide +kernel

end Rl4co.Train
