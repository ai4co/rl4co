/-
C16 — REINFORCE (`REINFORCE.calculate_loss`) with every bundled baseline, the shared-baseline multi-start
variant (POMO) and A2C: the loss is the reference surrogate `−mean((R − b)·ll) + bl_loss`, its directional
derivative is `−mean((R − b)·d ll) + d bl_loss` when reward and baseline value carry no gradient, the advantage
has the reward's shape (no `B×B` broadcast), and shared-baseline advantages sum to zero within an instance.

All statements are over an arbitrary field `K`; the directional derivative is the `d`-component of the dual
number semantics (`Rl4co/Train/Dual.lean`).  The bold names in the docstrings of the C16 files (`reinforce_value`,
`reinforce_grad`, `no_BxB_broadcast`, `ppo_value`, `a2c_value`, …) are the clause ids of property C16, not declarations.
-/
import Rl4co.Train.Loss
import Rl4co.Spec.Train
import Rl4co.Proofs.TrainSums
import Rl4co.Proofs.TrainWarmup
import Mathlib.Tactic.Ring

namespace Rl4co.Train
open Rl4co.Spec.Train
variable {K : Type} [Field K]

def ScaleOp.applyK (op : ScaleOp K) (x : K) : K :=
  match op with
  | ScaleOp.off => x
  | ScaleOp.divBy c => x / c
  | ScaleOp.norm m f => (x - m) / f

theorem ScaleOp.apply_v (op : ScaleOp K) (x : Dual K) : (op.apply x).v = op.applyK x.v := by
  cases op <;> simp [ScaleOp.apply, ScaleOp.applyK]

theorem ScaleOp.apply_d (op : ScaleOp K) (x : Dual K) (h : x.d = 0) : (op.apply x).d = 0 := by
  cases op <;> simp [ScaleOp.apply, h]

/-- **`calculate_loss` for any shape** `sh` and any baseline value that broadcasts into it (`b i j` at the entries of
`sh`): the advantage keeps the shape, and — reward and baseline value carrying no gradient — the derivative of the
loss is the loss with `d ll` for `ll`.  `calculate_loss` detaches nothing (`advantage = reward - bl_val`), and neither does
the model: that `R` and `b` carry no gradient is a fact about what the callers pass (rewards computed by the environment,
baseline values detached by the baseline's `eval`: `critic_eval`, `shared_val_no_grad`, `warmup_val_no_grad`, …), hence a
hypothesis of the derivative clause; without it the derivative has the further summand `d(sc(R − b))·ll`. -/
theorem calcLoss_sh (sc : ScaleOp K) (sh : Shape) (R ll b : Nat → Nat → Dual K) (bt : Ten (Dual K)) (bl : Dual K)
    (hb : bshape sh bt.sh = some sh) (hget : ∀ i j, i < sh.rows → j < sh.cols → bt.get i j = b i j) :
    ∃ out, calcLoss sc ⟨sh, R⟩ bt ⟨sh, ll⟩ bl = some out ∧ out.adv.sh = sh ∧
      out.loss.v = -(sumTo sh.rows (fun i => sumTo sh.cols fun j =>
          sc.applyK ((R i j).v - (b i j).v) * (ll i j).v) / (sh.numel : K)) + bl.v ∧
      ((∀ i j, i < sh.rows → j < sh.cols → (R i j).d = 0 ∧ (b i j).d = 0) →
        out.loss.d = -(sumTo sh.rows (fun i => sumTo sh.cols fun j =>
          sc.applyK ((R i j).v - (b i j).v) * (ll i j).d) / (sh.numel : K)) + bl.d) := by
  refine ⟨_, by simp only [calcLoss, Ten.bop_eq_some ⟨sh, R⟩ bt hb, Ten.map, Ten.bop_self]; rfl, rfl, ?_⟩
  -- the loss as one dual number, the broadcasting indices resolved
  rw [(?_ : LossOut.loss _ = -(Dual.divc (sumTo sh.rows fun i => sumTo sh.cols fun j =>
      sc.apply (R i j - b i j) * ll i j) (sh.numel : K)) + bl)]
  · refine ⟨by simp only [Dual.add_v, Dual.neg_v, Dual.divc_v, sumTo_v, Dual.mul_v, ScaleOp.apply_v, Dual.sub_v],
      fun hd => ?_⟩
    simp only [Dual.add_d, Dual.neg_d, Dual.divc_d, sumTo_d, Dual.mul_d, ScaleOp.apply_v, Dual.sub_v]
    rw [sumTo_congr sh.rows _ _ fun i hi => sumTo_congr sh.cols _ _ fun j hj => by
      rw [ScaleOp.apply_d sc _ (by rw [Dual.sub_d, (hd i j hi hj).1, (hd i j hi hj).2, sub_zero]), zero_mul, add_zero]]
  · simp only [Ten.meanAll, Ten.sumAll]
    rw [sumTo_congr sh.rows _ _ fun i hi => sumTo_congr sh.cols _ _ fun j hj => by
      rw [Ten.get_mk hi hj, Ten.get_mk hi hj, Ten.get_mk hi hj, hget i j hi hj]]

/-- **C16 `reinforce_value` / `reinforce_grad` / `no_BxB_broadcast`, per-instance baseline**: reward,
log-likelihood and baseline value of shape `[n]` (critic, greedy-rollout `extra`, warm-up mixtures). -/
theorem reinforce_vec (sc : ScaleOp K) (n : Nat) (R b ll : Nat → Dual K) (bl : Dual K) :
    ∃ out, calcLoss sc (Ten.vec n R) (Ten.vec n b) (Ten.vec n ll) bl = some out ∧
      out.adv.sh = Shape.v n ∧
      out.loss.v = surrogate n (fun i => sc.applyK ((R i).v - (b i).v)) (fun i => (ll i).v) + bl.v ∧
      ((∀ i, i < n → (R i).d = 0 ∧ (b i).d = 0) →
        out.loss.d = surrogate n (fun i => sc.applyK ((R i).v - (b i).v)) (fun i => (ll i).d) + bl.d) := by
  obtain ⟨out, h, hs, hv, hd⟩ := calcLoss_sh sc (Shape.v n) (fun _ j => R j) (fun _ j => ll j) (fun _ j => b j)
    (Ten.vec n b) bl (bshape_self _) fun i _ _ hj => Ten.get_vec rfl i hj
  refine ⟨out, h, hs, by rw [hv]; simp only [Shape.rows, Shape.cols, Shape.numel, sumTo_one, Nat.one_mul, surrogate],
    fun hR => ?_⟩
  rw [hd fun _ j _ hj => hR j hj]
  simp only [Shape.rows, Shape.cols, Shape.numel, sumTo_one, Nat.one_mul, surrogate]

/-- the same for a scalar baseline (none = the Python number `0`, exponential / mean: a 0-dim tensor) -/
theorem reinforce_scalar (sc : ScaleOp K) (n : Nat) (R ll : Nat → Dual K) (b bl : Dual K) :
    ∃ out, calcLoss sc (Ten.vec n R) (Ten.scalar b) (Ten.vec n ll) bl = some out ∧
      out.adv.sh = Shape.v n ∧
      out.loss.v = surrogate n (fun i => sc.applyK ((R i).v - b.v)) (fun i => (ll i).v) + bl.v ∧
      ((∀ i, i < n → (R i).d = 0) → b.d = 0 →
        out.loss.d = surrogate n (fun i => sc.applyK ((R i).v - b.v)) (fun i => (ll i).d) + bl.d) := by
  obtain ⟨out, h, hs, hv, hd⟩ := calcLoss_sh sc (Shape.v n) (fun _ j => R j) (fun _ j => ll j) (fun _ _ => b)
    (Ten.scalar b) bl (bshape_vs n) fun _ _ _ _ => rfl
  refine ⟨out, h, hs, by rw [hv]; simp only [Shape.rows, Shape.cols, Shape.numel, sumTo_one, Nat.one_mul, surrogate],
    fun hR hb => ?_⟩
  rw [hd fun _ j _ hj => ⟨hR j hj, hb⟩]
  simp only [Shape.rows, Shape.cols, Shape.numel, sumTo_one, Nat.one_mul, surrogate]

theorem shared_val_no_grad (B S : Nat) (R : Nat → Nat → Dual K)
    (hd : ∀ b s, b < B → s < S → (R b s).d = 0) (b j : Nat) (hb : b < B) :
    ((sharedEval (Ten.mat B S R)).1.f b j).d = 0 := by
  simp only [sharedEval, Ten.meanLastKeep, Ten.mat, Dual.divc_d, sumTo_d]
  rw [sumTo_congr S _ (fun _ => (0 : K)) (fun s hs => hd b s hb hs), sumTo_const_zero]
  simp

/-- **C16, shared baseline (POMO).**  Reward and log-likelihood of shape `[B,S]` (after the regrouping),
baseline `reward.mean(dim=1, keepdims=True)` of shape `[B,1]`: the advantage has shape `[B,S]`, not `[B,B]`. -/
theorem reinforce_shared (B S : Nat) (R ll : Nat → Nat → Dual K) :
    ∃ out, calcLoss ScaleOp.off (Ten.mat B S R) (sharedEval (Ten.mat B S R)).1 (Ten.mat B S ll)
        (sharedEval (Ten.mat B S R)).2 = some out ∧
      out.adv.sh = Shape.m B S ∧
      out.loss.v = sharedSurrogate B S (fun b s => (R b s).v) (fun b s => (ll b s).v) ∧
      ((∀ b s, b < B → s < S → (R b s).d = 0) →
        out.loss.d = sharedSurrogate B S (fun b s => (R b s).v) (fun b s => (ll b s).d)) := by
  obtain ⟨out, h, hs, hv, hd⟩ := calcLoss_sh ScaleOp.off (Shape.m B S) R ll
    (fun i _ => Dual.divc (sumTo S fun j => R i j) (S : K)) (sharedEval (Ten.mat B S R)).1 (sharedEval (Ten.mat B S R)).2
    (bshape_mcol B S) fun i j hi _ => Ten.get_col rfl hi j
  refine ⟨out, h, hs, by rw [hv]; simp only [ScaleOp.applyK, Shape.rows, Shape.cols, Shape.numel, sharedEval, Dual.divc_v,
    sumTo_v, Dual.zero_v, add_zero, sharedSurrogate], fun hR => ?_⟩
  rw [hd fun i j hi hj => ⟨hR i j hi hj, shared_val_no_grad B S R hR i j hi⟩]
  simp only [ScaleOp.applyK, Shape.rows, Shape.cols, Shape.numel, sharedEval, Dual.divc_v, sumTo_v, Dual.zero_d, add_zero,
    sharedSurrogate]

theorem shared_adv_sum_zero [CharZero K] (S : Nat) (hS : 0 < S) (R : Nat → K) :
    sumTo S (fun s => R s - sumTo S (fun s' => R s') / (S : K)) = 0 :=
  sumTo_sub_mean S hS R

/-- … as the code computes them: the rows of `reward − reward.mean(dim=1, keepdims=True)`. -/
theorem shared_adv_sum_zero_ten [CharZero K] (B S : Nat) (hS : 0 < S) (R : Nat → Nat → Dual K) (b : Nat)
    (hb : b < B) :
    ∃ adv, Ten.bop (fun r m => r - m) (Ten.mat B S R) (sharedEval (Ten.mat B S R)).1 = some adv ∧
      adv.sh = Shape.m B S ∧ sumTo S (fun s => (adv.f b s).v) = 0 := by
  refine ⟨_, Ten.bop_eq_some _ _ (bshape_mcol B S), rfl, ?_⟩
  rw [← shared_adv_sum_zero S hS (fun s => (R b s).v)]
  refine sumTo_congr S _ _ fun s hs => ?_
  show ((Ten.mat B S R).get b s - (sharedEval (Ten.mat B S R)).1.get b s).v = _
  rw [Ten.get_mk hb hs, Ten.get_col rfl hb]
  simp only [sharedEval, Ten.meanLastKeep, Ten.mat, Dual.sub_v, Dual.divc_v, sumTo_v]

/-- POMO's regrouping `unbatchify(x, (0, S))` of a flat start-outer batch `x[s·B + b]`: entry `[b, s]` of the
regrouped `[B,S]` tensor is rollout `s` of instance `b`. -/
theorem pomo_regroup_index {α : Type} (S B : Nat) (hS : 0 < S) (x : Nat → α) (b s : Nat) :
    (pomoRegroup S (S * B) x).sh = Shape.m B S ∧ (pomoRegroup S (S * B) x).f b s = x (s * B + b) := by
  simp [pomoRegroup, Ten.mat, unbatch1, Nat.mul_div_cancel_left B hS]

/-- **C16 `no_grad_through_R_b`, critic.**  `CriticBaseline.eval` returns a value without gradient whatever
gradient the critic's output carries, and its loss is the mean squared error against the DETACHED reward: no term
in `d R`. -/
theorem critic_eval (n : Nat) (o c : Nat → Dual K) :
    ∃ val l, Critic.eval (Ten.mat n 1 (fun i _ => o i)) (Ten.vec n c) = some (val, l) ∧
      val.sh = Shape.v n ∧ (∀ j, (val.f 0 j).v = (o j).v ∧ (val.f 0 j).d = 0) ∧
      l.v = mse n (fun i => (o i).v) (fun i => (c i).v) ∧
      l.d = mseGrad n (fun i => (o i).v) (fun i => (c i).v) (fun i => (o i).d) := by
  refine ⟨_, _, by simp only [Critic.eval, Critic.mse, Ten.squeezeLast, Ten.mat, Ten.vec, Ten.map, Ten.bop_self,
    Option.map_some]; rfl, rfl, fun j => ⟨rfl, rfl⟩, ?_⟩
  -- the loss as one dual number, the broadcasting indices resolved
  rw [Ten.meanAll_vec, sumTo_congr n _ (fun i => (o i - (c i).detach) * (o i - (c i).detach)) fun i hi => by
    rw [Ten.get_vec rfl 0 hi, Ten.get_vec rfl 0 hi]]
  constructor
  · simp only [mse, Dual.divc_v, sumTo_v, Dual.mul_v, Dual.sub_v, Dual.detach_v]
  · simp only [mseGrad, Dual.divc_d, sumTo_d, Dual.mul_d, Dual.sub_v, Dual.sub_d, Dual.detach_v, Dual.detach_d, sub_zero]
    congr 1
    exact sumTo_congr n _ _ fun i _ => by ring

/-- no baseline / greedy-rollout baseline: the value is gradient-free by construction -/
theorem no_baseline_no_grad (i j : Nat) : ((noBaselineEval : Ten (Dual K) × Dual K).1.f i j).d = 0 := rfl
theorem rollout_no_grad (g : Ten K) (i j : Nat) : ((Rollout.eval g).1.f i j).d = 0 := rfl

section warm
variable [DecidableEq K]

/-- **C16 `no_grad_through_R_b`, warm-up mixture.**  If the wrapped baseline's value carries no gradient, neither
does `alpha·v_b + (1−alpha)·v_wb` (the moving average is detached by `ExponentialBaseline.eval`). -/
theorem warmup_val_no_grad (beta : K) (st : Warmup.St K) (inner : Ten (Dual K) × Dual K) (R : Ten (Dual K))
    (out : Ten (Dual K) × Dual K × Warmup.St K) (h : Warmup.eval beta st inner R = some out)
    (hin : ∀ i j, (inner.1.f i j).d = 0) (i j : Nat) : (out.1.f i j).d = 0 := by
  by_cases h1 : st.alpha = 1
  · rw [Warmup.eval_inner h1] at h
    cases h; exact hin i j
  by_cases h0 : st.alpha = 0
  · rw [Warmup.eval_warm h1 h0] at h
    cases h; rfl
  · rw [Warmup.eval_both h1 h0] at h
    obtain ⟨v, hv, rfl⟩ := Option.map_eq_some_iff.mp h
    show (v.f i j).d = 0
    rw [Ten.bop_entry hv]
    show st.alpha * (inner.1.f _ _).d + (1 - st.alpha) * 0 = 0
    rw [hin, mul_zero, mul_zero, add_zero]
end warm

/-- **C16 `a2c_value` / `a2c_grad`.**  A2C = REINFORCE with the critic baseline (critic output `o` of shape `[n,1]`):
the policy sees the advantage as a constant, the critic only its regression loss. -/
theorem a2c_loss (n : Nat) (R ll o : Nat → Dual K) (hR : ∀ i, i < n → (R i).d = 0) :
    ∃ val l out, Critic.eval (Ten.mat n 1 (fun i _ => o i)) (Ten.vec n R) = some (val, l) ∧
      calcLoss ScaleOp.off (Ten.vec n R) val (Ten.vec n ll) l = some out ∧
      out.adv.sh = Shape.v n ∧
      out.loss.v = reinforce n (fun i => (R i).v) (fun i => (o i).v) (fun i => (ll i).v)
                      (mse n (fun i => (o i).v) (fun i => (R i).v)) ∧
      out.loss.d = reinforceGrad n (fun i => (R i).v) (fun i => (o i).v) (fun i => (ll i).d)
                      (mseGrad n (fun i => (o i).v) (fun i => (R i).v) (fun i => (o i).d)) := by
  obtain ⟨val, l, he, hsh, hval, hlv, hld⟩ := critic_eval n o R
  obtain ⟨out, hc, hs, hv, hd⟩ := calcLoss_sh ScaleOp.off (Shape.v n) (fun _ j => R j) (fun _ j => ll j)
    (fun _ j => val.f 0 j) val l (by rw [hsh]; exact bshape_self _) fun i j _ hj => Ten.get_vec hsh i hj
  refine ⟨val, l, out, he, hc, hs, ?_, ?_⟩
  · rw [hv, hlv]
    simp only [reinforce, surrogate, ScaleOp.applyK, hval, Shape.rows, Shape.cols, Shape.numel, sumTo_one, Nat.one_mul]
  · rw [hd fun _ j _ hj => ⟨hR j hj, (hval j).2⟩, hld]
    simp only [reinforceGrad, surrogate, ScaleOp.applyK, hval, Shape.rows, Shape.cols, Shape.numel, sumTo_one,
      Nat.one_mul]

/-- If the baseline value had shape `[n,1]` against a reward of shape `[n]` (e.g. a critic output that was not
squeezed), the advantage would silently become `[n,n]` — in the model exactly as in PyTorch, so the
correspondence would see it. -/
theorem mixup_broadcasts (n : Nat) (R b : Nat → Dual K) :
    (Ten.bop (fun r m => r - m) (Ten.vec n R) (Ten.mat n 1 (fun i _ => b i))).map (·.sh) = some (Shape.m n n) := by
  rw [Ten.bop_eq_some (Ten.vec n R) (Ten.mat n 1 _) (bshape_v_mcol n)]; rfl

/-- Non-vacuity: two instances, exponential-style scalar baseline 2, rewards 1 and 4, log-likelihoods −1 and −2
with derivatives 1 and 3: loss = −((1−2)(−1) + (4−2)(−2))/2 = 3/2, derivative = −((−1)·1 + 2·3)/2 = −5/2. -/
example :
    (calcLoss ScaleOp.off (Ten.vec 2 (fun i => Dual.const (if i = 0 then (1 : Rat) else 4)))
        (Ten.scalar (Dual.const 2)) (Ten.vec 2 (fun i => if i = 0 then ⟨-1, 1⟩ else ⟨-2, 3⟩)) 0).map
      (fun o => (o.loss.v, o.loss.d)) = some (3 / 2, -5 / 2) := by
  decide +kernel

end Rl4co.Train
