/-
C16 (PPO) on the definition that `harness/pytrans.py` REGENERATES from `PPO.shared_step` on every run
(`Rl4co/Generated/Ppo.lean`: previous_reward, ratio, adv, surrogate_loss, value_loss, loss — statement by
statement, for `normalize_adv = False`).

The generated definition is the hand-written `ppoLoss` with `clipLo = 1 − clip_range`, `clipHi = 1 + clip_range`, no
advantage normalisation; the C16 clauses are restated on it.
-/
import Rl4co.Generated.Ppo
import Rl4co.Props.C16.TrainPpoKink

-- `gen_ppo_eq` does not need the order to be compatible with the ring structure
set_option linter.unusedSectionVars false

namespace Rl4co.Train.GenBridge
open Rl4co.Spec.Train
variable {K : Type} [Field K] [LinearOrder K] [IsStrictOrderedRing K]

/-- the configuration the generated code works with -/
def genCfg (c vf el : K) : PpoCfg K := ⟨1 - c, 1 + c, vf, el, none⟩

theorem genCfg_le (c vf el : K) (hc : 0 ≤ c) : (genCfg c vf el).clipLo ≤ (genCfg c vf el).clipHi :=
  (sub_le_self 1 hc).trans (le_add_of_nonneg_right hc)

theorem gen_ppo_eq (w : K → K) (c vf el : K) (ll : Ten (Dual K)) (oldLogp reward : Ten K)
    (valuePred entropy : Ten (Dual K)) :
    Numeric.ppoLoss w c vf el ll oldLogp reward valuePred entropy
      = (ppoLoss (genCfg c vf el) w ll oldLogp reward valuePred entropy).map
          (fun o => (o.loss, o.surrogate, o.valueLoss, o.ratio, o.adv)) := by
  unfold Numeric.ppoLoss ppoLoss genCfg
  dsimp only [Option.bind_eq_bind]
  cases Ten.bop (fun a b => a - Dual.const b) (Ten.sumLast ll) oldLogp with
  | none => rfl
  | some diff =>
    dsimp only [Option.bind_some]
    cases Ten.bop (fun r v => r - v) (Ten.viewCol reward) (Ten.map (fun x => x.v) valuePred) with
    | none => rfl
    | some adv0 =>
      dsimp only [Option.bind_some]
      rw [show Ten.map (ppoNormFn none adv0) adv0 = adv0 from rfl]
      cases Ten.bop (fun r a => Dual.smul a r) (Ten.viewCol (Ten.map (Dual.expw w) diff)) adv0 with
      | none => rfl
      | some t1 =>
        cases Ten.bop (fun r a => Dual.smul a r)
            (Ten.map (clampD (1 - c) (1 + c)) (Ten.viewCol (Ten.map (Dual.expw w) diff))) adv0 with
        | none => rfl
        | some t2 =>
          dsimp only [Option.bind_some]
          cases Ten.bop minD t1 t2 with
          | none => rfl
          | some mn =>
            cases Ten.bop (fun v r => huberD (v - Dual.const r)) valuePred (Ten.viewCol reward) with
            | none => rfl
            | some hub => rfl

/-- **C16 on the regenerated PPO code (value, and gradient off the kinks).** -/
theorem gen_ppo_loss (w : K → K) (c vf el : K) (B T : Nat) (ll : Nat → Nat → Dual K) (old R : Nat → K)
    (vp ent : Nat → Dual K) :
    ∃ loss sl vl ratio adv,
      Numeric.ppoLoss w c vf el (Ten.mat B T ll) (Ten.vec B old) (Ten.vec B R) (Ten.mat B 1 (fun i _ => vp i))
          (Ten.vec B ent) = some (loss, sl, vl, ratio, adv) ∧
      ratio.sh = Shape.m B 1 ∧ adv.sh = Shape.m B 1 ∧
      loss.v = ppo B (1 - c) (1 + c) vf el (fun i => (ppoRatio w T ll old i).v)
          (ppoAdv none B R (fun i => (vp i).v)) (fun i => (vp i).v) R (fun i => (ent i).v) ∧
      (0 ≤ c →
        (∀ i, i < B → (ppoRatio w T ll old i).v ≠ 1 - c ∧ (ppoRatio w T ll old i).v ≠ 1 + c) →
        loss.d = ppoGrad B (1 - c) (1 + c) vf el (fun i => (ppoRatio w T ll old i).v)
          (ppoAdv none B R (fun i => (vp i).v)) (fun i => (vp i).v) R
          (fun i => sumTo T (fun t => (ll i t).d)) (fun i => (vp i).d) (fun i => (ent i).d)) := by
  obtain ⟨out, h, hr, ha, hv, hd⟩ := ppo_loss (genCfg c vf el) w B T ll old R vp ent
  refine ⟨out.loss, out.surrogate, out.valueLoss, out.ratio, out.adv, by rw [gen_ppo_eq, h]; rfl, hr, ha, hv, ?_⟩
  intro hc hk
  exact hd (genCfg_le c vf el hc) hk

/-- **C16 on the regenerated PPO code, gradient at ALL points**: the weight of a sample is `0`, `1/2` or `1`, one half
exactly when the ratio sits on a clip bound. -/
theorem gen_ppo_loss_all (w : K → K) (c vf el : K) (B T : Nat) (ll : Nat → Nat → Dual K) (old R : Nat → K)
    (vp ent : Nat → Dual K) (hc : 0 ≤ c) :
    ∃ loss sl vl ratio adv,
      Numeric.ppoLoss w c vf el (Ten.mat B T ll) (Ten.vec B old) (Ten.vec B R) (Ten.mat B 1 (fun i _ => vp i))
          (Ten.vec B ent) = some (loss, sl, vl, ratio, adv) ∧
      loss.d = ppoGradAll false B (1 - c) (1 + c) vf el (fun i => (ppoRatio w T ll old i).v)
          (ppoAdv none B R (fun i => (vp i).v)) (fun i => (vp i).v) R
          (fun i => sumTo T (fun t => (ll i t).d)) (fun i => (vp i).d) (fun i => (ent i).d) := by
  obtain ⟨out, h, hd⟩ := ppo_loss_all (genCfg c vf el) w B T ll old R vp ent (genCfg_le c vf el hc)
  exact ⟨out.loss, out.surrogate, out.valueLoss, out.ratio, out.adv, by rw [gen_ppo_eq, h]; rfl, hd⟩

/-- Non-vacuity: one sample, ratio 1 (`w` the constant 1), advantage 1: the loss value is
`−1 + vf·huber(−1) − el·h`. -/
example :
    (Numeric.ppoLoss (fun _ => (1 : Rat)) (1 / 5) 0 0 (Ten.mat 1 1 (fun _ _ => ⟨0, 1⟩)) (Ten.vec 1 (fun _ => 0))
      (Ten.vec 1 (fun _ => 1)) (Ten.mat 1 1 (fun _ _ => ⟨0, 0⟩)) (Ten.vec 1 (fun _ => ⟨0, 0⟩))).map (fun r => r.1.v)
      = some (-1) := by
  decide +kernel

end Rl4co.Train.GenBridge
