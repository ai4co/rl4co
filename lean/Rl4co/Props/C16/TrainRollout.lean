/-
C16 / C17 — the greedy-rollout baseline.  For every history of epoch callbacks (any candidate policies, any fresh
evaluation sets, any significance oracle), with row-wise policies:
* `bl_vals` are the frozen policy's rewards on ITS evaluation set, instance by instance, and `mean` their mean;
* the frozen policy after a callback is the candidate iff it is better on average and significant, else unchanged;
* `wrap_dataset` attaches to item `i` the frozen policy's reward on instance `i`, for every evaluation batch size, so
  with the wrapped batch `calculate_loss` uses `bl_val_i = g_frozen(x_i)`.
-/
import Rl4co.Train.RolloutBl
import Rl4co.Props.C17.Dataset
import Rl4co.Props.C16.TrainReinforce
import Mathlib.Algebra.Order.Field.Basic

namespace Rl4co.Train.RolloutBl
open Rl4co.Ops
variable {Inst K : Type} [Field K] [LinearOrder K]

/-- the state is consistent with a per-instance reward function `g` of its frozen policy -/
def Consistent (st : St Inst K) : Prop :=
  ∃ g : Inst → K, (∀ xs, st.policy xs = xs.map g) ∧ st.blVals = st.dataset.map g ∧ st.mean = lmean st.blVals

theorem accepts_eq_true {pval : List K → List K → K} {alpha : K} {st : St Inst K} {candVals : List K} :
    accepts pval alpha st candVals = true ↔ (0 < lmean candVals - st.mean ∧ pval candVals st.blVals < alpha) := by
  simp only [accepts, Bool.and_eq_true, decide_eq_true_eq]

/-- **the update rule**: the frozen policy becomes the candidate exactly when the candidate's mean reward on the
evaluation set exceeds the baseline's AND the one-sided p-value is below `bl_alpha`; otherwise NOTHING changes. -/
theorem epochCallback_policy (pval : List K → List K → K) (alpha : K) (bs : Nat) (st : St Inst K)
    (cand : List Inst → List K) (fresh : List Inst) :
    let candVals := rollout cand bs st.dataset
    (0 < lmean candVals - st.mean ∧ pval candVals st.blVals < alpha →
        epochCallback pval alpha bs st cand fresh = updatePolicy bs cand fresh) ∧
    (¬ (0 < lmean candVals - st.mean ∧ pval candVals st.blVals < alpha) →
        epochCallback pval alpha bs st cand fresh = st) := by
  intro candVals
  exact ⟨fun h => if_pos (accepts_eq_true.mpr h), fun h => if_neg fun ha => h (accepts_eq_true.mp ha)⟩

theorem epochCallback_cases (pval : List K → List K → K) (alpha : K) (bs : Nat) (st : St Inst K)
    (cand : List Inst → List K) (fresh : List Inst) :
    epochCallback pval alpha bs st cand fresh = updatePolicy bs cand fresh ∨
      epochCallback pval alpha bs st cand fresh = st := by
  rw [epochCallback]; split
  · exact Or.inl rfl
  · exact Or.inr rfl

theorem consistent_callback (pval : List K → List K → K) (alpha : K) (bs : Nat) (hbs : 0 < bs) (st : St Inst K)
    (hst : Consistent st) (cand : List Inst → List K) (hc : RowWise cand) (fresh : List Inst) :
    Consistent (epochCallback pval alpha bs st cand fresh) := by
  rcases epochCallback_cases pval alpha bs st cand fresh with h | h <;> rw [h]
  · -- a fresh evaluation of a row-wise candidate is consistent with that candidate's reward function
    obtain ⟨g, hg⟩ := hc
    exact ⟨g, hg, rollout_aligned cand g hg bs hbs fresh, rfl⟩
  · exact hst

/-- **Invariant over any training history**: from a consistent state (that `setup` gives one is not stated here), any
sequence of epoch callbacks with row-wise policies keeps it. -/
theorem consistent_run (pval : List K → List K → K) (alpha : K) (bs : Nat) (hbs : 0 < bs) (st : St Inst K)
    (hst : Consistent st) (hist : List ((List Inst → List K) × List Inst)) (hh : ∀ c ∈ hist, RowWise c.1) :
    Consistent (run pval alpha bs st hist) := by
  induction hist generalizing st with
  | nil => exact hst
  | cons c rest ih =>
    obtain ⟨cp, cf⟩ := c
    exact ih _ (consistent_callback pval alpha bs hbs st hst cp (hh (cp, cf) (List.mem_cons_self ..)) cf)
      (fun c hc => hh c (List.mem_cons_of_mem _ hc))

theorem policy_mem_run (pval : List K → List K → K) (alpha : K) (bs : Nat) (st : St Inst K)
    (hist : List ((List Inst → List K) × List Inst)) :
    (run pval alpha bs st hist).policy = st.policy ∨ ∃ c ∈ hist, (run pval alpha bs st hist).policy = c.1 := by
  induction hist generalizing st with
  | nil => exact Or.inl rfl
  | cons c rest ih =>
    obtain ⟨cp, cf⟩ := c
    rcases ih (epochCallback pval alpha bs st cp cf) with h | ⟨c', hc', h⟩
    · simp only [run]
      rw [h]
      rcases epochCallback_cases pval alpha bs st cp cf with e | e <;> rw [e]
      · exact Or.inr ⟨(cp, cf), List.mem_cons_self .., rfl⟩
      · exact Or.inl rfl
    · exact Or.inr ⟨c', List.mem_cons_of_mem _ hc', h⟩

omit [LinearOrder K] in
/-- **what the property states** (C17 clause, C16's baseline value): item `i` of the wrapped training set carries the
frozen policy's reward on instance `i`, whatever the evaluation batch size. -/
theorem wrap_value (st : St Inst K) (hst : Consistent st) (bs : Nat) (hbs : 0 < bs) (ds : List Inst) (d : Inst) (dK : K)
    (i : Nat) (hi : i < ds.length) :
    ∃ g : Inst → K, (∀ xs, st.policy xs = xs.map g) ∧ wrap st bs ds d dK i = (ds[i], g ds[i]) := by
  obtain ⟨g, hg, _, _⟩ := hst
  exact ⟨g, hg, wrap_aligned st.policy g hg bs hbs ds d dK i hi⟩

omit [LinearOrder K] in
/-- … and the REINFORCE loss on such a batch: `−mean((R_i − g(x_i))·ll_i)`, gradient `−mean((R_i − g(x_i))·d ll_i)`. -/
theorem reinforce_rollout (n : Nat) (g : Nat → K) (R ll : Nat → Dual K) (hR : ∀ i, i < n → (R i).d = 0) :
    ∃ out, calcLoss ScaleOp.off (Ten.vec n R) (Ten.vec n (fun i => Dual.const (g i))) (Ten.vec n ll) 0 = some out ∧
      out.loss.v = Spec.Train.reinforce n (fun i => (R i).v) g (fun i => (ll i).v) 0 ∧
      out.loss.d = Spec.Train.reinforceGrad n (fun i => (R i).v) g (fun i => (ll i).d) 0 := by
  obtain ⟨out, h, _, hv, hd⟩ := reinforce_vec ScaleOp.off n R (fun i => Dual.const (g i)) ll 0
  refine ⟨out, h, ?_, ?_⟩
  · rw [hv]
    simp [Spec.Train.reinforce, ScaleOp.applyK]
  · rw [hd (fun i hi => ⟨hR i hi, rfl⟩)]
    simp [Spec.Train.reinforceGrad, ScaleOp.applyK]

section decision
variable [IsStrictOrderedRing K]

theorem accepts_iff (pval : List K → List K → K) (alpha : K) (st : St Inst K) (candVals : List K) :
    accepts pval alpha st candVals = true ↔ (st.mean < lmean candVals ∧ pval candVals st.blVals < alpha) := by
  rw [accepts_eq_true, sub_pos]

/-- the paired t statistic of the cost differences `(-candidate) - (-baseline)` as `ttest_rel` computes it:
`mean(d) / (s_d / sqrt n)`; `sq` is the square root -/
def tstat (sq : K → K) (bl cand : List K) : K :=
  let d := List.zipWith (fun x y => x - y) bl cand
  lmean d / (sq (Rl4co.Spec.Train.sampleVar d) / sq (d.length : K))

/-- **`assert t < 0` never fires.**  Whenever the test is run at all (the candidate is better on average) and the
differences are not all equal (positive standard error), the t statistic is negative — so the one-sided p-value
`p / 2` is the probability of an improvement at least this large under the null hypothesis. -/
theorem tstat_neg (sq : K → K) (bl cand : List K) (hlen : bl.length = cand.length) (hne : cand ≠ [])
    (hbetter : 0 < lmean cand - lmean bl)
    (hse : 0 < sq (Rl4co.Spec.Train.sampleVar (List.zipWith (fun x y => x - y) bl cand))
              / sq ((List.zipWith (fun x y => x - y) bl cand).length : K)) :
    tstat sq bl cand < 0 := by
  -- `hne` is not used: it follows from `hbetter`, the mean of no values being `0 / 0 = 0`
  have hmean : lmean (List.zipWith (fun x y => x - y) bl cand) = lmean bl - lmean cand := by
    simp only [lmean, sum_zipWith_sub bl cand hlen, List.length_zipWith, hlen, Nat.min_self, sub_div]
  unfold tstat
  simp only [hmean]
  exact div_neg_of_neg_of_pos (sub_neg.mpr (sub_pos.mp hbetter)) hse

end decision

/-- Non-vacuity: instances are numbers, frozen policy `x ↦ -x`, candidate `x ↦ -x/2` (better), p-value oracle 0:
the callback replaces the policy and re-evaluates on the fresh set `[4, 6]`: `bl_vals = [-2, -3]`, mean `-5/2`. -/
example :
    let st := setup (K := Rat) 2 (fun xs => xs.map (fun x : Rat => -x)) [1, 2, 3]
    let st' := epochCallback (fun _ _ => 0) (1 / 20) 2 st (fun xs => xs.map (fun x : Rat => -x / 2)) [4, 6]
    st.blVals = [-1, -2, -3] ∧ st'.blVals = [-2, -3] ∧ st'.mean = -5 / 2 := by
  decide +kernel

end Rl4co.Train.RolloutBl
