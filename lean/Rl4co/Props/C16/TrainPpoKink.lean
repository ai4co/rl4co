/-
C16 — PPO gradient at ALL points, kinks of the clipping included: `ppo_loss_all` is the mini-batch statement without any
non-kink hypothesis.  The sub-gradient convention (`clampG pass`: does `clamp` pass the gradient at its bounds; `torch.min`
splits evenly at ties) is in `Proofs/TrainScalar`, the per-sample derivative `surrG_d` for either convention in `TrainPpo`;
the model the driver runs (`clampD`) is `clampG false`, PyTorch's observed behaviour.
-/
import Rl4co.Props.C16.TrainPpo

namespace Rl4co.Train
open Rl4co.Spec.Train
variable {K : Type} [Field K] [LinearOrder K] [IsStrictOrderedRing K]

/-- **C16 `ppo_grad` at ALL points.**  The weight `w_i ∈ {0, 1/2, 1}` of a sample is `ppoWeight false`: one half exactly
when the ratio sits on a clip bound — PyTorch's convention: `clamp` passes no gradient at its bounds, `min` splits a
tie evenly. -/
theorem ppo_loss_all (cfg : PpoCfg K) (w : K → K) (B T : Nat) (ll : Nat → Nat → Dual K) (old R : Nat → K)
    (vp ent : Nat → Dual K) (hlh : cfg.clipLo ≤ cfg.clipHi) :
    ∃ out, ppoLoss cfg w (Ten.mat B T ll) (Ten.vec B old) (Ten.vec B R) (Ten.mat B 1 (fun i _ => vp i)) (Ten.vec B ent)
        = some out ∧
      out.loss.d = ppoGradAll false B cfg.clipLo cfg.clipHi cfg.vfLambda cfg.entLambda
          (fun i => (ppoRatio w T ll old i).v) (ppoAdv cfg.normalize B R (fun i => (vp i).v))
          (fun i => (vp i).v) R (fun i => sumTo T (fun t => (ll i t).d)) (fun i => (vp i).d) (fun i => (ent i).d) := by
  obtain ⟨out, h, _, _, _, hd⟩ := ppoLoss_batch cfg w B T ll old R vp ent
  exact ⟨out, h, hd hlh⟩

/-- Non-vacuity / the kink itself: ratio exactly on the upper bound `6/5` with advantage 1 and `d ratio = 3`:
PyTorch's convention gives half of `A·d ratio`, the other convention all of it. -/
example : (minD (Dual.smul (1 : Rat) ⟨6/5, 3⟩) (Dual.smul 1 (clampD (4/5) (6/5) ⟨6/5, 3⟩))).d = 3 / 2 ∧
    (minD (Dual.smul (1 : Rat) ⟨6/5, 3⟩) (Dual.smul 1 (clampG true (4/5) (6/5) ⟨6/5, 3⟩))).d = 3 := by
  decide +kernel

end Rl4co.Train
