/-
C08 for MCP: a mask-confined episode selects exactly `n_sets_to_choose` distinct sets and finishes
exactly when the quota is reached; `weights` (shown to the policy) is always the weight of the items
not yet covered by the sets selected so far (0 for covered ones), with 1-based item ids and
0-padding in the membership table; `membership` has exactly the rows of the selected sets zeroed.

FINDING (DESIGN §8): as for FLP the statement over *all* runs the batched loop can produce is false
when rows of one batch have different quotas.

The family's well-formedness `WF` is defined here (the `View` instance and `feasible_iff_sel` are in `Proofs/SelectViews`).
-/
import Rl4co.Proofs.SelectViews

namespace Rl4co.Mcp
open Rl4co.Spec.Mcp

def WF (i : Inst) : Prop := 1 ≤ i.quota ∧ i.quota ≤ i.nSets

theorem WF.room {i : Inst} (hwf : WF i) : (i.quota : Int) ≤ cnt i.nSets (fun _ => true) := by
  rw [cnt_true]; exact hwf.2

def quota_statement : Prop :=
  ∀ (i : Inst) (as : List Nat) (s : State), WF i → Run env i (env.reset i) as s →
    env.done i s = true → (as.length : Int) = i.quota

/-- witness: sets `{1}`, `{2}`, weights `1, 2`, quota 1, stepped twice (batch-mate with quota 2) -/
def cexInst : Inst := ⟨2, 2, 1, 1, fun j _ => j + 1, fun x => x + 1⟩

theorem quota_counterexample : ¬ quota_statement := by
  intro h
  have hrun : Run env cexInst (env.reset cexInst) [0, 1] (exec env cexInst (env.reset cexInst) [0, 1]) :=
    Run.of_admitted (by decide)
  have := h cexInst [0, 1] _ ⟨by decide, by decide⟩ hrun (by decide)
  exact absurd this (by decide)

theorem feasible_of_run (i : Inst) (hwf : WF i) {as : List Nat} {s : State}
    (h : RunND env i (env.reset i) as s) (hd : env.done i s = true) : Feasible i as :=
  (feasible_iff_sel i as).mpr (Sel.feasible_of_runND view hwf.1 h hd)

/-- **C08 (MCP), quota** for episodes stepped only while unfinished. -/
theorem quota_partial (i : Inst) (hwf : WF i) {as : List Nat} {s : State}
    (h : RunND env i (env.reset i) as s) (hd : env.done i s = true) :
    (as.length : Int) = i.quota ∧ as.Nodup ∧ ∀ a ∈ as, a < i.nSets :=
  have hf := feasible_of_run i hwf h hd
  ⟨hf.len, hf.nodup, hf.range⟩

theorem feasible_exists (i : Inst) (hwf : WF i) : ∃ as, Spec.Mcp.Feasible i as :=
  (Sel.exists_feasible view (Int.le_trans (by decide) hwf.1) hwf.room).imp
    fun as h => (feasible_iff_sel i as).mpr h

/-- **C08 (MCP), finish exactly at the quota** (any mask-confined run). -/
theorem done_iff_quota (i : Inst) (hwf : WF i) {as : List Nat} {s : State}
    (h : Run env i (env.reset i) as s) : env.done i s = true ↔ i.quota ≤ as.length :=
  Sel.done_iff view hwf.1 h

/-- **C08 (MCP), bookkeeping**: after any mask-confined run, `weights[x]` is `0` if item `x` belongs
to one of the selected sets and its original weight otherwise. -/
theorem weights_eq (i : Inst) {as : List Nat} {s : State} (h : Run env i (env.reset i) as s)
    (x : Nat) : s.weights x = if covered i as x then 0 else i.w x :=
  (inv2_of_run h).wts x

/-- … and `membership[j]` is the original row for an unselected set and all-zero for a selected one. -/
theorem membership_eq (i : Inst) {as : List Nat} {s : State} (h : Run env i (env.reset i) as s)
    (j k : Nat) : s.mem j k = remaining i as j k := by
  unfold remaining
  rw [(inv2_of_run h).mem j k, (chosen_eq_history i h j).1]
  by_cases hj : j ∈ as <;> simp [hj]

/-- Non-vacuity: sets `{1,2}`, `{3}`, `{2,4}` (0-padded), weights `5,6,7,8`, quota 2; after `[0, 2]`
the uncovered weights are `[0, 0, 7, 0]`. -/
def exInst : Inst := ⟨3, 4, 2, 2, fun j k => ([[1, 2], [3, 0], [2, 4]].getD j []).getD k 0, fun x => x + 5⟩
example : WF exInst := ⟨by decide, by decide⟩
example : RunND env exInst (env.reset exInst) [0, 2] (exec env exInst (env.reset exInst) [0, 2]) :=
  .of_admittedND (by decide)
example : (List.range 4).map (exec env exInst (env.reset exInst) [0, 2]).weights = [0, 0, 7, 0] := by decide

end Rl4co.Mcp
