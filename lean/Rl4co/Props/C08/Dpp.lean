/-
C08 for DPP and MDPP (decap placement, single and multi port): a mask-confined episode places exactly
`max_decaps` decaps on pairwise distinct cells, never on a keep-out cell (a cell the instance mask
does not offer) and never on a probing port, and finishes exactly when the quota is reached.

`max_decaps` is an attribute of the environment object, the same for every row of a batch; all rows
therefore finish at the same step (`Rl4co.Dpp.done_lockstep`, C04) and no row is ever stepped after
it finished: `RunND` (stepped only while unfinished) is exactly what the batched loop produces.

`DPPEnv._reset` uses the instance mask as it is — that a probing port is never offered is a property
of the instance (`ProbeMasked`, guaranteed by the bundled generator and re-checked by the harness);
`MDPPEnv._reset` clears the probing ports itself, no hypothesis needed.

The family's well-formedness `WF` is defined here (the `View` instance and `feasible_iff_sel` are in `Proofs/SelectViews`).
-/
import Rl4co.Proofs.SelectViews

namespace Rl4co.Dpp
open Rl4co.Spec.Dpp

def WF (i : Inst) : Prop :=
  1 ≤ i.quota ∧ i.quota ≤ cnt i.n (allowed0 i) ∧ (i.multi = true ∨ ProbeMasked i)

theorem WF.room {i : Inst} (hwf : WF i) : i.quota ≤ cnt i.n (allowed0 i) := hwf.2.1

theorem WF.contract {i : Inst} (hwf : WF i) : i.multi = true ∨ ProbeMasked i := hwf.2.2

theorem feasible_of_run (i : Inst) (hwf : WF i) {as : List Nat} {s : State}
    (h : RunND env i (env.reset i) as s) (hd : env.done i s = true) : Feasible i as :=
  (feasible_iff_sel i hwf.contract as).mpr (Sel.feasible_of_runND view hwf.1 h hd)

/-- **C08 (DPP/MDPP), quota**: exactly `max_decaps` distinct cells, each offered by the instance and
none a probing port. -/
theorem quota (i : Inst) (hwf : WF i) {as : List Nat} {s : State}
    (h : RunND env i (env.reset i) as s) (hd : env.done i s = true) :
    (as.length : Int) = i.quota ∧ as.Nodup ∧
      ∀ a ∈ as, a < i.n ∧ i.avail a = true ∧ i.probe a = false :=
  have hf := feasible_of_run i hwf h hd
  ⟨hf.len, hf.nodup, fun a ha => ⟨hf.range a ha, by simpa [allowed] using hf.ok a ha⟩⟩

/-- **C08 (DPP/MDPP), finish exactly at the quota**. -/
theorem done_iff_quota (i : Inst) (hq : 1 ≤ i.quota) {as : List Nat} {s : State}
    (h : Run env i (env.reset i) as s) : env.done i s = true ↔ i.quota ≤ as.length :=
  Sel.done_iff view hq h

theorem mask_eq_history (i : Inst) {as : List Nat} {s : State} (h : Run env i (env.reset i) as s)
    (j : Nat) : env.mask i s j = (allowed0 i j && !decide (j ∈ as)) :=
  Sel.mask_eq_history view h j

theorem keepout_const (i : Inst) {as : List Nat} {s : State} (h : Run env i (env.reset i) as s)
    (j : Nat) : s.keepout j = !(i.avail j) :=
  h.inv (Inv := fun s => s.keepout j = !(i.avail j)) (fun _ _ hi _ _ => hi) rfl

theorem mdpp_probe_never_offered (i : Inst) (hm : i.multi = true) {as : List Nat} {s : State}
    (h : Run env i (env.reset i) as s) (j : Nat) (hp : i.probe j = true) : env.mask i s j = false := by
  rw [mask_eq_history i h j, allowed0_eq_spec i (Or.inl hm), allowed, hp, Bool.not_true, Bool.and_false, Bool.false_and]

/-- MDPP needs no instance contract: `_reset` clears the probing ports itself. -/
theorem mdpp_quota (i : Inst) (hm : i.multi = true) (hq : 1 ≤ i.quota)
    (hc : i.quota ≤ cnt i.n (allowed0 i)) {as : List Nat} {s : State}
    (h : RunND env i (env.reset i) as s) (hd : env.done i s = true) :
    (as.length : Int) = i.quota ∧ as.Nodup ∧
      ∀ a ∈ as, a < i.n ∧ i.avail a = true ∧ i.probe a = false :=
  quota i ⟨hq, hc, Or.inl hm⟩ h hd

/-! #### Single-port DPP on an instance that is not pre-masked — FINDING

`DPPEnv._reset` copies `td["action_mask"]` and never looks at `td["probe"]`.  For an instance whose
mask encodes the keep-out layout only (hand-supplied / dataset instance, probing port given in the
`probe` field) the port is offered and a decap can be placed on it.  `quota` above is the partial
theorem (hypothesis `ProbeMasked`, which the bundled generator establishes). -/

/-- Full statement: whatever the instance mask, a complete DPP episode never uses the probing port. -/
def dpp_probe_free_statement : Prop :=
  ∀ (i : Inst) (as : List Nat) (s : State), i.multi = false → 1 ≤ i.quota →
    i.quota ≤ cnt i.n (allowed0 i) → RunND env i (env.reset i) as s → env.done i s = true →
    ∀ a ∈ as, i.probe a = false

/-- witness: two free cells, cell 0 is the probing port, quota 1: `[0]` is a complete episode -/
def cexUnmasked : Inst := ⟨2, 1, fun _ => true, fun j => j = 0, false⟩

theorem dpp_probe_free_counterexample : ¬ dpp_probe_free_statement := by
  intro h
  have hrun : RunND env cexUnmasked (env.reset cexUnmasked) [0]
      (exec env cexUnmasked (env.reset cexUnmasked) [0]) :=
    .of_admittedND (by decide)
  have := h cexUnmasked [0] _ rfl (by decide) (by decide) hrun (by decide) 0 (by simp)
  exact absurd this (by decide)


/-- **C08 (MDPP), required number**: `MDPPEnv` steps with the quota its generator was configured with,
whatever the default `DPPGenerator` built by the parent constructor says (fix commit 5c8314b of DESIGN §8.1).
`mdppEnvQuota` (`Env/Dpp`) records the constructor's data flow by ignoring its first argument, so this and
`dpp_ctor_quota` hold by `rfl`; what ties them to the code is the harness comparing the constructed environments. -/
theorem mdpp_ctor_quota (dflt given : Int) : mdppEnvQuota dflt given = given := rfl

theorem dpp_ctor_quota (dflt given : Int) : dppEnvQuota dflt given = given := rfl

example : mdppEnvQuota 20 3 = 3 := by decide

/-- Non-vacuity: a 2×2 grid, cell 3 the probing port (cleared in the instance mask), cell 1 keep-out,
quota 2: `[2, 0]` is a complete episode. -/
def exInst : Inst := ⟨4, 2, fun j => j = 0 || j = 2, fun j => j = 3, false⟩
example : WF exInst :=
  ⟨by decide, by decide, Or.inr fun j hj => by rw [show j = 3 from of_decide_eq_true hj]; rfl⟩
example : RunND env exInst (env.reset exInst) [2, 0] (exec env exInst (env.reset exInst) [2, 0]) :=
  .of_admittedND (by decide)
example : env.done exInst (exec env exInst (env.reset exInst) [2, 0]) = true := by decide

end Rl4co.Dpp
