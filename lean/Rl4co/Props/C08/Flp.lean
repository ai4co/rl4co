/-
C08 for FLP: a mask-confined episode selects exactly `to_choose` distinct locations and finishes
exactly when the quota is reached; `distances` (shown to the policy) is always the distance to the
nearest facility selected so far.

FINDING (DESIGN §8): the full statement — for every mask-confined run that the batched loop can
produce, i.e. including steps taken after the row's own `done` while a batch-mate with a larger
`to_choose` is still running — is false: the mask of a finished row is `~chosen`, so the row keeps
selecting.

The family's well-formedness `WF` is defined here (the `View` instance and `feasible_iff_sel` are in `Proofs/SelectViews`).
-/
import Rl4co.Proofs.SelectViews

namespace Rl4co.Flp
open Rl4co.Spec.Flp

def WF (i : Inst) : Prop := 1 ≤ i.quota ∧ i.quota ≤ i.n

theorem WF.room {i : Inst} (hwf : WF i) : (i.quota : Int) ≤ cnt i.n (fun _ => true) := by
  rw [cnt_true]; exact hwf.2

/-- Full statement: whatever mask-confined run leads to a finished state (the batched loop steps a
row as long as *some* row of the batch is unfinished), exactly the quota was selected. -/
def quota_statement : Prop :=
  ∀ (i : Inst) (as : List Nat) (s : State), WF i → Run env i (env.reset i) as s →
    env.done i s = true → (as.length : Int) = i.quota

/-- witness: two locations, quota 1; a batch-mate with quota 2 keeps the loop running one more step -/
def cexInst : Inst := ⟨2, 1, fun a b => if a = b then 0 else 512, fun _ => 2048⟩

theorem quota_counterexample : ¬ quota_statement := by
  intro h
  have hrun : Run env cexInst (env.reset cexInst) [0, 1] (exec env cexInst (env.reset cexInst) [0, 1]) :=
    Run.of_admitted (by decide)
  have := h cexInst [0, 1] _ ⟨by decide, by decide⟩ hrun (by decide)
  exact absurd this (by decide)

theorem feasible_of_run (i : Inst) (hwf : WF i) {as : List Nat} {s : State}
    (h : RunND env i (env.reset i) as s) (hd : env.done i s = true) : Feasible i as :=
  (feasible_iff_sel i as).mpr (Sel.feasible_of_runND view hwf.1 h hd)

/-- **C08 (FLP), quota** — for episodes in which the row is stepped only while it is unfinished (solo
runs and batches whose rows share the quota, see `Rl4co.Flp.no_padding_of_equal_quota` in C04):
exactly `quota` selections, pairwise distinct, all in range. -/
theorem quota_partial (i : Inst) (hwf : WF i) {as : List Nat} {s : State}
    (h : RunND env i (env.reset i) as s) (hd : env.done i s = true) :
    (as.length : Int) = i.quota ∧ as.Nodup ∧ ∀ a ∈ as, a < i.n :=
  have hf := feasible_of_run i hwf h hd
  ⟨hf.len, hf.nodup, hf.range⟩

theorem feasible_exists (i : Inst) (hwf : WF i) : ∃ as, Spec.Flp.Feasible i as :=
  (Sel.exists_feasible view (Int.le_trans (by decide) hwf.1) hwf.room).imp
    fun as h => (feasible_iff_sel i as).mpr h

/-- **C08 (FLP), finish exactly at the quota**: along *any* mask-confined run (padding included) the
row is done iff at least `quota` selections were made; in particular it is not done before. -/
theorem done_iff_quota (i : Inst) (hwf : WF i) {as : List Nat} {s : State}
    (h : Run env i (env.reset i) as s) : env.done i s = true ↔ i.quota ≤ as.length :=
  Sel.done_iff view hwf.1 h

/-- **C08 (FLP), bookkeeping**: after any non-empty mask-confined run (padding included),
`distances[j]` is the distance of `j` from the nearest of the facilities selected so far, as
recomputed from the instance and the action list alone. -/
theorem distances_eq (i : Inst) {as : List Nat} {s : State} (h : Run env i (env.reset i) as s)
    (hne : as ≠ []) (j : Nat) : s.dist j = nearest i as j := by
  have hd : as ≠ [] → s.dist = curMinDist i s.chosen :=
    Rl4co.inv_of_run (e := env) (i := i) (Inv := fun s h => h ≠ [] → s.dist = curMinDist i s.chosen)
      (fun h => absurd rfl h) (fun _ _ _ _ _ _ _ => rfl) h
  rw [hd hne, curMinDist_eq]
  exact minOver_eq_nearest h j

theorem distances_reset (i : Inst) : (env.reset i).dist = i.d0 := rfl

/-- Non-vacuity: a 3-location instance with quota 2; `[2, 0]` is a complete episode, the bookkeeping
after it is `[0, 1, 0]`. -/
example : WF ⟨3, 2, fun a b => ((a : Int) - b) * ((a : Int) - b), fun _ => 9⟩ := ⟨by decide, by decide⟩
example : RunND env ⟨3, 2, fun a b => ((a : Int) - b) * ((a : Int) - b), fun _ => 9⟩
    (env.reset ⟨3, 2, fun a b => ((a : Int) - b) * ((a : Int) - b), fun _ => 9⟩) [2, 0]
    (exec env ⟨3, 2, fun a b => ((a : Int) - b) * ((a : Int) - b), fun _ => 9⟩
      (env.reset ⟨3, 2, fun a b => ((a : Int) - b) * ((a : Int) - b), fun _ => 9⟩) [2, 0]) :=
  .of_admittedND (by decide)
example : (List.range 3).map (exec env ⟨3, 2, fun a b => ((a : Int) - b) * ((a : Int) - b), fun _ => 9⟩
    (env.reset ⟨3, 2, fun a b => ((a : Int) - b) * ((a : Int) - b), fun _ => 9⟩) [2, 0]).dist = [0, 1, 0] := by
  decide

end Rl4co.Flp
