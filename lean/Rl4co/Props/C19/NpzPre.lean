/-
C19 — the npz container with a per-array pre-processing step between `v.numpy()` and `np.savez*` (model:
`Rl4co/Gen/Persist.lean`), e.g. a cast of floating arrays to float32 when `compress=True`.  `npz_load_save` is the round
trip for the code as it is (no pre-processing); here the class of such changes is characterised: the round trip survives
a pre-processing step iff the step changes no stored array (dtype tag, shape, contents).
-/
import Rl4co.Props.C19.Persist
namespace Rl4co.Gen.Persist

/-- `x_dict = {k: pre(v.numpy())}; np.savez*(filename, **x_dict)` -/
def npzSaveWith {α F : Type} (pre : Arr α → Arr α) (c : Codec α F) (td : TDict α) : List (String × F) :=
  td.entries.map (fun e => (e.1, c.enc (pre e.2)))

theorem npzSaveWith_eq {α F : Type} (pre : Arr α → Arr α) (c : Codec α F) (td : TDict α) :
    npzSaveWith pre c td = npzSave c { entries := td.entries.map (fun e => (e.1, pre e.2)), batch := td.batch } := by
  simp [npzSaveWith, npzSave, List.map_map, Function.comp_def]

theorem npzLoad_entries {α F : Type} (c : Codec α F) (file : List (String × F)) (td : TDict α)
    (h : npzLoad c file = some td) : td.entries = file.map (fun e => (e.1, c.dec e.2)) := by
  rw [npzLoad_eq] at h
  obtain ⟨b, _, rfl⟩ := Option.map_eq_some_iff.mp h
  rfl

theorem npz_load_saveWith_iff {α F : Type} (pre : Arr α → Arr α) (c : Codec α F) (td : TDict α)
    (hne : td.entries ≠ []) (hb : ∀ e ∈ td.entries, e.2.shape.head? = some td.batch) :
    npzLoad c (npzSaveWith pre c td) = some td ↔ ∀ e ∈ td.entries, pre e.2 = e.2 := by
  constructor
  · intro h
    have he := npzLoad_entries c _ td h
    rw [npzSaveWith_eq, npzSave_dec] at he
    intro e hmem
    exact congrArg Prod.snd (List.map_inj_left.mp (he.symm.trans (List.map_id _).symm) e hmem)
  · intro h
    rw [show npzSaveWith pre c td = npzSave c td from List.map_congr_left fun e hmem => by rw [h e hmem]]
    exact npz_load_save c td hne hb

/-- a float32 down-cast on dtype tags: `float64 ↦ float32`, everything else untouched -/
def downcast {α : Type} (a : Arr α) : Arr α := if a.dtype = "float64" then { a with dtype := "float32" } else a

theorem npz_downcast_counterexample {F : Type} (c : Codec Nat F) :
    npzLoad c (npzSaveWith downcast c { entries := [("locs", { dtype := "float64", shape := [1, 2], data := [3, 4] })], batch := 1 })
      ≠ some { entries := [("locs", { dtype := "float64", shape := [1, 2], data := [3, 4] })], batch := 1 } := by
  intro h
  have := (npz_load_saveWith_iff downcast c _ (by simp) (by simp)).mp h
    ("locs", { dtype := "float64", shape := [1, 2], data := [3, 4] }) (by simp)
  simp [downcast] at this

/-- the down-cast is invisible on the library's own float32 generators: only a float64 instance exposes it -/
theorem npz_downcast_invisible {α F : Type} (c : Codec α F) (td : TDict α) (hne : td.entries ≠ [])
    (hb : ∀ e ∈ td.entries, e.2.shape.head? = some td.batch) (h32 : ∀ e ∈ td.entries, e.2.dtype ≠ "float64") :
    npzLoad c (npzSaveWith downcast c td) = some td :=
  (npz_load_saveWith_iff downcast c td hne hb).mpr (fun e hmem => by simp [downcast, h32 e hmem])

end Rl4co.Gen.Persist
