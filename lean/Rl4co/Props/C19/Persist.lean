/-
C19, persistence round trips over the models of `Rl4co/Gen/Persist.lean`: the FJSP / JSSP scheduling file formats, `CVRPEnv.load_data`
against the dataset writer `generate_vrp_data`, the npz container (numpy's own round trip is the trusted `Codec`),
`__getstate__` / `__setstate__`, and the checkpoint key mapping of the PolyNet warm start.  pickle / torch.save byte formats
are not modelled (C19 is partial; see the unit's assumptions).
-/
import Rl4co.Gen.Persist
import Mathlib.Tactic.NormNum
import Mathlib.Algebra.Order.Field.Rat
namespace Rl4co.Gen.Persist
open Rl4co.Gen

/-- operations `start, start + 1, …` grouped into consecutive jobs of sizes `ns`, operation `op` carrying `F op` -/
def perJob {β : Type} (F : Nat → β) : Nat → List Nat → List (List β)
  | _, [] => []
  | start, n :: ns => (List.range' start n).map F :: perJob F (start + n) ns

theorem perJob_lengths {β : Type} (F : Nat → β) : ∀ (ns : List Nat) (start : Nat),
    (perJob F start ns).map List.length = ns
  | [], _ => rfl
  | n :: ns, start => by simp [perJob, perJob_lengths F ns (start + n)]

theorem perJob_flatten {β : Type} (F : Nat → β) : ∀ (ns : List Nat) (start : Nat),
    (perJob F start ns).flatten = (List.range' start ns.sum).map F
  | [], _ => rfl
  | n :: ns, start => by
    rw [perJob, List.flatten_cons, perJob_flatten F ns (start + n), List.sum_cons, ← List.range'_append_1, List.map_append]

theorem flatMap_range_add {β : Type} (G : Nat → List β) (start n : Nat) :
    (List.range n).flatMap (fun k => G (start + k)) = (List.range' start n).flatMap G := by
  rw [List.range'_eq_map_range, List.flatMap_map]

/-- what a reader sees of operation `op`: `(machine id + 1, duration)` for the machines `ms op`
(FJSP: the eligible machines; JSSP: the one machine of the operation) -/
def opPairs (ms : Nat → List Nat) (g : Nat → Nat → Nat) (op : Nat) : List (Nat × Nat) :=
  (ms op).map (fun m => (m + 1, g m op))

theorem rowOf_succ {M m : Nat} (h : m < M) : rowOf M (m + 1) = some m := by
  rw [rowOf, if_neg (Nat.succ_ne_zero m), if_pos (Nat.succ_le_of_lt h)]
  rfl

theorem storeOp_pairs (M op : Nat) (g : Nat → Nat) : ∀ (ms : List Nat) (f : Nat → Nat → Nat), (∀ m ∈ ms, m < M) →
    storeOp M op (ms.map (fun m => (m + 1, g m))) f
      = some (fun m' op' => if op' = op ∧ m' ∈ ms then g m' else f m' op')
  | [], f, _ => by simp [storeOp]
  | m :: ms, f, h => by
    rw [List.map_cons, storeOp, rowOf_succ (h m List.mem_cons_self)]
    show storeOp M op (ms.map (fun m => (m + 1, g m))) (upd2 f m op (g m)) = _
    rw [storeOp_pairs M op g ms _ (fun x hx => h x (List.mem_cons_of_mem _ hx))]
    congr 1
    funext m' op'
    by_cases hm : m' = m
    · subst hm
      by_cases ho : op' = op
      · simp only [upd2, ho, List.mem_cons_self, and_self, if_true, ite_self]
      · simp only [upd2, ho, false_and, and_false, if_false]
    · simp only [upd2, List.mem_cons, hm, false_or, false_and, if_false]

theorem storeOps_range (M : Nat) (ms : Nat → List Nat) (g : Nat → Nat → Nat) (hms : ∀ op, ∀ m ∈ ms op, m < M) :
    ∀ (k cnt : Nat) (f : Nat → Nat → Nat),
    storeOps M cnt ((List.range' cnt k).map (opPairs ms g)) f
      = some (fun m' op' => if op' ∈ List.range' cnt k ∧ m' ∈ ms op' then g m' op' else f m' op')
  | 0, cnt, f => by simp [storeOps]
  | k + 1, cnt, f => by
    rw [List.range'_succ, List.map_cons, storeOps, opPairs, storeOp_pairs M cnt (fun m => g m cnt) (ms cnt) f (hms cnt)]
    simp only []
    rw [storeOps_range M ms g hms k (cnt + 1)]
    congr 1
    funext m' op'
    by_cases ho : op' = cnt
    · subst ho
      by_cases hm : m' ∈ ms op'
      · simp only [hm, and_true, List.mem_cons_self, if_true, ite_self]
      · simp only [hm, and_false, if_false]
    · simp only [List.mem_cons, ho, false_or, false_and, if_false]

theorem storeOps_all (M : Nat) (ms : Nat → List Nat) (g : Nat → Nat → Nat) (hms : ∀ op, ∀ m ∈ ms op, m < M) (n : Nat) :
    storeOps M 0 ((List.range' 0 n).map (opPairs ms g)) (fun _ _ => 0)
      = some (fun m' op' => if op' < n ∧ m' ∈ ms op' then g m' op' else 0) := by
  rw [storeOps_range M ms g hms, ← List.range_eq_range']
  simp only [List.mem_range]

theorem takePairs_encode (g : Nat → Nat) (ms : List Nat) (rest : List Nat) :
    takePairs ms.length (ms.flatMap (fun m => [m + 1, g m]) ++ rest) = (ms.map (fun m => (m + 1, g m)), rest) := by
  induction ms with
  | nil => rfl
  | cons m ms ih => simp [takePairs, ih]

theorem parseOps_encode (M : Nat) (proc : Nat → Nat → Nat) : ∀ (n start : Nat),
    parseOps n ((List.range' start n).flatMap (encodeOp M proc))
      = some ((List.range' start n).map (opPairs (eligible M proc) proc))
  | 0, _ => rfl
  | n + 1, start => by
    rw [List.range'_succ, List.flatMap_cons, List.map_cons, encodeOp, List.cons_append, parseOps,
      takePairs_encode, parseOps_encode M proc n (start + 1)]
    rfl

theorem parseJobLine_encode (M : Nat) (proc : Nat → Nat → Nat) (start n : Nat) :
    parseJobLine (encodeJob M proc start n) = some ((List.range' start n).map (opPairs (eligible M proc) proc)) := by
  rw [encodeJob, parseJobLine, flatMap_range_add, parseOps_encode]

theorem mapM_parse_encode (M : Nat) (proc : Nat → Nat → Nat) : ∀ (ns : List Nat) (start : Nat),
    (encodeJobs M proc start ns).mapM parseJobLine = some (perJob (opPairs (eligible M proc) proc) start ns)
  | [], _ => rfl
  | n :: ns, start => by
    simp [encodeJobs, perJob, parseJobLine_encode, mapM_parse_encode M proc ns (start + n)]

theorem mem_eligible {M : Nat} {proc : Nat → Nat → Nat} {op m : Nat} : m ∈ eligible M proc op ↔ m < M ∧ 0 < proc m op := by
  simp [eligible]

theorem encodeJobs_ne_nil (M : Nat) (proc : Nat → Nat → Nat) (start : Nat) {ns : List Nat} (h : ns ≠ []) :
    encodeJobs M proc start ns ≠ [] := by
  cases ns with
  | nil => exact absurd rfl h
  | cons n ns => simp [encodeJobs]

theorem fjspRead_eq (nj nm : Nat) (hdr : List Nat) (lines : List (List Nat)) (jobs : List (List (List (Nat × Nat))))
    (proc : Nat → Nat → Nat) (hne : lines ≠ []) (hp : lines.mapM parseJobLine = some jobs)
    (hs : storeOps nm 0 jobs.flatten (fun _ _ => 0) = some proc) :
    fjspRead ((nj :: nm :: hdr) :: lines)
      = some { numJobs := nj, numMas := nm, nOps := jobs.map List.length, proc := proc } := by
  have : lines.isEmpty = false := by simpa using hne
  simp only [fjspRead, this, Bool.false_eq_true, if_false, hp, hs]

/-- **fjsp_read_write**: reading a file written from an instance gives the instance back (token level, up to the
`max_ops` zero padding), for every instance with at least one job. -/
theorem fjsp_read_write (i : Inst) (flex : Nat) (hjobs : i.nOps ≠ []) :
    ∃ out, fjspRead (fjspWrite i flex) = some out ∧ out.numJobs = i.nOps.length ∧ out.numMas = i.numMas ∧
      out.nOps = i.nOps ∧
      ∀ m op, out.proc m op = if m < i.numMas ∧ op < i.total then i.proc m op else 0 := by
  have hs := storeOps_all i.numMas (eligible i.numMas i.proc) i.proc (fun op m hm => (mem_eligible.mp hm).1) i.nOps.sum
  rw [← perJob_flatten _ i.nOps 0] at hs
  refine ⟨_, fjspRead_eq _ _ _ _ _ _ (encodeJobs_ne_nil _ _ 0 hjobs) (mapM_parse_encode _ _ _ 0) hs, rfl, rfl,
    perJob_lengths _ _ 0, fun m op => ?_⟩
  dsimp only
  by_cases hc : m < i.numMas ∧ op < i.total
  · rw [if_pos hc]
    by_cases h0 : 0 < i.proc m op
    · exact if_pos ⟨hc.2, mem_eligible.mpr ⟨hc.1, h0⟩⟩
    · rw [Nat.eq_zero_of_not_pos h0]
      exact ite_self 0
  · rw [if_neg hc]
    exact if_neg fun h => hc ⟨(mem_eligible.mp h.2).1, h.1⟩

/-- non-vacuity: a 2-job, 2-machine instance, its file and the file read back -/
def exInst : Inst := { numMas := 2, nOps := [2, 1], proc := fun m o => if m = 0 then [3, 0, 5].getD o 0 else [0, 4, 6].getD o 0 }
example : fjspWrite exInst 1 = [[2, 2, 1], [2, 1, 1, 3, 1, 2, 4], [1, 2, 1, 5, 2, 6]] := by decide
example : (fjspRead (fjspWrite exInst 1)).map (fun o => o.nOps ++ [o.numJobs, o.numMas, o.proc 0 2, o.proc 1 2, o.proc 1 0, o.proc 0 7])
    = some [2, 1, 2, 2, 5, 6, 0, 0] := by decide
/-- a malformed line (operation count larger than what follows) is an error, as `parse_job_line`'s IndexError -/
example : (fjspRead [[1, 2, 0], [2, 1, 1, 3]]).isNone = true := by decide

theorem jParse_encode {α : Type} (f g : α → Nat) (l : List α) :
    jParseJobLine (l.flatMap (fun a => [f a, g a])) = some (l.map (fun a => (f a, g a))) := by
  induction l with
  | nil => rfl
  | cons a l ih => simp [jParseJobLine, ih]

theorem jParseJobLine_encode (i : JInst) (start n : Nat) :
    jParseJobLine (jEncodeJob i start n) = some ((List.range' start n).map (fun op => (i.ma op + 1, i.dur op))) := by
  rw [jEncodeJob, flatMap_range_add (fun op => [i.ma op + 1, i.dur op]), jParse_encode]

theorem jMapM (i : JInst) : ∀ (ns : List Nat) (start : Nat),
    (jEncodeJobs i start ns).mapM jParseJobLine = some (perJob (fun op => (i.ma op + 1, i.dur op)) start ns)
  | [], _ => rfl
  | n :: ns, start => by
    simp [jEncodeJobs, perJob, jParseJobLine_encode, jMapM i ns (start + n)]

theorem jEncodeJobs_ne_nil (i : JInst) (start : Nat) {ns : List Nat} (h : ns ≠ []) : jEncodeJobs i start ns ≠ [] := by
  cases ns with
  | nil => exact absurd rfl h
  | cons n ns => simp [jEncodeJobs]

theorem jsspRead_eq (nj nm : Nat) (hdr : List Nat) (lines : List (List Nat)) (jobs : List (List (Nat × Nat)))
    (proc : Nat → Nat → Nat) (hne : lines ≠ []) (hp : lines.mapM jParseJobLine = some jobs)
    (hs : storeOps nm 0 (jobs.flatten.map (fun p => [p])) (fun _ _ => 0) = some proc) :
    jsspRead ((nj :: nm :: hdr) :: lines)
      = some { numJobs := nj, numMas := nm, nOps := jobs.map List.length, proc := proc } := by
  have : lines.isEmpty = false := by simpa using hne
  simp only [jsspRead, this, Bool.false_eq_true, if_false, hp, hs]

/-- **jssp_read_write**: a JSSP instance written in the format the parser documents (pairs `<machine> <time>`,
machines 1-based) is read back unchanged. -/
theorem jssp_read_write (i : JInst) (hma : ∀ op, i.ma op < i.numMas) (hjobs : i.nOps ≠ []) :
    ∃ out, jsspRead (jsspWrite i) = some out ∧ out.numJobs = i.nOps.length ∧ out.numMas = i.numMas ∧
      out.nOps = i.nOps ∧ ∀ m op, out.proc m op = if op < i.nOps.sum then i.proc m op else 0 := by
  have hs := storeOps_all i.numMas (fun op => [i.ma op]) (fun _ op => i.dur op)
    (fun op m hm => List.mem_singleton.mp hm ▸ hma op) i.nOps.sum
  have hflat : (List.range' 0 i.nOps.sum).map (opPairs (fun op => [i.ma op]) (fun _ op => i.dur op))
      = ((perJob (fun op => (i.ma op + 1, i.dur op)) 0 i.nOps).flatten).map (fun p => [p]) := by
    rw [perJob_flatten, List.map_map]
    rfl
  rw [hflat] at hs
  refine ⟨_, jsspRead_eq _ _ _ _ _ _ (jEncodeJobs_ne_nil i 0 hjobs) (jMapM i _ 0) hs, rfl, rfl,
    perJob_lengths _ _ 0, fun m op => ?_⟩
  dsimp only [JInst.proc]
  by_cases hc : op < i.nOps.sum
  · rw [if_pos hc]
    exact if_congr ⟨fun h => List.mem_singleton.mp h.2, fun h => ⟨hc, List.mem_singleton.mpr h⟩⟩ rfl rfl
  · rw [if_neg hc]
    exact if_neg fun h => hc h.1

/-- **load_data_demand**: `CVRPEnv.load_data` turns a raw demand `d` into the fraction `d / capacity` -/
theorem load_data_demand (demand : List Int) (cap : Frac) (j : Nat) (hj : j < demand.length) (hc : 0 < cap.1) :
    ∃ f, (loadDemand demand cap)[j]? = some f ∧ f.1 * cap.1 = demand[j] * cap.2 * (f.2 : Int) := by
  refine ⟨(demand[j] * cap.2, cap.1.toNat), by simp [loadDemand, hj], ?_⟩
  simp only []
  rw [Int.toNat_of_nonneg (Int.le_of_lt hc)]

/-- a dataset written by `generate_vrp_data` (raw demands `1..9`, table capacity) is normalised into (0, 1] -/
theorem load_data_demand_le_one (d : Int) (cap : Frac) (hd : 1 ≤ d ∧ d ≤ 9) (hc : 9 * (cap.2 : Int) ≤ cap.1) (h2 : 0 < cap.2) :
    0 < d * cap.2 ∧ d * cap.2 ≤ cap.1 := by
  have h2' : (0 : Int) < (cap.2 : Int) := Int.natCast_pos.mpr h2
  exact ⟨Int.mul_pos (by omega) h2', Int.le_trans (Int.mul_le_mul_of_nonneg_right hd.2 (Int.le_of_lt h2')) hc⟩

/-- C19 for "generator → save → env loader" as stated: the loaded demand equals the generated one -/
def load_after_generator_statement : Prop :=
  ∀ (d : Int) (cap : Frac), 0 < d → 0 < cap.1 → 0 < cap.2 → loadAfterGenerator d cap = generatorDemand d cap

/-- it fails whenever the capacity is not 1: the loader divides a second time -/
theorem load_after_generator_counterexample : ¬ load_after_generator_statement := by
  intro h
  have := h 3 (30, 1) (by decide) (by decide) (by decide)
  norm_num [loadAfterGenerator, generatorDemand] at this

theorem load_after_generator_partial (d : Int) : loadAfterGenerator d (1, 1) = generatorDemand d (1, 1) := by
  norm_num [loadAfterGenerator, generatorDemand]

/-- **load_data_per_row**: `CVRPEnv.load_data` divides every row of a dataset file by that row's own capacity
(obligation on the extracted divisor `capacity[:, None]`), whatever the other rows' capacities are -/
theorem load_data_per_row (rows : List (List Int × Frac)) (k : Nat) (hk : k < rows.length) :
    (loadRows rows)[k]? = some (loadDemand rows[k].1 rows[k].2) := by
  have hflag : Params.genLoadDataPerRow = true := by decide
  simp [loadRows, loadRowsWith, hflag, hk]

/-- the batch-global shortcut is a different function as soon as two rows carry different capacities -/
example : loadRowsWith false [([4], (8, 1)), ([4], (16, 1))] ≠ loadRowsWith true [([4], (8, 1)), ([4], (16, 1))] := by decide

theorem updTable_nil (tbl : CapTable) : updTable tbl [] = tbl := by
  simp [updTable]

theorem vrpCallsWith_local (tbl : CapTable) : ∀ calls : List (CapTable × Nat),
    vrpCallsWith true tbl calls = calls.map (fun c => (updTable tbl c.1).lookup c.2)
  | [] => rfl
  | (ov, n) :: cs => by simp [vrpCallsWith, vrpCall, vrpCallsWith_local tbl cs]

/-- **vrp_calls_independent**: the capacity `generate_vrp_data` writes is a function of that call's own arguments —
`lookup vrp_size (override applied to the table)` — whatever calls (with whatever overrides) preceded it in the process
(obligation on the source: the table the override loop updates is a local of the call) -/
theorem vrp_calls_independent (calls : List (CapTable × Nat)) :
    vrpCalls calls = calls.map (fun c => (updTable Params.genDataVrpCapacities c.1).lookup c.2) := by
  have h : Params.genDataVrpTableLocal = true := by decide
  simp only [vrpCalls, h]
  exact vrpCallsWith_local _ calls

theorem default_call_after_history (hist : List (CapTable × Nat)) (n : Nat) :
    (vrpCalls (hist ++ [([], n)])).getLast? = some (Params.genDataVrpCapacities.lookup n) := by
  rw [vrp_calls_independent]
  simp [updTable_nil]

theorem vrpCall_table_unchanged (tbl ov : CapTable) (n : Nat) : (vrpCall true tbl ov n).2 = tbl := rfl

/-- with a shared (module-level) table an override leaks into the next default call — the behaviour the obligation excludes -/
example : vrpCallsWith false [(20, (30, 1))] [([(20, (60, 1))], 20), ([], 20)] = [some (60, 1), some (60, 1)] := by decide
example : vrpCallsWith true [(20, (30, 1))] [([(20, (60, 1))], 20), ([], 20)] = [some (60, 1), some (30, 1)] := by decide
/-- an override for a size that is not a table key is ignored, and such a size cannot be written (`KeyError`) -/
example : vrpCallsWith true [(20, (30, 1))] [([(21, (60, 1))], 20), ([(21, (60, 1))], 21)] = [some (30, 1), none] := by decide

theorem npzBatch_of_uniform (shapes : List (List Nat)) (b : Nat) (hne : shapes ≠ [])
    (h : ∀ sh ∈ shapes, sh.head? = some b) : npzBatch shapes = some b := by
  obtain ⟨s0, ss, rfl⟩ := List.exists_cons_of_ne_nil hne
  obtain ⟨r, rfl⟩ : ∃ r, s0 = b :: r := by
    have h0 := h s0 List.mem_cons_self
    cases s0 with
    | nil => cases h0
    | cons b0 r => exact ⟨r, by rw [Option.some.inj h0]⟩
  rw [npzBatch, if_pos (List.all_eq_true.mpr fun sh hs => beq_iff_eq.mpr (h sh hs))]

/-- what makes `npzBatch`, which the driver evaluates on the shapes of real files, the shape-level view of `npzLoad` -/
theorem npzLoad_eq {α F : Type} (c : Codec α F) (file : List (String × F)) :
    npzLoad c file = (npzBatch ((file.map fun e => (e.1, c.dec e.2)).map (·.2.shape))).map
      fun b => { entries := file.map fun e => (e.1, c.dec e.2), batch := b } := by
  cases file with
  | nil => rfl
  | cons e es =>
    simp only [npzLoad, npzBatch, List.map_cons]
    cases hs : (c.dec e.2).shape with
    | nil => rfl
    | cons b r =>
      simp only [hs, List.all_cons, List.all_map, Function.comp_def, apply_ite (Option.map _), Option.map_some,
        Option.map_none]

theorem npzSave_dec {α F : Type} (c : Codec α F) (td : TDict α) :
    (npzSave c td).map (fun e => (e.1, c.dec e.2)) = td.entries := by
  simp [npzSave, List.map_map, Function.comp_def, c.dec_enc]

/-- **npz_load_save**: for the container model, `load_npz_to_tensordict (save_tensordict_to_npz td) = td` for every non-empty
TensorDict whose entries all have the batch size as leading dimension (which TensorDict guarantees) -/
theorem npz_load_save {α F : Type} (c : Codec α F) (td : TDict α) (hne : td.entries ≠ [])
    (hb : ∀ e ∈ td.entries, e.2.shape.head? = some td.batch) : npzLoad c (npzSave c td) = some td := by
  rw [npzLoad_eq, npzSave_dec, npzBatch_of_uniform _ td.batch (by simpa using hne)
    (fun sh hs => by obtain ⟨e, he, rfl⟩ := List.mem_map.mp hs; exact hb e he)]
  rfl

/-- an empty TensorDict cannot be re-loaded (`list(x_dict.keys())[0]` raises) -/
theorem npz_load_empty {α F : Type} (c : Codec α F) (b : Nat) : npzLoad c (npzSave c ({ entries := [], batch := b } : TDict α)) = none := rfl

/-- **setstate_getstate**: restoring a pickled environment gives back the attribute dictionary, and the
generator is in the pickled state, provided `set_state` overwrites whatever state the freshly seeded generator had -/
theorem setstate_getstate {V R : Type} (seed0 : R) (setState : R → R → R) (hset : ∀ g s, setState g s = s)
    (e : EnvObj V R) : setstate seed0 setState (getstate e) = e := by
  cases e
  simp [setstate, getstate, hset]

/-- **setstate_getstate_extracted**: with the statements found in the source (`state = self.__dict__.copy()`,
`self.__dict__.update(state)`, `self.rng.set_state(state["rng"])` — obligations on the extracted flags) pickling and
restoring is the identity on the whole attribute dictionary and the generator state -/
theorem setstate_getstate_extracted {V R : Type} (seed0 : R) (setState : R → R → R) (hset : ∀ g s, setState g s = s)
    (e : EnvObj V R) :
    setstateP Params.genSetstateUpdatesDict Params.genSetstateRestoresRng seed0 setState
      (getstateP Params.genGetstateCopiesDict e) = e := by
  have h : Params.genSetstateUpdatesDict = true ∧ Params.genSetstateRestoresRng = true ∧ Params.genGetstateCopiesDict = true ∧
      Params.genGetstateRngToState = true := by decide   -- the last token has no switch in the model: `Pickled.rngState` is the state
  rw [h.1, h.2.1, h.2.2.1]
  exact setstate_getstate seed0 setState hset e

/-- each of the three statements is needed -/
example : (setstateP (V := Nat) (R := Nat) true false 0 (fun _ s => s) (getstateP true ⟨[("a", 1)], 7⟩)).rng ≠ 7 := by decide
example : (setstateP (V := Nat) (R := Nat) false true 0 (fun _ s => s) (getstateP true ⟨[("a", 1)], 7⟩)).dict ≠ [("a", 1)] := by decide
example : (setstateP (V := Nat) (R := Nat) true true 0 (fun _ s => s) (getstateP false ⟨[("a", 1)], 7⟩)).dict ≠ [("a", 1)] := by decide

theorem stripFirst_prefix (pat k : List Char) (hp : pat ≠ []) : stripFirst pat (pat ++ k) = k := by
  obtain ⟨p, ps, rfl⟩ := List.exists_cons_of_ne_nil hp
  have : (p :: ps).isPrefixOf (p :: (ps ++ k)) = true :=
    List.isPrefixOf_iff_prefix.mpr (List.prefix_append (p :: ps) k)
  rw [List.cons_append, stripFirst, if_pos this, ← List.cons_append, List.drop_left]

theorem stripFirst_skip (p : Char) (ps pre rest : List Char) (h : ∀ c ∈ pre, c ≠ p) :
    stripFirst (p :: ps) (pre ++ rest) = pre ++ stripFirst (p :: ps) rest := by
  induction pre with
  | nil => rfl
  | cons c cs ih =>
    have hpre : (p :: ps).isPrefixOf (c :: (cs ++ rest)) = false := by
      simp [List.isPrefixOf, Ne.symm (h c List.mem_cons_self)]
    rw [List.cons_append, stripFirst, hpre, if_neg Bool.false_ne_true, ih fun x hx => h x (List.mem_cons_of_mem _ hx),
      List.cons_append]

/-- the pattern character by character; literals are turned into character lists by `String.toList_ofList`
(evaluating `String.toList` on a literal goes through the UTF-8 encoding and is slow) -/
theorem policyPat_eq : policyPat = ['p', 'o', 'l', 'i', 'c', 'y', '.'] := String.toList_ofList

theorem strip_after (pre name : List Char) (h : ∀ c ∈ pre, c ≠ 'p') :
    stripFirst policyPat (pre ++ (policyPat ++ name)) = pre ++ name := by
  rw [policyPat_eq, stripFirst_skip _ _ _ _ h, stripFirst_prefix _ _ (List.cons_ne_nil _ _)]

theorem strip_policy (name : List Char) : stripFirst policyPat (policyPat ++ name) = name := by
  have := strip_after [] name (fun _ h => nomatch h)
  rwa [List.nil_append, List.nil_append] at this

theorem strip_policy_injective (a b : List Char)
    (h : stripFirst policyPat (policyPat ++ a) = stripFirst policyPat (policyPat ++ b)) : a = b := by
  rwa [strip_policy, strip_policy] at h

/-- **baseline keys**: the greedy-rollout baseline's frozen copy `baseline.baseline.policy.<name>` is mapped to
`baseline.baseline.<name>` — it keeps its `baseline.` prefix -/
theorem strip_baseline (name : List Char) :
    stripFirst policyPat ("baseline.baseline.".toList ++ (policyPat ++ name)) = "baseline.baseline.".toList ++ name :=
  strip_after _ name (by rw [String.toList_ofList]; decide)

/-- hence a baseline tensor can never land on a policy parameter (whose name does not begin with `baseline.`) -/
theorem baseline_not_onto_policy (a b : List Char) (hb : ¬ "baseline.".toList <+: b) :
    stripFirst policyPat ("baseline.baseline.".toList ++ (policyPat ++ a)) ≠ stripFirst policyPat (policyPat ++ b) := by
  rw [strip_baseline, strip_policy]
  intro h
  apply hb
  rw [← h]
  refine ⟨"baseline.".toList ++ a, ?_⟩
  rw [← List.append_assoc, String.toList_ofList, String.toList_ofList]
  rfl

theorem mapKeyWith_true (pre name : String) (h : ∀ c ∈ pre.toList, c ≠ 'p') :
    mapKeyWith true (pre ++ ("policy." ++ name)) = pre ++ name := by
  rw [mapKeyWith, if_pos rfl, String.toList_append, String.toList_append]
  show String.ofList (stripFirst policyPat (pre.toList ++ (policyPat ++ name.toList))) = _
  rw [strip_after _ _ h, String.ofList_append, String.ofList_toList, String.ofList_toList]

theorem mapKey_eq (k : String) : mapKey k = mapKeyWith true k := by
  have hflag : Params.genPolynetKeyMapReplaceFirst = true := by decide   -- obligation on the extracted form
  rw [mapKey, hflag]

/-- **warm_start_keys**: the mapping as coded (obligation on the extracted form `k.replace("policy.", "", 1)`): a policy key
`policy.<name>` goes to `<name>`, the rollout baseline's `baseline.baseline.policy.<name>` to `baseline.baseline.<name>` -/
theorem warm_start_keys (name : String) :
    mapKey ("policy." ++ name) = name ∧ mapKey ("baseline.baseline.policy." ++ name) = "baseline.baseline." ++ name := by
  rw [mapKey_eq, mapKey_eq]
  constructor
  · have := mapKeyWith_true "" name (fun _ h => nomatch h)
    rwa [String.empty_append, String.empty_append] at this
  · have h : "baseline.baseline.policy." = "baseline.baseline." ++ "policy." := by
      apply String.toList_injective
      rw [String.toList_append, String.toList_ofList, String.toList_ofList, String.toList_ofList]
      rfl
    rw [h, String.append_assoc]
    exact mapKeyWith_true "baseline.baseline." name (by rw [String.toList_ofList]; decide)

/-- evaluating the mapping on a literal key happens on its characters -/
theorem mapKeyWith_eq_of (b : Bool) (cs out : List Char)
    (h : (if b then stripFirst policyPat cs else afterFirst policyPat cs) = out) :
    mapKeyWith b (String.ofList cs) = String.ofList out := by
  rw [mapKeyWith, String.toList_ofList, h]

theorem mapKeyWith_true_encoder :
    mapKeyWith true "policy.encoder.w" = "encoder.w" ∧
    mapKeyWith true "baseline.baseline.policy.encoder.w" = "baseline.baseline.encoder.w" :=
  ⟨mapKeyWith_eq_of _ _ _ (by rw [policyPat_eq]; decide), mapKeyWith_eq_of _ _ _ (by rw [policyPat_eq]; decide)⟩

/-- the `split(…)[-1]` form collapses the baseline's copy onto the policy's key: the later entry of the checkpoint silently
overwrites the trained policy tensor — the behaviour the obligation excludes -/
example : mapKeyWith false "policy.encoder.w" = "encoder.w" ∧ mapKeyWith false "baseline.baseline.policy.encoder.w" = "encoder.w" :=
  ⟨mapKeyWith_eq_of _ _ _ (by rw [policyPat_eq]; decide), mapKeyWith_eq_of _ _ _ (by rw [policyPat_eq]; decide)⟩
example : mapKeyWith true "policy.encoder.w" = "encoder.w" ∧ mapKeyWith true "baseline.baseline.policy.encoder.w" = "baseline.baseline.encoder.w" :=
  mapKeyWith_true_encoder
/-- with the coded mapping the tensor restored into `encoder.w` is the policy's, whatever the order of the checkpoint -/
example : sourceOf ["policy.encoder.w", "baseline.baseline.policy.encoder.w"] "encoder.w" = some "policy.encoder.w" := by
  have hne : ("baseline.baseline.encoder.w" == "encoder.w") = false := by decide
  rw [sourceOf, List.filter_cons, List.filter_cons, List.filter_nil, mapKey_eq, mapKey_eq, mapKeyWith_true_encoder.1,
    mapKeyWith_true_encoder.2, hne, beq_self_eq_true, if_pos rfl, if_neg Bool.false_ne_true]
  rfl

end Rl4co.Gen.Persist
