/-
C09, moves of the bundled improvement policies (DACT, N2S, NeuOpt): the DECODING of a move from what the
decoding strategy selects is modelled (`dactMask`, `dactMove`, `n2sReinsertMaskFlat`, `n2sMove`, the k-opt builder);
the networks stay uninterpreted.  Given only "the selected index has a true mask entry" (C10), every emitted move is
admitted by the environment and keeps the tour valid.
-/
import Rl4co.Props.C09.ImproveCode

namespace Rl4co.Improve.Policy
open Rl4co.Spec.Improve

/-- translator obligations: both policies assemble the pair as `(k // seq_length, k % seq_length)`; N2S asks the
environment for the mask of pickup node `action_removal + 1` -/
theorem decode_ok : Params.improveDactDecodeDivFirst = true ∧ Params.improveN2sDecodeDivFirst = true ∧
    Params.improveN2sMaskPairOffset = 1 := by decide

/-- **C09 (DACT).**  Whatever the network computes: if the decoding strategy selects a flat index whose entry in
the mask DACT hands over is true, the emitted move `(k // n, k % n)` is in range and admitted by the
environment's `get_mask`. -/
theorem dact_move_admitted (n : Nat) (last : Option (Nat × Nat)) (k : Nat) (hk : k < n * n)
    (hm : dactMaskFlat n last k = true) :
    (Code.dactMove n k).1 < n ∧ (Code.dactMove n k).2 < n ∧
    mask2 (Code.dactMove n k).1 (Code.dactMove n k).2 = true := by
  simp only [Code.dactMove, dactMove, decodePair, decode_ok.1, if_true]
  simp only [dactMaskFlat, dactMask, Bool.and_eq_true] at hm
  exact ⟨div_lt_of_lt_mul_right hk, mod_lt_of_lt_mul hk, hm.1⟩

/-- … and DACT never repeats its previous move (in either orientation) -/
theorem dact_move_fresh (n : Nat) (a b k : Nat) (hm : dactMaskFlat n (some (a, b)) k = true) :
    Code.dactMove n k ≠ (a, b) ∧ Code.dactMove n k ≠ (b, a) := by
  simp only [Code.dactMove, dactMove, decodePair, decode_ok.1, if_true]
  simp only [dactMaskFlat, dactMask, Bool.and_eq_true, Bool.not_eq_true', Bool.or_eq_false_iff,
    beq_eq_false_iff_ne, ne_eq, Option.some.injEq] at hm
  refine ⟨fun e => hm.2.1 e.symm, fun e => hm.2.2 ?_⟩
  rw [Prod.mk.injEq] at e ⊢
  exact ⟨e.2.symm, e.1.symm⟩

/-- **C09 (DACT keeps tours valid).** -/
theorem dact_preserves (n : Nat) (r : Rec) (ht : IsTour r n) (last : Option (Nat × Nat)) (k : Nat)
    (hk : k < n * n) (hm : dactMaskFlat n last k = true) :
    IsTour (Code.localOp2 n r (Code.dactMove n k).1 (Code.dactMove n k).2) n := by
  obtain ⟨h1, h2, h3⟩ := dact_move_admitted n last k hk hm
  exact Code.twoOpt_preserves n r _ _ h1 h2 (mask2_iff.mp h3) ht

/-- **C09 (N2S).**  If the removal stage selects a pair index `pi < gs/2` and the reinsertion stage a flat index
whose entry in `env.get_mask(pi + 1, td).view(-1)` is true, the emitted move `(pi, k // gs, k % gs)` is admitted by
the environment's mask for that pair. -/
theorem n2s_move_admitted (gs : Nat) (r : Rec) (pi k : Nat) (hpi : pi < gs / 2) (hk : k < gs * gs)
    (hm : Code.n2sReinsertMaskFlat gs (visitedTime gs r) pi k = true) :
    PdpRR.Adm gs r (Code.n2sMove gs pi k) := by
  simp only [Code.n2sMove, n2sMove, decodePair, decode_ok.2.1, if_true]
  simp only [Code.n2sReinsertMaskFlat, n2sReinsertMaskFlat, decode_ok.2.2] at hm
  -- what is left of `hm` is the executed mask `Code.pdpMask` at pickup node `pi + 1`
  exact ⟨hpi, div_lt_of_lt_mul_right hk, mod_lt_of_lt_mul hk, (Code.pdpMask_eq gs _ (pi + 1) _ _).symm.trans hm⟩

/-- **C09 (N2S keeps PDP tours valid).** stated on the model `pdpLocalOp`, which is the executed `Code.pdpLocalOp`
(`Code.pdpLocalOp_eq`) -/
theorem n2s_preserves (gs : Nat) (r : Rec) (hodd : gs % 2 = 1) (hv : PdpValid r gs) (pi k : Nat)
    (hpi : pi < gs / 2) (hk : k < gs * gs)
    (hm : Code.n2sReinsertMaskFlat gs (visitedTime gs r) pi k = true) :
    PdpValid (pdpLocalOp gs r (Code.n2sMove gs pi k).1 (Code.n2sMove gs pi k).2.1 (Code.n2sMove gs pi k).2.2) gs := by
  obtain ⟨h1, h2, h3, h4⟩ := n2s_move_admitted gs r pi k hpi hk hm
  exact PdpRR.preserves gs r _ _ _ hodd h1 h2 h3 hv h4

/-- **C09 (NeuOpt).**  NeuOpt's decoding loop IS the modelled action builder started with the previous first
node masked: if every node the strategy selects is free in the builder's mask at its sub-step, the emitted
action keeps the tour a tour under the executed k-opt operator. -/
theorem neuopt_preserves (n : Nat) (r : Rec) (ht : IsTour r n) (prevFirst : Option Nat) (c0 : Nat) (cs : List Nat)
    (hadm : (genRun n (cs.length + 1) r (visitedTime n r) (fun j => prevFirst == some j) (c0 :: cs)).admitted = true) :
    IsTour (Code.localOpK n r
      (genAction (cs.length + 1) (genRun n (cs.length + 1) r (visitedTime n r) (fun j => prevFirst == some j) (c0 :: cs))).1
      (genAction (cs.length + 1) (genRun n (cs.length + 1) r (visitedTime n r) (fun j => prevFirst == some j) (c0 :: cs))).2.1
      (genAction (cs.length + 1) (genRun n (cs.length + 1) r (visitedTime n r) (fun j => prevFirst == some j) (c0 :: cs))).2.2) n :=
  Code.kopt_preserves n r ht _ c0 cs hadm

/-- Non-vacuity: n = 4, previous move (0, 2); flat index 7 = (1, 3) is free and decodes to the move (1, 3); flat
index 8 = (2, 0) is the previous move reversed and is masked. -/
example : dactMaskFlat 4 (some (0, 2)) 7 = true ∧ Code.dactMove 4 7 = (1, 3) ∧ dactMaskFlat 4 (some (0, 2)) 8 = false ∧
    Code.n2sMove 5 1 13 = (1, 2, 3) := by decide

end Rl4co.Improve.Policy
