/-
C09 for PDPRuinRepairEnv: every mask-admitted ruin-and-repair move keeps the tour a single cycle with
every pickup before its delivery.  Unbounded in the number of nodes; the hypotheses are the validity
of the current tour and the truth of `get_mask` for the chosen (pair, first, second).
-/
import Rl4co.Proofs.ImproveCycle
import Rl4co.Props.C09.ImproveBsf

namespace Rl4co.Improve.PdpRR
open Rl4co.Spec.Improve

/-- The listing after the two splices.  `first` is not behind `second` in `L`, the tour without `p` and `d`: with `d`
spliced in after `second` it is `T1, first, T2`, where `d` lies in `T2`; with `p` spliced in after `first` it still starts
at the same node and still contains `L` in its order. -/
theorem repair_listing {L : List Nat} (p d : Nat) {f s : Nat} (hs : s ∈ L) (hfs : f = s ∨ Before L f s) :
    ∃ S1 S2 T1 T2, L = S1 ++ s :: S2 ∧ S1 ++ s :: d :: S2 = T1 ++ f :: T2 ∧ d ∈ T2 ∧
      (T1 ++ f :: p :: T2).head? = L.head? ∧ L.Sublist (T1 ++ f :: p :: T2) := by
  rcases hfs with rfl | h
  · obtain ⟨S1, S2, rfl⟩ := List.append_of_mem hs
    refine ⟨S1, S2, S1, d :: S2, rfl, rfl, List.mem_cons_self, by cases S1 <;> rfl, ?_⟩
    exact List.Sublist.append_left
      (List.Sublist.cons_cons _ ((List.sublist_cons_self d S2).trans (List.sublist_cons_self p _))) _
  · obtain ⟨A, B, C, rfl⟩ := sublist_pair_decomp h
    refine ⟨A ++ f :: B, C, A, B ++ s :: d :: C, by simp, by simp, by simp, by cases A <;> rfl, ?_⟩
    exact List.Sublist.append_left (List.Sublist.cons_cons _ ((List.Sublist.append_left
      (List.Sublist.cons_cons _ (List.sublist_cons_self d C)) B).trans (List.sublist_cons_self p _))) _

/-- `_local_operator` with the two removed nodes `p`, `d` as parameters -/
def ruinRepairOp (gs : Nat) (r : Rec) (p d f s : Nat) : Rec :=
  let r1 := upd (upd r (argsort gs r p) (r p)) p p
  let r2 := upd r1 (argsort gs r1 d) (r1 d)
  let r3 := upd (upd r2 s d) d (r2 s)
  upd (upd r3 f p) p (r3 f)

theorem pdpLocalOp_eq (gs : Nat) (r : Rec) (pi f s : Nat) :
    pdpLocalOp gs r pi f s = ruinRepairOp gs r (pi + 1) (pi + 1 + gs / 2) f s := rfl

/-- **Ruin and repair on a cycle.**  Take any two nodes `p`, `d` other than the depot out of a tour and splice `d`
back in after `second` and `p` after `first`, where `first` is not behind `second` when the tour is read from the
depot and both differ from `p` and `d`: the result is a tour in which `p` comes before `d` and all other nodes
keep their order. -/
theorem ruinRepair (gs : Nat) (r : Rec) (rest : List Nat) (p d f s : Nat)
    (hperm : (0 :: rest).Perm (List.range gs)) (hcyc : CycleOf r (0 :: rest))
    (hp0 : p ≠ 0) (hd0 : d ≠ 0) (hpd : p ≠ d) (hp : p < gs) (hd : d < gs) (hf : f < gs) (hs : s < gs)
    (hfp : f ≠ p) (hfd : f ≠ d) (hsp : s ≠ p) (hsd : s ≠ d)
    (hfs : (0 :: rest).idxOf f ≤ (0 :: rest).idxOf s) :
    ∃ rest', (0 :: rest').Perm (List.range gs) ∧ CycleOf (ruinRepairOp gs r p d f s) (0 :: rest') ∧
      Before (0 :: rest') p d ∧
      ∀ i j, i ≠ p → i ≠ d → j ≠ p → j ≠ d → Before (0 :: rest) i j → Before (0 :: rest') i j := by
  let r1 := upd (upd r (argsort gs r p) (r p)) p p
  let r2 := upd r1 (argsort gs r1 d) (r1 d)
  let r3 := upd (upd r2 s d) d (r2 s)
  show ∃ rest', _ ∧ CycleOf (upd (upd r3 f p) p (r3 f)) _ ∧ _ ∧ _
  have hnd := nodup_of_perm_range hperm
  have hmem := mem_of_perm_range hperm
  -- unlink `p`; it becomes a fixed point
  have hc1 : CycleOf r1 ((0 :: rest).filter (· != p)) :=
    (cycleOf_upd_notMem _ _ p p fun h => (mem_filter_ne.mp h).2 rfl).mpr
      (cycle_unlink_filter gs r [] _ p hperm (fun _ h => nomatch h) hcyc ((hmem p).mpr hp) List.mem_cons_self hp0.symm)
  generalize hL1 : (0 :: rest).filter (· != p) = L1 at hc1
  have hperm1 : ([p] ++ L1).Perm (List.range gs) :=
    (hL1 ▸ perm_cons_filter_ne hnd ((hmem p).mpr hp)).symm.trans hperm
  have hnd1 : L1.Nodup := hL1 ▸ List.filter_sublist.nodup hnd
  have hmem1 : ∀ z, z ∈ L1 ↔ z ∈ 0 :: rest ∧ z ≠ p := fun z => hL1 ▸ mem_filter_ne
  -- unlink `d`; the self-loop `p` keeps the array a permutation for the second `argsort`
  have hc2 : CycleOf r2 (L1.filter (· != d)) :=
    cycle_unlink_filter gs r1 [p] L1 d hperm1 (fun q hq => by rw [List.mem_singleton.mp hq]; exact upd_same _ _ _) hc1
      ((hmem1 d).mpr ⟨(hmem d).mpr hd, hpd.symm⟩) ((hmem1 0).mpr ⟨List.mem_cons_self, hp0.symm⟩) hd0.symm
  have hnd2 : (L1.filter (· != d)).Nodup := List.filter_sublist.nodup hnd1
  have hmem2 : ∀ z, z ∈ L1.filter (· != d) ↔ z ∈ 0 :: rest ∧ z ≠ p ∧ z ≠ d := fun z => by
    rw [mem_filter_ne, hmem1, and_assoc]
  -- the nodes other than `p`, `d` keep their order, and the depot stays in front
  have hk : ∀ i j, i ≠ p → i ≠ d → j ≠ p → j ≠ d → Before (0 :: rest) i j →
      Before (L1.filter (· != d)) i j :=
    fun i j hip hid hjp hjd hb => hL1 ▸ before_filter_ne (before_filter_ne hb hip hjp) hid hjd
  have h0 : (L1.filter (· != d)).head? = some 0 := by
    rw [← hL1, List.filter_cons_of_pos (p := (· != p)) (bne_iff_ne.mpr hp0.symm),
      List.filter_cons_of_pos (p := (· != d)) (bne_iff_ne.mpr hd0.symm)]; rfl
  -- splice `d` in after `second`, then `p` after `first`
  obtain ⟨S1, S2, T1, T2, hL2, h3, hdT2, hhd, hsub⟩ := repair_listing p d ((hmem2 s).mpr ⟨(hmem s).mpr hs, hsp, hsd⟩)
    ((eq_or_before_of_idxOf_le hnd ((hmem f).mpr hf) ((hmem s).mpr hs) hfs).imp_right (hk f s hfp hfd hsp hsd))
  obtain ⟨rest', h4⟩ := List.head?_eq_some_iff.mp (hhd.trans h0)
  rw [hL2] at hc2 hnd2 hmem2
  have hd2 : d ∉ S1 ++ s :: S2 := fun h => ((hmem2 d).mp h).2.2 rfl
  have hp2 : p ∉ S1 ++ s :: S2 := fun h => ((hmem2 p).mp h).2.1 rfl
  have hc3 := cycle_insert r2 S1 S2 s d hc2 hnd2 hd2
  have hperm3 := perm_insert S1 S2 s d
  have hnd3 : (S1 ++ s :: d :: S2).Nodup := hperm3.nodup_iff.mpr (List.nodup_cons.mpr ⟨hd2, hnd2⟩)
  have hp3 : p ∉ S1 ++ s :: d :: S2 := fun h =>
    (List.mem_cons.mp (hperm3.mem_iff.mp h)).elim hpd hp2
  rw [h3] at hc3 hnd3 hp3 hperm3
  have hc4 := cycle_insert r3 T1 T2 f p hc3 hnd3 hp3
  have hperm4 := perm_insert T1 T2 f p
  rw [h4] at hc4 hperm4
  refine ⟨rest', ?_, hc4, ?_, ?_⟩
  · refine (hperm4.trans ((hperm3.cons p).trans ?_)).trans hperm1
    exact List.Perm.cons p ((hL2 ▸ perm_cons_filter_ne hnd1 ((hmem1 d).mpr ⟨(hmem d).mpr hd, hpd.symm⟩)).symm)
  · rw [← h4, ← List.singleton_append (l := p :: T2), ← List.append_assoc]
    exact before_of_mem_right _ p T2 hdT2
  · intro i j hip hid hjp hjd hb
    exact (hk i j hip hid hjp hjd hb).trans (h4 ▸ hsub)

/-- **C09 (PDP ruin and repair).**  For every number of nodes `gs = 2h+1`, every valid PDP tour
(single cycle through `0..gs-1`; read from the depot every pickup precedes its delivery), every
pair index and every `(first, second)` admitted by `get_mask`, the successor array produced by
`_local_operator` is again a valid PDP tour. -/
theorem preserves (gs : Nat) (r : Rec) (pi f s : Nat)
    (hodd : gs % 2 = 1) (hpi : pi < gs / 2) (hf : f < gs) (hs : s < gs)
    (hv : PdpValid r gs)
    (hm : pdpMask gs (visitedTime gs r) (pi + 1) f s = true) :
    PdpValid (pdpLocalOp gs r pi f s) gs := by
  obtain ⟨rest, hperm, hcyc, hprec⟩ := hv
  -- the arithmetic first: every disequality in the context doubles the case split of `omega`
  have ha : pi + 1 + gs / 2 ≠ 0 ∧ pi + 1 ≠ pi + 1 + gs / 2 ∧ pi + 1 < gs ∧ pi + 1 + gs / 2 < gs := by omega
  have hb : ∀ i, 1 ≤ i → i ≤ gs / 2 → i ≠ pi + 1 →
      i ≠ pi + 1 + gs / 2 ∧ i + gs / 2 ≠ pi + 1 ∧ i + gs / 2 ≠ pi + 1 + gs / 2 := by
    intro i _ _ _; omega
  obtain ⟨hvt, hfp, hfd, hsp, hsd⟩ := (pdpMask_iff gs _ (pi + 1) f s).mp hm
  -- the mask compares the positions of `first` and `second` in the tour read from the depot
  rw [vt_mod gs r rest hperm hcyc hf, vt_mod gs r rest hperm hcyc hs] at hvt
  obtain ⟨rest', hperm', hcyc', hpd', hkeep⟩ := ruinRepair gs r rest (pi + 1) (pi + 1 + gs / 2) f s hperm hcyc
    (Nat.succ_ne_zero pi) ha.1 ha.2.1 ha.2.2.1 ha.2.2.2 hf hs hfp hfd hsp hsd hvt
  rw [pdpLocalOp_eq]
  refine ⟨rest', hperm', hcyc', fun i hi1 hi2 => ?_⟩
  by_cases hip : i = pi + 1
  · rw [hip]; exact hpd'
  · exact hkeep i (i + gs / 2) hip (hb i hi1 hi2 hip).1 (hb i hi1 hi2 hip).2.1 (hb i hi1 hi2 hip).2.2
      (hprec i hi1 hi2)

/-- a ruin-repair move `(pair, first, second)` is admitted at tour `r`: indices in range and `get_mask` true -/
def Adm (gs : Nat) (r : Rec) (m : Nat × Nat × Nat) : Prop :=
  m.1 < gs / 2 ∧ m.2.1 < gs ∧ m.2.2 < gs ∧ pdpMask gs (visitedTime gs r) (m.1 + 1) m.2.1 m.2.2 = true

/-- **C09 (PDP, whole runs).** from a valid initial tour, after ANY sequence of mask-admitted moves of
any length, both `rec_current` and `rec_best` of the environment state are valid PDP tours. -/
theorem run_valid (gs : Nat) (D : Nat → Nat → Int) (hodd : gs % 2 = 1) (rec0 : Rec)
    (h0 : PdpValid rec0 gs) (ms : List (Nat × Nat × Nat))
    (hadm : Bsf.AdmRun (fun r m => pdpLocalOp gs r m.1 m.2.1 m.2.2) (Adm gs) rec0 ms) :
    let f := Bsf.final gs D (fun r m => pdpLocalOp gs r m.1 m.2.1 m.2.2) (reset gs D rec0) ms
    PdpValid f.recCur gs ∧ PdpValid f.recBest gs :=
  Bsf.valid_of_run gs D _ (fun r => PdpValid r gs) (Adm gs)
    (fun r m hr hm => preserves gs r m.1 m.2.1 m.2.2 hodd hm.1 hm.2.1 hm.2.2.1 hr hm.2.2.2)
    ms (reset gs D rec0) h0 h0 hadm

/-- **C09 (`_random_action`, PDP).** every action the sampler can emit is admitted by `get_mask` -/
theorem randomAction_admitted (gs : Nat) (r : Rec) (m : Nat × Nat × Nat)
    (h : m ∈ randomActionsPdp gs (visitedTime gs r)) : Adm gs r m := by
  simp only [randomActionsPdp, List.mem_flatMap, List.mem_map, List.mem_filter, List.mem_range] at h
  obtain ⟨pi, hpi, k, ⟨hk, hm⟩, rfl⟩ := h
  exact ⟨hpi, div_lt_of_lt_mul_right hk, mod_lt_of_lt_mul hk, hm⟩

/-- Non-vacuity: 5 nodes, tour 0→1→3→2→4→0 (pickups 1, 2; deliveries 3, 4) is valid; removing the
pair (1, 3) and re-inserting the pickup after node 2 and the delivery after node 4 is admitted by
the mask and yields 0→2→1→4→3→0. -/
example :
    let r : Rec := fun j => [1, 3, 4, 2, 0].getD j 0
    PdpValid r 5 ∧ pdpMask 5 (visitedTime 5 r) 1 2 4 = true ∧
    (List.range 5).map (pdpLocalOp 5 r 0 2 4) = [2, 4, 1, 0, 3] := by
  refine ⟨⟨[1, 3, 2, 4], by decide, by decide, ?_⟩, by decide, by decide⟩
  intro i h1 h2
  have : i = 1 ∨ i = 2 := by omega
  rcases this with rfl | rfl <;> (unfold Before; decide)

end Rl4co.Improve.PdpRR
