/-
C09, batch dimension: the column-wise model of `_step` on a whole batch (`batchStepP` in Env/Improve.lean —
every source line acts on columns, `solution_best[index] = next_rec[index]` is the masked overwrite of the
`rec_best` tensor) equals the per-row `_step`, for every batch size and every token valuation; hence every
per-instance C09 theorem holds for every row of every batch.
-/
import Rl4co.Props.C09.ImproveCode
import Mathlib.Data.List.Defs

namespace Rl4co.Improve.Batch

/-- **batched `_step` = per-row `_step`.**  For every batch size, the column-wise `_step` (including the masked
in-place overwrite of `rec_best`) computes, row by row, exactly the per-instance `_step` — whatever the tokens
`P`, the operator and the rows' instances are. -/
theorem batchStep_eq_map {A : Type} (P : StepParams) (n : Nat) (op : Rec → A → Rec) :
    ∀ (ss : List State) (Ds : List (Nat → Nat → Int)) (as : List A),
      Ds.length = ss.length → as.length = ss.length →
      batchStepP P n Ds op ss as = List.zipWith3 (fun D s a => stepP P n D op s a) Ds ss as := by
  intro ss
  induction ss with
  | nil =>
    intro Ds as h1 h2
    match Ds, as, h1, h2 with
    | [], [], _, _ => rfl
  | cons s ss ih =>
    intro Ds as h1 h2
    match Ds, as, h1, h2 with
    | D :: Ds, a :: as, h1, h2 =>
      -- the head row of every column is the per-row step; the tails are the batch of the remaining rows
      exact congrArg (stepP P n D op s a :: ·) (ih Ds as (Nat.succ.inj h1) (Nat.succ.inj h2))

theorem length_zipWith3 {α β γ δ : Type} (f : α → β → γ → δ) : ∀ (l1 : List α) (l2 : List β) (l3 : List γ),
    l1.length = l2.length → l3.length = l2.length → (List.zipWith3 f l1 l2 l3).length = l2.length
  | [], [], _, _, _ => rfl
  | _ :: l1, _ :: l2, _ :: l3, h1, h3 =>
    congrArg (· + 1) (length_zipWith3 f l1 l2 l3 (Nat.succ.inj h1) (Nat.succ.inj h3))

theorem getElem_zipWith3 {α β γ δ : Type} (f : α → β → γ → δ) : ∀ (l1 : List α) (l2 : List β) (l3 : List γ) (b : Nat)
    (h1 : b < l1.length) (h2 : b < l2.length) (h3 : b < l3.length),
    (List.zipWith3 f l1 l2 l3)[b]? = some (f l1[b] l2[b] l3[b])
  | _ :: _, _ :: _, _ :: _, 0, _, _, _ => rfl
  | _ :: l1, _ :: l2, _ :: l3, b + 1, h1, h2, h3 =>
    getElem_zipWith3 f l1 l2 l3 b (Nat.lt_of_succ_lt_succ h1) (Nat.lt_of_succ_lt_succ h2) (Nat.lt_of_succ_lt_succ h3)

def batchRun {A : Type} (P : StepParams) (n : Nat) (Ds : List (Nat → Nat → Int)) (op : Rec → A → Rec) :
    List State → List (List A) → List State
  | ss, [] => ss
  | ss, as :: ass => batchRun P n Ds op (batchStepP P n Ds op ss as) ass

def rowActions {A : Type} (b : Nat) (ass : List (List A)) : List A := ass.filterMap (·[b]?)

/-- **∀ batch, ∀ row.** after any number of batched steps, row `b` of the batch is the state the per-instance
environment reaches on that row's instance with that row's actions: rows never influence each other. -/
theorem batchRun_row {A : Type} (P : StepParams) (n : Nat) (op : Rec → A → Rec) (Ds : List (Nat → Nat → Int)) :
    ∀ (ass : List (List A)) (ss : List State), Ds.length = ss.length → (∀ as ∈ ass, as.length = ss.length) →
    ∀ (b : Nat) (hb : b < ss.length) (hD : b < Ds.length),
      (batchRun P n Ds op ss ass)[b]? =
        some ((rowActions b ass).foldl (stepP P n (Ds[b]) op) (ss[b])) := by
  intro ass
  induction ass with
  | nil => intro ss _ _ b hb _; exact List.getElem?_eq_getElem hb
  | cons as ass ih =>
    intro ss hD hA b hb hDb
    have hlas : as.length = ss.length := hA as List.mem_cons_self
    have hlen : (batchStepP P n Ds op ss as).length = ss.length := by
      rw [batchStep_eq_map P n op ss Ds as hD hlas]; exact length_zipWith3 _ Ds ss as hD hlas
    have hab : b < as.length := hlas ▸ hb
    -- row `b` after the first batched step
    have hrow : (batchStepP P n Ds op ss as)[b]'(hlen ▸ hb) = stepP P n (Ds[b]) op (ss[b]) (as[b]) := by
      apply Option.some.inj
      rw [← List.getElem?_eq_getElem, batchStep_eq_map P n op ss Ds as hD hlas]
      exact getElem_zipWith3 _ Ds ss as b hDb hb hab
    have hra : rowActions b (as :: ass) = as[b] :: rowActions b ass := by
      rw [rowActions, List.filterMap_cons, List.getElem?_eq_getElem hab]; rfl
    rw [hra, List.foldl_cons, ← hrow]
    exact ih (batchStepP P n Ds op ss as) (hD.trans hlen.symm)
      (fun as' h' => (hA as' (List.mem_cons_of_mem _ h')).trans hlen.symm) b (hlen ▸ hb) hDb

/-- Non-vacuity: a batch of two rows (same 4 collinear points) where only row 0 improves: row 0's best tour is
overwritten in place, row 1's is kept. -/
example :
    let D : Nat → Nat → Int := fun a b => if a ≤ b then (b - a : Nat) else (a - b : Nat)
    let good : Rec := fun j => [1, 2, 3, 0].getD j 0
    let bad : Rec := fun j => [2, 3, 1, 0].getD j 0
    let op : Rec → Bool → Rec := fun _ b => if b then good else bad
    let out := batchStepP StepParams.std 4 [D, D] op [reset 4 D bad, reset 4 D bad] [true, false]
    out.map (·.reward) = [2, 0] ∧ out.map (fun s => (List.range 4).map s.recBest) = [[1, 2, 3, 0], [2, 3, 1, 0]] := by
  decide

end Rl4co.Improve.Batch
