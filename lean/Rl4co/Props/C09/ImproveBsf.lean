/-
C09, best-so-far bookkeeping of the improvement environments (`TSPkoptEnv._step`,
`PDPRuinRepairEnv._step`).  Proved ONCE, for an ARBITRARY move operator `op` over an arbitrary
action type, an arbitrary distance matrix, an arbitrary initial successor array and EVERY sequence
of moves of any length (no admissibility, no validity of tours is needed for the bookkeeping).
-/
import Rl4co.Env.Improve

namespace Rl4co.Improve.Bsf

variable {A : Type} (n : Nat) (D : Nat → Nat → Int) (op : Rec → A → Rec)

/-- all states of a run: the start state, then the state after each move -/
def trace (s : State) : List A → List State
  | [] => [s]
  | a :: as => s :: trace (step n D op s a) as

def final (s : State) (as : List A) : State := as.foldl (step n D op) s

def rewards (s : State) (as : List A) : List Int := ((trace n D op s as).drop 1).map (·.reward)

theorem step_lt (s : State) (a : A) (hlt : cost n D (op s.recCur a) < s.costBsf) :
    step n D op s a =
      { recCur := op s.recCur a, recBest := op s.recCur a, costCur := cost n D (op s.recCur a),
        costBsf := cost n D (op s.recCur a), reward := s.costBsf - cost n D (op s.recCur a),
        vt := visitedTime n (op s.recCur a) } := by
  have h2 : s.costBsf - cost n D (op s.recCur a) > 0 := by omega
  simp only [step, hlt, if_true, h2]

theorem step_ge (s : State) (a : A) (hge : ¬ cost n D (op s.recCur a) < s.costBsf) :
    step n D op s a =
      { recCur := op s.recCur a, recBest := s.recBest, costCur := cost n D (op s.recCur a),
        costBsf := s.costBsf, reward := 0, vt := visitedTime n (op s.recCur a) } := by
  simp [step, hge]

/-- **C09 (rewards).** every single reward is the decrease of the best-so-far cost, and is ≥ 0:
for every reachable (indeed every) state and every move. -/
theorem reward_eq_decrease (s : State) (a : A) :
    (step n D op s a).reward = s.costBsf - (step n D op s a).costBsf ∧
    0 ≤ (step n D op s a).reward := by
  by_cases hlt : cost n D (op s.recCur a) < s.costBsf
  · rw [step_lt n D op s a hlt]; simp; omega
  · rw [step_ge n D op s a hlt]; simp

theorem bsf_step_le (s : State) (a : A) : (step n D op s a).costBsf ≤ s.costBsf := by
  have := reward_eq_decrease n D op s a
  omega

theorem step_costBsf (s : State) (a : A) (h : s.costBsf = cost n D s.recBest) :
    (step n D op s a).costBsf = cost n D (step n D op s a).recBest := by
  by_cases hlt : cost n D (op s.recCur a) < s.costBsf
  · rw [step_lt n D op s a hlt]
  · rw [step_ge n D op s a hlt]; exact h

theorem step_bsf_min (s : State) (a : A) :
    ((step n D op s a).costBsf = s.costBsf ∨ (step n D op s a).costBsf = cost n D (step n D op s a).recCur) ∧
    (step n D op s a).costBsf ≤ cost n D (step n D op s a).recCur := by
  by_cases hlt : cost n D (op s.recCur a) < s.costBsf
  · rw [step_lt n D op s a hlt]; simp
  · rw [step_ge n D op s a hlt]; simp; omega

theorem trace_ne_nil (s : State) (as : List A) : trace n D op s as ≠ [] := by
  cases as <;> simp [trace]

theorem trace_eq_cons_drop (s : State) (as : List A) :
    trace n D op s as = s :: (trace n D op s as).drop 1 := by
  cases as <;> rfl

theorem mem_trace_self (s : State) (as : List A) : s ∈ trace n D op s as := by
  rw [trace_eq_cons_drop]; exact List.mem_cons_self

theorem final_mem_trace : ∀ (pre : List A) (s : State) (suf : List A),
    final n D op s pre ∈ trace n D op s (pre ++ suf)
  | [], s, suf => mem_trace_self n D op s suf
  | a :: pre, s, suf => List.mem_cons_of_mem _ (final_mem_trace pre (step n D op s a) suf)

theorem rewards_cons (s : State) (a : A) (as : List A) :
    rewards n D op s (a :: as) = (step n D op s a).reward :: rewards n D op (step n D op s a) as := by
  show (trace n D op (step n D op s a) as).map (·.reward) = _
  rw [trace_eq_cons_drop]; rfl

/-- **C09 (monotonicity).** along any move sequence the best-so-far cost never increases:
the value after `as ++ bs` is ≤ the value after `as`. -/
theorem bsf_antitone (s : State) (as bs : List A) :
    (final n D op s (as ++ bs)).costBsf ≤ (final n D op s as).costBsf := by
  rw [final, List.foldl_append]
  show (final n D op (final n D op s as) bs).costBsf ≤ _
  generalize final n D op s as = s'
  induction bs generalizing s' with
  | nil => exact Int.le_refl _
  | cons b bs ih => exact Int.le_trans (ih (step n D op s' b)) (bsf_step_le n D op s' b)

theorem inv_from (as : List A) : ∀ (s : State),
    s.costCur = cost n D s.recCur → s.costBsf = cost n D s.recBest → s.costBsf ≤ cost n D s.recCur →
    (final n D op s as).costCur = cost n D (final n D op s as).recCur ∧
    (final n D op s as).costBsf = cost n D (final n D op s as).recBest ∧
    (∀ s' ∈ trace n D op s as, (final n D op s as).costBsf ≤ cost n D s'.recCur) ∧
    ((∃ s' ∈ trace n D op s as, (final n D op s as).costBsf = cost n D s'.recCur) ∨
      (final n D op s as).costBsf = s.costBsf) ∧
    (rewards n D op s as).sum = s.costBsf - (final n D op s as).costBsf := by
  induction as with
  | nil =>
    intro s h1 h2 h3
    refine ⟨h1, h2, fun s' hs' => ?_, Or.inr rfl, (Int.sub_self _).symm⟩
    rw [List.mem_singleton.mp hs']; exact h3
  | cons a as ih =>
    intro s h1 h2 h3
    have hmin := step_bsf_min n D op s a
    obtain ⟨i1, i2, i3, i4, i5⟩ := ih (step n D op s a) rfl (step_costBsf n D op s a h2) hmin.2
    have hle := bsf_step_le n D op s a
    have hanti : (final n D op (step n D op s a) as).costBsf ≤ (step n D op s a).costBsf :=
      bsf_antitone n D op (step n D op s a) [] as
    refine ⟨i1, i2, fun s' hs' => ?_, ?_, ?_⟩
    · rcases List.mem_cons.mp hs' with rfl | hs'
      · exact Int.le_trans hanti (Int.le_trans hle h3)
      · exact i3 s' hs'
    · rcases i4 with ⟨s', hs', h⟩ | h
      · exact Or.inl ⟨s', List.mem_cons_of_mem _ hs', h⟩
      · rcases hmin.1 with h' | h'
        · exact Or.inr (h.trans h')
        · exact Or.inl ⟨_, List.mem_cons_of_mem _ (mem_trace_self n D op _ as), h.trans h'⟩
    · rw [rewards_cons, List.sum_cons, i5, (reward_eq_decrease n D op s a).1]
      show _ = s.costBsf - (final n D op (step n D op s a) as).costBsf
      omega

/-- **C09 (bookkeeping).**  Start from `_reset` with ANY initial successor array and apply ANY
sequence of moves with ANY move operator.  In the final state (hence, the move list being arbitrary,
in every intermediate state):
 1. `cost_current` is the length of `rec_current`;
 2. `cost_bsf` is the length of `rec_best`;
 3. `cost_bsf` is ≤ the length of every tour seen so far (initial one included) …
 4. … and equals the length of one of them: it is their minimum;
 5. the rewards sum to (initial cost − best-so-far cost). -/
theorem invariants (rec0 : Rec) (as : List A) :
    let tr := trace n D op (reset n D rec0) as
    let f := final n D op (reset n D rec0) as
    f.costCur = cost n D f.recCur ∧
    f.costBsf = cost n D f.recBest ∧
    (∀ s ∈ tr, f.costBsf ≤ cost n D s.recCur) ∧
    (∃ s ∈ tr, f.costBsf = cost n D s.recCur) ∧
    (rewards n D op (reset n D rec0) as).sum = cost n D rec0 - f.costBsf := by
  intro tr f
  obtain ⟨i1, i2, i3, i4, i5⟩ := inv_from n D op as (reset n D rec0) rfl rfl (Int.le_refl _)
  refine ⟨i1, i2, i3, ?_, i5⟩
  rcases i4 with h | h
  · exact h
  · exact ⟨reset n D rec0, mem_trace_self n D op _ as, h⟩

/-- a move sequence in which every move is admitted (by an arbitrary admissibility relation) at the
tour it is applied to -/
def AdmRun (Adm : Rec → A → Prop) : Rec → List A → Prop
  | _, [] => True
  | r, a :: as => Adm r a ∧ AdmRun Adm (op r a) as

/-- **C09 (validity of both stored tours).**  If every admitted move maps valid tours to valid tours
(`P` = any notion of validity), then after ANY admitted move sequence both `rec_current` and the stored
`rec_best` are valid. -/
theorem valid_of_run (P : Rec → Prop) (Adm : Rec → A → Prop)
    (hop : ∀ r a, P r → Adm r a → P (op r a)) (as : List A) :
    ∀ (s : State), P s.recCur → P s.recBest → AdmRun op Adm s.recCur as →
      P (final n D op s as).recCur ∧ P (final n D op s as).recBest := by
  induction as with
  | nil => intro s h1 h2 _; exact ⟨h1, h2⟩
  | cons a as ih =>
    intro s h1 h2 hadm
    have hn : P (op s.recCur a) := hop _ _ h1 hadm.1
    have hfin : final n D op s (a :: as) = final n D op (step n D op s a) as := rfl
    rw [hfin]
    apply ih
    · exact hn
    · by_cases hlt : cost n D (op s.recCur a) < s.costBsf
      · rw [step_lt n D op s a hlt]; exact hn
      · rw [step_ge n D op s a hlt]; exact h2
    · exact hadm.2

/-- Non-vacuity / sanity: 4 nodes on a line (`D a b = |a − b|`), start from the tour 0→2→1→3→0 of
length 8, move to 0→1→2→3→0 (length 6, improving) and back (worsening): rewards 2 then 0, the best
tour and its cost are kept while the current cost goes back to 8. -/
example :
    let D : Nat → Nat → Int := fun a b => if a ≤ b then (b - a : Nat) else (a - b : Nat)
    let good : Rec := fun j => [1, 2, 3, 0].getD j 0
    let bad : Rec := fun j => [2, 3, 1, 0].getD j 0
    let op : Rec → Bool → Rec := fun _ b => if b then good else bad
    let f := final 4 D op (reset 4 D bad) [true, false]
    rewards 4 D op (reset 4 D bad) [true, false] = [2, 0] ∧
    f.costBsf = 6 ∧ f.costCur = 8 ∧ (List.range 4).map f.recBest = [1, 2, 3, 0] := by
  decide

/-- **C09, literal: "rewards sum to initial cost minus best cost".**  For any operator and ANY move list
`a₁ … a_T` from `_reset` on any initial array:  Σ_{t=1..T} reward_t = cost(rec₀) − cost_bsf_T. -/
theorem rewards_telescope (rec0 : Rec) (as : List A) :
    (rewards n D op (reset n D rec0) as).sum = cost n D rec0 - (final n D op (reset n D rec0) as).costBsf :=
  (invariants n D op rec0 as).2.2.2.2

def bsfs (s : State) (as : List A) : List Int := (trace n D op s as).map (·.costBsf)

/-- **C09, literal: "each step's reward equals the decrease of the best-so-far cost".**  The list of rewards is
the list of consecutive differences of the best-so-far costs, for any state and any move list. -/
theorem rewards_eq_decreases : ∀ (as : List A) (s : State),
    rewards n D op s as = List.zipWith (· - ·) (bsfs n D op s as) ((bsfs n D op s as).drop 1) := by
  intro as
  induction as with
  | nil => intro s; rfl
  | cons a as ih =>
    intro s
    have h2 : bsfs n D op s (a :: as) = s.costBsf :: bsfs n D op (step n D op s a) as := rfl
    have h3 : bsfs n D op (step n D op s a) as =
        (step n D op s a).costBsf :: (bsfs n D op (step n D op s a) as).drop 1 := by
      rw [bsfs, trace_eq_cons_drop]; rfl
    rw [rewards_cons, h2, ih (step n D op s a), List.drop_succ_cons, List.drop_zero, h3,
      List.zipWith_cons_cons, (reward_eq_decrease n D op s a).1, ← h3]

theorem rewards_nonneg : ∀ (as : List A) (s : State), ∀ x ∈ rewards n D op s as, 0 ≤ x := by
  intro as
  induction as with
  | nil => intro s x hx; exact absurd hx (List.not_mem_nil)
  | cons a as ih =>
    intro s x hx
    rw [rewards_cons] at hx
    rcases List.mem_cons.mp hx with rfl | hx
    · exact (reward_eq_decrease n D op s a).2
    · exact ih _ x hx

/-- `final` is a left fold over the moves (the model's `_step` returns a new state): the same state can be continued in
several ways (look-ahead, stored transitions) -/
theorem step_pure (s : State) (pre as : List A) :
    final n D op s (pre ++ as) = final n D op (final n D op s pre) as := by
  simp [final, List.foldl_append]

/-- **C09 under branching.**  Two continuations `as`, `bs` of a common prefix `pre` (look-ahead, stepping the same state
twice): on each branch `cost_bsf` is the length of that branch's `rec_best` and a lower bound for every tour seen on that
branch — `invariants` for `pre ++ as` and for `pre ++ bs`, read at the branch states through `step_pure`. -/
theorem branching (rec0 : Rec) (pre as bs : List A) :
    let common := final n D op (reset n D rec0) pre
    let fa := final n D op common as
    let fb := final n D op common bs
    (fa.costBsf = cost n D fa.recBest ∧ fa.costCur = cost n D fa.recCur ∧
      ∀ s ∈ trace n D op (reset n D rec0) (pre ++ as), fa.costBsf ≤ cost n D s.recCur) ∧
    (fb.costBsf = cost n D fb.recBest ∧ fb.costCur = cost n D fb.recCur ∧
      ∀ s ∈ trace n D op (reset n D rec0) (pre ++ bs), fb.costBsf ≤ cost n D s.recCur) := by
  intro common fa fb
  have ha := invariants n D op rec0 (pre ++ as)
  have hb := invariants n D op rec0 (pre ++ bs)
  simp only [step_pure] at ha hb
  exact ⟨⟨ha.2.1, ha.1, ha.2.2.1⟩, ⟨hb.2.1, hb.1, hb.2.2.1⟩⟩

end Rl4co.Improve.Bsf
