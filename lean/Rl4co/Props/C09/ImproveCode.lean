/-
C09 translator tie: proof obligations on the tokens `harness/extract.py` regenerates from the Python AST of
TSPkoptEnv / PDPRuinRepairEnv (`Generated/Params.lean`, names `improve…`), and the C09 theorems restated for
the definitions the driver EXECUTES (`Rl4co.Improve.Code.*`, instantiated with those tokens).  A source edit
that changes `reward > 0.0`, `new_obj < cost_bsf`, the `where` branches, the reward sign, a `visited_time`
stamp / trip count, `range(num_loc)` / `range(num_loc - 2)`, the PDP mask operator, the `+ 1` of `pair_index`
or the order / targets of the PDP re-insertion makes one of the `decide`s below fail at `lake build`.
-/
import Rl4co.Props.C09.ImproveBsf
import Rl4co.Props.C09.ImprovePdp
import Rl4co.Props.C09.ImproveKopt

namespace Rl4co.Improve.Code
open Rl4co.Spec.Improve

/-- `TSPkoptEnv._step/_reset`: `new_obj < cost_bsf`, `where(cond, new_obj, cost_bsf)`, `cost_bsf - now_bsf`,
`reward > 0.0`, stamps `i + 1` over `range(gs)` -/
theorem koptParams_std : koptParams = StepParams.std := by decide

/-- `PDPRuinRepairEnv._step/_reset`: the same tokens -/
theorem pdpParams_std : pdpParams = StepParams.std := by decide

/-- 2-opt reverse loop: `range(num_loc - c)` with `c ≤ 1` (the longest stretch has `num_loc - 1` links) -/
theorem kopt2Loop_ok : Params.improveKopt2LoopSub ≤ 1 := by decide

/-- k-opt relink loop: exactly `range(num_loc - 2)` -/
theorem koptKLoop_ok : Params.improveKoptKLoopSub = 2 := by decide

/-- PDP re-insertion: `pair_index = action[:,0] + 1`; the delivery is spliced in after `second` BEFORE the
pickup is spliced in after `first` -/
theorem pdpOp_ok : Params.improvePdpPairOffset = 1 ∧ Params.improvePdpDeliveryFirst = true ∧
    Params.improvePdpSecondGetsDelivery = true := by decide

/-- PDP mask: a pair `(first, second)` is masked when `visited_time[first] > visited_time[second]` -/
theorem pdpMask_ok : Params.improvePdpMaskCmp = .gt := by decide

theorem vtLoopC_one (r : Rec) : ∀ (k i pre : Nat) (vt : Nat → Nat),
    vtLoopC 1 r k i pre vt = vtLoop r k i pre vt := by
  intro k
  induction k with
  | zero => intro _ _ _; rfl
  | succ k ih => intro i pre vt; simp only [vtLoopC, vtLoop]; exact ih _ _ _

theorem visitedTimeC_std (n : Nat) (r : Rec) : visitedTimeC (1, 0) n r = visitedTime n r := by
  simp only [visitedTimeC, visitedTime, Nat.sub_zero]; exact vtLoopC_one r n 0 0 _

theorem stepP_std {A : Type} (n : Nat) (D : Nat → Nat → Int) (op : Rec → A → Rec) (s : State) (a : A) :
    stepP StepParams.std n D op s a = step n D op s a := by
  simp only [stepP, step, StepParams.std, Cmp.eval, visitedTimeC_std, ticksPerUnit, if_true]
  simp

theorem resetP_std (n : Nat) (D : Nat → Nat → Int) (r : Rec) : resetP StepParams.std n D r = reset n D r := by
  simp only [resetP, reset, StepParams.std, visitedTimeC_std]

/-- **tie (k-opt env, PDP env).** the executed `_step`/`_reset` with the extracted tokens are the ones of the theorems -/
theorem step_kopt_eq {A : Type} (n : Nat) (D : Nat → Nat → Int) (op : Rec → A → Rec) (s : State) (a : A) :
    stepP koptParams n D op s a = step n D op s a := by rw [koptParams_std, stepP_std]
theorem reset_kopt_eq (n : Nat) (D : Nat → Nat → Int) (r : Rec) : resetP koptParams n D r = reset n D r := by
  rw [koptParams_std, resetP_std]

theorem step_pdp_eq {A : Type} (n : Nat) (D : Nat → Nat → Int) (op : Rec → A → Rec) (s : State) (a : A) :
    stepP pdpParams n D op s a = step n D op s a := by rw [pdpParams_std, stepP_std]
theorem reset_pdp_eq (n : Nat) (D : Nat → Nat → Int) (r : Rec) : resetP pdpParams n D r = reset n D r := by
  rw [pdpParams_std, resetP_std]

theorem localOpK_eq : Code.localOpK = Improve.localOpK := by
  unfold Code.localOpK Improve.localOpK; rw [koptKLoop_ok]

theorem pdpLocalOp_eq : Code.pdpLocalOp = Improve.pdpLocalOp := by
  funext gs r pi f s
  unfold Code.pdpLocalOp
  rw [pdpOp_ok.1, pdpOp_ok.2.1, pdpOp_ok.2.2]
  simp only [pdpLocalOpC, Improve.pdpLocalOp, if_true]

theorem pdpMask_eq (gs : Nat) (vt : Nat → Nat) (p f s : Nat) :
    Code.pdpMask gs vt p f s = Improve.pdpMask gs vt p f s := by
  unfold Code.pdpMask
  rw [pdpMask_ok]
  simp [pdpMaskC, Improve.pdpMask, Cmp.evalNat]

/-- **C09 (2-opt, code).** the operator with the extracted trip count of the reverse loop -/
theorem twoOpt_preserves (n : Nat) (r : Rec) (a b : Nat) (ha : a < n) (hb : b < n) (hab : a ≠ b)
    (ht : IsTour r n) : IsTour (Code.localOp2 n r a b) n :=
  Kopt.twoOpt_preservesC _ kopt2Loop_ok n r a b ha hb hab ht

/-- **C09 (k-opt, code).** every action the builder can emit keeps a tour a tour under the executed operator -/
theorem kopt_preserves (n : Nat) (r : Rec) (ht : IsTour r n) (mask0 : Nat → Bool) (c0 : Nat) (cs : List Nat)
    (hadm : (genRun n (cs.length + 1) r (visitedTime n r) mask0 (c0 :: cs)).admitted = true) :
    IsTour (Code.localOpK n r
      (genAction (cs.length + 1) (genRun n (cs.length + 1) r (visitedTime n r) mask0 (c0 :: cs))).1
      (genAction (cs.length + 1) (genRun n (cs.length + 1) r (visitedTime n r) mask0 (c0 :: cs))).2.1
      (genAction (cs.length + 1) (genRun n (cs.length + 1) r (visitedTime n r) mask0 (c0 :: cs))).2.2) n := by
  rw [localOpK_eq]; exact Kopt.kopt_preserves n r ht mask0 c0 cs hadm

/-- **C09 (PDP, code).** every move admitted by the executed mask keeps a valid PDP tour valid under the
executed operator -/
theorem pdp_preserves (gs : Nat) (r : Rec) (pi f s : Nat)
    (hodd : gs % 2 = 1) (hpi : pi < gs / 2) (hf : f < gs) (hs : s < gs) (hv : PdpValid r gs)
    (hm : Code.pdpMask gs (visitedTime gs r) (pi + 1) f s = true) :
    PdpValid (Code.pdpLocalOp gs r pi f s) gs := by
  rw [pdpLocalOp_eq]; rw [pdpMask_eq] at hm
  exact PdpRR.preserves gs r pi f s hodd hpi hf hs hv hm

/-- the executed `_step` stores the `visited_time` the mask theorems speak about -/
theorem step_vt {A : Type} (P : StepParams) (hP : P = StepParams.std) (n : Nat) (D : Nat → Nat → Int)
    (op : Rec → A → Rec) (s : State) (a : A) :
    (stepP P n D op s a).vt = visitedTime n (stepP P n D op s a).recCur := by
  subst hP; rw [stepP_std]; rfl

/-- **C09 (bookkeeping, code).** the Bsf invariants for the executed `_reset`/`_step` of either environment
(`P = koptParams` or `pdpParams`, see `koptParams_std` / `pdpParams_std`), any operator, any move sequence:
costs are the lengths of the stored tours, and `cost_bsf` is ≤ the length of the initial tour and of the
current tour after EVERY prefix of the move sequence. -/
theorem bsf_invariants {A : Type} (P : StepParams) (hP : P = StepParams.std) (n : Nat) (D : Nat → Nat → Int)
    (op : Rec → A → Rec) (rec0 : Rec) (as : List A) :
    let f := as.foldl (stepP P n D op) (resetP P n D rec0)
    f.costCur = cost n D f.recCur ∧ f.costBsf = cost n D f.recBest ∧
    f.costBsf ≤ cost n D rec0 ∧
    (∀ pre suf, as = pre ++ suf →
      f.costBsf ≤ cost n D (pre.foldl (stepP P n D op) (resetP P n D rec0)).recCur) := by
  subst hP
  have hstep : stepP StepParams.std n D op = step n D op := funext fun s => funext fun a => stepP_std n D op s a
  rw [hstep, resetP_std]
  have hinv := Bsf.invariants n D op rec0 as
  refine ⟨hinv.1, hinv.2.1, ?_, ?_⟩
  · exact hinv.2.2.1 (reset n D rec0) (Bsf.mem_trace_self n D op _ as)
  · intro pre suf hps
    apply hinv.2.2.1
    rw [hps]
    exact Bsf.final_mem_trace n D op pre _ suf

end Rl4co.Improve.Code
