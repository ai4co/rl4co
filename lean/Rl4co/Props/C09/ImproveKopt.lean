/-
C09 for TSPkoptEnv.  2-opt mode (DACT): `_local_operator` maps a single n-cycle to a single n-cycle for every n and
every admitted (first, second).  General k-opt branch (NeuOpt), every n and k_max: the relinking walk turns a tour into
a tour for every well-formed move (`Spec.Improve.KoptMoveWF`: consecutive segments reversed in place), and the action
builder (`_random_action`, NeuOptPolicy's internal masks) only emits well-formed moves.
-/
import Rl4co.Proofs.ImproveCycle
import Rl4co.Proofs.ImproveKoptK
import Rl4co.Proofs.ImproveKoptGen
import Rl4co.Props.C09.ImproveBsf

namespace Rl4co.Improve.Kopt
open Rl4co.Spec.Improve

theorem revLoop_idle (sol : Rec) (b : Nat) : ∀ (k : Nat) (rc : Rec), revLoop sol b k b rc = rc := by
  intro k
  induction k with
  | zero => intro rc; rfl
  | succ k ih =>
    intro rc
    simp only [revLoop, ne_eq, not_true_eq_false, if_false]
    rw [upd_self, ih]

/-- the reverse loop along a duplicate-free chain `cur :: T` of the old solution that ends in
`second`: every link of the chain is turned around, nothing else is touched. -/
theorem revLoop_spec (sol : Rec) (b : Nat) : ∀ (T : List Nat) (cur : Nat) (k : Nat) (rc : Rec),
    Linked sol (cur :: T) → (cur :: T).Nodup → (cur :: T).getLast? = some b → T.length ≤ k →
    Linked (revLoop sol b k cur rc) ((cur :: T).reverse) ∧
    (∀ z, z ∉ T → revLoop sol b k cur rc z = rc z) := by
  intro T
  induction T with
  | nil =>
    intro cur k rc _ _ hlast _
    simp at hlast
    subst hlast
    rw [revLoop_idle]
    exact ⟨by simp [Linked], fun z _ => rfl⟩
  | cons t T ih =>
    intro cur k rc hl hnd hlast hk
    rw [linked_cons_cons] at hl
    rw [List.getLast?_cons_cons] at hlast
    have hnd' := List.nodup_cons.mp hnd
    have hcb : cur ≠ b := by
      intro e
      exact hnd'.1 (e ▸ List.mem_of_getLast? hlast)
    cases k with
    | zero => simp at hk
    | succ k =>
      have hk' : T.length ≤ k := by simpa using hk
      have hstep : revLoop sol b (k + 1) cur rc = revLoop sol b k t (upd rc t cur) := by
        simp only [revLoop, ne_eq, hcb, not_false_eq_true, if_true, hl.1]
      rw [hstep]
      obtain ⟨ih1, ih2⟩ := ih t k (upd rc t cur) hl.2 hnd'.2 hlast hk'
      have htT : t ∉ T := (List.nodup_cons.mp hnd'.2).1
      constructor
      · rw [List.reverse_cons]
        refine linked_concat _ _ cur ih1 fun l hl => ?_
        rw [List.getLast?_reverse] at hl
        obtain rfl := Option.some.inj hl
        rw [ih2 t htT, upd_same]
      · intro z hz
        rw [List.mem_cons, not_or] at hz
        rw [ih2 z hz.2, upd_other _ _ _ _ hz.1]

theorem localOp2C_eq (sub n : Nat) (r : Rec) (a b : Nat) :
    localOp2C sub n r a b = revLoop r b (n - sub) a
      (upd (upd r (if argsort n r a ≠ b then argsort n r a else a) b) a (if r b ≠ a then r b else b)) := rfl

/-- **C09 (2-opt).**  For every `n`, every single `n`-cycle `r` and every admitted pair
`first ≠ second`, `_local_operator` returns a single `n`-cycle (the stretch `first … second` of the
tour is reversed in place).  The reverse loop may run `n − sub` times for any `sub ≤ 1`: the stretch has at most `n − 1`
links. -/
theorem twoOpt_preservesC (sub : Nat) (hsub : sub ≤ 1) (n : Nat) (r : Rec) (a b : Nat) (ha : a < n) (hb : b < n)
    (hab : a ≠ b) (ht : IsTour r n) : IsTour (localOp2C sub n r a b) n := by
  -- the tour read from `first`: `first, M, second, Y`
  obtain ⟨rest, hperm, hcyc⟩ := isTour_from r n ht a ha
  obtain ⟨M, Y, rfl⟩ := List.append_of_mem
    (((List.mem_cons.mp ((mem_of_perm_range hperm b).mpr hb))).resolve_left (Ne.symm hab))
  have hnd := nodup_of_perm_range hperm
  have hlen := length_of_perm_range hperm
  obtain ⟨hchain, htail⟩ := (cycleOf_append_cons_cons r a b M Y).mp hcyc
  -- `first ∉ M ++ [second]`, and `Y` is disjoint from both
  have hnd' : (a :: ((M ++ [b]) ++ Y)).Nodup := by rwa [List.append_assoc]
  obtain ⟨haTY, hndTY⟩ := List.nodup_cons.mp hnd'
  obtain ⟨hndT, hndY, hdis⟩ := List.nodup_append.mp hndTY
  have haT : a ∉ M ++ [b] := fun h => haTY (List.mem_append_left _ h)
  have hYT : ∀ z ∈ Y, z ∉ M ++ [b] := fun z hz hm => hdis z hm z hz rfl
  have hYa : ∀ z ∈ Y, z ≠ a := fun z hz e => haTY (e ▸ List.mem_append_right _ hz)
  have hfuel : (M ++ [b]).length ≤ n - sub := by
    rw [← hlen]; simp only [List.length_cons, List.length_append, List.length_nil]; omega
  have hrevS := fun rc => revLoop_spec r b (M ++ [b]) a (n - sub) rc hchain (List.nodup_cons.mpr ⟨haT, hndT⟩)
    (by rw [← List.cons_append, List.getLast?_concat]) hfuel
  have hrev : (a :: (M ++ [b])).reverse = b :: (M.reverse ++ [a]) := by simp
  -- the new cyclic order: `second, rev M, first, Y`
  refine ⟨(b :: M.reverse) ++ (a :: Y), ?_, ?_⟩
  · refine List.Perm.trans ?_ hperm
    rw [show b :: M.reverse = (M ++ [b]).reverse by simp]
    exact ((List.reverse_perm _).append_right _).trans (List.perm_middle.trans (List.Perm.of_eq (by simp)))
  · rw [localOp2C_eq, cycleOf_append_cons_cons]
    rcases eq_nil_or_snoc Y with rfl | ⟨Z, pa, rfl⟩
    · -- `second` is the predecessor of `first`: the whole tour is reversed
      have hba : r b = a := htail.1
      rw [argsort_of_cycle n r _ hperm hcyc b a hb hba, hba, if_neg (fun h => h rfl), if_neg (fun h => h rfl)]
      obtain ⟨h1, h2⟩ := hrevS (upd (upd r a b) a b)
      exact ⟨hrev ▸ h1, by rw [h2 a haT, upd_same], trivial⟩
    · -- general case: `pa` (≠ second) is the predecessor of `first`
      have e : ∀ u v, u :: (Z ++ [pa] ++ [v]) = (u :: Z) ++ pa :: [v] := fun u v => by simp
      rw [e, linked_append_mid] at htail
      have hpa_a : r pa = a := htail.2.1
      have hpaY : pa ∈ Z ++ [pa] := List.mem_append_right _ List.mem_cons_self
      have hpab : pa ≠ b := fun e => hYT pa hpaY (e ▸ List.mem_append_right _ List.mem_cons_self)
      have hpan : pa < n := (mem_of_perm_range hperm pa).mp (by simp)
      have hrb : r b ≠ a := fun e => hpab
        (cycleOf_inj r _ hcyc hnd (by simp) (by simp) (by rw [hpa_a, e]))
      rw [argsort_of_cycle n r _ hperm hcyc pa a hpan hpa_a, if_pos hpab, if_pos hrb]
      obtain ⟨h1, h2⟩ := hrevS (upd (upd r pa b) a (r b))
      refine ⟨hrev ▸ h1, ?_⟩
      rw [e, linked_append_mid]
      refine ⟨?_, by rw [h2 pa (hYT pa hpaY), upd_other _ _ _ _ (hYa pa hpaY), upd_same], trivial⟩
      refine linked_head_congr r _ b a (Z ++ [pa]) htail.1 (by rw [h2 a haT, upd_same]) ?_
      intro z hz
      rw [List.dropLast_concat] at hz
      have hzY : z ∈ Z ++ [pa] := List.mem_append_left _ hz
      have hzpa : z ≠ pa := fun e => (List.nodup_append.mp hndY).2.2 z hz pa List.mem_cons_self e
      rw [h2 z (hYT z hzY), upd_other _ _ _ _ (hYa z hzY), upd_other _ _ _ _ hzpa]

/-- **C09 (2-opt).** the instance at the source's trip count `range(num_loc)` -/
theorem twoOpt_preserves (n : Nat) (r : Rec) (a b : Nat) (ha : a < n) (hb : b < n) (hab : a ≠ b)
    (ht : IsTour r n) : IsTour (localOp2 n r a b) n :=
  twoOpt_preservesC 0 (by omega) n r a b ha hb hab ht

/-- every move `get_mask` admits (`first ≠ second`, both in range) keeps a tour a tour, so does every
sequence of such moves -/
theorem twoOpt_preserves_run (n : Nat) (moves : List (Nat × Nat)) :
    ∀ (r : Rec), IsTour r n → (∀ m ∈ moves, m.1 < n ∧ m.2 < n ∧ mask2 m.1 m.2 = true) →
    IsTour (moves.foldl (fun r m => localOp2 n r m.1 m.2) r) n := by
  induction moves with
  | nil => intro r h _; exact h
  | cons m ms ih =>
    intro r h hm
    have hm1 := hm m (by simp)
    apply ih
    · exact twoOpt_preserves n r m.1 m.2 hm1.1 hm1.2.1 (mask2_iff.mp hm1.2.2) h
    · intro m' hm'; exact hm m' (by simp [hm'])

/-- **C09 (2-opt, whole runs).** from a tour, after ANY sequence of `get_mask`-admitted 2-opt moves both
`rec_current` and `rec_best` of the environment state are single `n`-cycles. -/
theorem twoOpt_run_valid (n : Nat) (D : Nat → Nat → Int) (rec0 : Rec) (h0 : IsTour rec0 n)
    (ms : List (Nat × Nat))
    (hadm : Bsf.AdmRun (fun r m => localOp2 n r m.1 m.2)
      (fun _ m => m.1 < n ∧ m.2 < n ∧ mask2 m.1 m.2 = true) rec0 ms) :
    let f := Bsf.final n D (fun r m => localOp2 n r m.1 m.2) (reset n D rec0) ms
    IsTour f.recCur n ∧ IsTour f.recBest n :=
  Bsf.valid_of_run n D _ (fun r => IsTour r n) _
    (fun r m hr hm => twoOpt_preserves n r m.1 m.2 hm.1 hm.2.1 (mask2_iff.mp hm.2.2) hr)
    ms (reset n D rec0) h0 h0 hadm

/-- Non-vacuity: the tour 0→1→2→3→4→0 is a tour; the admitted move (1, 3) reverses 1…3 and gives
0→3→2→1→4→0; the wrap-around move (3, 1) reverses 3→4→0→1. -/
example :
    let r : Rec := fun j => [1, 2, 3, 4, 0].getD j 0
    IsTour r 5 ∧ mask2 1 3 = true ∧
    (List.range 5).map (localOp2 5 r 1 3) = [3, 4, 1, 2, 0] ∧
    (List.range 5).map (localOp2 5 r 3 1) = [4, 0, 1, 2, 3] := by
  refine ⟨⟨[0, 1, 2, 3, 4], by decide, by decide⟩, by decide, by decide, by decide⟩

end Rl4co.Improve.Kopt

namespace Rl4co.Improve.KoptK
open Rl4co.Spec.Improve

/-- **C09 (general k-opt, well-formed moves).**  For every `n`, every `k` and every well-formed k-opt move
the NeuOpt branch of `_local_operator` returns a single `n`-cycle, namely the old tour with every
segment reversed in place. -/
theorem koptMove_preserves (n : Nat) (r : Rec) (sel left right : List Nat) (t0 : Nat)
    (segs : List (List Nat)) (R : List Nat) (h : KoptMoveWF n r sel left right t0 segs R) :
    (t0 :: newTail segs R).Perm (List.range n) ∧
    CycleOf (localOpK n r sel left right) (t0 :: newTail segs R) := by
  obtain ⟨hne, hperm, hcyc, hhead, hsub, hsup, hsel, hR⟩ := h
  have hP := List.nodup_append.mp (KoptGen.nodup_heads_tails t0 segs R hne (nodup_of_perm_range hperm))
  -- left nodes are distinct, so the scattered pairs are functional
  have hheads : ((pairs t0 t0 segs R).map Prod.fst).Nodup := by rw [pairs_fst]; exact hP.1
  have hfun : ∀ p ∈ left.zip right, ∀ q ∈ left.zip right, p.1 = q.1 → p.2 = q.2 := by
    intro p hp q hq hpq
    rw [inj_of_nodup_map _ hheads p (hsub p hp) q (hsub q hq) hpq]
  obtain ⟨hs1, hs2⟩ := scatterL_spec left right r hfun
  have hlk : Links (scatterL r left right) t0 t0 segs R :=
    links_of_pairs _ t0 segs R t0 hne (fun p hp => hs1 p (hsup p hp))
  have hrec0 : ∀ x ∈ R, scatterL r left right x = r x := by
    intro x hx
    apply hs2
    intro hm
    obtain ⟨p, hp, hpx⟩ := List.mem_map.mp hm
    have : x ∈ (pairs t0 t0 segs R).map Prod.fst := List.mem_map.mpr ⟨p, hsub p hp, hpx⟩
    rw [pairs_fst] at this
    -- a node of R is neither t0 nor the first node of a segment
    exact hP.2.2 x this x (List.mem_append_right _ hx) rfl
  have := relink_cycle n r t0 segs R (sel.map r) (scatterL r left right) hne hperm hcyc hlk hrec0 hsel hR
  have hop : localOpK n r sel left right =
      koptLoop (argsort n r) (sel.map r) (n - 2) t0 (scatterL r left right) := by
    simp only [localOpK, localOpKC, hhead]
    rfl
  rw [hop]
  exact this

theorem koptMove_isTour (n : Nat) (r : Rec) (sel left right : List Nat) (t0 : Nat)
    (segs : List (List Nat)) (R : List Nat) (h : KoptMoveWF n r sel left right t0 segs R) :
    IsTour (localOpK n r sel left right) n :=
  ⟨_, (koptMove_preserves n r sel left right t0 segs R h).1,
    (koptMove_preserves n r sel left right t0 segs R h).2⟩

/-- Non-vacuity: on the tour 0→1→2→3→4→5→0 the NeuOpt action built from the node sequence 0, 2, 4, 5
(`sel = [0,2,4,5]`, `left = [0,1,3,3]`, `right = [2,4,5,5]`) is well-formed with segments [1,2], [3,4] and
rest [5]; the operator returns 0→2→1→4→3→5→0. -/
example :
    let r : Rec := fun j => [1, 2, 3, 4, 5, 0].getD j 0
    KoptMoveWF 6 r [0, 2, 4, 5] [0, 1, 3, 3] [2, 4, 5, 5] 0 [[1, 2], [3, 4]] [5] ∧
    findWitness 6 r [0, 1, 3, 3] [2, 4, 5, 5] = (0, [[1, 2], [3, 4]], [5]) ∧
    (List.range 6).map (localOpK 6 r [0, 2, 4, 5] [0, 1, 3, 3] [2, 4, 5, 5]) = [2, 4, 1, 5, 3, 0] := by
  intro r
  have hwf : KoptMoveWF 6 r [0, 2, 4, 5] [0, 1, 3, 3] [2, 4, 5, 5] 0 [[1, 2], [3, 4]] [5] := by decide
  refine ⟨hwf, by decide, ?_⟩
  -- by `koptMove_preserves` the new tour is 0, rev [1,2], rev [3,4], 5; the successors are read off this listing
  have h := cycleOf_map _ 0 _ (koptMove_preserves 6 r _ _ _ 0 _ _ hwf).2
  simp only [newTail, List.map_cons, List.map_nil, List.flatten_cons, List.flatten_nil, List.reverse_cons,
    List.reverse_nil, List.nil_append, List.cons_append, List.append_nil, List.cons.injEq, and_true] at h
  obtain ⟨h0, h2, h1, h4, h3, h5⟩ := h
  show [_, _, _, _, _, _] = _
  rw [h0, h1, h2, h3, h4, h5]

end Rl4co.Improve.KoptK

namespace Rl4co.Improve.Kopt
open Rl4co.Spec.Improve Rl4co.Improve.KoptGen

/-- **C09 (k-opt sampler / NeuOpt masks).**  Every action the sequential builder can emit — any tour,
any `k_max`, any initial mask, any node sequence each of whose nodes was free in the builder's own mask at
its sub-step — is a well-formed segment-reversal move on the current tour (for `k_max > 2` the
environment has no mask of its own: this is what "admitted" means for `_random_action` there). -/
theorem koptAction_wellformed (n : Nat) (r : Rec) (ht : IsTour r n) (mask0 : Nat → Bool) (c0 : Nat)
    (cs : List Nat)
    (hadm : (genRun n (cs.length + 1) r (visitedTime n r) mask0 (c0 :: cs)).admitted = true) :
    ∃ segs R, KoptMoveWF n r
      (genAction (cs.length + 1) (genRun n (cs.length + 1) r (visitedTime n r) mask0 (c0 :: cs))).1
      (genAction (cs.length + 1) (genRun n (cs.length + 1) r (visitedTime n r) mask0 (c0 :: cs))).2.1
      (genAction (cs.length + 1) (genRun n (cs.length + 1) r (visitedTime n r) mask0 (c0 :: cs))).2.2
      c0 segs R := by
  have hrun : genRun n (cs.length + 1) r (visitedTime n r) mask0 (c0 :: cs) =
      genLoop n (cs.length + 1) r (visitedTime n r) (0 + 1)
        (genStep n (cs.length + 1) r (visitedTime n r) 0 { mask := mask0 } c0) cs := rfl
  rw [hrun] at hadm ⊢
  have hadm0 := admitted_before_genLoop (n := n) (K := cs.length + 1) (r := r) cs (0 + 1) _ hadm
  rw [genStep_admitted] at hadm0
  have hc0 : c0 < n := by
    simp only [Bool.and_eq_true, decide_eq_true_eq] at hadm0
    exact hadm0.2
  obtain ⟨X, hperm, hcyc⟩ := isTour_from r n ht c0 hc0
  have hbase := base_step (K := cs.length + 1) hperm hcyc mask0
  obtain ⟨segs, Y, hfin⟩ := loop_inv (K := cs.length + 1) hperm hcyc cs 0 _ [] X (Or.inl hbase) hadm
  rw [Nat.zero_add] at hfin
  generalize genLoop n (cs.length + 1) r (visitedTime n r) (0 + 1)
    (genStep n (cs.length + 1) r (visitedTime n r) 0 { mask := mask0 } c0) cs = g at hfin ⊢
  refine ⟨segs, Y, ?_⟩
  rcases hfin with h | ⟨pad, h⟩
  · -- never closed: the last pair is completed by "Form final action"
    have hkl := h.kl
    rw [← List.cons_append] at hkl
    obtain ⟨hl1, hl2⟩ := map_range_init g.kLeft (cs.length + 1) _ _ hkl
    rw [genAction_open _ _ h.ns, Nat.add_sub_cancel]
    apply wf_of_canonical n r c0 X hperm hcyc segs Y h.dec h.ne _ _ _ [] 0
    · rw [List.replicate_zero, List.append_nil]; exact hl1
    · rw [List.replicate_zero, List.append_nil]
      exact map_range_snoc _ g.kRight cs.length _ _ h.kr (fun t ht => upd_other _ _ _ _ (Nat.ne_of_lt ht))
        ((upd_same _ _ _).trans hl2)
    · rw [List.append_nil]; exact h.idx
    · intro e he; exact absurd he List.not_mem_nil
  · rw [genAction_stopped _ _ h.st]
    apply wf_of_canonical n r c0 X hperm hcyc segs Y h.dec h.ne _ _ _
      (closeNode c0 Y :: List.replicate pad c0) (pad + 1)
    · exact h.kl
    · exact h.kr
    · rw [h.idx]; simp
    · intro e he
      rcases List.mem_cons.mp he with h1 | h1
      · exact Or.inr h1
      · exact Or.inl (List.eq_of_mem_replicate h1)

/-- **C09 (general k-opt).**  Every move the action builder can emit (any `k_max`, any tour size, any
admitted node sequence) turns a single `n`-cycle into a single `n`-cycle under the NeuOpt branch of
`_local_operator`. -/
theorem kopt_preserves (n : Nat) (r : Rec) (ht : IsTour r n) (mask0 : Nat → Bool) (c0 : Nat) (cs : List Nat)
    (hadm : (genRun n (cs.length + 1) r (visitedTime n r) mask0 (c0 :: cs)).admitted = true) :
    IsTour (localOpK n r
      (genAction (cs.length + 1) (genRun n (cs.length + 1) r (visitedTime n r) mask0 (c0 :: cs))).1
      (genAction (cs.length + 1) (genRun n (cs.length + 1) r (visitedTime n r) mask0 (c0 :: cs))).2.1
      (genAction (cs.length + 1) (genRun n (cs.length + 1) r (visitedTime n r) mask0 (c0 :: cs))).2.2) n := by
  obtain ⟨segs, R, hwf⟩ := koptAction_wellformed n r ht mask0 c0 cs hadm
  exact KoptK.koptMove_isTour n r _ _ _ c0 segs R hwf

def koptOp (n : Nat) (r : Rec) (m : (Nat → Bool) × Nat × List Nat) : Rec :=
  localOpK n r
    (genAction (m.2.2.length + 1) (genRun n (m.2.2.length + 1) r (visitedTime n r) m.1 (m.2.1 :: m.2.2))).1
    (genAction (m.2.2.length + 1) (genRun n (m.2.2.length + 1) r (visitedTime n r) m.1 (m.2.1 :: m.2.2))).2.1
    (genAction (m.2.2.length + 1) (genRun n (m.2.2.length + 1) r (visitedTime n r) m.1 (m.2.1 :: m.2.2))).2.2

/-- **C09 (k-opt, whole runs).** from a tour, after ANY sequence of builder-admitted k-opt moves (any mix of
`k_max`) both `rec_current` and `rec_best` of the environment state are single `n`-cycles. -/
theorem kopt_run_valid (n : Nat) (D : Nat → Nat → Int) (rec0 : Rec) (h0 : IsTour rec0 n)
    (ms : List ((Nat → Bool) × Nat × List Nat))
    (hadm : Bsf.AdmRun (koptOp n)
      (fun r m => (genRun n (m.2.2.length + 1) r (visitedTime n r) m.1 (m.2.1 :: m.2.2)).admitted = true)
      rec0 ms) :
    let f := Bsf.final n D (koptOp n) (reset n D rec0) ms
    IsTour f.recCur n ∧ IsTour f.recBest n :=
  Bsf.valid_of_run n D _ (fun r => IsTour r n) _
    (fun r m hr hm => kopt_preserves n r hr m.1 m.2.1 m.2.2 hm)
    ms (reset n D rec0) h0 h0 hadm

/-- **C09 (`_random_action`, 2-opt).** every action the sampler can emit is in range and admitted by `get_mask` -/
theorem randomAction2_admitted (n : Nat) (m : Nat × Nat) (h : m ∈ randomActions2 n) :
    m.1 < n ∧ m.2 < n ∧ mask2 m.1 m.2 = true := by
  simp only [randomActions2, List.mem_map, List.mem_filter, List.mem_range] at h
  obtain ⟨k, ⟨hk, hm⟩, rfl⟩ := h
  exact ⟨div_lt_of_lt_mul_right hk, mod_lt_of_lt_mul hk, hm⟩

/-- Non-vacuity: on the tour 0→1→2→3→4→5→0 the node sequence 0, 2, 4, 5 is admitted by the builder's masks
(`k_max = 4`, empty initial mask). -/
example :
    (genRun 6 4 (fun j => [1, 2, 3, 4, 5, 0].getD j 0)
      (visitedTime 6 (fun j => [1, 2, 3, 4, 5, 0].getD j 0)) (fun _ => false) [0, 2, 4, 5]).admitted = true ∧
    randomActions2 3 = [(0, 1), (0, 2), (1, 0), (1, 2), (2, 0), (2, 1)] := by
  decide

end Rl4co.Improve.Kopt
