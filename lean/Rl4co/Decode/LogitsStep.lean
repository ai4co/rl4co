/-
Model of the bookkeeping of a decoding strategy object, `rl4co/utils/decoding.py`:

  DecodingStrategy.__init__           → `StratState.init`      (`self.actions = []`, `self.logprobs = []`)
  DecodingStrategy.step               → `stepBook`  (`logprobs = gather_by_index(logprobs, selected_action)` unless
                                         `store_all_logp`; `self.actions.append`, `self.logprobs.append`)
  Evaluate._step                      → `evaluateSelect` (the selected action is the given one)
  DecodingStrategy.post_decoder_hook  → `postHook`  (`torch.stack(self.logprobs, 1)`, `torch.stack(self.actions, 1)`;
                                         without `select_best`)

One row of the batch; a step is the emitted distribution of that step (`prob = exp(logprobs)`, a function on
action indices) together with the selected action.  `pre_decoder_hook` does *not* reset the lists, so a
second decoding sequence on the same object continues them (`runSteps_append`).  `Decode/Strategy.lean` models the
same buffers inside the decoding loop (`RowSt`, `stepRow`, `post`); no lemma relates the two models.  No Mathlib.
-/
import Rl4co.Core.Basic
namespace Rl4co.Decode

/-- what `step` stores for one decoding step: the gathered entry, or the whole row with `store_all_logp` -/
inductive Logp (K : Type) where
  | one (v : K)
  | all (row : Nat → K)

/-- `self.actions`, `self.logprobs` of a strategy object (one row) -/
structure StratState (K : Type) where
  actions : List Nat
  logprobs : List (Logp K)

/-- `__init__`: empty buffers -/
def StratState.init {K : Type} : StratState K := { actions := [], logprobs := [] }

/-- the tail of `DecodingStrategy.step` after `_step` returned `selected`:
`if not self.store_all_logp: logprobs = gather_by_index(logprobs, selected_action, dim=1)`, then both appends -/
def stepBook {K : Type} (storeAll : Bool) (st : StratState K) (prob : Nat → K) (selected : Nat) : StratState K :=
  { actions := st.actions ++ [selected],
    logprobs := st.logprobs ++ [if storeAll then Logp.all prob else Logp.one (prob selected)] }

/-- `Evaluate._step`: `selected = action` (the externally given action), whatever the distribution -/
def evaluateSelect (given : Nat) : Nat := given

/-- a sequence of `step` calls -/
def runSteps {K : Type} (storeAll : Bool) (st : StratState K) (steps : List ((Nat → K) × Nat)) : StratState K :=
  steps.foldl (fun s ps => stepBook storeAll s ps.1 ps.2) st

/-- `post_decoder_hook` (no `select_best`): the stacked buffers -/
def postHook {K : Type} (st : StratState K) : List (Logp K) × List Nat := (st.logprobs, st.actions)

/-- the entry stored for a step -/
def entryOf {K : Type} (storeAll : Bool) (ps : (Nat → K) × Nat) : Logp K :=
  if storeAll then Logp.all ps.1 else Logp.one (ps.1 ps.2)

theorem runSteps_append {K : Type} (storeAll : Bool) (st : StratState K) (steps : List ((Nat → K) × Nat)) :
    (runSteps storeAll st steps).actions = st.actions ++ steps.map (·.2) ∧
    (runSteps storeAll st steps).logprobs = st.logprobs ++ steps.map (entryOf storeAll) := by
  induction steps generalizing st with
  | nil => simp [runSteps]
  | cons s rest ih =>
    have := ih (stepBook storeAll st s.1 s.2)
    simp only [runSteps, List.foldl_cons] at this ⊢
    rw [this.1, this.2]
    simp [stepBook, entryOf, List.append_assoc]

/-- **object reuse**: the buffers are not reset by `pre_decoder_hook`; a second sequence of steps on the same
object returns the first sequence followed by the second. -/
theorem postHook_reuse {K : Type} (storeAll : Bool) (first second : List ((Nat → K) × Nat)) :
    postHook (runSteps storeAll (runSteps storeAll StratState.init first) second) =
      ((first ++ second).map (entryOf storeAll), (first ++ second).map (·.2)) := by
  have h1 := runSteps_append storeAll (StratState.init (K := K)) first
  have h2 := runSteps_append storeAll (runSteps storeAll StratState.init first) second
  unfold postHook
  rw [h2.1, h2.2, h1.1, h1.2, List.map_append, List.map_append]
  rfl

/-- **fresh object**: `post_decoder_hook` returns exactly the per-step selected actions, in order, and for
each step the probability of the action selected at that step (or the whole row with `store_all_logp`). -/
theorem postHook_fresh {K : Type} (storeAll : Bool) (steps : List ((Nat → K) × Nat)) :
    postHook (runSteps storeAll StratState.init steps) = (steps.map (entryOf storeAll), steps.map (·.2)) :=
  postHook_reuse storeAll [] steps

/-- **Evaluate**: with given actions `as`, the returned actions are `as` and the stored entry of step `t` is the
probability the step's distribution gives to `as[t]`. -/
theorem evaluate_gathers {K : Type} (probs : List (Nat → K)) (given : List Nat) (h : probs.length = given.length) :
    postHook (runSteps false StratState.init ((probs.zip given).map (fun pg => (pg.1, evaluateSelect pg.2)))) =
      ((probs.zip given).map (fun pg => Logp.one (pg.1 pg.2)), given) := by
  rw [postHook_fresh]
  simp only [List.map_map]
  refine Prod.ext ?_ ?_
  · simp [entryOf, evaluateSelect, Function.comp_def]
  · simp only [Function.comp_def, evaluateSelect]
    exact List.map_snd_zip (Nat.le_of_eq h.symm)

end Rl4co.Decode
