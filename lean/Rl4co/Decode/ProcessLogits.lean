/-
Model of logit processing and action selection, `rl4co/utils/decoding.py`:

  process_logits                       → `processLogits`   (stages in the code's order)
  modify_logits_for_top_k_filtering    → `topKStage`
  modify_logits_for_top_p_filtering    → `topPStage`
  F.log_softmax                        → `softmaxN` (the distribution) + `Out.lg` (finite ⇔ logprob > -inf)
  DecodingStrategy.greedy              → `greedy` (+ validity of the observed argmax `GreedyValid`)
  DecodingStrategy.sampling            → `sampleLoop` / `sampleLoopB` (resample-while-infeasible)
  Greedy._step / Sampling._step via DecodingStrategy.step → `stepGreedy` / `stepSampling`

One row of the batch is a function `Nat → K` on indices `< n`; `-inf` is `none`.  The number type `K`
is abstract (only the operations the code uses); the proofs instantiate it with a linearly ordered
field and `Real`, the driver with `Rat`.  `exp` is an abstract weight function `w`, the tanh clipping
`tanh(·)·C` an abstract function `clip`.

`torch.topk`, `torch.sort` and `argmax` break ties in an unspecified way and `torch.multinomial` is
random: what they returned is an *oracle input* of the model (`kth` = index of the k-th largest entry,
`σ` = the ascending sorting permutation, `a` = the chosen index, `draws` = the successive multinomial
draws), constrained only by the validity predicates below.

The decision-critical tokens of the source (order of the stages, comparison operators, `top_k`
clamping and offset, the top-p threshold / guard / sort direction / protected index, the mask fill, the
loop condition of `sampling`, the reduction of `greedy`) are *parameters* read from
`Rl4co/Generated/Params.lean`, which `harness/extract.py` regenerates from the Python AST on every run
(probes: `harness/probes/logits.py`); the unfolding lemmas in `Rl4co/Proofs/LogitsLemmas.lean` need the
committed values, so a one-token source edit breaks a proof obligation at `lake build`.  No Mathlib.
-/
import Rl4co.Core.Basic
import Rl4co.Generated.Params
namespace Rl4co.Decode

/-- Σ_{i<n} f i -/
def sumN {K : Type} [Add K] [OfNat K 0] : Nat → (Nat → K) → K
  | 0, _ => 0
  | n + 1, f => sumN n f + f n

/-- What the theorems need of `exp`: positive, strictly increasing, `exp (x + c) = exp x * exp c`
(instantiated by `Real.exp` in the proofs and by `y ↦ 2^y` on integers in the driver). -/
structure ExpLike {K : Type} [Add K] [Mul K] [LT K] [OfNat K 0] (w : K → K) : Prop where
  pos : ∀ x, 0 < w x
  strictMono : ∀ x y, x < y → w x < w y
  mul : ∀ x c, w (x + c) = w x * w c

/-- A row of values, as a function behind a structure: the compiler evaluates a `Vec`-valued
definition once per call (a bare `Nat → α` result would be eta-expanded and its `let`s recomputed on
every index). -/
structure Vec (α : Type) where
  get : Nat → α

/-- `f` tabulated on `0..n-1` (an array behind the function); semantically `⟨f⟩`, see `Vec.tab_get`. -/
def Vec.tab {α : Type} (n : Nat) (f : Nat → α) : Vec α :=
  let a := Array.ofFn (n := n) (fun i => f i.val)
  ⟨fun j => if h : j < a.size then a[j] else f j⟩

@[simp] theorem Vec.tab_get {α : Type} (n : Nat) (f : Nat → α) (j : Nat) : (Vec.tab n f).get j = f j := by
  simp only [Vec.tab]
  split
  · simp
  · rfl

theorem Vec.tab_eq {α : Type} (n : Nat) (f : Nat → α) : Vec.tab n f = ⟨f⟩ := by
  have h : (Vec.tab n f).get = f := funext (Vec.tab_get n f)
  cases hv : Vec.tab n f with
  | mk g => rw [hv] at h; simp only at h; rw [h]

section order
variable {K : Type} [LT K] [DecidableLT K]

/-- strict order on logits with `none = -inf` below everything (`a < b` on float tensors) -/
def ltO : Option K → Option K → Bool
  | none, none => false
  | none, some _ => true
  | some _, none => false
  | some a, some b => decide (a < b)

/-- `a ≤ b` as `¬ b < a` (total order) -/
def leO (a b : Option K) : Bool := !ltO b a

/-- `a <op> b` on numbers, for an operator token extracted from the source (everything from `<`) -/
def cmpK : Cmp → K → K → Bool
  | .lt, a, b => decide (a < b)
  | .le, a, b => !decide (b < a)
  | .gt, a, b => decide (b < a)
  | .ge, a, b => !decide (a < b)
  | .eq, a, b => !decide (a < b) && !decide (b < a)
  | .ne, a, b => decide (a < b) || decide (b < a)

/-- `a <op> b` on logits (`none = -inf`) -/
def cmpO : Cmp → Option K → Option K → Bool
  | .lt, a, b => ltO a b
  | .le, a, b => !ltO b a
  | .gt, a, b => ltO b a
  | .ge, a, b => !ltO a b
  | .eq, a, b => !ltO a b && !ltO b a
  | .ne, a, b => ltO a b || ltO b a

end order

/-! ### the extracted tokens (see `harness/probes/logits.py`) -/

/-- does the guard of a stage test only the *value* of its option (`if top_k > 0:`), whatever its representation
(python int, numpy integer, 0-dim tensor)?  `false` when the source guard also contains a type test. -/
def guardPlain (stage : String) : Bool := (Params.logitsStageGuards.lookup stage).getD true

/-- `if top_k > 0:` -/
def topkOn (k : Nat) : Bool := guardPlain "topk" && Params.logitsTopkOnCmp.evalNat k 0
/-- operator of `logits < torch.topk(…)[0][..., -1, None]` -/
def topkCmp : Cmp := Params.logitsTopkFilter.1
/-- which order statistic the threshold is: `torch.topk(logits, k' + a)[0][..., -e]` is the
`(k' + a - (e - 1))`-th largest entry, `k' = min(top_k, n)` when the clamping statement is present -/
def kEff (n k : Nat) : Nat :=
  (if Params.logitsTopkClampMin then min k n else k) + Params.logitsTopkFilter.2.1 - (Params.logitsTopkFilter.2.2 - 1)

section toks
variable {K : Type} [Sub K] [OfNat K 0] [OfNat K 1] [LT K] [DecidableLT K]

/-- top-p filter skipped: `not (top_p > 0)` in `process_logits`, or `top_p <= 0.0 or top_p >= 1.0` inside -/
def toppOff (p : K) : Bool :=
  !guardPlain "topp" || !cmpK Params.logitsToppOnCmp p 0 ||
    cmpK (Params.logitsToppGuardCmps.getD 0 .le) p 0 || cmpK (Params.logitsToppGuardCmps.getD 1 .ge) p 1

/-- right-hand side of `cumulative_probs <= (1 - top_p)` -/
def toppThr (p : K) : K := if Params.logitsToppCmp.2 then 1 - p else p

/-- `cumulative_probs <= (1 - top_p)` -/
def toppFlag (cum p : K) : Bool := cmpK Params.logitsToppCmp.1 cum (toppThr p)

/-- order required of consecutive sorted entries: `torch.sort(logits, descending=False)` -/
def sortLe (a b : Option K) : Bool := if Params.logitsSortDescending then leO b a else leO a b

/-- `argmax` (or `argmin`) of `DecodingStrategy.greedy`: `a` beats `b` -/
def greedyLe (b a : Option K) : Bool := if Params.logitsGreedyArgmax then leO b a else leO a b

end toks

/-- the position protected by `sorted_indices_to_remove[..., -1] = False` -/
def protPos (n : Nat) : Nat :=
  if Params.logitsToppProtectedIdx < 0 then n - Params.logitsToppProtectedIdx.natAbs
  else Params.logitsToppProtectedIdx.toNat

/-- is an entry with mask bit `m` overwritten by `logits[~mask] = …` -/
def maskFilled (m : Bool) : Bool := if Params.logitsMaskFill.1 then !m else m

/-- decoding configuration (`DecodingStrategy.__init__` / `process_logits` keyword arguments;
`mask_logits = True`, for `mask_logits = False` see `processLogitsOpt`) -/
structure Cfg (K : Type) where
  temp : K          -- temperature
  topK : Nat        -- top_k
  topP : K          -- top_p
  clipOn : Bool     -- tanh_clipping > 0

section stages
variable {K : Type}

/-- `if tanh_clipping > 0: logits = torch.tanh(logits) * tanh_clipping` -/
def clipStage (clipOn : Bool) (clip : K → K) (x : Nat → K) : Nat → K :=
  fun j => if clipOn then clip (x j) else x j

/-- `logits[~mask] = float("-inf")` -/
def maskStage (mask : Nat → Bool) (x : Nat → K) : Nat → Option K :=
  fun j => if maskFilled (mask j) then (if Params.logitsMaskFill.2 then none else some (x j)) else some (x j)

/-- `logits = logits / temperature` (`-inf / T = -inf` for `T > 0`) -/
def tempStage [Div K] (T : K) (x : Nat → Option K) : Nat → Option K :=
  fun j => (x j).map (· / T)

/-- `modify_logits_for_top_k_filtering` guarded by `if top_k > 0`:
`thr = torch.topk(logits, min(top_k, n))[0][..., -1]` is the value at the oracle index `kth`;
entries strictly below it become `-inf`. -/
def topKStage [LT K] [DecidableLT K] (n k kth : Nat) (x : Vec (Option K)) : Vec (Option K) :=
  if !topkOn k then x else
  let thr := x.get kth
  Vec.tab n (fun j => if cmpO topkCmp (x.get j) thr then none else x.get j)

/-- weight of a logit: `exp`, with `exp(-inf) = 0` -/
def wO [OfNat K 0] (w : K → K) : Option K → K
  | none => 0
  | some v => w v

/-- `softmax(dim=-1)` of one row -/
def softmaxN [Add K] [Div K] [OfNat K 0] (n : Nat) (w : K → K) (x : Nat → Option K) : Vec K :=
  let Z := sumN n (fun i => wO w (x i))
  Vec.tab n (fun j => wO w (x j) / Z)

/-- the sorted-position removal flags of `modify_logits_for_top_p_filtering`:
`cumulative_probs = sorted_logits.softmax(-1).cumsum(-1)`, `cumulative_probs <= 1 - top_p`, then
`sorted_indices_to_remove[..., -1] = False` (the last sorted position is always kept; a no-op in exact
arithmetic, see `last_never_removed`) -/
def toppRem [Add K] [Sub K] [Div K] [OfNat K 0] [OfNat K 1] [LT K] [DecidableLT K]
    (n : Nat) (w : K → K) (p : K) (σ : Nat → Nat) (x : Vec (Option K)) : Vec Bool :=
  let q := softmaxN n w (fun i => x.get (σ i))
  Vec.tab n (fun i => if i = protPos n then false else toppFlag (sumN (i + 1) q.get) p)

/-- `modify_logits_for_top_p_filtering` guarded by `if top_p > 0` (and its own early return for
`top_p <= 0 or top_p >= 1`); `σ = sorted_indices` of the ascending `torch.sort`; the flags are
scattered back to the original positions and flagged entries become `-inf`. -/
def topPStage [Add K] [Sub K] [Div K] [OfNat K 0] [OfNat K 1] [LT K] [DecidableLT K]
    (n : Nat) (w : K → K) (p : K) (σ : Nat → Nat) (x : Vec (Option K)) : Vec (Option K) :=
  if toppOff p then x else
  let rem := toppRem n w p σ x
  Vec.tab n (fun j => if (List.range n).any (fun i => σ i == j && rem.get i) then none else x.get j)

end stages

/-- result of `process_logits` for one row: the filtered logits entering `log_softmax`
(`lg j = none` ⇔ `logprobs[j] = -inf`) and the distribution `prob = exp(logprobs)`. -/
structure Out (K : Type) where
  lg : Nat → Option K
  prob : Nat → K

def Out.kept {K : Type} (o : Out K) (j : Nat) : Bool := (o.lg j).isSome

/-- the statements of `process_logits` before the final `log_softmax` -/
inductive Stage where
  | clip | mask | temp | topk | topp
  deriving DecidableEq, Repr

def Stage.ofString : String → Option Stage
  | "clip" => some .clip
  | "mask" => some .mask
  | "temp" => some .temp
  | "topk" => some .topk
  | "topp" => some .topp
  | _ => none

/-- the order in which `process_logits` executes them, as extracted from the source -/
def stageOrder : List Stage := Params.logitsStageOrder.filterMap Stage.ofString

section main
variable {K : Type} [Add K] [Sub K] [Div K] [OfNat K 0] [OfNat K 1] [LT K] [DecidableLT K]

/-! the statements of `process_logits` as functions on the current value of `logits` (these are also the
primitives of the statement-level translation, `Generated/LogitsPipeline.lean`) -/

/-- `torch.tanh(logits) * tanh_clipping` -/
def stClipAlways (clip : K → K) (n : Nat) (X : Vec (Option K)) : Vec (Option K) :=
  Vec.tab n (fun j => (X.get j).map clip)

/-- `if tanh_clipping > 0: logits = torch.tanh(logits) * tanh_clipping` -/
def stClip (clip : K → K) (c : Cfg K) (n : Nat) (X : Vec (Option K)) : Vec (Option K) :=
  if guardPlain "clip" && c.clipOn then stClipAlways clip n X else X

/-- `if mask_logits: logits[~mask] = float("-inf")` -/
def stMask (n : Nat) (mask : Nat → Bool) (X : Vec (Option K)) : Vec (Option K) :=
  Vec.tab n (fun j =>
    if maskFilled (mask j) then (if Params.logitsMaskFill.2 then none else X.get j) else X.get j)

/-- `logits / temperature` -/
def stTemp (c : Cfg K) (n : Nat) (X : Vec (Option K)) : Vec (Option K) :=
  Vec.tab n (fun j => (X.get j).map (· / c.temp))

/-- `if top_k > 0: … logits = modify_logits_for_top_k_filtering(logits, top_k)` -/
def stTopK (c : Cfg K) (n kth : Nat) (X : Vec (Option K)) : Vec (Option K) := topKStage n c.topK kth X

/-- `if top_p > 0: … logits = modify_logits_for_top_p_filtering(logits, top_p)` -/
def stTopP (w : K → K) (c : Cfg K) (n : Nat) (σ : Nat → Nat) (X : Vec (Option K)) : Vec (Option K) :=
  topPStage n w c.topP σ X

/-- `F.log_softmax(logits, dim=-1)`: the support and the distribution `exp(logprobs)` -/
def stLogSoftmax (w : K → K) (n : Nat) (X : Vec (Option K)) : Out K :=
  { lg := X.get, prob := (softmaxN n w X.get).get }

/-- one statement of `process_logits` acting on the current logits -/
def applyStage (w clip : K → K) (c : Cfg K) (n : Nat) (mask : Nat → Bool) (kth : Nat) (σ : Nat → Nat) :
    Stage → Vec (Option K) → Vec (Option K)
  | .clip, X => stClip clip c n X
  | .mask, X => stMask n mask X
  | .temp, X => stTemp c n X
  | .topk, X => stTopK c n kth X
  | .topp, X => stTopP w c n σ X

def runStages (w clip : K → K) (c : Cfg K) (n : Nat) (mask : Nat → Bool) (kth : Nat) (σ : Nat → Nat)
    (order : List Stage) (X : Vec (Option K)) : Vec (Option K) :=
  order.foldl (fun X s => applyStage w clip c n mask kth σ s X) X

/-- logits after clipping, masking and temperature (input of the top-k filter) -/
def pre (clip : K → K) (c : Cfg K) (n : Nat) (x : Nat → K) (mask : Nat → Bool) : Vec (Option K) :=
  Vec.tab n (tempStage c.temp (maskStage mask (clipStage c.clipOn clip x)))

/-- logits after the top-k filter (input of the top-p filter) -/
def afterK (clip : K → K) (c : Cfg K) (n : Nat) (x : Nat → K) (mask : Nat → Bool) (kth : Nat) :
    Vec (Option K) :=
  topKStage n c.topK kth (pre clip c n x mask)

/-- `process_logits` (one row): the statements in the extracted order, then `log_softmax`.
(`runStages_canonical`, `Proofs/LogitsLemmas.lean`: with the committed order this is
`topPStage (afterK …)` followed by the softmax.) -/
def processLogits (w clip : K → K) (c : Cfg K) (n : Nat) (x : Nat → K) (mask : Nat → Bool)
    (kth : Nat) (σ : Nat → Nat) : Out K :=
  stLogSoftmax w n (runStages w clip c n mask kth σ stageOrder (Vec.tab n (fun j => some (x j))))

/-- `process_logits(…, mask_logits=…)`: with `mask_logits = False` the statement `logits[~mask] = -inf` is
skipped, which is the same as an all-feasible mask (`maskStage_alltrue`). -/
def processLogitsOpt (maskLogits : Bool) (w clip : K → K) (c : Cfg K) (n : Nat) (x : Nat → K)
    (mask : Nat → Bool) (kth : Nat) (σ : Nat → Nat) : Out K :=
  processLogits w clip c n x (if maskLogits then mask else fun _ => true) kth σ

/-! ### validity of the oracle inputs (decidable: the driver evaluates them on what torch returned) -/

/-- `kth` is the index of a `kEff n k`-th (= `min(k, n)`-th) largest entry of `x`: fewer than that many
entries are strictly larger and at least that many are at least as large (what
`torch.topk(x, k')[1][..., -1]` returns). -/
def KthValid (n k : Nat) (x : Nat → Option K) (kth : Nat) : Prop :=
  kth < n ∧ cnt n (fun j => ltO (x kth) (x j)) < kEff n k ∧ kEff n k ≤ cnt n (fun j => leO (x kth) (x j))

instance (n k : Nat) (x : Nat → Option K) (kth : Nat) : Decidable (KthValid n k x kth) := by
  unfold KthValid; infer_instance

/-- `σ` is a permutation of `0..n-1` that sorts `x` ascending (what `torch.sort(x)[1]` returns). -/
def SortValid (n : Nat) (x : Nat → Option K) (σ : Nat → Nat) : Prop :=
  (∀ i, i < n → σ i < n) ∧ (∀ i, i < n → ∀ i', i' < n → σ i = σ i' → i = i') ∧
  (∀ i, i < n → i + 1 < n → sortLe (x (σ i)) (x (σ (i + 1))) = true)

instance (n : Nat) (x : Nat → Option K) (σ : Nat → Nat) : Decidable (SortValid n x σ) := by
  unfold SortValid; infer_instance

/-- `a` is what `logprobs.argmax(-1)` may return: an index of a largest entry
(`logprobs = lg - const`, so the order is that of `lg`). -/
def GreedyValid (n : Nat) (lg : Nat → Option K) (a : Nat) : Prop :=
  a < n ∧ ∀ j, j < n → greedyLe (lg j) (lg a) = true

instance (n : Nat) (lg : Nat → Option K) (a : Nat) : Decidable (GreedyValid n lg a) := by
  unfold GreedyValid; infer_instance

/-- `a` is what `torch.multinomial(probs, 1)` may return: an index of positive probability. -/
def SampleValid (n : Nat) (prob : Nat → K) (a : Nat) : Prop := a < n ∧ 0 < prob a

instance (n : Nat) (prob : Nat → K) (a : Nat) : Decidable (SampleValid n prob a) := by
  unfold SampleValid; infer_instance

end main

/-! ### action selection -/

/-- outcome of a selection routine: a value, its `assert … "infeasible action selected"` fired, or (model
only) the supplied draws ran out before the loop ended -/
inductive LoopRes (α : Type) where
  | ok (v : α)
  | assertFail
  | outOfDraws
  deriving DecidableEq, Repr

/-- `DecodingStrategy.greedy`: `selected = logprobs.argmax(-1)` (the oracle `a`), then
`assert not (~mask)[selected]`; `none` = the assertion fires. -/
def greedy (mask : Nat → Bool) (a : Nat) : Option Nat := if mask a then some a else none

/-- the flag `(~mask).gather(1, selected)` tested by the loop of `sampling` -/
def rowFlag (m : Nat → Bool) (a : Nat) : Bool := if Params.logitsSampleLoop.2 then !m a else m a

/-- the loop condition: `.any()` over the rows -/
def contCond (flags : List Bool) : Bool := if Params.logitsSampleLoop.1 then flags.any id else flags.all id

/-- `DecodingStrategy.sampling` for a batch as written: draw; `while (~mask)[selected].any(): redraw every
row`; then `assert not (~mask)[selected].any()`.  `draws` = the successive draw vectors of `multinomial`. -/
def sampleLoopB (masks : List (Nat → Bool)) : List (List Nat) → LoopRes (List Nat)
  | [] => .outOfDraws
  | v :: rest =>
    if contCond ((masks.zip v).map (fun ma => rowFlag ma.1 ma.2)) then sampleLoopB masks rest
    else if (masks.zip v).all (fun ma => ma.1 ma.2) then .ok v else .assertFail

/-- `DecodingStrategy.sampling` for a single row -/
def sampleLoop (mask : Nat → Bool) : List Nat → LoopRes Nat
  | [] => .outOfDraws
  | a :: rest =>
    if contCond [rowFlag mask a] then sampleLoop mask rest
    else if mask a then .ok a else .assertFail

def hasSub (s sub : String) : Bool := decide ((s.splitOn sub).length > 1)

/-- `decode_logprobs(logprobs, mask, decode_type)`: `"greedy" in decode_type` → `greedy`,
`"sampling" in decode_type` → `sampling`, else `assert False` -/
def decodeLogprobs (decodeType : String) (mask : Nat → Bool) (a : Nat) (draws : List Nat) : LoopRes Nat :=
  if hasSub decodeType "greedy" then
    (match greedy mask a with
     | some b => .ok b
     | none => .assertFail)
  else if hasSub decodeType "sampling" then sampleLoop mask draws
  else .assertFail

section step
variable {K : Type} [Add K] [Sub K] [Div K] [OfNat K 0] [OfNat K 1] [LT K] [DecidableLT K]

/-- `Greedy(...).step(logits, mask, td)`: `process_logits` then `greedy(logprobs, mask)`. -/
def stepGreedy (w clip : K → K) (c : Cfg K) (n : Nat) (x : Nat → K) (mask : Nat → Bool)
    (kth : Nat) (σ : Nat → Nat) (a : Nat) : Out K × Option Nat :=
  (processLogits w clip c n x mask kth σ, greedy mask a)

/-- `Sampling(...).step(logits, mask, td)`: `process_logits` then `sampling(logprobs, mask)`. -/
def stepSampling (w clip : K → K) (c : Cfg K) (n : Nat) (x : Nat → K) (mask : Nat → Bool)
    (kth : Nat) (σ : Nat → Nat) (draws : List Nat) : Out K × LoopRes Nat :=
  (processLogits w clip c n x mask kth σ, sampleLoop mask draws)

/-- `Greedy(mask_logits=False).step`: `step` sets `mask = None`, so nothing is masked and `greedy` makes no
assertion -/
def stepGreedyNoMask (w clip : K → K) (c : Cfg K) (n : Nat) (x : Nat → K) (mask : Nat → Bool)
    (kth : Nat) (σ : Nat → Nat) (a : Nat) : Out K × Option Nat :=
  (processLogitsOpt false w clip c n x mask kth σ, some a)

/-- `Sampling(mask_logits=False).step`: one draw, no loop -/
def stepSamplingNoMask (w clip : K → K) (c : Cfg K) (n : Nat) (x : Nat → K) (mask : Nat → Bool)
    (kth : Nat) (σ : Nat → Nat) (draws : List Nat) : Out K × LoopRes Nat :=
  (processLogitsOpt false w clip c n x mask kth σ,
    match draws with
    | [] => .outOfDraws
    | a :: _ => .ok a)

end step

end Rl4co.Decode
