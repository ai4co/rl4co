/-
Model of the decoding loop and of the log-likelihood bookkeeping of rl4co.  No Mathlib.

  rl4co/utils/decoding.py
    DecodingStrategy.pre_decoder_hook   → `pre`        (multistart: forced first action, log-prob 0)
    DecodingStrategy.step               → `iter`       (gather / store-all, append to the buffers)
    DecodingStrategy.post_decoder_hook  → `post`       (stack, optional `_select_best`)
    DecodingStrategy._select_best       → `selectBestRow`
    Greedy/Sampling/Evaluate._step      → the selector `sel` (an oracle; `Evaluate` = `evalSel`)
    get_log_likelihood                  → `getLL`, `getLLSum`
  rl4co/utils/ops.py  calculate_entropy → `calculateEntropy`
  rl4co/models/common/constructive/base.py  ConstructivePolicy.forward  → `loop`, `decode`
  rl4co/models/rl/ppo/ppo.py  PPO.shared_step (ratio)                   → `ppoRatio`

Conventions.  A log-probability is `LP = Option Int`: `none` is `-inf`, `some k` is the float32 value
`k·2^-scale` (the harness passes the exact dyadic value of every float32 the code holds).  A batch is a
function `Nat → RowSt S` (row index ↦ row) together with its size `B`; tensors indexed by the batch
dimension are functions of the row index, so "for all rows" code is pointwise here.  The policy network
and `process_logits` (owned by C10) are an oracle `π : S → Row`: the masked, normalised per-step
log-prob row as a function of the row's decoding state.  The action selection (argmax tie-breaking,
the multinomial sampler, or the externally supplied actions of `Evaluate`) is an oracle
`sel : row → step → Row → action`.  The python buffers `self.actions`, `self.logprobs` are lists in
chronological order (`append` = `++ [x]`).

Translator tie: the decision-critical tokens of the two source files are *extracted from the Python AST on
every run* (harness/probes/loglik.py → `Rl4co/Generated/Params.lean`) and enter the definitions below as
parameters (`Params.gll…`, `Params.pre…`, `Params.decode…`, `Params.selectBest…`, `Params.entropy…`,
`Params.ppo…`); the lemmas of `Proofs/Loglik.lean` (section "extracted parameters") and the property
theorems need their pinned values and stop compiling when a token of the source changes.
-/
import Rl4co.Generated.Params
namespace Rl4co.Decode

/-- log-probability; `none` = `-inf` -/
abbrev LP := Option Int
/-- one row of a `[batch, num_actions]` log-prob matrix -/
abbrev Row := List LP

/-- lifted addition: anything plus `-inf` is `-inf` -/
def lpAdd (plus : Int → Int → Int) : LP → LP → LP
  | some a, some b => some (plus a b)
  | _, _ => none

/-- `logprobs.sum(1)` over exact values; `none` as soon as a `-inf` is summed (the code's
`assert (logprobs > -1000).all()` fires in that case). -/
def lpSum (xs : List LP) : LP := xs.foldr (lpAdd (· + ·)) (some 0)

/-- `row.gather(-1, a)`; an out-of-range index (an error in torch) reads as `-inf`. -/
def gather (row : Row) (a : Nat) : LP := row.getD a none

/-- What `DecodingStrategy.step` appends to `self.logprobs` for one row: the gathered value
(`store_all_logp = False`) or the whole row (`store_all_logp = True`). -/
inductive Rec where
  | g (v : LP)
  | full (row : Row)
  deriving Repr, DecidableEq

/-- `step`: `if not self.store_all_logp: logprobs = gather_by_index(logprobs, selected_action)` -/
def mkRec (storeAll : Bool) (row : Row) (a : Nat) : Rec :=
  if storeAll then .full row else .g (gather row a)

/-- `pre_decoder_hook`: `zeros_like(td["action_mask"])` (`[B,N]`) or `zeros_like(action)` (`[B]`) -/
def forcedRec (storeAll : Bool) (N : Nat) : Rec :=
  if storeAll then .full (List.replicate N (some Params.preForcedLogpAll)) else .g (some Params.preForcedLogp)

/-- `get_log_likelihood`: `if actions is not None and logprobs.dim() == 3: gather` -/
def recVal : Rec → Nat → LP
  | .g v, _ => v
  | .full row, a => gather row a

/-- `logprobs[~mask] = 0` for one entry -/
def maskVal (v : LP) (keep : Bool) : LP :=
  -- `logprobs[~mask] = 0`: the subscript is `~mask` (`Params.gllMaskInverted`), the assigned constant `Params.gllMaskFill`
  if (if Params.gllMaskInverted then !keep else keep) then some Params.gllMaskFill else v

/-- `get_log_likelihood(logprobs, actions, mask, return_sum=False)` for one row -/
def getLL (recs : List Rec) (acts : List Nat) (mask : Option (List Bool)) : List LP :=
  let vals := List.zipWith recVal recs acts
  match mask with
  | none => vals
  | some m => List.zipWith maskVal vals m

/-- `get_log_likelihood(..., return_sum=True)` -/
def getLLSum (recs : List Rec) (acts : List Nat) (mask : Option (List Bool)) : LP :=
  -- `logprobs.sum(1)`: axis 1 of `[batch, steps]` is the row's own steps (`Params.gllSumAxis`); any other axis is
  -- not a per-row sum and is modelled as the assertion-failure value
  if Params.gllSumAxis = 1 then lpSum (getLL recs acts mask) else none

/-- `calculate_entropy`: `-(logprobs.exp() * logprobs).sum(-1).sum(1)` for one row of the batch.
`prod` is the elementwise map `lp ↦ exp lp · lp` after `nan_to_num` (an oracle: `exp` is not modelled); the
model is the double sum and the leading minus sign (`Params.entropyNegated`). -/
def calculateEntropy (prod : LP → Int) (rows : List Row) : Int :=
  let total := (rows.map (fun row => (row.map prod).foldr (· + ·) 0)).foldr (· + ·) 0
  if Params.entropyNegated then -total else total

/-- the `[B, T, N]` tensor handed to `calculate_entropy` (only exists when `store_all_logp`) -/
def fullRows : List Rec → Option (List Row)
  | [] => some []
  | .full row :: rs => (fullRows rs).map (row :: ·)
  | .g _ :: _ => none

/-- The environment as the decoding loop sees one row of it. -/
structure DEnv (S : Type) where
  step : S → Nat → S
  done : S → Bool
  mask : S → Nat → Bool

/-- One batch row: environment state and the row's slice of `self.actions` / `self.logprobs`. -/
structure RowSt (S : Type) where
  s : S
  acts : List Nat
  recs : List Rec

variable {S : Type}

/-- `pre_decoder_hook`.  `start = none`: not multistart (nothing happens).  `start = some f`
(multistart, `num_starts ≥ 1`): row `r` of the already `batchify`-ed batch `s0` is stepped with the
start node `f r`; a zero log-prob and the action are appended.  (`batchify` itself is C12's.) -/
def pre (e : DEnv S) (storeAll : Bool) (N : Nat) (start : Option (Nat → Nat)) (s0 : Nat → S) :
    Nat → RowSt S :=
  match start with
  | none => fun r => { s := s0 r, acts := [], recs := [] }
  | some f => fun r => { s := e.step (s0 r) (f r), acts := [f r], recs := [forcedRec storeAll N] }

/-- Which start rule a pre-decoder hook applies when no custom `select_start_nodes_fn` is given: the
environment's own `env.select_start_nodes` (possibly overridden: PDP pickups only, OP feasible nodes, MTVRP …)
or the generic helper of `utils/ops.py`.  `fromEnv` is extracted (`Params.preStartFromEnvRule` for
`DecodingStrategy`, `Params.beamStartFromEnvRule` for `BeamSearch`). -/
def hookStart (fromEnv : Bool) (envRule generic : Nat → Nat) : Nat → Nat :=
  if fromEnv then envRule else generic

/-- the forced start nodes of multi-start decoding -/
def preStartRule (envRule generic : Nat → Nat) : Nat → Nat := hookStart Params.preStartFromEnvRule envRule generic
/-- the forced start nodes of beam search -/
def beamStartRule (envRule generic : Nat → Nat) : Nat → Nat := hookStart Params.beamStartFromEnvRule envRule generic

/-- One pass through the body of the `while` loop of `ConstructivePolicy.forward` for one row:
`logits, mask = decoder(td)`; `td = decode_strategy.step(...)`; `td = env.step(td)["next"]`.
`π st.s` is the processed log-prob row of the row, `choose row` the selected action. -/
def stepRow (e : DEnv S) (storeAll : Bool) (π : S → Row) (choose : Row → Nat) (st : RowSt S) :
    RowSt S :=
  let row := π st.s
  let a := choose row
  { s := e.step st.s a, acts := st.acts ++ [a], recs := st.recs ++ [mkRec storeAll row a] }

/-- the pass for the whole batch (`sel r` is the selector of row `r` at this pass) -/
def iter (e : DEnv S) (storeAll : Bool) (π : S → Row) (sel : Nat → Row → Nat) (b : Nat → RowSt S) :
    Nat → RowSt S :=
  fun r => stepRow e storeAll π (sel r) (b r)

/-- `td["done"].all()` -/
def allDone (e : DEnv S) (B : Nat) (b : Nat → RowSt S) : Bool :=
  -- `.all()` vs `.any()` is extracted (`Params.decodeLoopAllDone`)
  if Params.decodeLoopAllDone then (List.range B).all (fun r => e.done (b r).s)
  else (List.range B).any (fun r => e.done (b r).s)

/-- The `while not td["done"].all()` loop.  `fuel` counts the passes still allowed: the code leaves
the loop through `break` once `step > max_steps`, i.e. after `max_steps + 1` passes, so `decode`
starts it with `fuel = max_steps + 1`.  Returns the batch and the value of `step`. -/
def loop (e : DEnv S) (π : S → Row) (sel : Nat → Nat → Row → Nat) (storeAll : Bool) (B : Nat) :
    Nat → Nat → (Nat → RowSt S) → (Nat → RowSt S) × Nat
  | 0, t, b => (b, t)
  | f + 1, t, b =>
    if allDone e B b then (b, t)
    else loop e π sel storeAll B f (t + 1) (iter e storeAll π (fun r row => sel r t row) b)

/-- Number of passes after which `if step <cmp> max_steps: break` leaves the loop (`step` is incremented
before the test): `max_steps + 1` for `>` (the pinned operator, `Params.decodeBreakCmp`), `max(max_steps, 1)`
for `>=`. -/
def loopFuel (maxSteps : Nat) : Nat :=
  match Params.decodeBreakCmp with
  | .ge => max maxSteps 1
  | _ => maxSteps + 1

/-- `Evaluate._step`: the action is `actions[..., step]` -/
def evalSel (actions : Nat → List Nat) : Nat → Nat → Row → Nat :=
  -- the index expression is `step + Params.evalActionOffset` (extracted; `step` itself at the pinned commit)
  fun r t _ => (actions r).getD ((t : Int) + Params.evalActionOffset).toNat 0

/-- `policy(td, env, decode_type=…, max_steps=…)` up to (not including) `post_decoder_hook`. -/
def decode (e : DEnv S) (π : S → Row) (sel : Nat → Nat → Row → Nat) (storeAll : Bool) (B N : Nat)
    (maxSteps : Nat) (start : Option (Nat → Nat)) (s0 : Nat → S) : (Nat → RowSt S) × Nat :=
  loop e π sel storeAll B (loopFuel maxSteps) 0 (pre e storeAll N start s0)

/-- `policy(td, env, actions=…)`: decode type `evaluate` (never multistart). -/
def evaluate (e : DEnv S) (π : S → Row) (actions : Nat → List Nat) (storeAll : Bool) (B N : Nat)
    (maxSteps : Nat) (s0 : Nat → S) : (Nat → RowSt S) × Nat :=
  decode e π (evalSel actions) storeAll B N maxSteps none s0

/-- `_select_best`: `unbatchify(rewards, S)[b][s] = rewards[s·B + b]`; `arg b` is the index returned
by `.max(dim=-1)` for instance `b`; `unbatchify_and_gather` picks row `arg b · B + b`. -/
def selectBestRow (B : Nat) (arg : Nat → Nat) (b : Nat) : Nat := arg b * B + b

/-- the reduction of `_select_best` / `_select_best_beam` is `.max` (`Params.selectBestIsMax`, extracted; both call
sites must agree: `Params.beamBestIsMax`): `x` may be returned in the presence of `y` -/
def betterEq (x y : Int) : Bool :=
  if Params.selectBestIsMax && Params.beamBestIsMax then decide (y ≤ x) else decide (x ≤ y)

/-- `arg b` is a valid result of `max(dim=-1)` over the `S` copies of instance `b`. -/
def ValidArgmax (B S : Nat) (rew : Nat → Int) (arg : Nat → Nat) : Prop :=
  ∀ b, b < B → arg b < S ∧ ∀ s, s < S → betterEq (rew (arg b * B + b)) (rew (s * B + b)) = true

def validArgmax (B S : Nat) (rew : Nat → Int) (arg : Nat → Nat) : Bool :=
  (List.range B).all fun b =>
    decide (arg b < S) && (List.range S).all fun s => betterEq (rew (arg b * B + b)) (rew (s * B + b))

/-- `post_decoder_hook` with `select_best`: the batch of selected rows. -/
def post (B : Nat) (sb : Option (Nat → Nat)) (b : Nat → RowSt S) : Nat → RowSt S :=
  match sb with
  | none => b
  | some arg => fun i => b (selectBestRow B arg i)

/-- `PPO.shared_step`: `ratio = exp(ll.sum(-1) - old_logprobs)`; `ex` is `exp` on exact values
(an oracle; only `ex 0 = 1` is ever used); a `-inf` on either side gives `none`. -/
def ppoRatio (ex : Int → Int) (llNew : List LP) (llOld : LP) : LP :=
  match lpSum llNew, llOld with
  | some a, some b => some (ex (if Params.ppoRatioNewMinusOld then a - b else b - a))
  | _, _ => none

/-- The `mask_logits` flag `AttentionModelPolicy` (and its subclasses HAM / SymNCO / POMO's policy) hands to the decoding
machinery, as a function of the constructor arguments: the argument itself (`Params.amCtorDecodingArgsPassedThrough`,
extracted: no re-assignment in `__init__`, `mask_logits=mask_logits` in the forwarding call), otherwise "combined with
something else" (modelled as a conjunction with `other`, e.g. `mask_inner`). -/
def policyMaskLogits (ctorArg other : Bool) : Bool :=
  if Params.amCtorDecodingArgsPassedThrough then ctorArg else ctorArg && other

/-! ### stepwise PPO policies (`L2DPolicy4PPO.act` / `.evaluate`, the entry points of `StepwisePPO`)

One decoding step per call.  `proc opts s` is the processed step distribution of state `s` as a function of the
option arguments the call hands to `process_logits` (an oracle: the network and `process_logits` itself are
C10's / uninterpreted); the option argument lists of the two call sites are extracted from the source
(`Params.stepwiseActOpts`, `Params.stepwiseEvalOpts`). -/

/-- `act(td, env, phase="train")` for one row: the stored `td["logprobs"] = gather_by_index(logprobs, action)` -/
def stepwiseAct (proc : List String → S → Row) (s : S) (a : Nat) : LP :=
  gather (proc Params.stepwiseActOpts s) a

/-- the distribution `act` samples from -/
def stepwiseActRow (proc : List String → S → Row) (s : S) : Row := proc Params.stepwiseActOpts s

/-- `evaluate(td)` for one row: `action_logprobs` and the distribution whose entropy is returned -/
def stepwiseEvaluate (proc : List String → S → Row) (s : S) (a : Nat) : LP × Row :=
  (gather (proc Params.stepwiseEvalOpts s) a, proc Params.stepwiseEvalOpts s)

/-- `StepwisePPO.update`: `ratios = torch.exp(logprobs - previous_logp)` -/
def stepwiseRatio (ex : Int → Int) (new old : LP) : LP :=
  match new, old with
  | some a, some b => some (ex (if Params.stepwiseRatioNewMinusOld then a - b else b - a))
  | _, _ => none

end Rl4co.Decode
