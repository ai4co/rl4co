/-
Model of `rl4co/envs/routing/mdcpdp/env.py:MDCPDPEnv` for ONE batch row, mirroring `_reset`, `_step`
and `_get_reward` statement by statement.  start_mode "random" only differs in the initial value of
`current_depot`, which is instance data here (`Inst.start`, read back from the reset state).  No Mathlib.

Node layout as the *step function* sees it: `K := capacity.shape[-1]` depots `0..K-1`,
`h := (N - K) // 2` pickups `K..K+h-1`, the rest deliveries; `N := locs.shape[-2]` (depots ++ customers).
`_reset` sizes its tensors from the *generator* (`KG := generator.num_depot`,
`split0 := generator.num_loc // 2 + generator.num_depot` leading ones of `to_deliver`); with
hand-supplied per-depot capacities `KG = K` and `split0 = h + K`, with the bundled generator
(`capacity` of shape `[B, 1]`) `K = 1 ≠ KG`.  The model keeps the two apart so that it is faithful in
both situations.

Every statement of `_step` is row-wise (since upstream fix 476fa34 the step length and the `done`
flag are `[B, 1]` tensors like everything they are combined with), so the batched step is the map of
`step` over the rows (`batchStep`).
-/
import Rl4co.Core.Basic
import Rl4co.Generated.Params

namespace Rl4co.Mdcpdp

inductive Mode where
  | minmax | minsum | lateness
  deriving DecidableEq, Repr

structure Inst where
  N      : Nat               -- `td["locs"].shape[-2]` (after `_reset` concatenated depots and customers)
  K      : Nat               -- `td["capacity"].shape[-1]`, the env's `num_depot`
  split0 : Nat               -- `_reset`: number of leading ones of `to_deliver`
  KG     : Nat               -- `_reset`: length of `current_length` (`generator.num_depot`)
  cap    : Nat → Int         -- `td["capacity"]` entries
  D      : Nat → Nat → Int   -- distances (L2 or L1, whichever `dist_mode` selects), ticks
  openMode : Bool            -- `problem_mode == "open"`
  wNum   : Int               -- `lateness_weight = wNum / wDen`
  wDen   : Int
  start  : Nat := 0          -- `_reset`: initial `current_depot` (0 for start_mode "order", a random depot for "random")

/-- `num_loc // 2` of `_step` -/
def Inst.h (i : Inst) : Nat := (i.N - i.K) / Params.mdcpdpPdDiv
/-- `pd_split_idx` -/
def Inst.pd (i : Inst) : Nat := i.h + i.K

structure State where
  cur       : Nat            -- `current_node`
  depot     : Nat            -- `current_depot`
  carry     : Int            -- `current_carry`
  len       : Nat → Int      -- `current_length` (KG entries)
  arrive    : Nat → Int      -- `arrivetime_record` (N entries)
  toDeliver : Nat → Bool     -- `to_deliver`
  avail     : Nat → Bool     -- `available`
  mask      : Nat → Bool     -- `action_mask`
  done      : Bool

/-- `_reset`: only node 0 is offered (whatever `current_depot` starts with). -/
def reset (i : Inst) : State :=
  { cur := 0, depot := i.start, carry := 0, len := fun _ => 0, arrive := fun _ => 0,
    toDeliver := fun j => decide (j < i.split0), avail := fun _ => true,
    mask := fun j => decide (j = 0), done := false }

def anyIn (n : Nat) (f : Nat → Bool) : Bool := (List.range n).any f

/-- `back_flag = (current_node < num_depot) & (available.gather(-1, current_node) == 0)` (both operators
extracted from the source) -/
def backFlag (i : Inst) (s : State) (a : Nat) : Bool :=
  Params.mdcpdpBackDepotCmp.evalNat a i.K && Params.mdcpdpBackAvailCmp.evalNat (if s.avail a then 1 else 0) 0
/-- `last_depot_flag = sum(available[..., :num_depot]) == 0` (operator extracted from the source) -/
def lastDepotOf (i : Inst) (av : Nat → Bool) : Bool := Params.mdcpdpLastDepotCmp.evalNat (cnt i.K av) 0
/-- `done = count_nonzero(available) == 0` (operator extracted from the source) -/
def doneOf (i : Inst) (av : Nat → Bool) : Bool := Params.mdcpdpDoneCmp.evalNat (cnt i.N av) 0
/-- `num_loc // 2` of `new_to_deliver` (divisor extracted from the source) -/
def Inst.pairOff (i : Inst) : Nat := (i.N - i.K) / Params.mdcpdpPairDiv
/-- open mode: `(current_node < num_depot) & (td["current_node"] >= num_depot)` — the way back is not charged
(both operators extracted from the source) -/
def openZero (i : Inst) (cur a : Nat) : Bool :=
  i.openMode && Params.mdcpdpOpenToCmp.evalNat a i.K && Params.mdcpdpOpenFromCmp.evalNat cur i.K
/-- length of the last dimension of the `capacity` tensor `MDCPDPGenerator._generate` emits for `numDepot` depots
(extracted from the source: `1`, or `num_depot` once the generator is fixed) -/
def genCapLen (numDepot : Nat) : Nat := if Params.mdcpdpGenCapPerDepot then numDepot else 1


/-- `capacity_flag = current_carry >= current_capacity` (operator extracted from the source) -/
def capFlagOf (i : Inst) (carry : Int) (depot : Nat) : Bool := Params.mdcpdpCapCmp.eval carry (i.cap depot)
/-- `carry_flag = current_carry > 0` (operator extracted from the source) -/
def carryFlagOf (carry : Int) : Bool := Params.mdcpdpCarryCmp.eval carry 0

/-- `(current_node < pd_split_idx) & (current_node >= num_depot)`: a pickup (operators extracted from the source) -/
def pickTest (i : Inst) (a : Nat) : Bool := Params.mdcpdpPickLtCmp.evalNat a i.pd && Params.mdcpdpPickGeCmp.evalNat a i.K
/-- `current_node >= pd_split_idx`: a delivery (operator extracted from the source) -/
def delivTest (i : Inst) (a : Nat) : Bool := Params.mdcpdpDelivGeCmp.evalNat a i.pd
/-- `(current_node < num_depot) & (td["current_node"] < num_depot)`: a move between two depots costs nothing
(operators extracted from the source) -/
def depotLeg (i : Inst) (cur a : Nat) : Bool := Params.mdcpdpLegToCmp.evalNat a i.K && Params.mdcpdpLegFromCmp.evalNat cur i.K

/-- the mask assembled at the end of `_step` from the updated bookkeeping -/
def maskOf (i : Inst) (back : Bool) (avail td : Nat → Bool) (carry : Int) (depot : Nat)
    (doneL : Bool) : Nat → Bool :=
  let capFlag := capFlagOf i carry depot
  let lastDepot := lastDepotOf i avail
  let carryFlag := carryFlagOf carry
  fun j =>
    if j < i.K then
      -- &= back_flag ; scatter(current_depot, ~back_flag) ; &= ~last_depot_flag ; &= ~carry_flag
      let m1 := if j = depot then !back else (avail j && td j && back)
      let m2 := m1 && !lastDepot && !carryFlag
      -- scatter(current_depot, gather(current_depot) | done[..., None])
      if j = depot then m2 || doneL else m2
    else
      -- available & to_deliver ; pickups &= ~capacity_flag ; &= ~back_flag
      let m0 := avail j && td j
      let m1 := if j < i.pd then m0 && !capFlag else m0
      m1 && !back

/-- which visits update `current_depot`: as coded `torch.where(back_flag, current_node, current_depot)` (only a return to
an already visited depot), or — the intended semantics, `tok = true` — every visit of a depot
(`torch.where(current_node < num_depot, …)`).  The token is extracted from the source. -/
def depotSel (tok : Bool) (i : Inst) (back : Bool) (a : Nat) : Bool := if tok then decide (a < i.K) else back

/-- `_step`, parametric in the `current_depot` update rule -/
def stepF (tok : Bool) (i : Inst) (s : State) (a : Nat) : State :=
  -- new_to_deliver = (current_node + num_loc // 2) % (num_loc + num_depot)
  let newTD := (a + i.pairOff) % i.N
  let back := backFlag i s a
  let avail' := upd s.avail a false
  let td' := upd s.toDeliver newTD true
  -- current_carry += pickup ; current_carry -= delivery
  let carry' := s.carry + (if pickTest i a then 1 else 0) - (if delivTest i a then 1 else 0)
  -- current_depot = where(back_flag, current_node, current_depot)        (tok = false, the code as it is)
  -- current_depot = where(current_node < num_depot, current_node, …)     (tok = true, the intended semantics)
  let depot' := if depotSel tok i back a then a else s.depot
  -- step length: 0 between two depots; 0 for the way back in open mode
  let sl1 := if depotLeg i s.cur a then 0 else i.D s.cur a
  let sl2 := if openZero i s.cur a then 0 else sl1
  -- current_length.scatter_add_(-1, current_depot, current_step_length)
  let len' := upd s.len depot' (s.len depot' + sl2)
  -- arrivetime_record.scatter_(-1, current_node, current_length.gather(-1, current_depot))
  let arrive' := upd s.arrive a (len' depot')
  { cur := a, depot := depot', carry := carry', len := len', arrive := arrive',
    toDeliver := td', avail := avail', mask := maskOf i back avail' td' carry' depot' (doneOf i avail'),
    done := doneOf i avail' }

/-- `_step` as the source has it (the update rule is the extracted token) -/
def step (i : Inst) (s : State) (a : Nat) : State := stepF Params.mdcpdpDepotOnVisit i s a

def env : Env Inst State where
  reset := reset
  nAct i := i.N
  mask _ s a := s.mask a
  step := step
  done _ s := s.done

/-- the environment with the intended `current_depot` rule (what a maintainer's one-line fix gives) -/
def envFixed : Env Inst State where
  reset := reset
  nAct i := i.N
  mask _ s a := s.mask a
  step := stepF true
  done _ s := s.done

def sumList (xs : List Int) : Int := xs.sum
def maxList1 : List Int → Int
  | [] => 0
  | [x] => x
  | x :: xs => max x (maxList1 xs)

/-- `current_length` as a list -/
def lens (i : Inst) (s : State) : List Int := (List.range i.KG).map s.len
/-- `arrivetime_record[..., num_depot + num_loc // 2 :]` summed -/
def lateSum (i : Inst) (s : State) : Int :=
  ((List.range (i.N - i.pd)).map (fun k => s.arrive (i.pd + k))).sum

/-- `_get_reward`, scaled by `wDen` in lateness mode (the weight is `wNum / wDen`). -/
def reward (m : Mode) (i : Inst) (s : State) : Int :=
  match m with
  | .minmax => - maxList1 (lens i s)
  | .minsum => - (lens i s).sum
  | .lateness => - ((lens i s).sum * (i.wDen - i.wNum) + lateSum i s * i.wNum)

/-- The batched `_step`: no statement reads another row. -/
def batchStep (rows : List (Inst × State)) (acts : List Nat) : List (Inst × State) :=
  List.zipWith (fun (r : Inst × State) a => (r.1, step r.1 r.2 a)) rows acts

end Rl4co.Mdcpdp
