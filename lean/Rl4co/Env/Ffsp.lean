/-
Model of `rl4co/envs/scheduling/ffsp/env.py:FFSPEnv` (+ `IndexTables`) for ONE batch row.
Mirrors `_reset`, `_step`, `_move_to_next_machine`, `_update_step_state` statement by statement.

* times / durations / wait counters are natural numbers (the code's `long` tensors; the clamp
  `x -= 1; x[x < 0] = 0` is truncated subtraction); the schedule holds `Int` start times with the
  code's sentinel `-999999` for "not scheduled";
* machines are numbered globally `0 .. M*S-1`, stage `k` owns `k*M .. k*M+M-1`;
* jobs `0 .. J-1`, the dummy job `J` is the *wait* action (its durations are 0);
* `perm` is the row of `IndexTables.machine_table` this batch row uses (selected by
  `pomo_idx = row // bs`), given as the permutation of `0..M-1` it repeats in every stage;
* the action mask is *stored state* (`td["action_mask"]`): it is written by `_update_step_state` only,
  which `_step` skips when the whole batch is finished;
* the only batch-global construct of `_step`, `td["done"].all()`, enters the per-row step as the
  flag `g` of `stepG` (`g = true` ⇒ every row, in particular this one, is finished).
No Mathlib.
-/
import Rl4co.Core.Basic
import Rl4co.Generated.Params

namespace Rl4co.Ffsp

/-- `fill_value=-999999` of `schedule` in `_reset` (extracted from the source on every run) -/
def UNSET : Int := Params.ffspSentinel

structure Inst where
  S    : Nat               -- `num_stage`
  M    : Nat               -- `num_machine` (per stage)
  J    : Nat               -- `num_job`
  dur  : Nat → Nat → Nat   -- `run_time[j][m]`, m global machine index
  perm : Nat → Nat         -- `permutations[pomo_idx]` (entries 0..M-1)
  flat : Bool              -- `flatten_stages` (only affects the policy-facing `stage_machine_idx`)

/-- `num_machine_total` -/
def MT (i : Inst) : Nat := i.M * i.S

/-- `IndexTables.get_stage_index`: `arange(S).repeat_interleave(M)[sub]` -/
def stageOf (i : Inst) (sub : Nat) : Nat := sub / i.M

/-- `IndexTables.get_machine_index`: `(permutations.repeat(1, S) + start_sub_ids)[pomo_idx, sub]` -/
def machineOf (i : Inst) (sub : Nat) : Nat := i.perm (sub % i.M) + i.M * (sub / i.M)

/-- `IndexTables.get_stage_machine_index`: `stage_machine_table` is `machine_table` when
`flatten_stages`, else the bare permutation (no stage offset) -/
def stageMachineOf (i : Inst) (sub : Nat) : Nat :=
  if i.flat then machineOf i sub else i.perm (sub % i.M)

/-- `job_duration[j][m]`: rows `0..J-1` are `run_time`, row `J` (dummy / wait) is 0 -/
def jobDur (i : Inst) (j m : Nat) : Nat := if j < i.J then i.dur j m else 0

structure State where
  time   : Nat                -- `time_idx`
  sub    : Nat                -- `sub_time_idx`
  midx   : Nat                -- `machine_idx`
  stage  : Nat                -- `stage_idx` (policy input; refreshed by `_update_step_state`)
  smidx  : Nat                -- `stage_machine_idx` (policy input; refreshed by `_update_step_state`)
  sched  : Nat → Nat → Int    -- `schedule[m][j]`
  mwait  : Nat → Nat          -- `machine_wait_step[m]`
  jloc   : Nat → Nat          -- `job_location[j]` (J+1 entries)
  jwait  : Nat → Nat          -- `job_wait_step[j]` (J+1 entries)
  done   : Bool               -- `done`
  mask   : Nat → Bool         -- `action_mask[a]` (J+1 entries, last = wait)
  reward : Option Int         -- `reward` (`-inf` until written)

/-- `_reset` -/
def reset (i : Inst) : State :=
  { time := 0, sub := 0, midx := machineOf i 0
    stage := stageOf i 0, smidx := stageMachineOf i 0
    sched := fun _ _ => UNSET
    mwait := fun _ => 0, jloc := fun _ => 0, jwait := fun _ => 0
    done := false
    mask := fun a => decide (a < i.J) || (a == i.J && !Params.ffspInitWaitMasked)
    reward := none }

/-- `(job_location[:, :J] == num_stage).all(-1)` -/
def allAtEnd (i : Inst) (jloc : Nat → Nat) : Bool := (List.range i.J).all (fun j => jloc j == i.S)

/-- the machine index `_step` books the operation on: `td["machine_idx"]` (which key the source reads is
extracted on every run; `td["stage_machine_idx"]` would differ when `flatten_stages = False`) -/
def bookMachine (s : State) : Nat :=
  match Params.ffspStepUsesMachineIdx with
  | true => s.midx
  | false => s.smidx

/-- first half of `_step`: bookkeeping of the chosen action `a` (a job or the wait action `J`) -/
def apply (i : Inst) (s : State) (a : Nat) : State :=
  let mi := bookMachine s
  let d := jobDur i a mi
  let jloc' := upd s.jloc a (s.jloc a + 1)
  { s with
    jloc := jloc'
    sched := upd s.sched mi (upd (s.sched mi) a (s.time : Int))
    mwait := upd s.mwait mi d
    jwait := upd s.jwait a d
    done := allAtEnd i jloc' }

/-- one iteration of the `while` body of `_move_to_next_machine` -/
def advance (i : Inst) (s : State) : State :=
  let wrap : Bool := s.sub + 1 == MT i
  let sub' := if wrap then 0 else s.sub + 1
  { s with
    time := if wrap then s.time + 1 else s.time
    sub := sub'
    midx := machineOf i sub'
    mwait := if wrap then (fun m => s.mwait m - 1) else s.mwait
    jwait := if wrap then (fun j => s.jwait j - 1) else s.jwait }

/-- `(job_ready_1 & job_ready_2)[j]` -/
def jobReady (i : Inst) (s : State) (j : Nat) : Bool :=
  s.jloc j == stageOf i s.sub && s.jwait j == 0

/-- `ready = machine_ready & job_ready` at the end of the loop body -/
def ready (i : Inst) (s : State) : Bool :=
  s.mwait s.midx == 0 && (List.range i.J).any (jobReady i s)

/-- the `while ~ready.all()` loop for a row that entered it (body runs at least once); the Python
loop has no bound, the model has fuel (`moveLoop_fuel_enough`, `Proofs/FfspModel.lean`: `moveFuel` always suffices) -/
def moveLoop (i : Inst) : Nat → State → State
  | 0, s => s
  | f + 1, s => let s' := advance i s; if ready i s' then s' else moveLoop i f s'

def maxL : List Nat → Nat
  | [] => 0
  | x :: xs => max x (maxL xs)

/-- largest wait counter of the row -/
def maxWait (i : Inst) (s : State) : Nat :=
  max (maxL ((List.range (MT i)).map s.mwait)) (maxL ((List.range i.J).map s.jwait))

def moveFuel (i : Inst) (s : State) : Nat := (maxWait i s + 2) * MT i

/-- `_move_to_next_machine` for one row: rows with `done` are not selected (`idx = idx[~ready]` with
`ready` initialised to `done`) -/
def moveNext (i : Inst) (s : State) : State :=
  if s.done then s else moveLoop i (moveFuel i s) s

/-- `_update_step_state`: the new action mask -/
def updateMask (i : Inst) (s : State) : State :=
  let st := stageOf i s.sub
  let inPrev := (List.range i.J).any (fun j => decide (s.jloc j < st))
  let waiting := (List.range i.J).any (fun j => s.jloc j == st && decide (s.jwait j > 0))
  let waitAllowed := inPrev || waiting || s.done
  { s with
    stage := st
    smidx := stageMachineOf i s.sub
    mask := fun a =>
      if a < i.J then (s.jloc a == st && s.jwait a == 0)
      else if a = i.J then waitAllowed else false }

/-- `Int` maximum of a list (`max(dim=-1)`); the code raises on an empty dimension, the model
returns 0 there (excluded by `WF`: `J ≥ 1`, `M*S ≥ 1`) -/
def maxI : List Int → Int
  | [] => 0
  | [x] => x
  | x :: y :: xs => max x (maxI (y :: xs))

/-- number of job columns entering the makespan: `end_schedule[:, :, : self.num_job]` excludes the
dummy column (the slice bound is extracted from the source) -/
def rewardCols (i : Inst) : Nat :=
  match Params.ffspRewardExcludesDummy with
  | true => i.J
  | false => i.J + 1

/-- `end_schedule[:, :, :J].max(-1).max(-1)` -/
def endMax (i : Inst) (s : State) : Int :=
  maxI ((List.range (MT i)).map (fun m =>
    maxI ((List.range (rewardCols i)).map (fun j => s.sched m j + (jobDur i j m : Int)))))

/-- value written to `td["reward"]` -/
def rewardVal (i : Inst) (s : State) : Int := - endMax i s

/-- second half of `_step`; `g` is the batch-global `td["done"].all()` -/
def finish (i : Inst) (s : State) (g : Bool) : State :=
  if g then { s with reward := some (rewardVal i s) }
  else updateMask i (moveNext i s)

/-- `_step` of one row inside a batch whose `done.all()` evaluates to `g` -/
def stepG (i : Inst) (s : State) (a : Nat) (g : Bool) : State := finish i (apply i s a) g

/-- `_step` of a batch of one row: `done.all()` is the row's own `done` -/
def step (i : Inst) (s : State) (a : Nat) : State := stepG i s a (apply i s a).done

/-- `_step` of a row while at least one batch-mate is unfinished: `done.all()` is false -/
def stepM (i : Inst) (s : State) (a : Nat) : State := stepG i s a false

/-- the instance stepped alone -/
def env : Env Inst State where
  reset := reset
  nAct i := i.J + 1
  mask _ s a := s.mask a
  step := step
  done _ s := s.done

/-- the instance as a row of a batch in which some other row keeps running -/
def envM : Env Inst State where
  reset := reset
  nAct i := i.J + 1
  mask _ s a := s.mask a
  step := stepM
  done _ s := s.done

/-- `_step` of a whole batch (rows may have different instances of the same shape): per-row
bookkeeping, then the batch-global test, then per-row `finish` with the common flag. -/
def batchStep (rows : List (Inst × State)) (acts : List Nat) : List (Inst × State) :=
  let rows1 := List.zipWith (fun (r : Inst × State) a => (r.1, apply r.1 r.2 a)) rows acts
  let g := rows1.all (fun r => r.2.done)
  rows1.map (fun r => (r.1, finish r.1 r.2 g))

/-- `IndexTables.get_machine_index`'s `pomo_idx = idx // self.bs` (operator extracted from the source) -/
def pomoIdx (bs row : Nat) : Nat :=
  match Params.ffspPomoFloorDiv with
  | true => row / bs
  | false => row % bs

/-! ### `IndexTables`: the machine permutations and the row → permutation map -/

/-- `itertools.permutations(l)` for a list of length `n` (lexicographic in positions) -/
def permsAux : Nat → List Nat → List (List Nat)
  | 0, _ => [[]]
  | n + 1, l => l.flatMap (fun x => (permsAux n (l.erase x)).map (x :: ·))

/-- `list(itertools.permutations(range(M)))` -/
def permsOf (M : Nat) : List (List Nat) := permsAux M (List.range M)

/-- `IndexTables` of an env with `M` machines per stage after `set_bs(bs)` -/
structure Tables where
  M  : Nat
  bs : Nat

/-- the permutation row `row` of a batch uses: `permutations[pomo_idx]` -/
def Tables.perm (tb : Tables) (row : Nat) : Nat → Nat :=
  fun p => ((permsOf tb.M).getD (pomoIdx tb.bs row) []).getD p 0

/-- the instance a batch row is stepped as: shape, durations and `flatten_stages` of the env, machine
permutation from the tables -/
def rowInst (tb : Tables) (S J : Nat) (flat : Bool) (dur : Nat → Nat → Nat) (row : Nat) : Inst :=
  { S := S, M := tb.M, J := J, dur := dur, perm := tb.perm row, flat := flat }

/-! ### `FFSPGenerator._generate`: `run_time = randint(low=min_time, high=max_time)` as a function of raw
draws `u j m ∈ [0, max_time - min_time)` -/
def genDur (minT : Nat) (u : Nat → Nat → Nat) : Nat → Nat → Nat := fun j m => minT + u j m

/-! Step bound of the family (used by `Props/C02/Ffsp.lean`, printed by the driver). -/

def sumN : Nat → (Nat → Nat) → Nat
  | 0, _ => 0
  | n + 1, f => sumN n f + f n

/-- longest duration of job `j` over the machines of stage `k` -/
def maxDur (i : Inst) (j k : Nat) : Nat := maxL ((List.range i.M).map (fun p => i.dur j (k * i.M + p)))

/-- `D`: total work at the longest durations (an operation of duration 0 counts as 1) -/
def totalWork (i : Inst) : Nat := sumN i.J (fun j => sumN i.S (fun k => max 1 (maxDur i j k)))

/-- step bound: `(D + 1) · M·S` -/
def stepBound (i : Inst) : Nat := (totalWork i + 1) * MT i

end Rl4co.Ffsp
