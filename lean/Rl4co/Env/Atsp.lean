/-
Model of `rl4co/envs/routing/atsp/env.py:ATSPEnv` for ONE instance (one batch row), plus the batched
`_step` as written (first-step test `batch_to_scalar(td["i"]) == 0`, which reads ROW 0 of the batch).
The instance is the cost matrix itself (`Int` ticks, not necessarily symmetric).  No Mathlib.
-/
import Rl4co.Generated.Params
import Rl4co.Env.TspfamBase

namespace Rl4co.Atsp

structure Inst where
  n : Nat                    -- `generator.num_loc` (= `cost_matrix.shape[-1]`)
  M : Nat → Nat → Int        -- `cost_matrix[src, tgt]`

structure State where
  first : Nat
  cur   : Nat
  i     : Nat
  avail : Nat → Bool         -- `action_mask`
  done  : Bool

/-- `_reset` -/
def reset (_ : Inst) : State :=
  { first := 0, cur := 0, i := 0, avail := fun _ => true, done := false }

def mask (_ : Inst) (s : State) (a : Nat) : Bool := s.avail a

/-- `_step` of one row given the first-step flag; `done = count_nonzero(available) <= 0`. -/
def stepWith (flag : Bool) (i : Inst) (s : State) (a : Nat) : State :=
  let avail := upd s.avail a false
  { first := if flag then a else s.first
    cur := a
    i := s.i + 1
    avail := avail
    done := Params.atspDoneCmp.evalNat (cnt i.n avail) 0 }

/-- `batch_to_scalar(td["i"]) == 0`: `td["i"][0].item() == 0` — the counter of the FIRST row. -/
def firstFlag : List State → Bool
  | [] => false
  | s :: _ => Params.atspFirstStepCmp.evalNat s.i 0

def step (i : Inst) (s : State) (a : Nat) : State := stepWith (firstFlag [s]) i s a

/-- the batched `_step` as written -/
def batchStep (rows : List (Inst × State)) (acts : List Nat) : List (Inst × State) :=
  let flag := firstFlag (rows.map (·.2))
  List.zipWith (fun r a => (r.1, stepWith flag r.1 r.2 a)) rows acts

def env : Env Inst State where
  reset := reset
  nAct i := i.n
  mask := mask
  step := step
  done _ s := s.done

/-- `nodes_tgt = torch.roll(actions, k, dims=1)` with the extracted shift; without `dims=1` the roll would
run over the flattened batch (not a per-row operation; modelled as no roll). -/
def tourNext (as : List Nat) : List Nat :=
  if Params.atspRollAlongSteps then Tspfam.rollInt Params.atspRollShift as else as

/-- `_get_reward`: `-cost_matrix[b, actions, roll(actions, -1)].sum(-1)` -/
def reward (i : Inst) (as : List Nat) : Int :=
  if Params.atspGatherSrcFirst then
    - (List.zipWith (fun src tgt => i.M src tgt) as (tourNext as)).sum       -- `M[b, nodes_src, nodes_tgt]`
  else
    - (List.zipWith (fun src tgt => i.M tgt src) as (tourNext as)).sum       -- (indices swapped)

/-- `check_solution_validity` (same idiom as TSP) -/
def checkWith (fromInst : Bool) (i : Inst) (as : List Nat) : Bool :=
  if fromInst then
    -- repaired clause: `arange(num_loc)` from the instance; a width mismatch makes the comparison raise
    decide (as.length = i.n) && Tspfam.permTest Params.atspCheckCmp i.n as
  else Tspfam.permTest Params.atspCheckCmp as.length as

/-- the checker as written: the width source is an extracted token (`false` = width of the action tensor) -/
def check (i : Inst) (as : List Nat) : Bool := checkWith Params.atspCheckWidthFromInst i as

end Rl4co.Atsp
