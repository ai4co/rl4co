/-
Model of `rl4co/envs/routing/tsp/env.py:TSPEnv` for ONE instance (one batch row), plus the batched
`_step` as written (with its batch-global first-step test `td["i"].all() == 0`).
Mirrors `_reset`, `_step`, `_get_reward`, `check_solution_validity` statement by statement.
Distances are `Int` ticks; nodes are `0..n-1`.  No Mathlib.
-/
import Rl4co.Generated.Params
import Rl4co.Env.TspfamBase

namespace Rl4co.Tsp

structure Inst where
  n : Nat                    -- `td["locs"].shape[-2]`
  D : Nat → Nat → Int        -- Euclidean distances between the nodes (glue: `get_distance`)

structure State where
  first : Nat                -- `first_node`
  cur   : Nat                -- `current_node`
  i     : Nat                -- `i` (step counter)
  avail : Nat → Bool         -- `action_mask` (1 = not visited)
  done  : Bool               -- `done` (set by torchrl's reset to False, then by `_step`)

/-- `_reset`'s `num_loc` as a function of the shape of `td["locs"]` (= batch dims ++ [n, 2]): the extracted
expression either counts from the END (`shape[-2]`) or from the front (`size(1)`). -/
def numLocOf (fromEnd : Bool) (shape : List Nat) : Nat :=
  if fromEnd then shape.getD (shape.length - 2) 0 else shape.getD 1 0

/-- mask width that `_reset` allocates for an instance of `n` cities inside a batch of shape `bs` -/
def resetWidth (bs : List Nat) (i : Inst) : Nat := numLocOf Params.tspResetNumLocFromEnd (bs ++ [i.n, 2])

/-- `_reset` -/
def reset (_ : Inst) : State :=
  { first := 0, cur := 0, i := 0, avail := fun _ => true, done := false }

/-- the mask is the stored `action_mask` -/
def mask (_ : Inst) (s : State) (a : Nat) : Bool := s.avail a

/-- `_step` of one row, given the value `flag` of the first-step test (which the code computes over
the whole batch): `first_node = current_node if flag else td["first_node"]`;
`available = action_mask.scatter(-1, a, 0)`; `done = sum(available) == 0`; `i + 1`. -/
def stepWith (flag : Bool) (i : Inst) (s : State) (a : Nat) : State :=
  let avail := upd s.avail a false
  { first := if flag then a else s.first
    cur := a
    i := s.i + 1
    avail := avail
    done := Params.tspDoneCmp.evalNat (cnt i.n avail) 0 }

/-- `td["i"].all() == 0` over the rows of a batch (`.all()` read as 0/1, compared with the extracted
operator): true iff NOT every row has `i ≠ 0`. -/
def firstFlag (rows : List State) : Bool :=
  Params.tspFirstStepCmp.evalNat (if rows.all (fun s => s.i != 0) then 1 else 0) 0

/-- solo step = the batched code on a batch of one row -/
def step (i : Inst) (s : State) (a : Nat) : State := stepWith (firstFlag [s]) i s a

/-- the batched `_step` as written: ONE flag for the whole batch, then row-wise updates -/
def batchStep (rows : List (Inst × State)) (acts : List Nat) : List (Inst × State) :=
  let flag := firstFlag (rows.map (·.2))
  List.zipWith (fun r a => (r.1, stepWith flag r.1 r.2 a)) rows acts

def env : Env Inst State where
  reset := reset
  nAct i := i.n
  mask := mask
  step := step
  done _ s := s.done

/-- `torch.roll(ordered_locs, k, dims=-2)` of `get_tour_length` with the extracted shift `k`.  If the
roll did not name the step dimension it would not be a per-row operation at all (it would run across batch
rows); the per-instance model then has nothing sensible to say and leaves the list unrolled. -/
def tourNext (as : List Nat) : List Nat :=
  if Params.tourRollAlongSteps then Tspfam.rollInt Params.tourRollShift as else as

/-- `_get_reward`: `-get_tour_length(locs[actions])`, i.e. `-Σ_k |x[roll(a,-1)[k]] - x[a[k]]|`
(`get_distance(ordered_locs_next, ordered_locs)`). -/
def reward (i : Inst) (as : List Nat) : Int :=
  - (List.zipWith (fun nxt c => i.D nxt c) (tourNext as) as).sum

/-- `check_solution_validity`: `arange(actions.size(1)) == actions.sort(1)[0]` (True = no assertion
raised).  The expected node set is derived from the WIDTH OF THE ACTION TENSOR, not from the instance. -/
def checkWith (fromInst : Bool) (i : Inst) (as : List Nat) : Bool :=
  if fromInst then
    -- repaired clause: `arange(num_loc)` from the instance; a width mismatch makes the comparison raise
    decide (as.length = i.n) && Tspfam.permTest Params.tspCheckCmp i.n as
  else Tspfam.permTest Params.tspCheckCmp as.length as

/-- the checker as written: the width source is an extracted token (`false` = width of the action tensor) -/
def check (i : Inst) (as : List Nat) : Bool := checkWith Params.tspCheckWidthFromInst i as

end Rl4co.Tsp
