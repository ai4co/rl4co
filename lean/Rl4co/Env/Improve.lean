/-
Models of the improvement environments for ONE instance (one batch row).  No Mathlib.

  * `rl4co/envs/routing/tsp/env.py:TSPkoptEnv`       `_local_operator` (2-opt and NeuOpt k-opt),
    `get_mask`, the action builder of `_random_action` (= the internal masks of `NeuOptPolicy`),
    `_step`, `check_solution_validity`
  * `rl4co/envs/routing/pdp/env.py:PDPRuinRepairEnv`  `_local_operator`, `get_mask`, `_step`,
    `check_solution_validity`

A solution is a successor array `rec : Nat → Nat` over nodes `0 .. n-1` ("linked list": `rec j` is
the node visited after `j`).  Scatter of one entry is `upd`; a Python `for` loop is a structural
recursion on its trip count.  `rec.argsort()` is modelled as what it is — the indices `0..n-1` sorted by
their value (`argsort`, an insertion sort; ties are irrelevant because the code only applies it to
permutations) — and `Proofs/ImproveCycle.lean` PROVES that on a permutation it is the inverse permutation
(the predecessor array).

Decision-critical tokens of the source (comparison operators, thresholds, loop trip counts, stamp offsets,
the order of the PDP re-insertion, checker comparisons) are PARAMETERS of the `…C` / `…P` definitions; the
section `Code` at the end instantiates them with `Rl4co.Params.improve…`, which `harness/extract.py`
regenerates from the Python AST on every run.  The un-suffixed definitions are the instances at the values the
theorems need; `Props/C09/ImproveCode.lean` proves (by `decide`) that the extracted values are those (the checker
comparisons: `checkParams_ok`, `Props/C06/Improve.lean`; the policy decoding: `decode_ok`, `Props/C09/ImprovePolicy.lean`).
-/
import Rl4co.Core.Basic
import Rl4co.Core.Sort
import Rl4co.Generated.Params

namespace Rl4co.Improve

abbrev Rec := Nat → Nat

/-- insertion into a list of indices sorted by `key` -/
def insertBy (key : Nat → Nat) (x : Nat) : List Nat → List Nat
  | [] => [x]
  | y :: ys => if key x ≤ key y then x :: y :: ys else y :: insertBy key x ys

def isortBy (key : Nat → Nat) : List Nat → List Nat
  | [] => []
  | x :: xs => insertBy key x (isortBy key xs)

/-- `rec.argsort()`: the indices `0..n-1` sorted by the value `rec` holds there -/
def argsortL (n : Nat) (rec : Rec) : List Nat := isortBy rec (List.range n)

/-- `rec.argsort()[j]` -/
def argsort (n : Nat) (rec : Rec) (j : Nat) : Nat := (argsortL n rec).getD j 0

/-! ### 2-opt (`two_opt_mode`) -/

/-- the "reverse loop": `cur` walks along the OLD solution from `first`; until `cur = second` the
link `cur → sol cur` is turned around. `k` = remaining trip count (`num_loc` in total). -/
def revLoop (sol : Rec) (second : Nat) : Nat → Nat → Rec → Rec
  | 0, _, rec => rec
  | k + 1, cur, rec =>
    let curNext := sol cur
    let rec' := upd rec curNext (if cur ≠ second then cur else rec curNext)
    revLoop sol second k (if cur ≠ second then curNext else cur) rec'

/-- `_local_operator` in `two_opt_mode` with action `(first, second)`; the reverse loop runs
`num_loc - sub` times (`sub = 0` in the source). -/
def localOp2C (sub n : Nat) (sol : Rec) (first second : Nat) : Rec :=
  let preFirst := argsort n sol first
  let preFirst := if preFirst ≠ second then preFirst else first
  let r := upd sol preFirst second
  let postSecond := sol second
  let postSecond := if postSecond ≠ first then postSecond else second
  let r := upd r first postSecond
  revLoop sol second (n - sub) first r

def localOp2 (n : Nat) (sol : Rec) (first second : Nat) : Rec := localOp2C 0 n sol first second

/-- `get_mask` in `two_opt_mode`: everything but the diagonal. -/
def mask2 (first second : Nat) : Bool := first != second

/-! ### k-opt (NeuOpt) -/

/-- `rec.scatter_(1, left, right)` entry by entry (later entries win; the code only ever repeats an
index together with the same value). -/
def scatterL (rec : Rec) : List Nat → List Nat → Rec
  | l :: ls, r :: rs => scatterL (upd rec l r) ls rs
  | _, _ => rec

/-- the relinking walk of the k-opt branch; `k` = remaining trip count (`num_loc - 2` in total). -/
def koptLoop (prd : Rec) (rightNodes : List Nat) : Nat → Nat → Rec → Rec
  | 0, _, rec => rec
  | k + 1, cur, rec =>
    let nextCur := rec cur
    let preOld := prd nextCur
    let cond := (cur != preOld) && !(rightNodes.contains nextCur)
    let nextNext := rec nextCur
    koptLoop prd rightNodes k nextCur (upd rec nextCur (if cond then preOld else nextNext))

/-- `_local_operator` with `k_max > 2`; the action is `(selected_index, left, right)`, `K` entries each;
the relinking walk runs `num_loc - sub` times (`sub = 2` in the source). -/
def localOpKC (sub n : Nat) (sol : Rec) (sel left right : List Nat) : Rec :=
  let rightNodes := sel.map sol
  let prdL := argsortL n sol          -- `argsort = rec.argsort()`, computed once
  let prd : Rec := fun j => prdL.getD j 0
  let r := scatterL sol left right
  koptLoop prd rightNodes (n - sub) (left.headD 0) r

def localOpK (n : Nat) (sol : Rec) (sel left right : List Nat) : Rec := localOpKC 2 n sol sel left right

/-- state of the sequential action builder shared by `TSPkoptEnv._random_action` (k_max > 2) and
`NeuOptPolicy.forward` -/
structure GenState where
  actionIndex : List Nat := []      -- `action_index[:, :i]`
  kLeft       : Nat → Nat := fun _ => 0   -- `k_action_left` (K+1 columns)
  kRight      : Nat → Nat := fun _ => 0   -- `k_action_right` (K columns)
  nextOfLast  : Option Nat := none  -- `next_of_last_action`, `none` = -1
  mask        : Nat → Bool := fun _ => false  -- True = node may NOT be chosen
  stopped     : Bool := true
  tag         : Nat → Nat := fun _ => 0   -- `visited_time_tag`
  admitted    : Bool := true        -- every effective choice so far was outside the mask
  masks       : List (List Bool) := []  -- mask offered at each sub-step (for the correspondence)

/-- one iteration `i` of the builder loop with sampled node `c`. -/
def genStep (n K : Nat) (rec : Rec) (vt : Nat → Nat) (i : Nat) (g : GenState) (c : Nat) : GenState :=
  let a0 := g.actionIndex.headD 0
  -- `torch.where(stopped, action_index[:, :1], action)` for i > 0
  let forced := decide (i > 0) && g.stopped
  let action := if forced then a0 else c
  let admitted := g.admitted && (forced || !(g.mask c)) && decide (c < n)
  let nextNew := rec action
  let actionIndex := g.actionIndex ++ [action]
  let a0 := actionIndex.headD 0
  let kLeft := if g.stopped then upd g.kLeft i action else g.kLeft
  -- `k_action_right[~stopped, i - 1]` (index -1 = last column when i = 0)
  let kRight := if g.stopped then g.kRight else upd g.kRight (if i = 0 then K - 1 else i - 1) action
  let kLeft := upd kLeft (i + 1) nextNew
  let hit := g.nextOfLast == some action
  let stopped := if i > 0 then g.stopped || hit else hit
  let kLeft := if stopped then upd kLeft i (kLeft (if i = 0 then K else i - 1)) else kLeft
  let kRight := if stopped then upd kRight i (kRight (if i = 0 then K - 1 else i - 1)) else kRight
  let tag := if i = 0 then (fun j => (vt j + n - vt action % n) % n) else g.tag
  let mask : Nat → Bool := fun j => decide (tag j ≤ tag action)
  let mask : Nat → Bool := if i = 0 then (fun j => mask j || decide (tag j > n - 2)) else mask
  let mask := if stopped then upd mask action false else mask
  let mask := if !stopped && nextNew == a0 then upd mask a0 false else mask
  { actionIndex := actionIndex, kLeft := kLeft, kRight := kRight,
    nextOfLast := if stopped then none else some nextNew,
    mask := mask, stopped := stopped, tag := tag, admitted := admitted,
    masks := g.masks ++ [(List.range n).map g.mask] }

def genLoop (n K : Nat) (rec : Rec) (vt : Nat → Nat) : Nat → GenState → List Nat → GenState
  | _, g, [] => g
  | i, g, c :: cs => genLoop n K rec vt (i + 1) (genStep n K rec vt i g c) cs

/-- The complete builder: sampled nodes `choices` (K of them) ↦ final state; `mask0` is the mask
before the first choice (all-free for `_random_action`, the previous first node for NeuOpt). -/
def genRun (n K : Nat) (rec : Rec) (vt : Nat → Nat) (mask0 : Nat → Bool) (choices : List Nat) : GenState :=
  genLoop n K rec vt 0 { mask := mask0 } choices

/-- "Form final action": `(action_index, k_action_left[:, :K], k_action_right)`. -/
def genAction (K : Nat) (g : GenState) : List Nat × List Nat × List Nat :=
  let kRight := if g.stopped then g.kRight else upd g.kRight (K - 1) (g.kLeft K)
  (g.actionIndex, (List.range K).map g.kLeft, (List.range K).map kRight)

/-! ### PDP ruin and repair -/

/-- `PDPRuinRepairEnv._local_operator` with action `(pairIdx, first, second)`; `gs = num_loc + 1`. -/
def pdpLocalOp (gs : Nat) (sol : Rec) (pairIdx first second : Nat) : Rec :=
  let p := pairIdx + 1
  let d := p + gs / 2
  -- remove the pickup
  let prePick := argsort gs sol p
  let postPick := sol p
  let r := upd sol prePick postPick
  let r := upd r p p
  -- remove the delivery (fresh argsort)
  let preDel := argsort gs r d
  let postDel := r d
  let r := upd r preDel postDel
  -- delivery after `second`
  let postSecond := r second
  let r := upd r second d
  let r := upd r d postSecond
  -- pickup after `first`
  let postFirst := r first
  let r := upd r first p
  upd r p postFirst

/-- the same with the source's tokens as parameters: `off` = the `+ 1` of `pair_index`, `deliveryFirst` =
the splice at `second` is executed before the splice at `first`, `secondGetsDelivery` = the node spliced in
after `second` is the delivery (and the pickup goes after `first`). -/
def pdpLocalOpC (off : Nat) (deliveryFirst secondGetsDelivery : Bool) (gs : Nat) (sol : Rec)
    (pairIdx first second : Nat) : Rec :=
  let p := pairIdx + off
  let d := p + gs / 2
  let prePick := argsort gs sol p
  let postPick := sol p
  let r := upd sol prePick postPick
  let r := upd r p p
  let preDel := argsort gs r d
  let postDel := r d
  let r := upd r preDel postDel
  let nodeS := if secondGetsDelivery then d else p
  let nodeF := if secondGetsDelivery then p else d
  let spliceAfter (r : Rec) (at' node : Nat) : Rec :=
    let post := r at'
    upd (upd r at' node) node post
  if deliveryFirst then spliceAfter (spliceAfter r second nodeS) first nodeF
  else spliceAfter (spliceAfter r first nodeF) second nodeS

/-- the `visited_time` walk of `_reset`/`_step`: `n` hops from node 0, hop `i` stamps `i+1`. -/
def vtLoop (rec : Rec) : Nat → Nat → Nat → (Nat → Nat) → (Nat → Nat)
  | 0, _, _, vt => vt
  | k + 1, i, pre, vt =>
    let cur := rec pre
    vtLoop rec k (i + 1) cur (upd vt cur (i + 1))

def visitedTime (n : Nat) (rec : Rec) : Nat → Nat := vtLoop rec n 0 0 (fun _ => 0)

/-- the walk with the source's tokens as parameters: `p.1` = the `+ 1` of the stamp `i + 1`, `p.2` = the
deficit `c` of the trip count `range(gs - c)` -/
def vtLoopC (stamp : Nat) (rec : Rec) : Nat → Nat → Nat → (Nat → Nat) → (Nat → Nat)
  | 0, _, _, vt => vt
  | k + 1, i, pre, vt =>
    let cur := rec pre
    vtLoopC stamp rec k (i + 1) cur (upd vt cur (i + stamp))

def visitedTimeC (p : Nat × Nat) (n : Nat) (rec : Rec) : Nat → Nat :=
  vtLoopC p.1 rec (n - p.2) 0 0 (fun _ => 0)

/-- `PDPRuinRepairEnv.get_mask(selected_node = p, td)[first, second]` (True = admitted);
`p` is the 1-based pickup node. -/
def pdpMask (gs : Nat) (vt : Nat → Nat) (p first second : Nat) : Bool :=
  let d := p + gs / 2
  !(decide (vt first % gs > vt second % gs) || first == p || first == d || second == p || second == d)

/-- the same with the operator of `visited_time.view(bs, gs, 1) > visited_time.view(bs, 1, gs)` as a parameter -/
def pdpMaskC (cmp : Cmp) (gs : Nat) (vt : Nat → Nat) (p first second : Nat) : Bool :=
  let d := p + gs / 2
  !(cmp.evalNat (vt first % gs) (vt second % gs) || first == p || first == d || second == p || second == d)

/-! ### `_random_action` as a relation (every action it can emit)

`logits[~mask] = -1e20; softmax; multinomial(1)`: in float32 the masked entries get probability exactly 0,
so the sampled FLAT index `k` is one whose mask entry is true; the action is `(k // gs, k % gs)`. -/

/-- 2-opt: all actions `_random_action` can emit -/
def randomActions2 (n : Nat) : List (Nat × Nat) :=
  ((List.range (n * n)).filter (fun k => mask2 (k / n) (k % n))).map (fun k => (k / n, k % n))

/-- PDP: `selected_node = ((rand * gs) // 2) % (gs // 2)` is some index below `gs / 2`; then a flat index of
`get_mask(selected_node + 1, td)` whose entry is true -/
def randomActionsPdp (gs : Nat) (vt : Nat → Nat) : List (Nat × Nat × Nat) :=
  (List.range (gs / 2)).flatMap (fun pi =>
    ((List.range (gs * gs)).filter (fun k => pdpMask gs vt (pi + 1) (k / gs) (k % gs))).map
      (fun k => (pi, k / gs, k % gs)))

/-! ### `_step`: cost, best-so-far bookkeeping (identical in both environments) -/

/-- `get_costs`: Σ_j D j (rec j) -/
def cost (n : Nat) (D : Nat → Nat → Int) (rec : Rec) : Int :=
  ((List.range n).map (fun j => D j (rec j))).sum

structure State where
  recCur  : Rec
  recBest : Rec
  costCur : Int
  costBsf : Int
  reward  : Int
  vt      : Nat → Nat

/-- `_reset` from a given initial solution -/
def reset (n : Nat) (D : Nat → Nat → Int) (rec0 : Rec) : State :=
  let obj := cost n D rec0
  { recCur := rec0, recBest := rec0, costCur := obj, costBsf := obj, reward := 0,
    vt := visitedTime n rec0 }

/-- `_step` for an arbitrary move operator `op` (the `solution_to is None` branch). -/
def step {A : Type} (n : Nat) (D : Nat → Nat → Int) (op : Rec → A → Rec) (s : State) (a : A) : State :=
  let next := op s.recCur a
  let newObj := cost n D next
  let nowBsf := if newObj < s.costBsf then newObj else s.costBsf
  let reward := s.costBsf - nowBsf
  { recCur := next
    recBest := if reward > 0 then next else s.recBest   -- `solution_best[index] = next_rec[index]`
    costCur := newObj, costBsf := nowBsf, reward := reward
    vt := visitedTime n next }

/-- the source tokens of `_reset` / `_step` (one set per environment class) -/
structure StepParams where
  bsfCmp : Cmp              -- `torch.where(new_obj < cost_bsf, …)`
  whereNewFirst : Bool      -- `torch.where(cond, new_obj, cost_bsf)`
  rewardOldMinusNew : Bool  -- `reward = cost_bsf - now_bsf`
  bestCmp : Cmp             -- `index = reward > 0.0`
  bestThr : Int × Nat       -- the `0.0`, as an exact rational
  vtStep : Nat × Nat        -- `visited_time` walk of `_step`
  vtReset : Nat × Nat       -- `visited_time` walk of `_reset`
  deriving DecidableEq

/-- the values the theorems need (= the pinned source) -/
def StepParams.std : StepParams :=
  { bsfCmp := .lt, whereNewFirst := true, rewardOldMinusNew := true, bestCmp := .gt, bestThr := (0, 1),
    vtStep := (1, 0), vtReset := (1, 0) }

/-- ticks per unit length (`rl.SCALE`), only needed to compare a reward with a NON-zero threshold -/
def ticksPerUnit : Int := 1048576

def resetP (P : StepParams) (n : Nat) (D : Nat → Nat → Int) (rec0 : Rec) : State :=
  let obj := cost n D rec0
  { recCur := rec0, recBest := rec0, costCur := obj, costBsf := obj, reward := 0,
    vt := visitedTimeC P.vtReset n rec0 }

def stepP {A : Type} (P : StepParams) (n : Nat) (D : Nat → Nat → Int) (op : Rec → A → Rec) (s : State) (a : A) :
    State :=
  let next := op s.recCur a
  let newObj := cost n D next
  let c := P.bsfCmp.eval newObj s.costBsf
  let nowBsf := if c then (if P.whereNewFirst then newObj else s.costBsf)
    else (if P.whereNewFirst then s.costBsf else newObj)
  let reward := if P.rewardOldMinusNew then s.costBsf - nowBsf else nowBsf - s.costBsf
  let index := P.bestCmp.eval (reward * (P.bestThr.2 : Int)) (P.bestThr.1 * ticksPerUnit)
  { recCur := next
    recBest := if index then next else s.recBest
    costCur := newObj, costBsf := nowBsf, reward := reward
    vt := visitedTimeC P.vtStep n next }

/-! ### the batched `_step` as written (column by column) -/

/-- `solution_best[index] = next_rec[index].clone()`: the rows selected by the boolean mask are overwritten in
the tensor `td["rec_best"]` itself, all other rows keep their content -/
def maskedAssign : List Rec → List Bool → List Rec → List Rec
  | b :: bs, i :: is, x :: xs => (if i then x else b) :: maskedAssign bs is xs
  | _, _, _ => []

/-- `td.update({...})`: the columns put back together row by row -/
def assemble : List Rec → List Rec → List Int → List Int → List Int → List (Nat → Nat) → List State
  | a :: as, b :: bs, c :: cs, d :: ds, e :: es, f :: fs =>
    { recCur := a, recBest := b, costCur := c, costBsf := d, reward := e, vt := f } :: assemble as bs cs ds es fs
  | _, _, _, _, _, _ => []

/-- `_step` on a batch: every line of the source acts on whole columns (`Ds` = the rows' distance matrices,
`as` = the rows' actions) -/
def batchStepP {A : Type} (P : StepParams) (n : Nat) (Ds : List (Nat → Nat → Int)) (op : Rec → A → Rec)
    (ss : List State) (as : List A) : List State :=
  let solution := ss.map (·.recCur)
  let solutionBest := ss.map (·.recBest)
  let costBsf := ss.map (·.costBsf)
  let nextRec := List.zipWith op solution as
  let newObj := List.zipWith (fun D r => cost n D r) Ds nextRec
  let nowBsf := List.zipWith (fun o b => if P.bsfCmp.eval o b then (if P.whereNewFirst then o else b)
    else (if P.whereNewFirst then b else o)) newObj costBsf
  let reward := List.zipWith (fun b nb => if P.rewardOldMinusNew then b - nb else nb - b) costBsf nowBsf
  let index := reward.map (fun rw => P.bestCmp.eval (rw * (P.bestThr.2 : Int)) (P.bestThr.1 * ticksPerUnit))
  let solutionBest := maskedAssign solutionBest index nextRec
  let visitedTime := nextRec.map (visitedTimeC P.vtStep n)
  assemble nextRec solutionBest newObj nowBsf reward visitedTime

/-! ### checkers -/

/-- `arange <cmp> sort(rec_best)` elementwise, `.all()` -/
def checkKoptC (cmp : Cmp) (n : Nat) (rec : Rec) : Bool :=
  (List.zipWith (fun a b => cmp.evalNat a b) (List.range n) (sortNat ((List.range n).map rec))).all id

/-- the PDP checker with its tokens as parameters -/
def checkPdpC (cmpPerm cmpPrec : Cmp) (vtp : Nat × Nat) (gs : Nat) (rec : Rec) : Bool :=
  let vt := visitedTimeC vtp gs rec
  checkKoptC cmpPerm gs rec &&
  decide (gs / 2 = gs - (gs / 2 + 1)) &&
  (List.range (gs / 2)).all (fun k => cmpPrec.evalNat (vt (k + 1)) (vt (k + 1 + gs / 2)))



/-- `TSPkoptEnv.check_solution_validity`: `sort(rec_best) == arange` -/
def checkKopt (n : Nat) (rec : Rec) : Bool :=
  sortedIsRange n ((List.range n).map rec)

/-- `PDPRuinRepairEnv.check_solution_validity`: permutation test, then the `visited_time` walk and
`visited_time[1 : gs/2+1] < visited_time[gs/2+1 :]` (elementwise). -/
def checkPdp (gs : Nat) (rec : Rec) : Bool :=
  let vt := visitedTime gs rec
  checkKopt gs rec &&
  decide (gs / 2 = gs - (gs / 2 + 1)) &&   -- the two slices must have equal length (else torch raises)
  (List.range (gs / 2)).all (fun k => decide (vt (k + 1) < vt (k + 1 + gs / 2)))

/-! ### action decoding of the bundled improvement policies

The networks are uninterpreted: only the flat index the decoding strategy SELECTS enters (C10 proves that a
selected index has a true mask entry).  What is modelled is how that index becomes a move. -/

/-- flat index → pair; `divFirst` = `torch.cat((k // L, k % L))` in this order -/
def decodePair (divFirst : Bool) (L k : Nat) : Nat × Nat := if divFirst then (k / L, k % L) else (k % L, k / L)

/-- `DACTPolicy.forward`: the mask handed to the strategy is `env.get_mask(td)` with the previous action removed
in both orientations (`last` = `td["action"]` when present); entry `[a, b]` sits at flat index `a * n + b` -/
def dactMask (last : Option (Nat × Nat)) (a b : Nat) : Bool :=
  mask2 a b && !(last == some (a, b) || last == some (b, a))

def dactMaskFlat (n : Nat) (last : Option (Nat × Nat)) (k : Nat) : Bool := dactMask last (k / n) (k % n)

def dactMove (divFirst : Bool) (n k : Nat) : Nat × Nat := decodePair divFirst n k

/-- `N2SPolicy.forward`, removal stage: all pairs but the previously removed one -/
def n2sRemovalMask (last : Option Nat) (pi : Nat) : Bool := !(last == some pi)

/-- reinsertion stage: `env.get_mask(action_removal + off, td).view(batch, -1)` at flat index `k` -/
def n2sReinsertMaskFlat (cmp : Cmp) (off gs : Nat) (vt : Nat → Nat) (pi k : Nat) : Bool :=
  pdpMaskC cmp gs vt (pi + off) (k / gs) (k % gs)

def n2sMove (divFirst : Bool) (gs pi k : Nat) : Nat × Nat × Nat := (pi, decodePair divFirst gs k)

/-! ### the model instantiated with the tokens extracted from the current source -/

namespace Code

def localOp2 := localOp2C Params.improveKopt2LoopSub
def localOpK := localOpKC Params.improveKoptKLoopSub
def pdpLocalOp :=
  pdpLocalOpC Params.improvePdpPairOffset Params.improvePdpDeliveryFirst Params.improvePdpSecondGetsDelivery
def pdpMask := pdpMaskC Params.improvePdpMaskCmp

def koptParams : StepParams :=
  { bsfCmp := Params.improveKoptBsfCmp, whereNewFirst := Params.improveKoptBsfWhereNewFirst,
    rewardOldMinusNew := Params.improveKoptRewardOldMinusNew, bestCmp := Params.improveKoptBestCmp,
    bestThr := Params.improveKoptBestThr, vtStep := Params.improveKoptStepVt, vtReset := Params.improveKoptResetVt }

def pdpParams : StepParams :=
  { bsfCmp := Params.improvePdpBsfCmp, whereNewFirst := Params.improvePdpBsfWhereNewFirst,
    rewardOldMinusNew := Params.improvePdpRewardOldMinusNew, bestCmp := Params.improvePdpBestCmp,
    bestThr := Params.improvePdpBestThr, vtStep := Params.improvePdpStepVt, vtReset := Params.improvePdpResetVt }

def dactMove := Improve.dactMove Params.improveDactDecodeDivFirst
def n2sMove := Improve.n2sMove Params.improveN2sDecodeDivFirst
def n2sReinsertMaskFlat := Improve.n2sReinsertMaskFlat Params.improvePdpMaskCmp Params.improveN2sMaskPairOffset

def checkKopt := checkKoptC Params.improveKoptCheckCmp
def checkPdp := checkPdpC Params.improvePdpCheckCmp Params.improvePdpCheckPrecCmp Params.improvePdpCheckVt

end Code

end Rl4co.Improve
