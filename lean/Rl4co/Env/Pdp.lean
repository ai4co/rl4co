/-
Model of `rl4co/envs/routing/pdp/env.py:PDPEnv` for ONE instance (one batch row), both values of
`force_start_at_depot`.  Node 0 is the depot, `1..h` are pickups, `h+1..2h` the deliveries
(`num_loc = n = 2h`; delivery of pickup `p` is `p + h`).  Distances are `Int` ticks.  No Mathlib.
-/
import Rl4co.Generated.Params
import Rl4co.Env.TspfamBase

namespace Rl4co.Pdp

structure Inst where
  h     : Nat                -- number of pickup/delivery pairs (`num_loc // 2`)
  force : Bool               -- `force_start_at_depot`
  D     : Nat → Nat → Int    -- distances between nodes (0 = depot)

/-- `num_loc` (the reset code needs it even: it concatenates `n//2 + 1` ones and `n//2` zeros) -/
def Inst.n (i : Inst) : Nat := 2 * i.h

structure State where
  cur       : Nat            -- `current_node`
  i         : Nat            -- `i`
  avail     : Nat → Bool     -- `available`
  toDeliver : Nat → Bool     -- `to_deliver`
  amask     : Nat → Bool     -- `action_mask`
  done      : Bool

/-- `to_deliver` at reset: `[1]*(n//2+1) ++ [0]*(n//2)` -/
def toDeliver0 (i : Inst) : Nat → Bool :=
  fun j => decide (j < i.n / Params.pdpResetOnes.1 + Params.pdpResetOnes.2)

/-- `_reset` -/
def reset (i : Inst) : State :=
  if i.force then
    -- `action_mask[..., 1:] = False`; `available` stays all ones
    { cur := 0, i := 0, avail := fun _ => true, toDeliver := toDeliver0 i,
      amask := fun j => decide (j = 0), done := false }
  else
    -- `action_mask = ones & to_deliver; available[..., 0] = False; action_mask[..., 0] = False`
    { cur := 0, i := 0, avail := fun j => decide (j ≠ 0), toDeliver := toDeliver0 i,
      amask := fun j => if j = 0 then false else toDeliver0 i j, done := false }

def mask (_ : Inst) (s : State) (a : Nat) : Bool := s.amask a

/-- `new_to_deliver = (current_node + num_loc // 2) % (num_loc + 1)`, the three constants extracted -/
def pairIdx (i : Inst) (a : Nat) : Nat :=
  (a + i.n / Params.pdpPairOffset.1 + Params.pdpPairOffset.2.1) % (i.n + Params.pdpPairOffset.2.2)

/-- `_step`: `new_to_deliver = (a + n // 2) % (n + 1)`; `available[a] = 0`;
`to_deliver[new_to_deliver] = 1`; `action_mask = available & to_deliver`;
`done = count_nonzero(available) == 0`. -/
def step (i : Inst) (s : State) (a : Nat) : State :=
  let nt := pairIdx i a
  let avail := upd s.avail a false
  let toDel := upd s.toDeliver nt true
  { cur := a
    i := s.i + 1
    avail := avail
    toDeliver := toDel
    amask := fun j => avail j && toDel j
    done := Params.pdpDoneCmp.evalNat (cnt (i.n + 1) avail) 0 }

def env : Env Inst State where
  reset := reset
  nAct i := i.n + 1
  mask := mask
  step := step
  done _ s := s.done

/-- the batched `_step` has no batch-global construct: it is the row-wise map -/
def batchStep (rows : List (Inst × State)) (acts : List Nat) : List (Inst × State) :=
  List.zipWith (fun r a => (r.1, step r.1 r.2 a)) rows acts

/-- `_get_reward`: `-get_tour_length([depot] ++ locs[actions])` (also when the actions already start
with the depot). -/
def reward (i : Inst) (as : List Nat) : Int :=
  - (List.zipWith (fun nxt c => i.D nxt c) (roll1 (0 :: as)) (0 :: as)).sum

/-- `xs < ys` broadcast and reduced with `.all()` (see `Tspfam.bcastCmp`) -/
def bcastLt (xs ys : List Nat) : Bool := Tspfam.bcastCmp .lt xs ys

/-- `check_solution_validity` (True = nothing raised).  `argsort` of a permutation of `0..L-1` is its
inverse permutation, i.e. `visited_time[v] = index of v`; the first assertion guarantees a permutation
before `argsort` is looked at.  All sizes derive from the WIDTH `L` OF THE ACTION TENSOR. -/
def checkWith (fromInst : Bool) (i : Inst) (as : List Nat) : Bool :=
  let acts := if i.force == Params.pdpCheckPrependWhenNotForced then as else 0 :: as
  -- `fromInst`: repaired clause, all sizes from the instance (`num_loc + 1` nodes); a width mismatch raises
  let L := if fromInst then i.n + 1 else acts.length
  let vt := fun v => acts.idxOf v
  let k := L / 2 + 1
  (!fromInst || decide (acts.length = L)) &&
  Tspfam.permTest Params.pdpCheckPermCmp L acts &&
  ((acts.drop 1).dropLast).all (fun a => Params.pdpCheckDepotCmp.evalNat a 0) &&
  Tspfam.bcastCmp Params.pdpCheckPrecCmp ((List.range (k - 1)).map (fun t => vt (1 + t)))
    ((List.range (L - k)).map (fun t => vt (k + t)))

/-- the checker as written: the width source is an extracted token (`false` = width of the action tensor) -/
def check (i : Inst) (as : List Nat) : Bool := checkWith Params.pdpCheckWidthFromInst i as

/-- `get_num_starts`: `(locs.shape[-2] - 1) // 2` (locs include the depot: `n + 1` rows) -/
def numStarts (i : Inst) : Nat := (i.n + 1 - Params.pdpStartRule.2.1) / Params.pdpStartRule.2.2

/-- `select_start_nodes` for a batch of `B` instances of this size and `k` starts:
`arange(k).repeat_interleave(B) % num_possible_starts + 1` (row `r` belongs to copy `r / B`). -/
def selectStartNodes (i : Inst) (B k : Nat) : List Nat :=
  (List.range (k * B)).map (fun r => (r / B) % numStarts i + Params.pdpStartRule.1)

end Rl4co.Pdp
