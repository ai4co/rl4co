/-
Model of `rl4co/envs/scheduling/fjsp/env.py:FJSPEnv` and of its subclass
`rl4co/envs/scheduling/jssp/env.py:JSSPEnv` for ONE instance (one batch row), plus (at the end) the
model of the *batched* `_step` with its batch-global constructs (`if no_op.any()`, the release part of
`_transit_to_next_time` that is applied to every row, `while step_complete.any()`).

Mirrors `_reset`, `_get_job_machine_availability`, `get_action_mask`, `_translate_action`, `_step`,
`_check_step_complete`, `_make_step`, `_transit_to_next_time`, `_get_reward` statement by statement.
Times are `Int` (the harness uses integral processing times, so float32 arithmetic is exact).
Operations are indexed `0..N-1` (`N = n_ops_max`, padded), jobs `0..J-1`, machines `0..M-1`;
`proc m o` is `td["proc_times"][m][o]` (0 = machine `m` not eligible for operation `o`).
The comparison operators of the mask, the time advance and the job release are taken from
`Generated/Params.lean` (extracted from the source on every run, `harness/probes/jobshop.py`).
The feature tensors (`lbs`, `is_ready`, `ops_sequence_order`, `num_eligible`, adjacency …) do not
influence mask / done / time / schedule / reward and are not modelled.  No Mathlib.
-/
import Rl4co.Core.Basic
import Rl4co.Generated.Params

namespace Rl4co.Fjsp

/-- `∃ j < n, p j` as a Bool (`tensor.any(dim)`) -/
def anyUpTo : Nat → (Nat → Bool) → Bool
  | 0, _ => false
  | n + 1, p => anyUpTo n p || p n

/-- `∀ j < n, p j` as a Bool (`tensor.all(dim)`) -/
def allUpTo : Nat → (Nat → Bool) → Bool
  | 0, _ => true
  | n + 1, p => allUpTo n p && p n

theorem anyUpTo_iff {n : Nat} {p : Nat → Bool} : anyUpTo n p = true ↔ ∃ j, j < n ∧ p j = true := by
  induction n with
  | zero => simp [anyUpTo]
  | succ n ih => rw [anyUpTo, Bool.or_eq_true, ih, Nat.exists_lt_succ_right]

theorem anyUpTo_congr {n : Nat} {p q : Nat → Bool} (h : ∀ j, j < n → p j = q j) : anyUpTo n p = anyUpTo n q := by
  induction n with
  | zero => rfl
  | succ n ih => rw [anyUpTo, anyUpTo, ih fun j hj => h j (Nat.lt_succ_of_lt hj), h n (Nat.lt_succ_self n)]

theorem allUpTo_iff {n : Nat} {p : Nat → Bool} : allUpTo n p = true ↔ ∀ j, j < n → p j = true := by
  induction n with
  | zero => simp [allUpTo]
  | succ n ih => rw [allUpTo, Bool.and_eq_true, ih, Nat.forall_lt_succ_right]

theorem anyUpTo_eq_false {n : Nat} {p : Nat → Bool} :
    anyUpTo n p = false ↔ ∀ j, j < n → p j = false := by
  rw [← Bool.not_eq_true, anyUpTo_iff]
  exact ⟨fun h j hj => Bool.eq_false_iff.mpr fun hp => h ⟨j, hj, hp⟩,
    fun h ⟨j, hj, hp⟩ => Bool.eq_false_iff.mp (h j hj) hp⟩

theorem allUpTo_eq_false {n : Nat} {p : Nat → Bool} :
    allUpTo n p = false ↔ ∃ j, j < n ∧ p j = false := by
  rw [← Bool.not_eq_true, allUpTo_iff]
  exact ⟨fun h => Classical.byContradiction fun hcon =>
      h fun j hj => Classical.byContradiction fun hp => hcon ⟨j, hj, Bool.eq_false_iff.mpr hp⟩,
    fun ⟨j, hj, hp⟩ h => Bool.eq_false_iff.mp hp (h j hj)⟩

/-- Instance data of one row + the two environment-level switches. -/
structure Inst where
  J : Nat                      -- `num_jobs`     = `start_op_per_job.size(1)`
  M : Nat                      -- `num_mas`      = `proc_times.size(1)`
  N : Nat                      -- `n_ops_max`    = `proc_times.size(2)`
  startOp : Nat → Nat          -- `start_op_per_job`
  endOp   : Nat → Nat          -- `end_op_per_job`
  proc    : Nat → Nat → Int    -- `proc_times[m][o]`
  pad     : Nat → Bool         -- `pad_mask[o]`
  maskNoOps : Bool             -- `FJSPEnv(mask_no_ops=…)`
  jssp      : Bool             -- `JSSPEnv` (action = job) instead of `FJSPEnv` (action = job × machine)

structure State where
  time    : Int                -- `time`
  nextOp  : Nat → Nat          -- `next_op`
  inProc  : Nat → Bool         -- `job_in_process`
  jobDone : Nat → Bool         -- `job_done`
  busy    : Nat → Int          -- `busy_until`
  proc    : Nat → Nat → Int    -- `proc_times` (column of a scheduled op is zeroed)
  start   : Nat → Int          -- `start_times`
  finish  : Nat → Int          -- `finish_times` (`INIT_FINISH` until scheduled)
  assign  : Nat → Nat → Bool   -- `ma_assignment[m][o]`
  sched   : Nat → Bool         -- `op_scheduled`
  done    : Bool               -- `done`
  err     : Bool               -- an `assert` of the code would have fired (`available_time` infinite / busy machine)

/-- `INIT_FINISH` (extracted from `fjsp/__init__.py`) -/
def initFinish : Int := Params.fjspInitFinish

/-- `action.eq(NO_OP_ID)` after `td["action"].subtract_(1)`: the action means "wait" -/
def isNoOp (a : Nat) : Bool := ((a : Int) - Params.fjspActionShift == Params.fjspNoOpId)

/-- the shifted action `action - 1` as an index into the (job × machine) / job range -/
def shifted (a : Nat) : Nat := ((a : Int) - Params.fjspActionShift).toNat

/-- `_reset` -/
def reset (i : Inst) : State :=
  { time := 0, nextOp := i.startOp, inProc := fun _ => false, jobDone := fun _ => false,
    busy := fun _ => 0, proc := i.proc, start := fun _ => 0, finish := fun _ => initFinish,
    assign := fun _ _ => false, sched := fun _ => false, done := false, err := false }

/-- `~_get_job_machine_availability[j][m]`: job `j` may be put on machine `m` now. -/
def avail (_ : Inst) (s : State) (j m : Nat) : Bool :=
  !s.jobDone j && !s.inProc j && !Params.fjspBusyCmp.eval (s.busy m) s.time &&
  !Params.fjspEligCmp.eval (s.proc m (s.nextOp j)) 0

/-- `no_op_mask` of `get_action_mask` -/
def noOpMask (i : Inst) (s : State) : Bool :=
  if i.maskNoOps then s.done
  else (anyUpTo i.J s.inProc && !s.done) ||
       ((if i.jssp then Params.jsspNoOpKeepsDone else Params.fjspNoOpKeepsDone) && s.done)   -- `… | td["done"]`

/-- number of actions: `1 + J·M` (FJSP) or `1 + J` (JSSP) -/
def nAct (i : Inst) : Nat := if i.jssp then 1 + i.J else 1 + i.J * i.M

/-- `get_action_mask` (True = feasible); FJSP flattens `(j m)`, JSSP reduces over machines. -/
def mask (i : Inst) (s : State) (a : Nat) : Bool :=
  if a = 0 then noOpMask i s
  else if i.jssp then anyUpTo i.M (fun m => avail i s (a - 1) m)
  else avail i s ((a - 1) / i.M) ((a - 1) % i.M)

/-- `reduce(action_mask, "bs ... -> bs", "any")` -/
def anyMask (i : Inst) (s : State) : Bool := anyUpTo (nAct i) (mask i s)

/-- `_check_step_complete` -/
def stepComplete (i : Inst) (s : State) : Bool := !anyMask i s && !s.done

/-- first machine `m < M` with `p m > 0` (JSSP `_translate_action`: `ops_ma_adj[:, op].nonzero()`) -/
def findMa : Nat → (Nat → Int) → Nat
  | 0, _ => 0
  | m + 1, p => if anyUpTo m (fun k => decide (p k > 0)) then findMa m p else m

/-- `_translate_action` on the shifted action `a' = action - 1`: (job, op, machine) -/
def translate (i : Inst) (s : State) (a' : Nat) : Nat × Nat × Nat :=
  if i.jssp then
    let j := a'
    let o := s.nextOp j
    (j, o, findMa i.M (fun m => s.proc m o))
  else
    let j := if Params.fjspJobIsDiv then a' / i.M else a' % i.M          -- `action // num_mas`
    (j, s.nextOp j, if Params.fjspMachineIsMod then a' % i.M else a' / i.M)  -- `action % num_mas`

/-- `_make_step` for the translated action (job `j`, its next operation `o`, machine `m`) -/
def makeStepAt (s : State) (j o m : Nat) : State :=
  let p := s.proc m o
  { s with
    inProc := upd s.inProc j true
    sched := upd s.sched o true
    err := s.err || decide (s.busy m > s.time)      -- `assert busy_until[m] <= time`
    start := upd s.start o s.time
    finish := upd s.finish o (s.time + p)
    assign := fun m' o' => if m' = m ∧ o' = o then true else s.assign m' o'
    busy := upd s.busy m (s.time + p)
    proc := fun m' o' => if o' = o then 0 else s.proc m' o' }

/-- `_make_step` -/
def makeStep (i : Inst) (s : State) (a' : Nat) : State :=
  let t := translate i s a'
  makeStepAt s t.1 t.2.1 t.2.2

/-- `where(busy > time, busy, inf).min(1)`; `none` = `inf` -/
def nextTime : Nat → (Nat → Int) → Int → Option Int
  | 0, _, _ => none
  | m + 1, busy, t =>
    let r := nextTime m busy t
    if Params.fjspNextTimeCmp.eval (busy m) t then
      some (match r with
        | none => busy m
        | some x =>
          if Params.fjspNextEventIsMin then (if x ≤ busy m then x else busy m)   -- `.min(1)`
          else (if x ≤ busy m then busy m else x))
    else r

/-- first half of `_transit_to_next_time` for a *selected* row: `time := available_time`
(the code asserts that it is finite). -/
def advance (i : Inst) (s : State) : State :=
  match nextTime i.M s.busy s.time with
  | some t => { s with time := t }
  | none => { s with err := true }

/-- second half of `_transit_to_next_time`, applied by the code to EVERY row of the batch:
release jobs whose current operation has finished, advance `next_op`, recompute `job_done`, `done`. -/
def release (i : Inst) (s : State) : State :=
  let opFin : Nat → Bool := fun j =>
    (if Params.fjspReleaseGuardsInProcess then s.inProc j else true) &&       -- `td["job_in_process"] &`
    Params.fjspReleaseCmp.eval (s.finish (s.nextOp j)) s.time
  let jobFin : Nat → Bool := fun j => opFin j && Params.fjspJobFinCmp.evalNat (s.nextOp j) (i.endOp j)
  let jobDone' : Nat → Bool := fun j => s.jobDone j || jobFin j
  { s with
    nextOp := fun j => if opFin j && !jobFin j then s.nextOp j + 1 else s.nextOp j
    inProc := fun j => if opFin j then false else s.inProc j
    jobDone := jobDone'
    done := allUpTo i.J jobDone' }

/-- `_transit_to_next_time` as seen by a selected row -/
def transit (i : Inst) (s : State) : State := release i (advance i s)

/-- `while step_complete: transit` for one row, with fuel (see `transit_fuel_enough`, `Proofs/FjspStep.lean`, for the
proof that `fuel i` iterations always suffice on well-formed instances). -/
def autoTransit (i : Inst) : Nat → State → State
  | 0, s => s
  | f + 1, s => if stepComplete i s then autoTransit i f (transit i s) else s

/-- every iteration makes at least one busy machine idle, so `M` iterations suffice -/
def fuel (i : Inst) : Nat := i.M + 1

/-- `_step` as seen by a row that is stepped alone (batch size 1). -/
def step (i : Inst) (s : State) (a : Nat) : State :=
  if s.done then s                                       -- neither `no_op` nor `req_op`
  else if isNoOp a then autoTransit i (fuel i) (transit i s)    -- wait
  else autoTransit i (fuel i) (makeStep i s (shifted a))        -- scheduling action

def env : Env Inst State where
  reset := reset
  nAct := nAct
  mask := mask
  step := step
  done := fun _ s => s.done

/-- `max` of `f` over `o < n` with `keep o`; `none` = `-inf` -/
def maxOver : Nat → (Nat → Bool) → (Nat → Int) → Option Int
  | 0, _, _ => none
  | n + 1, keep, f =>
    let r := maxOver n keep f
    if keep n then
      some (match r with
        | none => f n
        | some x => if f n ≤ x then x else f n)
    else r

/-- `min` counterpart of `maxOver` (only reachable if the extracted reduction of `_get_reward` is not `max`) -/
def minOver : Nat → (Nat → Bool) → (Nat → Int) → Option Int
  | 0, _, _ => none
  | n + 1, keep, f =>
    let r := minOver n keep f
    if keep n then
      some (match r with
        | none => f n
        | some x => if x ≤ f n then x else f n)
    else r

/-- `_get_reward`: `-finish_times.masked_fill(pad_mask, -inf).max(1)` (0 stands for the `+inf` the
code would return on an instance without any real operation); the reduction and the use of
`pad_mask` are extracted from the source. -/
def reward (i : Inst) (s : State) : Int :=
  let keep : Nat → Bool := fun o => !(Params.fjspRewardMasksPadding && i.pad o)
  match (if Params.fjspRewardIsMax then maxOver i.N keep s.finish else minOver i.N keep s.finish) with
  | some x => -x
  | none => 0

/-! ### `op_is_ready` (fjsp/utils.py), recomputed by `_get_features` at reset and after every step -/

/-- row `o` of `ops_adj[..., 0] @ finish_times`: the completion time of the job predecessor, 0 for the first
operation of a job and for padded columns (the predecessor matrix is masked by `ops_sequence_order > 0`) -/
def predFinish (i : Inst) (s : State) (o : Nat) : Int :=
  if anyUpTo i.J (fun j => decide (i.startOp j < o) && decide (o ≤ i.endOp j)) then s.finish (o - 1) else 0

/-- `is_ready[o] = (pred_finish <= time) & ~ma_assignment[:, o].sum().bool()` -/
def isReady (i : Inst) (s : State) (o : Nat) : Bool :=
  decide (predFinish i s o ≤ s.time) && !anyUpTo i.M (fun m => s.assign m o)

/-! ### The batched `_step` -/

/-- one row of a batch: its instance data and its state -/
abbrev Row := Inst × State

/-- `_transit_to_next_time(sel, td)` on a batch: time advances in the selected rows only, the release
part runs on every row. -/
def transitBatch (sel : Row → Bool) (rows : List Row) : List Row :=
  rows.map (fun r => (r.1, release r.1 (if sel r then advance r.1 r.2 else r.2)))

/-- `while step_complete.any(): …` with fuel -/
def autoTransitBatch : Nat → List Row → List Row
  | 0, rows => rows
  | f + 1, rows =>
    if rows.any (fun r => stepComplete r.1 r.2) then
      autoTransitBatch f (transitBatch (fun r => stepComplete r.1 r.2) rows)
    else rows

/-- `no_op = action.eq(NO_OP_ID) & ~dones` for a (row, action) pair -/
def noOpSel (x : Row × Nat) : Bool := isNoOp x.2 && !x.1.2.done
/-- `req_op = ~no_op & ~dones` -/
def reqSel (x : Row × Nat) : Bool := !isNoOp x.2 && !x.1.2.done

/-- batched `_step` on (row, action) pairs. -/
def stepBatch (fuel : Nat) (ra : List (Row × Nat)) : List Row :=
  -- `no_op`, `req_op` are computed once, up front, from the incoming `done` column
  -- `if no_op.any(): td, dones = self._transit_to_next_time(no_op, td)`
  let ra1 : List (Row × Nat × Bool) :=
    if ra.any noOpSel then
      ra.map (fun x => ((x.1.1, release x.1.1 (if noOpSel x then advance x.1.1 x.1.2 else x.1.2)), x.2, reqSel x))
    else ra.map (fun x => (x.1, x.2, reqSel x))
  -- `td[req_op] = self._make_step(td.masked_select(req_op))`
  let rows2 : List Row := ra1.map (fun x => if x.2.2 then (x.1.1, makeStep x.1.1 x.1.2 (shifted x.2.1)) else x.1)
  -- `while step_complete.any(): …`
  autoTransitBatch fuel rows2

end Rl4co.Fjsp
